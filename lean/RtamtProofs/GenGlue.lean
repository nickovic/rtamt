/-
  The update visitor and the reset visitor of the online interpreter as translated from the Python source denote the
  mirrors `visitM` / `updateSpecs` (`Rtamt/Discrete/Program.lean`: operator dictionary keyed by the node name, per-update
  memo — the functions the C09 / C12 refinement theorems are stated on) and `resetM` / `resetSpecs`
  (`Rtamt/Discrete/ProgramReset.lean`).

  `Rtamt/Py/GeneratedGlue.lean` is produced on every run by `harness/py2lean.py` from
  `rtamt/semantics/abstract_online_interpreter.py` (`AbstractOnlineUpdateVisitor`, `AbstractOnlineResetVisitor`), the leaf
  methods of `DiscreteTimeOnlineUpdateVisitor` and `AbstractAstVisitor.visitAst`; `Rtamt/Py/Glue.lean` gives the terms their
  meaning and `Rtamt/Py/RunGlue.lean` adds the dispatch of `AbstractAstVisitor.visit`.

  The translated update visitor follows the statement order of the code (operands first, then the memo) and re-binds the
  key after every `operator.update(…)`: on EVERY state it is the keyed interpreter `Keyed.visitK` over `stepNode`
  (`visitGlue_sim`, `specsLoop_sim`), as the dense-time visitor is `visitOnM` (`GDn.visit_simR`).  The mirror `visitM`
  looks the node up in the memo first and leaves the dictionary alone at a state-less operator; that the two agree on a memo
  closed under operator sub-formulas (`Closed`) up to dictionaries that bind the same state to every key (`StoreEq`) is a
  fact about the two mirrors, `C09.visitM_rel` (`C09.lean`).  `genGlue_visit` and `genGlue_round` compose the two.
  `genGlue_results`: what `get_value` reads after a round.  `genGlue_reset`, `genGlue_resetSpecs`: the reset visitor.
-/
import Rtamt.Py.RunGlue
import RtamtProofs.C09

namespace Rtamt.Py
open Rtamt Val
open Rtamt.Dense.C09Dense (Node1 Node2 nodeInduction)

variable {α : Type} [Val α] [DecidableEq α]

omit [Val α] [DecidableEq α] in
theorem gGet_gSet_same (x : String) (v : GV α) (l : List (String × GV α)) : gGet x (gSet x v l) = .ok v := by
  simp [gGet, gSet]

omit [Val α] [DecidableEq α] in
theorem gGet_gSet_ne {x y : String} (h : x ≠ y) (v : GV α) (l : List (String × GV α)) :
    gGet x (gSet y v l) = gGet x l := by
  unfold gGet gSet
  rw [Assoc.lookup_write_ne h]

theorem execGS_seq (a b : GS) (env : GEnv α) (st : GSt α) (specs : List (Visit α)) :
    execGS (.seq a b) env st specs = execGS a env st specs >>= fun p => execGS b p.1 p.2 specs := by
  rw [execGS]

/-- `x = self.visit(node.children[i], …)`. -/
theorem execGS_setLoc_visit (x : String) (i : Nat) (env : GEnv α) (st : GSt α) (specs : List (Visit α))
    (k : Visit α) (hk : env.kids[i]? = some k) :
    execGS (.setLoc x (.visit i)) env st specs =
      k st >>= fun p => pure ({ env with loc := gSet x (gvOfOpt p.1) env.loc }, p.2) := by
  rw [execGS, evalGE, hk]
  dsimp only
  cases k st <;> rfl

theorem callG_ret (body : GS) (e : GE) (node : F α) (vars : String → α) (kids specs : List (Visit α)) (st : GSt α) :
    callG ⟨body, some e⟩ node vars kids specs st =
      execGS body { node := node, vars := vars, kids := kids } st specs >>= fun p => evalGE p.1 p.2 e := rfl

/-- The statements of the translated `visitUnary` / `visitBinary` after the visits of the operands; `opn` is the local that
    holds the operator object, `args` the arguments of its `update`. -/
def finishS (opn : String) (args : List GE) : GS :=
  .seq (.ite (.inDict "updated" .nodeName) (.setLoc "sample_return" (.getDict "updated" .nodeName))
      (.seq (.setLoc opn (.getDict "online_operator_dict" .nodeName))
        (.seq (.setLoc "sample_return" (.opUpdate opn args)) (.setDict "updated" .nodeName (.loc "sample_return")))))
    (.setDict "results" .node (.loc "sample_return"))

/-- What they compute, `vs` being the values of the operands (`none`: one of them is `None`). -/
def finishG (χ : F α) (vs : Option (List α)) (st1 : GSt α) : Except PyErr (Option α × GSt α) :=
  match st1.updated.lookup χ with
  | some w => .ok (some w, { st1 with results := memoSet st1.results χ w })
  | none =>
    match st1.ops.lookup χ with
    | none => .error .key
    | some s =>
      match vs with
      | none => .error .type
      | some vs =>
        match stepNode χ s vs with
        | .error e => .error e
        | .ok (s', o) =>
            .ok (some o, { ops := st1.ops.set χ s', updated := memoSet st1.updated χ o,
                           results := memoSet st1.results χ o })

/-- What the translated `visitUnary` of the update visitor computes. -/
def unaryG (χ : F α) (k : Visit α) (st : GSt α) : Except PyErr (Option α × GSt α) :=
  k st >>= fun p => finishG χ (p.1.map fun v => [v]) p.2

/-- What the translated `visitBinary` of the update visitor computes. -/
def binaryG (χ : F α) (k1 k2 : Visit α) (st : GSt α) : Except PyErr (Option α × GSt α) :=
  k1 st >>= fun p1 => k2 p1.2 >>= fun p2 =>
    finishG χ (match p1.1, p2.1 with | some v1, some v2 => some [v1, v2] | _, _ => none) p2.2

theorem finishS_exec (env : GEnv α) (st : GSt α) (opn : String) (args : List GE) (vs : Option (List α))
    (hargs : evalArgs { env with loc := gSet opn (.opRef env.node) env.loc } st args =
      match vs with
      | some vs => .ok (vs, st)
      | none => .error .type) :
    (execGS (finishS opn args) env st [] >>= fun p => evalGE p.1 p.2 (.loc "sample_return")) >>= valOf =
      finishG env.node vs st := by
  unfold finishS finishG
  simp only [execGS, evalGE]
  cases hu : List.lookup env.node st.updated with
  | some w => simp only [hu, Option.isSome_some, gGet_gSet_same, valOf, bind, Except.bind, pure, Except.pure]
  | none =>
    cases ho : List.lookup env.node st.ops with
    | none => simp only [ho, Option.isSome_none, bind, Except.bind]
    | some s =>
      simp only [ho, Option.isSome_none, gGet_gSet_same, hargs, bind, Except.bind, pure, Except.pure]
      cases vs with
      | none => rfl
      | some vs =>
        simp only [Store.get, ho]
        cases hs : stepNode env.node s vs with
        | error e => rfl
        | ok q => simp only [gGet_gSet_same, valOf]

theorem unary_body (χ : F α) (vars : String → α) (k : Visit α) (st : GSt α) :
    (do valOf (← callG Gen.Glue.update_visitUnary χ vars [k] [] st)) = unaryG χ k st := by
  show callG ⟨.seq (.setLoc "sample" (.visit 0)) (finishS "op" [.loc "sample"]), some (.loc "sample_return")⟩
    χ vars [k] [] st >>= valOf = _
  rw [callG_ret, execGS_seq, execGS_setLoc_visit _ 0 _ _ _ k rfl]
  unfold unaryG
  cases k st with
  | error e => rfl
  | ok p =>
    obtain ⟨ov, st1⟩ := p
    refine finishS_exec { node := χ, vars := vars, kids := [k], loc := gSet "sample" (gvOfOpt ov) [] } st1 _ _ _ ?_
    simp only [evalArgs, evalGE, gGet_gSet_ne (by decide : "sample" ≠ "op"), gGet_gSet_same, bind,
      Except.bind, pure, Except.pure]
    cases ov <;> rfl

theorem binary_body (χ : F α) (vars : String → α) (k1 k2 : Visit α) (st : GSt α) :
    (do valOf (← callG Gen.Glue.update_visitBinary χ vars [k1, k2] [] st)) = binaryG χ k1 k2 st := by
  show callG ⟨.seq (.setLoc "sample_left" (.visit 0)) (.seq (.setLoc "sample_right" (.visit 1))
    (finishS "operator" [.loc "sample_left", .loc "sample_right"])), some (.loc "sample_return")⟩
    χ vars [k1, k2] [] st >>= valOf = _
  rw [callG_ret, execGS_seq, execGS_setLoc_visit _ 0 _ _ _ k1 rfl]
  unfold binaryG
  cases k1 st with
  | error e => rfl
  | ok p1 =>
    obtain ⟨ov1, st1⟩ := p1
    show (execGS (.seq _ _) { node := χ, vars := vars, kids := [k1, k2], loc := gSet "sample_left" (gvOfOpt ov1) [] }
      st1 [] >>= _) >>= valOf = (k2 st1 >>= fun p2 => finishG χ _ p2.2)
    rw [execGS_seq, execGS_setLoc_visit _ 1 _ _ _ k2 rfl]
    cases k2 st1 with
    | error e => rfl
    | ok p2 =>
      obtain ⟨ov2, st2⟩ := p2
      refine finishS_exec
        { node := χ, vars := vars, kids := [k1, k2], loc := gSet "sample_right" (gvOfOpt ov2) (gSet "sample_left" (gvOfOpt ov1) []) }
        st2 _ _ _ ?_
      simp only [evalArgs, evalGE, gGet_gSet_ne (by decide : "sample_left" ≠ "operator"),
        gGet_gSet_ne (by decide : "sample_right" ≠ "operator"),
        gGet_gSet_ne (by decide : "sample_left" ≠ "sample_right"), gGet_gSet_same, bind,
        Except.bind, pure, Except.pure]
      cases ov1 <;> cases ov2 <;> rfl

theorem leaf_body_var (x : String) (vars : String → α) (st : GSt α) :
    visitGlue vars (.var x) st =
      .ok (some (vars x), { st with results := memoSet st.results (.var x) (vars x) }) := by
  rw [visitGlue]
  unfold callG Gen.Glue.update_visitLeaf
  simp only [execGS, evalGE, bind, Except.bind, pure, Except.pure, gGet_gSet_same]
  rfl

theorem leaf_body_const (c : α) (vars : String → α) (st : GSt α) :
    visitGlue vars (.const c) st =
      .ok (some c, { st with results := memoSet st.results (.const c) c }) := by
  rw [visitGlue]
  unfold callG Gen.Glue.update_visitLeaf
  simp only [execGS, evalGE, bind, Except.bind, pure, Except.pure, gGet_gSet_same]
  rfl

theorem visitGlue_node1 {χ φ : F α} (hn : Node1 χ φ) (vars : String → α) (st : GSt α) :
    visitGlue vars χ st = unaryG χ (visitGlue vars φ) st := by
  cases hn <;> (rw [visitGlue]; exact unary_body _ _ _ _)

theorem visitGlue_node2 {χ φ ψ : F α} (hn : Node2 χ φ ψ) (vars : String → α) (st : GSt α) :
    visitGlue vars χ st = binaryG χ (visitGlue vars φ) (visitGlue vars ψ) st := by
  cases hn <;> (rw [visitGlue]; exact binary_body _ _ _ _ _)

/-- The outcome of the translated visitor against the keyed interpreter's: the same value, dictionary and memo, the node
    bound in `results` — or the same exception. -/
def SimG (φ : F α) : Except PyErr (α × (Store α × Memo α)) → Except PyErr (Option α × GSt α) → Prop :=
  Exc.Rel fun a b => b.1 = some a.1 ∧ a.2 = (b.2.ops, b.2.updated) ∧ b.2.results.lookup φ = some a.1

theorem finishG_sim (χ : F α) (vs : List α) (st1 : GSt α) :
    SimG χ (Keyed.finishK stepNode χ vs (st1.ops, st1.updated)) (finishG χ (some vs) st1) := by
  unfold finishG Keyed.finishK Keyed.get
  cases st1.updated.lookup χ with
  | some w => exact ⟨rfl, rfl, List.lookup_cons_self⟩
  | none =>
    cases st1.ops.lookup χ with
    | none => exact rfl
    | some s =>
      simp only [Exc.ok_bind]
      cases stepNode χ s vs with
      | error e => exact rfl
      | ok r => exact ⟨rfl, rfl, List.lookup_cons_self⟩

theorem visitGlue_sim (vars : String → α) (φ : F α) : ∀ st : GSt α,
    SimG φ (Keyed.visitK stepNode (C09.leafD vars) φ (st.ops, st.updated)) (visitGlue vars φ st) := by
  induction φ using nodeInduction with
  | var x => intro st; rw [leaf_body_var]; exact ⟨rfl, rfl, List.lookup_cons_self⟩
  | const c => intro st; rw [leaf_body_const]; exact ⟨rfl, rfl, List.lookup_cons_self⟩
  | n1 hn ih =>
    intro st
    rw [visitGlue_node1 hn, hn.visitK]
    refine Exc.Rel.bind (ih st) fun ⟨v, sm1⟩ ⟨ov, st1⟩ _ _ ⟨h1, h2, _⟩ => ?_
    obtain rfl : ov = some v := h1
    obtain rfl : sm1 = (st1.ops, st1.updated) := h2
    exact finishG_sim _ [v] st1
  | n2 hn ih1 ih2 =>
    intro st
    rw [visitGlue_node2 hn, hn.visitK]
    refine Exc.Rel.bind (ih1 st) fun ⟨v1, sm1⟩ ⟨ov1, st1⟩ _ _ ⟨h1, h2, _⟩ => ?_
    obtain rfl : ov1 = some v1 := h1
    obtain rfl : sm1 = (st1.ops, st1.updated) := h2
    refine Exc.Rel.bind (ih2 st1) fun ⟨v2, sm2⟩ ⟨ov2, st2⟩ _ _ ⟨k1, k2, _⟩ => ?_
    obtain rfl : ov2 = some v2 := k1
    obtain rfl : sm2 = (st2.ops, st2.updated) := k2
    exact finishG_sim _ [v1, v2] st2

/-- Outcome of a visit of the translated update visitor against the mirror's. -/
def VisitAgree (φ : F α) : Except PyErr (Option α × GSt α) → Except PyErr (α × (Store α × Memo α)) → Prop
  | .ok (ov, st'), .ok (v, (ops', memo')) =>
      ov = some v ∧ StoreEq st'.ops ops' ∧ st'.updated = memo' ∧ Closed memo' ∧ st'.results.lookup φ = some v
  | .error e, .error e' => e = e'
  | _, _ => False

/-- One visit: the translated `visitBinary` / `visitUnary` / `visitLeaf` against `visitM`. -/
theorem genGlue_visit (vars : String → α) (φ : F α) (st : GSt α) (ops : Store α)
    (heq : StoreEq st.ops ops) (hc : Closed st.updated) :
    VisitAgree φ (visitGlue vars φ st) (visitM vars φ (ops, st.updated)) := by
  rcases ((visitGlue_sim vars φ st).comp_left (C09.visitM_rel vars φ (st.ops, st.updated) ops heq hc)).inv with
    ⟨e, hg, hm⟩ | ⟨⟨ov, st1⟩, ⟨v', o1, m1⟩, hg, hm, ⟨v, sm1⟩, ⟨h1, h2, hres⟩, k1, k2, k3, k4, -⟩ <;> rw [hg, hm]
  · exact rfl
  · obtain rfl : sm1 = (st1.ops, st1.updated) := h2
    obtain rfl : v = v' := k1
    exact ⟨h1, k2, k3, k4, hres⟩

/-- The loop of `visitAst`: the assertions are visited in order, the values collected. -/
def specsLoop : List (Visit α) → GSt α → Except PyErr (List (Option α) × GSt α)
  | [], st => .ok ([], st)
  | f :: fs, st => do
      let (ov, st1) ← f st
      let (l, st') ← specsLoop fs st1
      pure (ov :: l, st')

/-- One iteration of `for spec in ast.specs: out.append(self.visit(spec, …))`. -/
def specStep (p : GEnv α × GSt α) (f : Visit α) : Except PyErr (GEnv α × GSt α) :=
  execGS (.appendLoc "out" .visitSpec) { p.1 with spec := some f } p.2 []

theorem specStep_eq (env : GEnv α) (st : GSt α) (f : Visit α) (acc : List (Option α))
    (henv : env.loc = [("out", .list acc)]) :
    specStep (env, st) f =
      match f st with
      | .error e => .error e
      | .ok (ov, st1) => .ok ({ env with spec := some f, loc := [("out", .list (acc ++ [ov]))] }, st1) := by
  unfold specStep
  have hg : gGet "out" [("out", GV.list acc)] = (.ok (.list acc) : Except PyErr (GV α)) := rfl
  simp only [execGS, evalGE, henv, bind, Except.bind, pure, Except.pure, hg]
  cases hf : f st with
  | error e => rfl
  | ok p =>
    obtain ⟨ov, st1⟩ := p
    cases ov with
    | none => rfl
    | some v => rfl

theorem forSpecs_loop (fs : List (Visit α)) : ∀ (env : GEnv α) (acc : List (Option α)) (st : GSt α),
    env.loc = [("out", .list acc)] →
    match specsLoop fs st with
    | .error e => fs.foldlM specStep (env, st) = .error e
    | .ok (l, st') =>
        ∃ env', fs.foldlM specStep (env, st) = .ok (env', st') ∧ env'.loc = [("out", .list (acc ++ l))] := by
  induction fs with
  | nil =>
    intro env acc st henv
    exact ⟨env, rfl, by rw [henv, List.append_nil]⟩
  | cons f fs ih =>
    intro env acc st henv
    rw [List.foldlM_cons, specStep_eq env st f acc henv]
    unfold specsLoop
    cases hf : f st with
    | error e => rfl
    | ok p =>
      obtain ⟨ov, st1⟩ := p
      have := ih { env with spec := some f, loc := [("out", .list (acc ++ [ov]))] } (acc ++ [ov]) st1 rfl
      simp only [bind, Except.bind]
      cases hl : specsLoop fs st1 with
      | error e => rw [hl] at this; exact this
      | ok q =>
        obtain ⟨l, st'⟩ := q
        rw [hl] at this
        obtain ⟨env', h1, h2⟩ := this
        exact ⟨env', h1, by rw [h2, List.append_assoc]; rfl⟩

theorem execGS_setOut (env : GEnv α) (st : GSt α) (specs : List (Visit α)) :
    execGS (.setLoc "out" .emptyList) env st specs =
      .ok ({ env with loc := gSet "out" (.list []) env.loc }, st) := id rfl
theorem execGS_forSpecs (env : GEnv α) (st : GSt α) (specs : List (Visit α)) :
    execGS (.forSpecs (.appendLoc "out" .visitSpec)) env st specs = specs.foldlM specStep (env, st) := id rfl
theorem x_err_bind {ε σ ρ : Type} (e : ε) (f : σ → Except ε ρ) : (Except.error e >>= f) = .error e := Exc.error_bind e f

/-- `AbstractAstVisitor.visitAst`: `out = []`, the loop, `return out`. -/
theorem baseAst_call (node : F α) (vars : String → α) (fs : List (Visit α)) (st : GSt α) :
    callG Gen.Glue.base_visitAst node vars [] fs st =
      match specsLoop fs st with
      | .error e => .error e
      | .ok (l, st') => .ok (.list l, st') := by
  unfold callG Gen.Glue.base_visitAst
  simp only [execGS_seq, execGS_setOut, execGS_forSpecs, Exc.ok_bind]
  have := forSpecs_loop fs { node := node, vars := vars, kids := [], loc := gSet "out" (GV.list []) [] } [] st rfl
  cases hl : specsLoop fs st with
  | error e => rw [hl] at this; rw [this]; rfl
  | ok q =>
    obtain ⟨l, st'⟩ := q
    rw [hl] at this
    obtain ⟨env', h1, h2⟩ := this
    rw [h1]
    simp only [Exc.ok_bind, evalGE, h2]
    rfl

/-- `AbstractOnlineUpdateVisitor.visitAst`: `self.updated = dict()`, then the method of the base class. -/
theorem updateAst_call (node : F α) (vars : String → α) (fs : List (Visit α)) (st : GSt α) :
    callG Gen.Glue.update_visitAst node vars [] fs st =
      callG Gen.Glue.base_visitAst node vars [] fs { st with updated := [] } := rfl

theorem updateSpecsG_eq (vars : String → α) (specs : List (F α)) (st : GSt α) :
    updateSpecsG vars specs st = specsLoop (specs.map (visitGlue vars)) { st with updated := [] } := by
  unfold updateSpecsG
  rw [updateAst_call, baseAst_call]
  cases specsLoop (specs.map (visitGlue vars)) { st with updated := [] } with
  | error e => rfl
  | ok q => rfl

/-- Outcome of one `update()` (all assertions, fresh memo). -/
def RoundAgree : Except PyErr (List (Option α) × GSt α) → Except PyErr (List α × Memo α × Store α) → Prop
  | .ok (ovs, st'), .ok (vs, memo', ops') => ovs = vs.map some ∧ StoreEq st'.ops ops' ∧ st'.updated = memo'
  | .error e, .error e' => e = e'
  | _, _ => False

omit [Val α] in
theorem RoundAgree.rel {g : Except PyErr (List (Option α) × GSt α)} {m : Except PyErr (List α × Memo α × Store α)}
    (h : RoundAgree g m) : Exc.Rel (fun p q => RoundAgree (.ok p) (.ok q)) g m := by
  cases g <;> cases m <;> exact h

theorem specsLoop_sim (vars : String → α) (specs : List (F α)) : ∀ st : GSt α,
    Exc.Rel (fun a b => b.1 = a.1.map some ∧ a.2 = (b.2.ops, b.2.updated))
      (Keyed.visitSpecsK stepNode (C09.leafD vars) specs (st.ops, st.updated))
      (specsLoop (specs.map (visitGlue vars)) st) := by
  induction specs with
  | nil => intro st; exact ⟨rfl, rfl⟩
  | cons φ rest ih =>
    intro st
    rw [Keyed.visitSpecsK_cons, List.map_cons, specsLoop]
    refine Exc.Rel.bind (visitGlue_sim vars φ st) fun ⟨v, sm1⟩ ⟨ov, st1⟩ _ _ ⟨h1, h2, _⟩ => ?_
    obtain rfl : ov = some v := h1
    obtain rfl : sm1 = (st1.ops, st1.updated) := h2
    refine Exc.Rel.bind (ih st1) fun ⟨vs, sm2⟩ ⟨ovs, st2⟩ _ _ ⟨k1, k2⟩ => ?_
    obtain rfl : ovs = vs.map some := k1
    obtain rfl : sm2 = (st2.ops, st2.updated) := k2
    exact ⟨rfl, rfl⟩

/-- `visitAst` of the update visitor: the memo is cleared, the assertions are visited in order. -/
theorem genGlue_round (vars : String → α) (specs : List (F α)) (st : GSt α) (ops : Store α) (heq : StoreEq st.ops ops) :
    RoundAgree (updateSpecsG vars specs st) (updateSpecs vars specs ops) := by
  rw [updateSpecsG_eq, updateSpecs]
  rcases ((specsLoop_sim vars specs { st with updated := [] }).comp_left
      (C09.visitSpecs_rel vars specs (st.ops, []) ops heq fun ψ hψ => absurd rfl hψ)).inv with
    ⟨e, hg, hm⟩ | ⟨⟨ovs, st1⟩, ⟨vs', o1, m1⟩, hg, hm, ⟨vs, sm1⟩, ⟨h1, h2⟩, k1, k2, k3⟩ <;> rw [hg, hm]
  · exact rfl
  · obtain rfl : sm1 = (st1.ops, st1.updated) := h2
    obtain rfl : vs = vs' := k1
    exact ⟨h1, k2, k3⟩

/-- The value a visit of `φ` returns while the memo is `m` (for an operator node: once it has been visited). -/
def Cur (vars : String → α) (m : Memo α) : F α → α → Prop
  | .var x, v => v = vars x
  | .const c, v => v = c
  | φ, v => m.lookup φ = some v

omit [Val α] in
theorem Cur.mono {vars : String → α} {m m' : Memo α} (h : ∀ χ w, m.lookup χ = some w → m'.lookup χ = some w)
    {χ : F α} {v : α} (hc : Cur vars m χ v) : Cur vars m' χ v := by
  cases χ with
  | var x => exact hc
  | const c => exact hc
  | _ => exact h _ _ hc

/-- Memo entries stay; a `results` binding that holds the current value of its node stays. -/
def Pres (vars : String → α) (st st' : GSt α) : Prop :=
  (∀ χ w, st.updated.lookup χ = some w → st'.updated.lookup χ = some w) ∧
  (∀ χ v, st.results.lookup χ = some v → Cur vars st.updated χ v → st'.results.lookup χ = some v)

omit [Val α] in
theorem Pres.refl (vars : String → α) (st : GSt α) : Pres vars st st := ⟨fun _ _ h => h, fun _ _ h _ => h⟩

omit [Val α] in
theorem Pres.trans {vars : String → α} {a b c : GSt α} (h : Pres vars a b) (h' : Pres vars b c) : Pres vars a c :=
  ⟨fun χ w hw => h'.1 χ w (h.1 χ w hw), fun χ v hv hc => h'.2 χ v (h.2 χ v hv hc) (Cur.mono h.1 hc)⟩

/-- What a successful visit of `φ` from `st` leaves: memo entries and current `results` bindings stay (`Pres`), and `φ` is
    bound in `results` to the value returned, which is its current value. -/
def Vis (vars : String → α) (φ : F α) (st : GSt α) (r : Option α × GSt α) : Prop :=
  Pres vars st r.2 ∧ ∃ v, r.1 = some v ∧ r.2.results.lookup φ = some v ∧ Cur vars r.2.updated φ v

omit [Val α] in
/-- Binding `χ` in `results` to its current value keeps the current bindings. -/
theorem pres_bind {vars : String → α} {st : GSt α} {χ : F α} {w : α} {up : Memo α} {ops : Store α}
    (hup : ∀ χ' w', st.updated.lookup χ' = some w' → up.lookup χ' = some w')
    (hw : ∀ v, Cur vars st.updated χ v → v = w) :
    Pres vars st { ops := ops, updated := up, results := memoSet st.results χ w } := by
  refine ⟨hup, fun χ' v hv hc => ?_⟩
  by_cases hk : χ' = χ
  · subst hk; exact (hw v hc) ▸ List.lookup_cons_self
  · exact (Assoc.lookup_cons_ne _ _ hk).trans hv

theorem finishG_vis {vars : String → α} {χ : F α} (hcur : ∀ m v, Cur vars m χ v ↔ m.lookup χ = some v)
    {st1 : GSt α} {ovs : Option (List α)} {r : Option α × GSt α} (h : finishG χ ovs st1 = .ok r) : Vis vars χ st1 r := by
  unfold finishG at h
  split at h
  · rename_i w hl
    cases h
    exact ⟨pres_bind (fun _ _ h => h) fun v hc => Option.some.inj (((hcur _ _).1 hc).symm.trans hl),
      w, rfl, List.lookup_cons_self, (hcur _ _).2 hl⟩
  · rename_i hl
    split at h
    · cases h
    · split at h
      · cases h
      · split at h
        · cases h
        · rename_i o _
          cases h
          refine ⟨pres_bind (fun χ' w' hw' => ?_) fun v hc => absurd (((hcur _ _).1 hc).symm.trans hl) (by simp),
            o, rfl, List.lookup_cons_self, (hcur _ _).2 List.lookup_cons_self⟩
          exact (Assoc.lookup_cons_ne _ _ fun hk => by rw [hk, hl] at hw'; cases hw').trans hw'

omit [Val α] in
theorem Vis.after {vars : String → α} {φ : F α} {st st1 : GSt α} {r : Option α × GSt α} (hv : Vis vars φ st1 r)
    (h : Pres vars st st1) : Vis vars φ st r := ⟨h.trans hv.1, hv.2⟩

theorem vis_all (vars : String → α) (φ : F α) : ∀ st r, visitGlue vars φ st = .ok r → Vis vars φ st r := by
  have leaf : ∀ (φ : F α) (c : α), (∀ m v, Cur vars m φ v ↔ v = c) → ∀ st : GSt α,
      Vis vars φ st (some c, { st with results := memoSet st.results φ c }) := fun φ c hcur st =>
    ⟨pres_bind (fun _ _ h => h) fun v hc => (hcur _ _).1 hc, c, rfl, List.lookup_cons_self, (hcur _ _).2 rfl⟩
  induction φ using nodeInduction with
  | var x => intro st r h; cases (leaf_body_var x vars st).symm.trans h; exact leaf _ _ (fun _ _ => Iff.rfl) st
  | const c => intro st r h; cases (leaf_body_const c vars st).symm.trans h; exact leaf _ _ (fun _ _ => Iff.rfl) st
  | n1 hn ih =>
    intro st r h
    rw [visitGlue_node1 hn] at h
    obtain ⟨p, hk, h⟩ := Exc.bind_eq_ok.1 h
    exact (finishG_vis (fun _ _ => by cases hn <;> exact Iff.rfl) h).after (ih st p hk).1
  | n2 hn ih1 ih2 =>
    intro st r h
    rw [visitGlue_node2 hn] at h
    obtain ⟨p1, hk1, h⟩ := Exc.bind_eq_ok.1 h
    obtain ⟨p2, hk2, h⟩ := Exc.bind_eq_ok.1 h
    exact (finishG_vis (fun _ _ => by cases hn <;> exact Iff.rfl) h).after ((ih1 st p1 hk1).1.trans (ih2 p1.2 p2 hk2).1)

theorem loop_results (vars : String → α) (specs : List (F α)) : ∀ (st : GSt α) (l : List (Option α)) (st' : GSt α),
    specsLoop (specs.map (visitGlue vars)) st = .ok (l, st') →
    Pres vars st st' ∧ ∀ i (hi : i < specs.length),
      ∃ v, l[i]? = some (some v) ∧ st'.results.lookup specs[i] = some v ∧ Cur vars st'.updated specs[i] v := by
  induction specs with
  | nil =>
    intro st l st' h
    simp only [List.map_nil, specsLoop, Except.ok.injEq, Prod.mk.injEq] at h
    obtain ⟨rfl, rfl⟩ := h
    exact ⟨Pres.refl _ _, fun i hi => absurd hi (by simp)⟩
  | cons φ rest ih =>
    intro st l st' h
    rw [List.map_cons, specsLoop] at h
    obtain ⟨⟨ov, st1⟩, hg, h⟩ := Exc.bind_eq_ok.1 h
    obtain ⟨⟨l2, st2⟩, hl, h⟩ := Exc.bind_eq_ok.1 h
    obtain ⟨rfl, rfl⟩ := Prod.mk.inj (Exc.pure_eq_ok.1 h)
    obtain ⟨p1, v, rfl, hr, hc⟩ := vis_all vars φ st _ hg
    obtain ⟨p2, hrest⟩ := ih st1 l2 st2 hl
    refine ⟨p1.trans p2, fun i hi => ?_⟩
    cases i with
    | zero => exact ⟨v, rfl, p2.2 φ v hr hc, Cur.mono p2.1 hc⟩
    | succ j => exact hrest j (by simpa using hi)

/-- What `get_value` reads: after a round, `results` holds for every assertion the value returned for it. -/
theorem genGlue_results (vars : String → α) (specs : List (F α)) (st st' : GSt α) (ovs : List (Option α))
    (h : updateSpecsG vars specs st = .ok (ovs, st')) :
    ∀ i (hi : i < specs.length), ∃ v, ovs[i]? = some (some v) ∧ st'.results.lookup specs[i] = some v := by
  rw [updateSpecsG_eq] at h
  intro i hi
  obtain ⟨v, h1, h2, -⟩ := (loop_results vars specs _ ovs st' h).2 i hi
  exact ⟨v, h1, h2⟩

/-- A sequence of updates through the translated visitor (the memo of the previous round is dropped by `visitAst`). -/
def runSpecsG (specs : List (F α)) : GSt α → List (String → α) → Except PyErr (List (List (Option α) × Memo α))
  | _, [] => .ok []
  | st, e :: es => do
      let (vs, st') ← updateSpecsG e specs st
      let rest ← runSpecsG specs st' es
      pure ((vs, st'.updated) :: rest)

/-- The whole run: values of all assertions and the memo of every round, as `runSpecs` of the mirror. -/
theorem genGlue_run (specs : List (F α)) (es : List (String → α)) (st : GSt α) (ops : Store α) (heq : StoreEq st.ops ops) :
    runSpecsG specs st es = (runSpecs specs ops es).map (fun l => l.map (fun r => (r.1.map some, r.2))) := by
  induction es generalizing st ops with
  | nil => rfl
  | cons e es ih =>
    simp only [runSpecsG, runSpecs]
    rcases Exc.Rel.inv (genGlue_round e specs st ops heq).rel with
      ⟨err, hg, hm⟩ | ⟨⟨ovs, st'⟩, ⟨vs, m2, o2⟩, hg, hm, rfl, k2, rfl⟩ <;> rw [hg, hm]
    · rfl
    · simp only [Exc.ok_bind, ih st' o2 k2]
      cases runSpecs specs o2 es with
      | error err => rfl
      | ok rest => rfl

/-- What the translated `visitUnary` / `visitBinary` of the reset visitor compute. -/
def resetGForm (χ : F α) (kids : List (Visit α)) (st : GSt α) : Except PyErr (Option α × GSt α) :=
  match runKids kids st with
  | .error e => .error e
  | .ok st1 =>
    match st1.ops.lookup χ with
    | none => .error .key
    | some _ => .ok (none, { st1 with ops := st1.ops.set χ (initNode χ) })

theorem reset_body (χ : F α) (vars : String → α) (kids : List (Visit α)) (st : GSt α) :
    (do valOf (← callG Gen.Glue.reset_visitUnary χ vars kids [] st)) = resetGForm χ kids st := by
  unfold resetGForm callG Gen.Glue.reset_visitUnary
  simp only [execGS, evalGE, bind, Except.bind, pure, Except.pure]
  cases hk : runKids kids st with
  | error e => rfl
  | ok st1 =>
    simp only []
    cases ho : List.lookup χ st1.ops with
    | none => rfl
    | some s =>
      simp only [gGet_gSet_same, Store.get, ho]
      rfl

def ResetRel (st : GSt α) : Except PyErr (Option α × GSt α) → Except PyErr (Store α) → Prop :=
  Exc.Rel fun p ops' => p.1 = none ∧ StoreEq p.2.ops ops' ∧ p.2.updated = st.updated ∧ p.2.results = st.results

def RGood (φ : F α) : Prop := ∀ (st : GSt α) (ops : Store α), StoreEq st.ops ops → ResetRel st (resetGlue φ st) (resetM φ ops)

theorem resetRel_finish (χ : F α) (st st1 : GSt α) (o1 : Store α) (h2 : StoreEq st1.ops o1)
    (h3 : st1.updated = st.updated) (h4 : st1.results = st.results) :
    ResetRel st
      (match st1.ops.lookup χ with
        | none => .error .key
        | some _ => .ok (none, { st1 with ops := st1.ops.set χ (initNode χ) }))
      (resetAt χ o1) := by
  unfold resetAt
  simp only [Store.get, bind, Except.bind, pure, Except.pure, h2 χ]
  cases List.lookup χ o1 with
  | none => exact rfl
  | some s => exact ⟨rfl, h2.set _ _, h3, h4⟩

theorem resetGlue_node1 {χ φ : F α} (hn : Node1 χ φ) (st : GSt α) : resetGlue χ st = resetGForm χ [resetGlue φ] st := by
  cases hn <;> (rw [resetGlue]; exact reset_body _ _ _ _)

theorem resetGlue_node2 {χ φ ψ : F α} (hn : Node2 χ φ ψ) (st : GSt α) :
    resetGlue χ st = resetGForm χ [resetGlue φ, resetGlue ψ] st := by
  cases hn <;> (rw [resetGlue]; exact reset_body _ _ _ _)

theorem resetM_node1 {χ φ : F α} (hn : Node1 χ φ) (ops : Store α) : resetM χ ops = (resetM φ ops >>= resetAt χ) := by
  cases hn <;> rfl

theorem resetM_node2 {χ φ ψ : F α} (hn : Node2 χ φ ψ) (ops : Store α) :
    resetM χ ops = (resetM φ ops >>= fun o => resetM ψ o >>= resetAt χ) := by
  cases hn <;> rfl

theorem resetGForm_cons (χ : F α) (f : Visit α) (fs : List (Visit α)) (st : GSt α) :
    resetGForm χ (f :: fs) st = f st >>= fun p => resetGForm χ fs p.2 := by
  unfold resetGForm
  rw [runKids]
  cases f st <;> rfl

theorem rgood_node1 {χ φ : F α} (hn : Node1 χ φ) (ih : RGood φ) : RGood χ := by
  intro st ops heq
  rw [resetGlue_node1 hn, resetM_node1 hn, resetGForm_cons]
  exact Exc.Rel.bind (ih st ops heq) fun ⟨ov, st1⟩ o1 _ _ ⟨_, h2, h3, h4⟩ => resetRel_finish χ st st1 o1 h2 h3 h4

theorem rgood_node2 {χ φ ψ : F α} (hn : Node2 χ φ ψ) (ih1 : RGood φ) (ih2 : RGood ψ) : RGood χ := by
  intro st ops heq
  rw [resetGlue_node2 hn, resetM_node2 hn, resetGForm_cons]
  refine Exc.Rel.bind (ih1 st ops heq) fun ⟨ov, st1⟩ o1 _ _ ⟨_, h2, h3, h4⟩ => ?_
  rw [resetGForm_cons]
  exact Exc.Rel.bind (ih2 st1 o1 h2) fun ⟨ov, st2⟩ o2 _ _ ⟨_, k2, k3, k4⟩ =>
    resetRel_finish χ st st2 o2 k2 (k3.trans h3) (k4.trans h4)

theorem rgood_all (φ : F α) : RGood φ := by
  induction φ using nodeInduction with
  | var x => intro st ops heq; exact ⟨rfl, heq, rfl, rfl⟩
  | const c => intro st ops heq; exact ⟨rfl, heq, rfl, rfl⟩
  | n1 hn ih => exact rgood_node1 hn ih
  | n2 hn ih1 ih2 => exact rgood_node2 hn ih1 ih2

def ResetAgree : Except PyErr (GSt α) → Except PyErr (Store α) → Prop
  | .ok st', .ok ops' => StoreEq st'.ops ops'
  | .error e, .error e' => e = e'
  | _, _ => False

omit [Val α] in
theorem ResetAgree.rel {g : Except PyErr (GSt α)} {m : Except PyErr (Store α)} (h : ResetAgree g m) :
    Exc.Rel (fun p q => ResetAgree (.ok p) (.ok q)) g m := by
  cases g <;> cases m <;> exact h

/-- The translated reset visitor against `resetM`; the memo and the results are not touched. -/
theorem genGlue_reset (φ : F α) (st : GSt α) (ops : Store α) (heq : StoreEq st.ops ops) :
    (match resetGlue φ st, resetM φ ops with
     | .ok (ov, st'), .ok ops' => ov = none ∧ StoreEq st'.ops ops' ∧ st'.updated = st.updated ∧ st'.results = st.results
     | .error e, .error e' => e = e'
     | _, _ => False) := by
  rcases Exc.Rel.inv (rgood_all φ st ops heq) with ⟨e, hg, hm⟩ | ⟨⟨ov, st1⟩, o1, hg, hm, h⟩
  · rw [hg, hm]
  · rw [hg, hm]; exact h

theorem resetSpecsG_eq (specs : List (F α)) (st : GSt α) :
    resetSpecsG specs st =
      match specsLoop (specs.map resetGlue) st with
      | .error e => .error e
      | .ok (_, st') => .ok st' := by
  unfold resetSpecsG
  rw [baseAst_call]
  cases specsLoop (specs.map resetGlue) st with
  | error e => rfl
  | ok q => rfl

theorem resetLoop_agree (specs : List (F α)) : ∀ (st : GSt α) (ops : Store α), StoreEq st.ops ops →
    ResetAgree (match specsLoop (specs.map resetGlue) st with
      | .error e => .error e
      | .ok (_, st') => .ok st') (resetSpecs specs ops) := by
  induction specs with
  | nil => intro st ops heq; exact heq
  | cons φ rest ih =>
    intro st ops heq
    simp only [List.map_cons, specsLoop, resetSpecs]
    rcases Exc.Rel.inv (rgood_all φ st ops heq) with ⟨e, hg, hm⟩ | ⟨⟨ov, st1⟩, o1, hg, hm, -, h2, -⟩ <;> rw [hg, hm]
    · exact rfl
    · have h' := ih st1 o1 h2
      simp only [Exc.ok_bind]
      cases hl : specsLoop (rest.map resetGlue) st1 with
      | error e => rw [hl] at h'; exact h'
      | ok q => rw [hl] at h'; exact h'

theorem genGlue_resetSpecs (specs : List (F α)) (st : GSt α) (ops : Store α) (heq : StoreEq st.ops ops) :
    ResetAgree (resetSpecsG specs st) (resetSpecs specs ops) := by
  rw [resetSpecsG_eq]
  exact resetLoop_agree specs st ops heq

theorem resetAt_binds (k : F α) (o o' : Store α) (h : resetAt k o = .ok o') :
    o'.lookup k = some (initNode k) ∧ ∀ ψ, ψ ≠ k → o'.lookup ψ = o.lookup ψ := by
  obtain ⟨s, -, h⟩ := Exc.bind_eq_ok.1 h
  cases h
  exact ⟨C09.lookup_set_eq _ _ _, fun ψ hψ => C09.lookup_set_ne hψ _ _⟩

/-- After `reset()` every operator of the assertions is in the state `set_ast` gave it. -/
theorem resetSpecs_init (specs : List (F α)) (ops ops' : Store α) (h : resetSpecs specs ops = .ok ops') :
    ∀ φ ∈ specs, ∀ ψ ∈ φ.opSubs, ops'.lookup ψ = some (initNode ψ) :=
  fun φ hφ ψ hψ =>
    (Keyed.binds_specs resetSpecs resetM initNode (fun _ => rfl) (fun _ _ _ => rfl)
      (Keyed.binds_of_postorder resetM resetAt initNode (fun _ _ => rfl) (fun _ _ => rfl) resetM_node1 resetM_node2
        resetAt_binds)
      specs ops ops' h).1 ψ ⟨φ, hφ, hψ⟩

end Rtamt.Py
