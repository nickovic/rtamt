/-
  The discrete-time online monitor run through the operation classes *translated from the Python source*
  (`Rtamt/Py/Run.lean`: `initG`, `stepG`, `resetG`, `runG`) is the hand-written mirror
  (`initTree`, `stepTree`, `resetTree`, `runTree` of `Rtamt/Discrete/Online.lean`), hence — by C02 — returns
  `rho` at every update.  This assembles the per-class theorems of `RtamtProofs/GenOps.lean` over the
  syntax tree: the table `Row` says which class, with which constructor arguments and which encoding of the state, stands
  at an operator node; each row is an `Implements` of `GenOps.lean` (`Row.ok`) and a row of the construction table
  extracted from the source (`Row.ctor`); the induction over the tree goes by arity (`Lemmas/NodeOnline.lean`).

  Hypotheses: no future operator (`φ.online`), `a ≤ b` in every interval (`φ.wf`), standard semantics (no
  interface-aware predicate forms), no `sqrt` (`SqrtOperation.update` raises on a negative sample, which the
  mirror does not model).
-/
import RtamtProofs.GenOps
import Rtamt.Py.Run
import Rtamt.Generated
import RtamtProofs.C02Table
import RtamtProofs.GenDispatch
import RtamtProofs.Lemmas.VisitName

namespace Rtamt.Py
open Rtamt Val

variable {α : Type} [Val α]

/-- Standard semantics (no `predSat` / `predZero`) and no `sqrt`. -/
def plainOn : F α → Bool
  | .var _ => true
  | .const _ => true
  | .un op φ => (match op with | .sqrt => false | _ => true) && plainOn φ
  | .bin op φ ψ => (match op with | .predSat _ | .predZero => false | _ => true) && plainOn φ && plainOn ψ
  | .tmp1 _ φ => plainOn φ
  | .tmp2 _ φ ψ => plainOn φ && plainOn ψ
  | .tb1 _ _ _ φ => plainOn φ
  | .tb2 _ _ _ φ ψ => plainOn φ && plainOn ψ

def runOnlineG (φ : F α) (envs : List (String → α)) : Except PyErr (List α) := do
  let t ← initG φ
  let (_, os) ← runG φ t envs
  pure os

def runResetG (φ : F α) (pre post : List (String → α)) : Except PyErr (List α) := do
  let t0 ← initG φ
  let (t1, _) ← runG φ t0 pre
  let t2 ← resetG t1
  let (_, os) ← runG φ t2 post
  pure os

/- The mirror's side of `runResetG`. -/
def runReset (h r : Kind → Bool) (φ : F α) (pre post : List (String → α)) : Except PyErr (List α) := do
  let st0 ← initTree h r φ
  let (st1, _) ← runTree φ st0 pre
  let (_, os) ← runTree φ (resetTree φ st1) post
  pure os

/- Every `do` block below runs in `Except`, and each of its steps is decided by a hypothesis `x = .ok v`. -/
attribute [local simp] bind Except.bind pure Except.pure

/-- What the construction visitor registers for an operator node of the online fragment: the class, the constructor
    arguments as the extracted table names them, and how the attribute store of the object stands for the state of the
    mirror. -/
structure NodeImpl (α : Type) where
  cls : Class
  args : List CtorArg
  rel : St α → Store α → Prop

inductive Row : F α → NodeImpl α → Prop
  | un (op : Un) (φ : F α) : op ≠ .sqrt → Row (.un op φ) ⟨classUn op, [], unitRel []⟩
  | pred (c : Cmp) (φ ψ : F α) : Row (.bin (.pred c) φ ψ) ⟨Gen.PredicateOperation, [.operator], unitRel (encPred c)⟩
  | bin {op : Bin} {cl : Class} (φ ψ : F α) : classBin op = some cl → Row (.bin op φ ψ) ⟨cl, [], unitRel []⟩
  | tmp1 {op : T1} {cl : Class} {k : String} (φ : F α) : classT1 op = some (cl, k) → Row (.tmp1 op φ) ⟨cl, [], valRel k⟩
  | since (φ ψ : F α) : Row (.tmp2 .since φ ψ) ⟨Gen.SinceOperation, [], valRel "prev_out"⟩
  | tb1 {op : TB1} {cl : Class} {a b : Nat} (φ : F α) : classTB1 op = some cl → a ≤ b →
      Row (.tb1 op a b φ) ⟨cl, [.begin_, .end_], bufRel a b⟩
  | sinceTimed {a b : Nat} (φ ψ : F α) : a ≤ b →
      Row (.tb2 .since a b φ ψ) ⟨Gen.SinceTimedOperation, [.begin_, .end_], buf2Rel b (encBuf2 a b)⟩
  | precedes {a b : Nat} (φ ψ : F α) : a ≤ b →
      Row (.tb2 .precedes a b φ ψ) ⟨Gen.PrecedesTimedOperation, [.begin_, .end_], buf2Rel b (encPrec a b)⟩

/-- The comparison of a predicate node, the bounds of a bounded operator: what the construction visitor passes on. -/
def _root_.Rtamt.F.cmp : F α → Option Cmp
  | .bin (.pred c) _ _ => some c
  | _ => none

def _root_.Rtamt.F.iv : F α → Option (Nat × Nat)
  | .tb1 _ a b _ => some (a, b)
  | .tb2 _ a b _ _ => some (a, b)
  | _ => none

/-- The value `buildOp` passes for a constructor argument of the table: the anonymous function in its body
    (`Rtamt/Py/Run.lean`), under a name so that statements can mention it. -/
def ctorArg (operator : Option Cmp) (iv : Option (Nat × Nat)) (a : CtorArg) : Except PyErr (V α) :=
  match a, operator, iv with
  | .operator, some o, _ => .ok (.cmp o)
  | .begin_, _, some (a, _) => .ok (.int a)
  | .end_, _, some (_, b) => .ok (.int b)
  | _, _, _ => .error .type

def NodeImpl.Ok (N : NodeImpl α) (χ : F α) : Prop :=
  ∃ vs, N.args.mapM (ctorArg χ.cmp χ.iv) = .ok vs ∧ Implements N.cls vs N.rel χ

theorem Row.ok {χ : F α} {N : NodeImpl α} (h : Row χ N) : N.Ok χ := by
  cases h with
  | un op φ hs =>
    exact ⟨[], rfl, implements_stateless rfl (fun _ => rfl) (gen_Un_construct op) (gen_Un_reset op) fun vs hvs =>
      match vs, hvs with
      | [v], _ => ⟨_, rfl, by rw [List.map, List.map, gen_Un_update]; simp [hs]⟩⟩
  | pred c =>
    exact ⟨[.cmp c], rfl, implements_stateless rfl (fun _ => rfl) (gen_Pred_construct c) (gen_Pred_reset c)
      fun vs hvs => match vs, hvs with
      | [l, r], _ => ⟨_, rfl, gen_Pred_update c l r⟩⟩
  | bin _ _ hc =>
    exact ⟨[], rfl, implements_stateless rfl (fun _ => rfl) (gen_Bin_construct _ _ hc) (gen_Bin_reset _ _ hc)
      fun vs hvs => match vs, hvs with
      | [l, r], _ => ⟨_, rfl, gen_Bin_update _ _ hc l r⟩⟩
  | tmp1 φ hc => exact ⟨[], rfl, gen_T1_construct _ _ _ hc φ, gen_T1_update _ _ _ hc φ, gen_T1_reset _ _ _ hc φ⟩
  | since φ ψ => exact ⟨[], rfl, gen_Since_construct φ ψ, gen_Since_update φ ψ, gen_Since_reset φ ψ⟩
  | tb1 φ hc hab =>
    exact ⟨_, rfl, gen_TB1_construct _ _ hc _ _ φ, gen_TB1_update _ _ hc _ _ hab φ, gen_TB1_reset _ _ hc _ _ φ⟩
  | sinceTimed φ ψ hab =>
    exact ⟨_, rfl, gen_SinceTimed_construct _ _ φ ψ, gen_SinceTimed_update _ _ hab φ ψ, gen_SinceTimed_reset _ _ φ ψ⟩
  | precedes φ ψ hab =>
    exact ⟨_, rfl, gen_Precedes_construct _ _ φ ψ, gen_Precedes_update _ _ hab φ ψ, gen_Precedes_reset _ _ φ ψ⟩

def withCls (c : Class) (r : Except PyErr (Store α)) : Except PyErr (Class × Store α) :=
  do let s ← r; pure (c, s)

/-- The class and the constructor arguments of the construction visitor, by node class. -/
def ctorM : Kind → Option (Class × List CtorArg)
  | .Predicate => some (Gen.PredicateOperation, [.operator])
  | .Abs => some (Gen.AbsOperation, []) | .Sqrt => some (Gen.SqrtOperation, []) | .Exp => some (Gen.ExpOperation, [])
  | .Ln => some (Gen.LnOperation, []) | .Negate => some (Gen.NegateOperation, []) | .Neg => some (Gen.NotOperation, [])
  | .Addition => some (Gen.AdditionOperation, []) | .Subtraction => some (Gen.SubtractionOperation, [])
  | .Multiplication => some (Gen.MultiplicationOperation, []) | .Division => some (Gen.DivisionOperation, [])
  | .Pow => some (Gen.PowOperation, []) | .Log => some (Gen.LogOperation, [])
  | .Conjunction => some (Gen.AndOperation, []) | .Disjunction => some (Gen.OrOperation, [])
  | .Implies => some (Gen.ImpliesOperation, []) | .Iff => some (Gen.IffOperation, []) | .Xor => some (Gen.XorOperation, [])
  | .Rise => some (Gen.RiseOperation, []) | .Fall => some (Gen.FallOperation, [])
  | .Previous => some (Gen.PreviousOperation, []) | .StrongPrevious => some (Gen.StrongPreviousOperation, [])
  | .Once => some (Gen.OnceOperation, []) | .Historically => some (Gen.HistoricallyOperation, [])
  | .Since => some (Gen.SinceOperation, [])
  | .TimedOnce => some (Gen.OnceTimedOperation, [.begin_, .end_])
  | .TimedHistorically => some (Gen.HistoricallyTimedOperation, [.begin_, .end_])
  | .TimedSince => some (Gen.SinceTimedOperation, [.begin_, .end_])
  | .TimedPrecedes => some (Gen.PrecedesTimedOperation, [.begin_, .end_])
  | _ => none

/-- The node classes in the order of the `visitX` methods of the construction visitor. -/
def ctorOrder : List Kind :=
  [.Variable, .Predicate, .Abs, .Sqrt, .Exp, .Pow, .Addition, .Subtraction, .Multiplication, .Division, .Log, .Ln, .Negate, .Neg,
   .Conjunction, .Disjunction, .Implies, .Iff, .Xor, .Eventually, .Always, .Until, .Once, .Historically, .Since, .Rise, .Fall,
   .Previous, .StrongPrevious, .Next, .StrongNext, .TimedPrecedes, .TimedOnce, .TimedHistorically, .TimedSince, .TimedAlways,
   .TimedEventually, .TimedUntil]

/-- Every entry of `ctorM` is the row of the extracted table, and its class is the translated class of that name: the
    table is searched by node class, the classes by name, once over the node classes. -/
theorem ctorOf_eq {k : Kind} {p : Class × List CtorArg} (h : ctorM k = some p) :
    ctorOf k = some (.builds p.1.name p.2) ∧ classByName p.1.name = some p.1 := by
  have hall : ∀ k, (ctorM k).all (fun p =>
      (ctorOrder.zip (Gen.OnCtor.table.map Prod.snd)).lookup k == some (.builds p.1.name p.2) &&
        classByName p.1.name == some p.1) = true := Kind.forall_of_all (by decide +kernel)
  rw [ctorOf, lookup_of_keys (ks := ctorOrder) rfl]
  simpa [h] using hall k

theorem buildOp_builds (k : Kind) (c : Class) (args : List CtorArg) (hc : classByName c.name = some c)
    (hk : ctorOf k = some (.builds c.name args)) (operator : Option Cmp) (iv : Option (Nat × Nat)) :
    buildOp (α := α) k operator iv = (args.mapM (ctorArg operator iv) >>= fun vs => withCls c (construct c vs)) := by
  simp only [buildOp, hk, hc]
  rfl

omit [Val α] in
theorem Row.ctor {χ : F α} {N : NodeImpl α} (h : Row χ N) :
    ctorOf χ.kind = some (.builds N.cls.name N.args) ∧ classByName N.cls.name = some N.cls := by
  have hM : ctorM χ.kind = some (N.cls, N.args) := by
    cases h with
    | un op => cases op <;> rfl
    | @bin op _ _ _ hc => cases op <;> cases hc <;> rfl
    | @tmp1 op _ _ _ hc => cases op <;> cases hc <;> rfl
    | @tb1 op _ _ _ _ hc => cases op <;> cases hc <;> rfl
    | _ => rfl
  exact ctorOf_eq hM

theorem buildOp_pred (c : Cmp) :
    buildOp (α := α) (Bin.pred c).kind (some c) none
      = withCls Gen.PredicateOperation (construct Gen.PredicateOperation [.cmp c]) := by
  have h := (Row.pred c (.const (Val.zero : α)) (.const Val.zero)).ctor
  exact buildOp_builds _ _ _ h.2 h.1 _ _

local notation "H" => Generated.onlineDiscrete.handles
local notation "R" => Generated.onlineDiscrete.raises

section Tree
open Dense.C09Dense

/-- The tree of attribute stores holds, position by position, the class the construction visitor instantiates
    and a store that stands for the mirror's state. -/
inductive Rel : F α → STree α → GTree α → Prop
  | var (x : String) : Rel (.var x) .leaf .leaf
  | const (c : α) : Rel (.const c) .leaf .leaf
  | n1 {χ φ N s σ c k} : Node1 χ φ → Row χ N → N.rel s σ → Rel φ c k → Rel χ (.n1 s c) (.n1 N.cls σ k)
  | n2 {χ φ ψ N s σ c1 c2 l r} : Node2 χ φ ψ → Row χ N → N.rel s σ → Rel φ c1 l → Rel ψ c2 r →
      Rel χ (.n2 s c1 c2) (.n2 N.cls σ l r)

def OnF (φ : F α) : Prop := φ.online = true ∧ φ.wf = true ∧ plainOn φ = true

omit [Val α] in
/-- The hypotheses pass to the operands; the node's class is one the visitor constructs, and it has a row. -/
theorem _root_.Rtamt.Dense.C09Dense.Node1.on {χ φ : F α} (hn : Node1 χ φ) (h : OnF χ) :
    OnF φ ∧ (H χ.kind = true ∧ R χ.kind = false) ∧ ∃ N, Row χ N := by
  obtain ⟨hon, hwf, hpl⟩ := h
  rw [hn.online, Bool.and_eq_true] at hon
  refine ⟨⟨hon.2, (hn.wf.1 hwf).2, ?_⟩, C02_table_supported _ (List.contains_iff_mem.1 hon.1) hn.kind_ne_const, ?_⟩
  · cases hn <;> simp_all [plainOn]
  cases hn with
  | un op φ => exact ⟨_, .un op φ (by rintro rfl; simp [plainOn] at hpl)⟩
  | tmp1 op φ =>
    have hk : onlineKinds.contains op.kind = true := hon.1
    cases op
    case next | snext | ev | alw => cases (T1.online _).symm.trans hk
    all_goals exact ⟨_, .tmp1 φ rfl⟩
  | tb1 op a b φ =>
    have hk : onlineKinds.contains op.kind = true := hon.1
    have hab : a ≤ b := by simp only [F.wf, Bool.and_eq_true, decide_eq_true_eq] at hwf; exact hwf.1
    cases op
    case ev | alw => cases (TB1.online _).symm.trans hk
    all_goals exact ⟨_, .tb1 φ rfl hab⟩

omit [Val α] in
theorem _root_.Rtamt.Dense.C09Dense.Node2.on {χ φ ψ : F α} (hn : Node2 χ φ ψ) (h : OnF χ) :
    OnF φ ∧ OnF ψ ∧ (H χ.kind = true ∧ R χ.kind = false) ∧ ∃ N, Row χ N := by
  obtain ⟨hon, hwf, hpl⟩ := h
  rw [hn.online, Bool.and_eq_true, Bool.and_eq_true] at hon
  have hpl' : plainOn φ = true ∧ plainOn ψ = true := by cases hn <;> simp_all [plainOn]
  refine ⟨⟨hon.2.1, (hn.wf.1 hwf).2.1, hpl'.1⟩, ⟨hon.2.2, (hn.wf.1 hwf).2.2, hpl'.2⟩,
    C02_table_supported _ (List.contains_iff_mem.1 hon.1) hn.kind_ne_const, ?_⟩
  cases hn with
  | bin op φ ψ =>
    cases op
    case pred c => exact ⟨_, .pred c φ ψ⟩
    case predSat | predZero => simp [plainOn] at hpl
    all_goals exact ⟨_, .bin φ ψ rfl⟩
  | tmp2 op φ ψ =>
    have hk : onlineKinds.contains op.kind = true := hon.1
    cases op
    case «until» => cases (T2.online _).symm.trans hk
    exact ⟨_, .since φ ψ⟩
  | tb2 op a b φ ψ =>
    have hk : onlineKinds.contains op.kind = true := hon.1
    have hab : a ≤ b := by simp only [F.wf, Bool.and_eq_true, decide_eq_true_eq] at hwf; exact hwf.1.1
    cases op
    case «until» => cases (TB2.online _).symm.trans hk
    · exact ⟨_, .sinceTimed φ ψ hab⟩
    · exact ⟨_, .precedes φ ψ hab⟩

/-- What `initG` does at a row. -/
theorem Row.build {χ : F α} {N : NodeImpl α} (h : Row χ N) :
    ∃ σ, raisesFirst χ.kind = .ok () ∧ buildOp χ.kind χ.cmp χ.iv = .ok (N.cls, σ) ∧ N.rel (initNode χ) σ := by
  obtain ⟨vs, hvs, hI⟩ := h.ok
  obtain ⟨σ, hσ, hr⟩ := hI.init
  refine ⟨σ, by simp only [raisesFirst, h.ctor.1], ?_, hr⟩
  rw [buildOp_builds _ _ _ h.ctor.2 h.ctor.1, hvs]
  simp [withCls, hσ]

theorem _root_.Rtamt.Dense.C09Dense.Node1.initG {χ φ : F α} (hn : Node1 χ φ) :
    initG χ = (do
      raisesFirst χ.kind
      let k ← initG φ
      let (c, s) ← buildOp χ.kind χ.cmp χ.iv
      pure (.n1 c s k)) := by
  cases hn <;> rfl

/-- The interface-aware predicate forms are not run through the translated classes; they have no row. -/
theorem _root_.Rtamt.Dense.C09Dense.Node2.initG {χ φ ψ : F α} {N : NodeImpl α} (hn : Node2 χ φ ψ) (h : Row χ N) :
    initG χ = (do
      raisesFirst χ.kind
      let l ← initG φ
      let r ← initG ψ
      let (c, s) ← buildOp χ.kind χ.cmp χ.iv
      pure (.n2 c s l r)) := by
  cases hn with
  | bin op =>
    cases op
    case predSat | predZero => cases h with | bin _ _ hc => cases hc
    all_goals rfl
  | _ => rfl

theorem init_rel (φ : F α) (h : OnF φ) : ∃ st gt, initTree H R φ = .ok st ∧ initG φ = .ok gt ∧ Rel φ st gt := by
  induction φ using nodeInduction with
  | var x => exact ⟨_, _, rfl, rfl, .var x⟩
  | const c => exact ⟨_, _, rfl, rfl, .const c⟩
  | n1 hn ih =>
    obtain ⟨hφ, ⟨hH, hR⟩, N, hN⟩ := hn.on h
    obtain ⟨st, gt, h1, h2, h3⟩ := ih hφ
    obtain ⟨σ, hrf, hbo, hr⟩ := hN.build
    exact ⟨_, _, by simp [hn.initTree, hR, hH, h1], by simp [hn.initG, h2, hrf, hbo], .n1 hn hN hr h3⟩
  | n2 hn ih1 ih2 =>
    obtain ⟨hφ, hψ, ⟨hH, hR⟩, N, hN⟩ := hn.on h
    obtain ⟨st1, gt1, h1, h2, h3⟩ := ih1 hφ
    obtain ⟨st2, gt2, k1, k2, k3⟩ := ih2 hψ
    obtain ⟨σ, hrf, hbo, hr⟩ := hN.build
    exact ⟨_, _, by simp [hn.initTree, hR, hH, h1, k1], by simp [hn.initG hN, h2, k2, hrf, hbo], .n2 hn hN hr h3 k3⟩

theorem _root_.Rtamt.Dense.C09Dense.Node1.stepG {χ φ : F α} (hn : Node1 χ φ) (e : String → α) (c : Class)
    (s : Store α) (k : GTree α) :
    stepG e χ (.n1 c s k) = (do
      let (k', v) ← stepG e φ k
      let (s', o) ← update c s [.num v]
      pure (.n1 c s' k', ← numOf o)) := by
  cases hn <;> rfl

theorem _root_.Rtamt.Dense.C09Dense.Node2.stepG {χ φ ψ : F α} (hn : Node2 χ φ ψ) (e : String → α) (c : Class)
    (s : Store α) (l r : GTree α) :
    stepG e χ (.n2 c s l r) = (do
      let (l', v1) ← stepG e φ l
      let (r', v2) ← stepG e ψ r
      let (s', o) ← update c s [.num v1, .num v2]
      pure (.n2 c s' l' r', ← numOf o)) := by
  cases hn <;> rfl

theorem step_rel (env : String → α) {φ : F α} {st : STree α} {gt : GTree α} (h : Rel φ st gt) :
    simE (fun q p => q.2 = p.2 ∧ Rel φ p.1 q.1) (stepG env φ gt) (stepTree env φ st) := by
  induction h with
  | var x => exact ⟨rfl, .var x⟩
  | const c => exact ⟨rfl, .const c⟩
  | n1 hn hN hr _ ih =>
    obtain ⟨_, _, hI⟩ := hN.ok
    rw [hn.stepTree, hn.stepG]
    refine simE_bind ih ?_
    rintro ⟨k', v⟩ ⟨c', w⟩ ⟨hv, h3⟩
    obtain rfl : v = w := hv
    refine simE_bind (hI.update [v] hr (by cases hn <;> rfl)) ?_
    rintro ⟨σ', o'⟩ ⟨s', o⟩ ⟨ho, e3⟩
    obtain rfl : o' = .num o := ho
    exact ⟨rfl, .n1 hn hN e3 h3⟩
  | n2 hn hN hr _ _ ih1 ih2 =>
    obtain ⟨_, _, hI⟩ := hN.ok
    rw [hn.stepTree, hn.stepG]
    refine simE_bind ih1 ?_
    rintro ⟨l', v1⟩ ⟨c1', w1⟩ ⟨hv1, h3⟩
    obtain rfl : v1 = w1 := hv1
    refine simE_bind ih2 ?_
    rintro ⟨r', v2⟩ ⟨c2', w2⟩ ⟨hv2, k3⟩
    obtain rfl : v2 = w2 := hv2
    refine simE_bind (hI.update [v1, v2] hr (by cases hn <;> rfl)) ?_
    rintro ⟨σ', o'⟩ ⟨s', o⟩ ⟨ho, e3⟩
    obtain rfl : o' = .num o := ho
    exact ⟨rfl, .n2 hn hN e3 h3 k3⟩

theorem reset_rel {φ : F α} {st : STree α} {gt : GTree α} (h : Rel φ st gt) :
    ∃ gt', resetG gt = .ok gt' ∧ Rel φ (resetTree φ st) gt' := by
  induction h with
  | var x => exact ⟨_, rfl, .var x⟩
  | const c => exact ⟨_, rfl, .const c⟩
  | @n1 _ _ N _ _ _ _ hn hN hr _ ih =>
    obtain ⟨k', h1, h2⟩ := ih
    obtain ⟨_, _, hI⟩ := hN.ok
    obtain ⟨σ', e1, e2⟩ := hI.reset hr
    exact ⟨.n1 N.cls σ' k', by simp [resetG, h1, e1], by rw [hn.resetTree]; exact .n1 hn hN e2 h2⟩
  | @n2 _ _ _ N _ _ _ _ _ _ hn hN hr _ _ ih1 ih2 =>
    obtain ⟨l', h1, h2⟩ := ih1
    obtain ⟨r', k1, k2⟩ := ih2
    obtain ⟨_, _, hI⟩ := hN.ok
    obtain ⟨σ', e1, e2⟩ := hI.reset hr
    exact ⟨.n2 N.cls σ' l' r', by simp [resetG, h1, k1, e1], by rw [hn.resetTree]; exact .n2 hn hN e2 h2 k2⟩

theorem run_rel (es : List (String → α)) {φ : F α} {st : STree α} {gt : GTree α} (h : Rel φ st gt) :
    simE (fun q p => q.2 = p.2 ∧ Rel φ p.1 q.1) (runG φ gt es) (runTree φ st es) := by
  induction es generalizing st gt with
  | nil => exact ⟨rfl, h⟩
  | cons e es ih =>
    rw [runG, runTree]
    refine simE_bind (step_rel e h) ?_
    rintro ⟨gt1, o⟩ ⟨st1, o'⟩ ⟨ho, h1⟩
    obtain rfl : o = o' := ho
    refine simE_bind (ih h1) ?_
    rintro ⟨gt2, os⟩ ⟨st2, os'⟩ ⟨hos, h2⟩
    obtain rfl : os = os' := hos
    exact ⟨rfl, h2⟩

end Tree

/-- The run through the translated classes equals the run of the mirror (with the regenerated tables of the
    construction visitor). -/
theorem genOn_run (φ : F α) (hon : φ.online = true) (hwf : φ.wf = true) (hpl : plainOn φ = true)
    (envs : List (String → α)) :
    runOnlineG φ envs
      = runOnline Generated.onlineDiscrete.handles Generated.onlineDiscrete.raises φ envs := by
  obtain ⟨st, gt, h1, h2, h3⟩ := init_rel φ ⟨hon, hwf, hpl⟩
  simp only [runOnlineG, runOnline, h1, h2, ok_bind]
  exact simE_bind_eq _ (run_rel envs h3) fun _ _ h => by rw [h.1]

theorem genOn_reset (φ : F α) (hon : φ.online = true) (hwf : φ.wf = true) (hpl : plainOn φ = true)
    (pre post : List (String → α)) :
    runResetG φ pre post
      = runReset Generated.onlineDiscrete.handles Generated.onlineDiscrete.raises φ pre post := by
  obtain ⟨st, gt, h1, h2, h3⟩ := init_rel φ ⟨hon, hwf, hpl⟩
  simp only [runResetG, runReset, h1, h2, ok_bind]
  refine simE_bind_eq _ (run_rel pre h3) fun ⟨gt1, _⟩ ⟨st1, _⟩ ⟨_, k3⟩ => ?_
  obtain ⟨gt2, r1, r2⟩ := reset_rel k3
  simp only [r1, ok_bind]
  exact simE_bind_eq _ (run_rel post r2) fun _ _ h => by rw [h.1]

/-- Hence the translated monitor returns `rho` at every update. -/
theorem genOn_rho [LawfulVal α] (σ : String → Nat → α) (n : Nat) (φ : F α)
    (hon : φ.online = true) (hwf : φ.wf = true) (hpl : plainOn φ = true) :
    runOnlineG φ (envs σ n) = .ok (tab n (rho σ n φ)) := by
  rw [genOn_run φ hon hwf hpl]
  exact C02_current_tree σ n φ hon hwf

end Rtamt.Py
