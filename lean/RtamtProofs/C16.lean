/-
  C16 — Settled offline results are stable under trace extension (discrete time).

  "If a trace w2 extends a trace w1, offline evaluation of a specification without
   unbounded future operators and with horizon h on w2 agrees with its evaluation on
   w1 at every time t such that t+h lies inside w1 (t+h < |w1|). Hence a value inside
   the settled region never depends on data later than t+h, and a pure-past value at t
   never depends on anything after t."
-/
import RtamtProofs.C01
import Rtamt.Discrete.Pastify

namespace Rtamt
open Val

variable {α : Type} [Val α]

private theorem below {s t k m : Nat} (hs : s ≤ t) (h : t + k ≤ m) : s + k ≤ m :=
  (Nat.add_le_add_right hs k).trans h

/-- The value at `t` is determined by the samples up to any `m ≥ t + hor φ` inside both traces.  Stated with a
    fixed `m`, so that the hypotheses on the traces pass through the induction unchanged and each case only has
    to place the samples its operator reads below `m`. -/
private theorem settled_below (σ σ' : String → Nat → α) {n1 n2 m : Nat} (h1 : m < n1) (h2 : m < n2)
    (hσ : ∀ x s, s ≤ m → σ x s = σ' x s) (φ : F α) (hb : φ.bounded = true) (t : Nat) (ht : t + hor φ ≤ m) :
    rho σ n1 φ t = rho σ' n2 φ t := by
  induction φ generalizing t with
  | var x => exact hσ x t ht
  | const c => rfl
  | un op φ ih =>
    simp only [rho, ih hb t ht]
  | bin op φ ψ ih1 ih2 =>
    simp only [F.bounded, Bool.and_eq_true] at hb
    simp only [rho, ih1 hb.1 t ((Nat.add_le_add_left (le_max_left _ _) t).trans ht),
      ih2 hb.2 t ((Nat.add_le_add_left (le_max_right _ _) t).trans ht)]
  | tmp1 op φ ih =>
    simp only [F.bounded, Bool.and_eq_true] at hb
    have ih := ih hb.2
    cases op with
    | ev | alw => exact absurd hb.1 (by decide)
    | next | snext =>
      have ht : t + 1 + hor φ ≤ m := by simp only [hor] at ht; omega
      simp only [rho]
      rw [if_pos (by omega), if_pos (by omega), ih (t + 1) ht]
    | rise | fall =>
      have key : ∀ s, s ≤ t → rho σ n1 φ s = rho σ' n2 φ s := fun s hs => ih s (below hs ht)
      simp only [rho, key 0 (Nat.zero_le _), key (t - 1) (Nat.sub_le _ _), key t le_rfl]
    | prev | sprev =>
      simp only [rho, ih (t - 1) (below (Nat.sub_le _ _) ht)]
    | once =>
      exact maxOver_congr fun s _ hs => ih s (below (Nat.le_of_lt_succ hs) ht)
    | hist =>
      exact minOver_congr fun s _ hs => ih s (below (Nat.le_of_lt_succ hs) ht)
  | tmp2 op φ ψ ih1 ih2 =>
    cases op with
    | «until» => exact absurd hb (by simp [F.bounded])
    | since =>
      simp only [F.bounded, Bool.true_and, Bool.and_eq_true] at hb
      have hφ : t + hor φ ≤ m := (Nat.add_le_add_left (le_max_left _ _) t).trans ht
      have hψ : t + hor ψ ≤ m := (Nat.add_le_add_left (le_max_right _ _) t).trans ht
      refine maxOver_congr fun s _ hs => ?_
      rw [ih2 hb.2 s (below (Nat.le_of_lt_succ hs) hψ),
        minOver_congr fun u _ hu => ih1 hb.1 u (below (Nat.le_of_lt_succ hu) hφ)]
  | tb1 op a b φ ih =>
    have ih := ih hb
    cases op with
    | once =>
      exact maxOver_congr fun s _ hs => ih s (below (Nat.le_of_lt_succ (hs.trans_le (Nat.sub_le _ _))) ht)
    | hist =>
      exact minOver_congr fun s _ hs => ih s (below (Nat.le_of_lt_succ (hs.trans_le (Nat.sub_le _ _))) ht)
    | ev =>
      have ht : t + b + hor φ ≤ m := by simp only [hor] at ht; omega
      simp only [rho, Nat.min_eq_left (show t + b + 1 ≤ n1 by omega),
        Nat.min_eq_left (show t + b + 1 ≤ n2 by omega)]
      exact maxOver_congr fun s _ hs => ih s (below (Nat.le_of_lt_succ hs) ht)
    | alw =>
      have ht : t + b + hor φ ≤ m := by simp only [hor] at ht; omega
      simp only [rho, Nat.min_eq_left (show t + b + 1 ≤ n1 by omega),
        Nat.min_eq_left (show t + b + 1 ≤ n2 by omega)]
      exact minOver_congr fun s _ hs => ih s (below (Nat.le_of_lt_succ hs) ht)
  | tb2 op a b φ ψ ih1 ih2 =>
    simp only [F.bounded, Bool.and_eq_true] at hb
    have ih1 := ih1 hb.1
    have ih2 := ih2 hb.2
    cases op with
    | since =>
      have hφ : t + hor φ ≤ m := (Nat.add_le_add_left (le_max_left _ _) t).trans ht
      have hψ : t + hor ψ ≤ m := (Nat.add_le_add_left (le_max_right _ _) t).trans ht
      refine maxOver_congr fun s _ hs => ?_
      rw [ih2 s (below (Nat.le_of_lt_succ (hs.trans_le (Nat.sub_le _ _))) hψ),
        minOver_congr fun u _ hu => ih1 u (below (Nat.le_of_lt_succ hu) hφ)]
    | precedes =>
      have hφ : t + hor φ ≤ m := (Nat.add_le_add_left (le_max_left _ _) t).trans ht
      have hψ : t + hor ψ ≤ m := (Nat.add_le_add_left (le_max_right _ _) t).trans ht
      refine maxOver_congr fun s _ hs => ?_
      rw [ih2 s (below (Nat.le_of_lt_succ hs) hψ),
        minOver_congr fun u _ hu => ih1 u (below (Nat.le_of_lt_succ (hu.trans hs)) hφ)]
    | «until» =>
      have ht : t + b + max (hor φ) (hor ψ) ≤ m := by simp only [hor] at ht; omega
      have hφ : t + b + hor φ ≤ m := (Nat.add_le_add_left (le_max_left _ _) _).trans ht
      have hψ : t + b + hor ψ ≤ m := (Nat.add_le_add_left (le_max_right _ _) _).trans ht
      simp only [rho, Nat.min_eq_left (show t + b + 1 ≤ n1 by omega),
        Nat.min_eq_left (show t + b + 1 ≤ n2 by omega)]
      refine maxOver_congr fun s _ hs => ?_
      rw [ih2 s (below (Nat.le_of_lt_succ hs) hψ),
        minOver_congr fun u _ hu => ih1 u (below (Nat.le_of_lt_succ (hu.trans hs)) hφ)]

/-- M-spec level: the value at `t` is determined by the samples `0 … t + hor φ`, whatever
    the lengths `n1`, `n2` of the two traces (both longer than `t + hor φ`) and whatever the
    two traces hold beyond `t + hor φ`. -/
theorem C16_settled (φ : F α) (hb : φ.bounded = true) (σ σ' : String → Nat → α)
    (n1 n2 t : Nat) (h1 : t + hor φ < n1) (h2 : t + hor φ < n2)
    (hσ : ∀ x s, s ≤ t + hor φ → σ x s = σ' x s) :
    rho σ n1 φ t = rho σ' n2 φ t :=
  settled_below σ σ' h1 h2 hσ φ hb t le_rfl

set_option linter.unusedSectionVars false in
/-- A future-free formula has horizon 0: its value at `t` never depends on anything after `t`. -/
theorem C16_futureFree_hor (φ : F α) (hf : φ.futureFree = true) : hor φ = 0 ∧ φ.bounded = true := by
  induction φ with
  | var x => simp [hor, F.bounded]
  | const c => simp [hor, F.bounded]
  | un op φ ih =>
    simp only [F.futureFree] at hf
    simpa [hor, F.bounded] using ih hf
  | bin op φ ψ ih1 ih2 =>
    simp only [F.futureFree, Bool.and_eq_true] at hf
    simp [hor, F.bounded, ih1 hf.1, ih2 hf.2]
  | tmp1 op φ ih | tb1 op a b φ ih =>
    cases op <;> simp [F.futureFree] at hf <;> simp [hor, F.bounded, ih hf]
  | tmp2 op φ ψ ih1 ih2 | tb2 op a b φ ψ ih1 ih2 =>
    cases op <;> simp [F.futureFree] at hf <;> simp [hor, F.bounded, ih1 hf.1, ih2 hf.2]

variable [LawfulVal α]

/-- Transfer to the offline evaluator (through C01): evaluating on `w1` (length `n1`) and on an
    extension `w2` (length `n2 ≥ n1`) gives the same value at every settled `t`. -/
theorem C16_offline_extension (h : Kind → Bool) (φ : F α) (hb : φ.bounded = true) (hwf : φ.wf = true)
    (hh : ∀ k ∈ φ.kinds, h k = true) (hp : φ.noPrecedes)
    (σ : String → Nat → α) (n1 n2 : Nat) (hn : n1 ≤ n2)
    (w1 w2 : Env α) (hw1 : w1.Agrees σ n1 φ.vars) (hw2 : w2.Agrees σ n2 φ.vars)
    (t : Nat) (ht : t + hor φ < n1) :
    ∃ o1 o2, evalOff h w1 n1 φ = .ok o1 ∧ evalOff h w2 n2 φ = .ok o2 ∧ o1[t]? = o2[t]? ∧
      o1[t]? = some (rho σ n1 φ t) := by
  refine ⟨_, _, C01_offline_eq_rho h w1 σ n1 (by omega) φ hwf hh hp hw1,
    C01_offline_eq_rho h w2 σ n2 (by omega) φ hwf hh hp hw2, ?_, ?_⟩
  · rw [tab_getElem?, tab_getElem?, if_pos (by omega), if_pos (by omega),
      C16_settled φ hb σ σ n1 n2 t ht (by omega) (fun _ _ _ => rfl)]
  · rw [tab_getElem?, if_pos (by omega)]

end Rtamt
