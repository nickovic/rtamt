/-
  The output statement of the forward loops - `visitOnce` / `visitHistorically`, `since_operation`, `visitPredicate`, the
  interface-aware `visitPredicate`, `once_timed_operation` / `historically_timed_operation` all end an iteration with

      if OV != prev or i == len(LST) - 1: OUT.append([TV, OV])
      prev = OV

  (the mirror's `dedupGo`; the interface-aware method appends to two lists and shares the condition `keepE` only).  Run
  once, for any expressions `TV`, `OV`, any condition and any names of the lists.
-/
import RtamtProofs.GenDenseBase

namespace Rtamt.Py.Dn
open Rtamt Val Rtamt.Dense Rtamt.Dense.Alg

set_option linter.unusedSectionVars false

variable {α : Type} [Val α] {call : Call α} {fuel : Nat} {env : Env α}

/-- `OV != prev or i == len(LST) - 1` -/
def keepE (ov : E) (lst : String) : E :=
  .or_ (.bin .ne ov (.loc "prev")) (.bin .eq (.loc "i") (.bin .sub (.call1 "len" (.loc lst)) (.int 1)))

theorem cmpDV_ne_prev (v : α) (prev : Option α) : cmpDV .ne (.val v) (encPrev prev) = .ok (keepB prev v) := by
  cases prev <;> simp [encPrev, keepB, cmpDV, isCmp, isTimeLike, isValLike, toVal, cmpVal]

theorem keepE_eval {ov : E} {lst : String} {o : α} {prev : Option α} {k : Nat} {L : List (DV α)}
    (hlen : ∀ l : List (DV α), call "len" [.list l] = .ok (.int l.length))
    (hov : evalE call env ov = .ok (.val o)) (hpv : getLoc "prev" env = .ok (encPrev prev))
    (hi : getLoc "i" env = .ok (.int k)) (hL : getLoc lst env = .ok (.list L)) (hr : resolve env "len" = "len") :
    evalE call env (keepE ov lst) = .ok (.bool (keepB prev o || decide (k + 1 = L.length))) := by
  have e1 : evalE call env (.bin .ne ov (.loc "prev")) = .ok (.bool (keepB prev o)) := by
    rw [evalE.bin hov (evalE.loc hpv), evalBin.cmp rfl, cmpDV_ne_prev]; rfl
  rw [keepE, evalE.or_ e1 rfl]
  cases keepB prev o with
  | true => rfl
  | false =>
      rw [if_neg Bool.false_ne_true, evalE.bin (evalE.loc hi) (evalE_lenSub hlen hL hr 1)]
      exact congrArg (fun b => Except.ok (DV.bool b)) (decide_eq_decide.mpr (by omega))

/-- `if c: OUT.append([TV, OV])`, then `pv = OV` -/
def emitS (c tv ov : E) (out pv : String) : S :=
  .seq (.ite c (.appendLoc out (.list2 tv ov)) .skip) (.setLoc pv ov)

/-- `OV` is read again after the append: it must not depend on `OUT` (hypothesis `hov`, for every value of `OUT`). -/
theorem emitS_exec {c tv ov : E} {out pv : String} {b : Bool} {t : Tm} {o : α} {acc : ASig α}
    (hc : evalE call env c = .ok (.bool b)) (htv : evalE call env tv = .ok (.tm t))
    (hov : ∀ v, evalE call (setLoc out v env) ov = .ok (.val o)) (hov0 : evalE call env ov = .ok (.val o))
    (hout : getLoc out env = .ok (encSig acc)) :
    exec call fuel (emitS c tv ov out pv) env =
      .ok (setLoc pv (.val o) (if b then setLoc out (encSig (acc ++ [(t, o)])) env else env), none) := by
  rw [emitS]
  cases b with
  | false => rw [exec.seq_ok (exec.ite_false hc rfl), exec.setLoc hov0]; rfl
  | true =>
      rw [exec.seq_ok ((exec.ite_true hc rfl).trans
        (exec.appendLoc (v := .smp t (.val o)) ((evalE.list2 htv hov0).trans rfl) hout)), exec.setLoc (hov _)]
      simp [encSig, encSmp]

theorem emitS_frame {c tv ov : E} {out pv : String} {b : Bool} {t : Tm}
    {o : α} {acc : ASig α} (hc : evalE call env c = .ok (.bool b)) (htv : evalE call env tv = .ok (.tm t))
    (hov : ∀ v, evalE call (setLoc out v env) ov = .ok (.val o)) (hov0 : evalE call env ov = .ok (.val o))
    (hout : getLoc out env = .ok (encSig acc)) (hne : out ≠ pv) :
    ∃ env', exec call fuel (emitS c tv ov out pv) env = .ok (env', none) ∧
      getLoc out env' = .ok (encSig (acc ++ if b then [(t, o)] else [])) ∧ getLoc pv env' = .ok (.val o) ∧
      Frame [out, pv] env env' := by
  refine ⟨_, emitS_exec hc htv hov hov0 hout, ?_, getLoc_setLoc_same _ _ _, ?_⟩
  · rw [getLoc_setLoc_ne _ _ _ _ hne]
    cases b
    · simpa using hout
    · simp
  · cases b <;> frame_tac

end Rtamt.Py.Dn
