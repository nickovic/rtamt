/-
  The names under which the online interpreters store their operators tell the nodes apart.

  `Rtamt/Py/GeneratedNames.lean` is produced on every run by `harness/py2lean.py` from the constructors of the node
  classes (`rtamt/syntax/node/{ltl,stl,arithmetic}/*.py`): for each class the pieces `self.name` is concatenated from.
  `names_injective`: two parsed formulas (`NF`: node classes, operands, comparison operator, constants, variables and the
  interval as written — the texts of both bounds and of both units) with the same name, as a list of tokens, are the same
  formula.  This is the reason the model (`Rtamt/Discrete/Program.lean`) may key its dictionary by the formula where the
  code keys it by the name; no theorem relates `NF` to `F`, so that step is an argument, not a proof.

  The theorem holds of any table `tbl : List (Kind × List NP)` that passes a check on the table alone (`GoodTable`): the
  template of a class shows every attribute and every operand a node of that class has (`need`), and the templates of any
  two classes, read from the left in lock step, come to a place where they differ and where both pieces render to one
  token each, the two tokens different whatever the nodes (`sep`, `clash`).  Two names that agree from the left are read
  against their templates piece by piece (`walk`): they cannot part at a clash, so the classes are the same; the one
  template then shows the same attributes, and by induction the same operands, on both sides (`prefix_free_of_good`).
  Every node has a name if every class has a template made of literals and of pieces its nodes have (`TotalTable`).
  The generated table passes both checks by evaluation; a constructor that leaves an attribute out of the name, or two
  classes that print the same, make it fail.
-/
import Rtamt.Py.GeneratedNames
import RtamtProofs.Lemmas.Kind

namespace Rtamt.Py
open Rtamt

variable {α : Type}

namespace NamesAux

/-- What a single token shows of the piece it was rendered from: the sort of the token and, of a literal, its text. -/
def tokMark : Tok α → Nat × String
  | .lit s => (0, s) | .txt _ => (1, "") | .cmp _ => (2, "") | .ident _ => (3, "") | .num _ => (4, "")

/-- The mark of the one token a piece renders to; the name of an operand is not a single token. -/
def mark : NP → Option (Nat × String)
  | .lit s => some (0, s)
  | .begin_ | .beginUnit | .end_ | .endUnit => some (1, "")
  | .operator => some (2, "")
  | .var => some (3, "")
  | .val => some (4, "")
  | .child _ | .unsupported _ => none

/-- Two pieces whose renderings begin differently whatever the node. -/
def clash (p q : NP) : Bool :=
  match mark p, mark q with
  | some m, some m' => m ≠ m'
  | _, _ => false

/-- Two templates part at a clash after a common beginning. -/
def sep : List NP → List NP → Bool
  | p :: ps, q :: qs => if p = q then sep ps qs else clash p q
  | _, _ => false

/-- The pieces a node of class `k` has: its attributes and its operands. -/
def need (k : Kind) : List NP :=
  if k = .Variable then [.var] else if k = .Constant then [.val]
  else if k = .Predicate then [.operator, .child 0, .child 1]
  else if k ∈ unaryKinds then [.child 0]
  else if k ∈ binaryKinds then [.child 0, .child 1]
  else if k ∈ timedUnaryKinds then [.begin_, .beginUnit, .end_, .endUnit, .child 0]
  else [.begin_, .beginUnit, .end_, .endUnit, .child 0, .child 1]

/-- Every template shows all the node has, and the templates of any two classes part at a clash. -/
abbrev GoodTable (tbl : List (Kind × List NP)) : Prop :=
  (∀ e ∈ tbl, ∀ p ∈ need e.1, p ∈ e.2) ∧ tbl.Pairwise fun e e' => e.1 = e'.1 ∨ sep e.2 e'.2 = true

/-- Every class has a template, made of literals and of pieces the node has. -/
abbrev TotalTable (tbl : List (Kind × List NP)) : Prop :=
  ∀ k ∈ Kind.all, ∃ ps ∈ tbl.lookup k, ∀ p ∈ ps, (p matches .lit _) = true ∨ p ∈ need k

/-- The class, the operands and the attributes of a node. -/
structure View (α : Type) where
  kind : Kind
  kids : List (NF α) := []
  iv : Option RawIv := none
  op : Option Cmp := none
  c : Option α := none
  x : Option String := none

def _root_.Rtamt.Py.NF.view : NF α → View α
  | .var x => { kind := .Variable, x := some x }
  | .const c => { kind := .Constant, c := some c }
  | .pred o φ ψ => { kind := .Predicate, kids := [φ, ψ], op := some o }
  | .node1 k φ => { kind := k, kids := [φ] }
  | .node2 k φ ψ => { kind := k, kids := [φ, ψ] }
  | .tnode1 k iv φ => { kind := k, kids := [φ], iv := some iv }
  | .tnode2 k iv φ ψ => { kind := k, kids := [φ, ψ], iv := some iv }

/-- The tokens of a piece, and of a template, of a node whose operands have the names `ks`. -/
abbrev View.piece (v : View α) (ks : List (List (Tok α))) : NP → Option (List (Tok α)) :=
  pieceTok ks v.iv v.op v.c v.x

abbrev View.render (v : View α) (ks : List (List (Tok α))) : List NP → Option (List (Tok α)) :=
  renderPieces ks v.iv v.op v.c v.x

/-- The pieces a node has (`need` of its class, `need_eq`). -/
def _root_.Rtamt.Py.NF.need : NF α → List NP
  | .var _ => [.var]
  | .const _ => [.val]
  | .pred .. => [.operator, .child 0, .child 1]
  | .node1 .. => [.child 0]
  | .node2 .. => [.child 0, .child 1]
  | .tnode1 .. => [.begin_, .beginUnit, .end_, .endUnit, .child 0]
  | .tnode2 .. => [.begin_, .beginUnit, .end_, .endUnit, .child 0, .child 1]

/-- What a node has at a piece: the tokens of an attribute, or an operand. -/
def _root_.Rtamt.Py.NF.at (φ : NF α) : NP → Option (List (Tok α) ⊕ NF α)
  | .child k => φ.view.kids[k]?.map .inr
  | p => (φ.view.piece [] p).map .inl

variable {tbl : List (Kind × List NP)} {φ ψ : NF α} {v : View α} {ks ks' : List (List (Tok α))} {p q : NP}
  {ps qs : List NP} {a b s s' r r' t t' : List (Tok α)}

/-- All seven equations of `nameTok` in one: the names of the operands, the template of the class, the rendering. -/
theorem nameTok_eq (tbl : List (Kind × List NP)) (φ : NF α) : nameTok tbl φ =
    (φ.view.kids.mapM (nameTok tbl)).bind fun ks => (tbl.lookup φ.view.kind).bind (φ.view.render ks) := by
  cases φ <;> simp [nameTok, NF.view, View.render, Option.bind_assoc]

theorem induction_kids {P : NF α → Prop} (step : ∀ φ, (∀ κ ∈ φ.view.kids, P κ) → P φ) (φ : NF α) : P φ := by
  induction φ <;> apply step <;> clear step <;> simp [NF.view, *]

/-- The four lists of classes are disjoint and hold none of `Variable`, `Constant`, `Predicate`. -/
theorem need_of_mem : (∀ k ∈ unaryKinds, need k = [.child 0]) ∧ (∀ k ∈ binaryKinds, need k = [.child 0, .child 1]) ∧
    (∀ k ∈ timedUnaryKinds, need k = [.begin_, .beginUnit, .end_, .endUnit, .child 0]) ∧
    ∀ k ∈ timedBinaryKinds, need k = [.begin_, .beginUnit, .end_, .endUnit, .child 0, .child 1] := by
  decide +kernel

/-- What `NF.ok` says: the class of a node tells its constructor. -/
theorem need_eq (h : φ.ok = true) : need φ.view.kind = φ.need := by
  obtain ⟨h1, h2, h3, h4⟩ := need_of_mem
  cases φ <;> simp [NF.ok] at h
  case var | const | pred => rfl
  all_goals simp [NF.view, NF.need, *]

theorem ok_kids (h : φ.ok = true) : ∀ κ ∈ φ.view.kids, κ.ok = true := by
  cases φ <;> simp [NF.ok] at h <;> simp [NF.view, *]

theorem mapM_getElem? {β γ : Type} {f : β → Option γ} {l : List β} {ks : List γ} (h : l.mapM f = some ks) (k : Nat) :
    ks[k]? = l[k]?.bind f := by
  induction l generalizing ks k with
  | nil => simp_all [eq_comm]
  | cons a l ih =>
    rw [List.mapM_cons] at h
    obtain ⟨y, hy, h⟩ := Option.bind_eq_some_iff.1 h
    obtain ⟨ys, hys, h⟩ := Option.bind_eq_some_iff.1 h
    obtain rfl := Option.some.inj h
    cases k <;> simp [hy, ih hys]

theorem mapM_eq_map {β γ : Type} {f : β → Option γ} {l : List β} (h : ∀ a ∈ l, (f a).isSome = true) (d : γ) :
    l.mapM f = some (l.map fun a => (f a).getD d) := by
  induction l with
  | nil => rfl
  | cons a l ih =>
    obtain ⟨y, hy⟩ := Option.isSome_iff_exists.1 (h a (by simp))
    simp [hy, ih fun b hb => h b (by simp [hb])]

/-- A piece with a mark renders to one token with that mark. -/
theorem piece_mark {m : Nat × String} (hm : mark p = some m) (ha : φ.view.piece ks p = some a) :
    ∃ t, a = [t] ∧ tokMark t = m ∧ φ.at p = some (.inl [t]) := by
  cases p <;> cases hm  -- `m` is now the mark of the piece; an operand and `unsupported` have none
  case lit s => cases ha; exact ⟨_, rfl, rfl, rfl⟩
  all_goals  -- an attribute: `ha : attribute.map (fun i => [token of i]) = some a`
    obtain ⟨i, hi, rfl⟩ := Option.map_eq_some_iff.1 ha
    exact ⟨_, rfl, rfl, by simp [NF.at, pieceTok, hi]⟩

theorem render_cons (h : v.render ks (p :: ps) = some s) :
    ∃ a b, v.piece ks p = some a ∧ v.render ks ps = some b ∧ s = a ++ b := by
  obtain ⟨a, ha, h⟩ := Option.bind_eq_some_iff.1 h
  obtain ⟨b, hb, h⟩ := Option.bind_eq_some_iff.1 h
  exact ⟨a, b, ha, hb, (Option.some.inj h).symm⟩

/-- Compare two token lists from the left. -/
local macro "nm_simp" "at" h:ident : tactic =>
  `(tactic| simp only [List.cons_append, List.append_assoc, List.nil_append, List.cons.injEq, Tok.lit.injEq,
      Tok.txt.injEq, Tok.cmp.injEq, Tok.ident.injEq, Tok.num.injEq, reduceCtorEq, false_and, and_false, true_and,
      and_true] at $h:ident)

/-- Clashing pieces begin with different tokens. -/
theorem clash_false (ha : φ.view.piece ks p = some a) (hb : ψ.view.piece ks' q = some b) (h : a ++ t = b ++ t') :
    clash p q = false := by
  unfold clash
  split
  · next m m' hm hm' =>
    obtain ⟨x, rfl, rfl, -⟩ := piece_mark hm ha
    obtain ⟨y, rfl, rfl, -⟩ := piece_mark hm' hb
    nm_simp at h
    simp [h.1]
  · rfl

/-- The operands of `φ` are read back uniquely: a name of the `k`-th operand of `φ` followed by `t` is the name of the
  `k`-th operand of `ψ` followed by `t'` only if the operands are the same and `t = t'`. -/
def KidsApart (φ ψ : NF α) (ks ks' : List (List (Tok α))) : Prop :=
  ∀ (k : Nat) a b t t', ks[k]? = some a → ks'[k]? = some b → a ++ t = b ++ t' → φ.view.kids[k]? = ψ.view.kids[k]? ∧ t = t'

/-- The same piece in both templates: the two nodes have the same there, and the rests are equal. -/
theorem piece_step (hkid : KidsApart φ ψ ks ks') (ha : φ.view.piece ks p = some a) (hb : ψ.view.piece ks' p = some b)
    (h : a ++ t = b ++ t') : φ.at p = ψ.at p ∧ t = t' := by
  cases hm : mark p with
  | some m =>
    obtain ⟨x, rfl, -, hx⟩ := piece_mark hm ha
    obtain ⟨y, rfl, -, hy⟩ := piece_mark hm hb
    nm_simp at h
    obtain ⟨rfl, ht⟩ := h
    exact ⟨hx.trans hy.symm, ht⟩
  | none =>
    cases p with
    | child k =>
      obtain ⟨hk, ht⟩ := hkid k a b t t' ha hb h
      exact ⟨congrArg (Option.map Sum.inr) hk, ht⟩
    | unsupported => cases ha
    | _ => cases hm

/-- Two templates read in lock step against two names that agree from the left: they do not part at a clash; and if
  they are the same template, the nodes have the same at every piece, and what follows the names is the same. -/
theorem walk (hkid : KidsApart φ ψ ks ks') (ha : φ.view.render ks ps = some a) (hb : ψ.view.render ks' qs = some b)
    (h : a ++ r = b ++ r') : sep ps qs = false ∧ (ps = qs → (∀ p ∈ ps, φ.at p = ψ.at p) ∧ r = r') := by
  induction ps generalizing qs a b with
  | nil =>
    refine ⟨rfl, ?_⟩
    rintro rfl
    cases ha; cases hb
    exact ⟨nofun, h⟩
  | cons p ps ih =>
    cases qs with
    | nil => exact ⟨rfl, nofun⟩
    | cons q qs =>
      obtain ⟨a1, a2, hp, ha2, rfl⟩ := render_cons ha
      obtain ⟨b1, b2, hq, hb2, rfl⟩ := render_cons hb
      rw [List.append_assoc, List.append_assoc] at h
      by_cases hpq : p = q
      · subst hpq
        obtain ⟨hat, h⟩ := piece_step hkid hp hq h
        obtain ⟨hsep, hsame⟩ := ih ha2 hb2 h
        refine ⟨by rw [sep, if_pos rfl, hsep], fun e => ?_⟩
        obtain ⟨hall, hr⟩ := hsame (List.cons.inj e).2
        exact ⟨List.forall_mem_cons.2 ⟨hat, hall⟩, hr⟩
      · refine ⟨?_, fun e => absurd (List.cons.inj e).1 hpq⟩
        rw [sep, if_neg hpq]
        exact clash_false hp hq h

/-- Nodes of the same class and constructor that have the same at every piece are the same. -/
theorem eq_of_at (hk : φ.view.kind = ψ.view.kind) (hn : φ.need = ψ.need) (h : ∀ p ∈ φ.need, φ.at p = ψ.at p) :
    φ = ψ := by
  have h : φ.need.map φ.at = φ.need.map ψ.at := List.map_congr_left h
  -- by cases, the intervals taken apart into the four texts the pieces speak of; `hn` leaves equal constructors,
  -- and `h` is then the list of equations between the arguments
  rcases φ with _ | _ | _ | _ | _ | ⟨_, ⟨⟩, _⟩ | ⟨_, ⟨⟩, _, _⟩ <;>
    rcases ψ with _ | _ | _ | _ | _ | ⟨_, ⟨⟩, _⟩ | ⟨_, ⟨⟩, _, _⟩ <;> cases hn <;> cases hk <;> cases h <;> rfl

theorem clash_comm (p q : NP) : clash p q = clash q p := by
  unfold clash
  cases mark p <;> cases mark q <;> simp [ne_comm]

theorem sep_comm (ps qs : List NP) : sep ps qs = sep qs ps := by
  induction ps generalizing qs with
  | nil => cases qs <;> rfl
  | cons p ps ih =>
    cases qs with
    | nil => rfl
    | cons q qs => simp only [sep, ih qs, clash_comm p q, eq_comm (a := p)]

theorem mem_of_lookup {k : Kind} (h : tbl.lookup k = some ps) : (k, ps) ∈ tbl := by
  obtain ⟨l₁, l₂, rfl, -⟩ := List.lookup_eq_some_iff.1 h
  simp

/-- What `GoodTable` says of the templates the table gives, whichever of two comes first in the table. -/
theorem GoodTable.lookup (hg : GoodTable tbl) {k : Kind} (h : tbl.lookup k = some ps) :
    (∀ p ∈ need k, p ∈ ps) ∧ ∀ k' qs, tbl.lookup k' = some qs → k ≠ k' → sep ps qs = true :=
  ⟨hg.1 _ (mem_of_lookup h), fun _ _ h' hne =>
    (hg.2.forall_of_forall_of_flip (fun _ _ => .inl rfl) (hg.2.imp fun e => e.imp Eq.symm (sep_comm _ _ ▸ ·))
      (mem_of_lookup h) (mem_of_lookup h')).resolve_left hne⟩

theorem prefix_free_of_good (tbl : List (Kind × List NP)) (hg : GoodTable tbl)
    (φ ψ : NF α) (hφ : φ.ok = true) (hψ : ψ.ok = true) (s s' r r' : List (Tok α))
    (h1 : nameTok tbl φ = some s) (h2 : nameTok tbl ψ = some s') (h : s ++ r = s' ++ r') : φ = ψ ∧ r = r' := by
  induction φ using induction_kids generalizing ψ s s' r r' with
  | step φ ih =>
    rw [nameTok_eq] at h1 h2
    obtain ⟨ks, hks, h1⟩ := Option.bind_eq_some_iff.1 h1
    obtain ⟨ps, hps, ha⟩ := Option.bind_eq_some_iff.1 h1
    obtain ⟨ks', hks', h2⟩ := Option.bind_eq_some_iff.1 h2
    obtain ⟨qs, hqs, hb⟩ := Option.bind_eq_some_iff.1 h2
    -- the operands are read back uniquely: the induction hypothesis
    have hkid : KidsApart φ ψ ks ks' := by
      intro k a b t t' hka hkb e
      rw [mapM_getElem? hks] at hka
      rw [mapM_getElem? hks'] at hkb
      obtain ⟨κ, hκ, na⟩ := Option.bind_eq_some_iff.1 hka
      obtain ⟨κ', hκ', nb⟩ := Option.bind_eq_some_iff.1 hkb
      have mκ := List.mem_of_getElem? hκ
      obtain ⟨rfl, ht⟩ := ih κ mκ κ' (ok_kids hφ κ mκ) (ok_kids hψ κ' (List.mem_of_getElem? hκ')) a b t t' na nb e
      exact ⟨hκ.trans hκ'.symm, ht⟩
    obtain ⟨hsep, hsame⟩ := walk hkid ha hb h
    obtain ⟨hcov, hapart⟩ := hg.lookup hps
    -- the templates of different classes part at a clash
    have hk : φ.view.kind = ψ.view.kind :=
      Decidable.by_contra fun hne => Bool.false_ne_true (hsep.symm.trans (hapart _ qs hqs hne))
    obtain ⟨hat, hr⟩ := hsame (Option.some.inj (hps.symm.trans (hk ▸ hqs)))
    refine ⟨eq_of_at hk ?_ fun p hp => hat p (hcov p (need_eq hφ ▸ hp)), hr⟩
    rw [← need_eq hφ, ← need_eq hψ, hk]

/-- A node has every piece of its constructor, whatever names `g` its operands have. -/
theorem piece_isSome (φ : NF α) (g : NF α → List (Tok α)) :
    (φ.need.all fun p => (φ.view.piece (φ.view.kids.map g) p).isSome) = true := by
  cases φ <;> rfl

theorem render_isSome (h : ∀ p ∈ ps, (v.piece ks p).isSome = true) : (v.render ks ps).isSome = true := by
  induction ps with
  | nil => rfl
  | cons p ps ih =>
    obtain ⟨a, ha⟩ := Option.isSome_iff_exists.1 (h p (by simp))
    obtain ⟨b, hb⟩ := Option.isSome_iff_exists.1 (ih fun q hq => h q (by simp [hq]))
    simp [View.render, renderPieces, ha, hb]

theorem nameTok_isSome_of_total (tbl : List (Kind × List NP)) (ht : TotalTable tbl) (φ : NF α) (hφ : φ.ok = true) :
    (nameTok tbl φ).isSome = true := by
  induction φ using induction_kids with
  | step φ ih =>
    obtain ⟨ps, hps, hall⟩ := ht _ (Kind.mem_all φ.view.kind)
    rw [nameTok_eq, mapM_eq_map (fun κ hκ => ih κ hκ (ok_kids hφ κ hκ)) [], Option.mem_def.1 hps]
    refine render_isSome fun p hp => (hall p hp).elim (fun hl => ?_) fun hn =>
      List.all_eq_true.1 (piece_isSome φ _) p (need_eq hφ ▸ hn)
    cases p <;> cases hl
    rfl

theorem good_gen : GoodTable Gen.Names.table := by decide +kernel
theorem total_gen : TotalTable Gen.Names.table := by decide +kernel

end NamesAux

open NamesAux in
/-- Every class has its constructor in the table and every piece is understood. -/
theorem names_total (φ : NF α) (h : φ.ok = true) : (nameTok Gen.Names.table φ).isSome = true :=
  nameTok_isSome_of_total _ total_gen φ h

/-- Unique readability from the left: a name followed by anything is read back in one way only. -/
theorem names_prefix_free (φ ψ : NF α) (hφ : φ.ok = true) (hψ : ψ.ok = true) (s s' r r' : List (Tok α))
    (h1 : nameTok Gen.Names.table φ = some s) (h2 : nameTok Gen.Names.table ψ = some s') (h : s ++ r = s' ++ r') :
    φ = ψ ∧ r = r' :=
  NamesAux.prefix_free_of_good _ NamesAux.good_gen φ ψ hφ hψ s s' r r' h1 h2 h

theorem names_injective (φ ψ : NF α) (hφ : φ.ok = true) (hψ : ψ.ok = true) (t : List (Tok α))
    (h1 : nameTok Gen.Names.table φ = some t) (h2 : nameTok Gen.Names.table ψ = some t) : φ = ψ :=
  (names_prefix_free φ ψ hφ hψ t t [] [] h1 h2 rfl).1

end Rtamt.Py
