/-
  C05 — Dense-time online output does not depend on how the input is chunked (partial);
  C16 (dense part) — settled dense-time results are stable under extension of the signals.

  What is proved about the dense M-spec `rhoD`:
    * `C16_dense_settled`: the value at `t` of a formula without unbounded future operators
      depends on the input signals up to `t + hor φ · scale` only;
    * `C05_causal` (the case of past formulas, horizon 0): the value at `t` depends on the
      signals up to `t` only — this is what makes "the online output agrees with the offline
      robustness at every time it covers" well defined for a partial input and independent of
      how the remaining input is cut;
    * `C05_chunking_irrelevant`: hence any two chunked presentations of the same signals that
      both cover `t` determine the same value at `t`.
  That the online algorithms (mirror `Rtamt/Dense/AlgOn.lean`) compute `rhoD` for every chunking
  is `C05_online_mirror_partial` in `Dense/OnMain.lean`.
-/
import RtamtProofs.Dense.Step
import Rtamt.Discrete.Pastify

namespace Rtamt.Dense
open Rtamt Val

variable {α : Type} [Val α] [LawfulVal α]

/-- Two environments agree on the variables `xs` up to time `T`: same domain start and same
    value at every `s ≤ T`. -/
def AgreeUpTo (w w' : DEnv α) (xs : List String) (T : Rat) : Prop :=
  ∀ x ∈ xs, (w.sig x).times.head? = (w'.sig x).times.head? ∧
            ∀ s, s ≤ T → (w.sig x).valAt s = (w'.sig x).valAt s

/-- No future operator at all. -/
def pastOnly : F α → Bool
  | .var _ => true
  | .const _ => true
  | .un _ φ => pastOnly φ
  | .bin _ φ ψ => pastOnly φ && pastOnly ψ
  | .tmp1 op φ => (match op with | .once | .hist => true | _ => false) && pastOnly φ
  | .tmp2 op φ ψ => (match op with | .since => true | _ => false) && pastOnly φ && pastOnly ψ
  | .tb1 op _ _ φ => (match op with | .once | .hist => true | _ => false) && pastOnly φ
  | .tb2 op _ _ φ ψ => (match op with | .since => true | _ => false) && pastOnly φ && pastOnly ψ

omit [Val α] [LawfulVal α] in
theorem AgreeUpTo.le {w w' : DEnv α} {xs : List String} {T T' : Rat}
    (h : AgreeUpTo w w' xs T) (hT : T' ≤ T) : AgreeUpTo w w' xs T' :=
  fun x hx => ⟨(h x hx).1, fun s hs => (h x hx).2 s (le_trans hs hT)⟩

omit [Val α] [LawfulVal α] in
theorem AgreeUpTo.left {w w' : DEnv α} {xs ys : List String} {T : Rat}
    (h : AgreeUpTo w w' (xs ++ ys) T) : AgreeUpTo w w' xs T :=
  fun x hx => h x (List.mem_append_left _ hx)

omit [Val α] [LawfulVal α] in
theorem AgreeUpTo.right {w w' : DEnv α} {xs ys : List String} {T : Rat}
    (h : AgreeUpTo w w' (xs ++ ys) T) : AgreeUpTo w w' ys T :=
  fun x hx => h x (List.mem_append_right _ hx)

omit [Val α] [LawfulVal α] in
theorem AgreeUpTo.symm {w w' : DEnv α} {xs : List String} {T : Rat}
    (h : AgreeUpTo w w' xs T) : AgreeUpTo w' w xs T :=
  fun x hx => ⟨(h x hx).1.symm, fun s hs => ((h x hx).2 s hs).symm⟩

omit [Val α] [LawfulVal α] in
theorem dom_congr {w w' : DEnv α} {φ : F α} {T : Rat} (h : AgreeUpTo w w' φ.vars T) :
    dom w φ = dom w' φ := by
  unfold dom
  congr 1
  apply List.map_congr_left
  intro x hx
  rw [(h x hx).1]

omit [Val α] [LawfulVal α] in
theorem read_mono (cfg : DCfg) (hs : 0 ≤ cfg.scale) {a b : Nat} (hab : a ≤ b) {s t : Rat}
    (hst : s ≤ t) : s + (a : Rat) * cfg.scale ≤ t + (b : Rat) * cfg.scale :=
  add_le_add hst (scale_bounds cfg hs hab).2

omit [Val α] [LawfulVal α] in
theorem read_le (cfg : DCfg) (hs : 0 ≤ cfg.scale) {a c b : Nat} (hab : a + c ≤ b) {s t : Rat}
    (hst : s ≤ t + (c : Rat) * cfg.scale) :
    s + (a : Rat) * cfg.scale ≤ t + (b : Rat) * cfg.scale := by
  have h := read_mono cfg hs hab (le_refl t)
  rw [Nat.cast_add, add_mul, add_comm ((a : Rat) * _), ← add_assoc] at h
  exact le_trans (add_le_add_left hst _) h

/-- Two step functions that agree point-wise on a closed window have the same fold there,
    whatever their candidate lists are. -/
theorem foldWin_agree {f : α → α → α} {init : α} (hf : WinOp f init) {g g' : Rat → Option α}
    {B B' : List Rat} {d lo hi : Rat} (hg : StepOn g B d none) (hg' : StepOn g' B' d none)
    (hlo : d ≤ lo) (hle : lo ≤ hi) (he : ∀ s, lo ≤ s → s ≤ hi → g s = g' s) :
    foldWin f init g B lo (some hi) = foldWin f init g' B' lo (some hi) :=
  hf.some (hg.restrict hlo _) hle (hg'.restrict hlo _) hle
    (winSet_congr (fun s h1 h2 => he s h1 h2))

theorem sinceInner_agree {g1 g1' g2 g2' : Rat → Option α} {B1 B1' : List Rat} {d1 t s : Rat}
    (h1 : StepOn g1 B1 d1 none) (h1' : StepOn g1' B1' d1 none) (hs : d1 ≤ s) (hst : s ≤ t)
    (e2 : g2 s = g2' s) (e1 : ∀ x, s ≤ x → x ≤ t → g1 x = g1' x) :
    sinceInner g1 g2 B1 t s = sinceInner g1' g2' B1' t s := by
  simp only [sinceInner, e2, foldWin_agree winOp_min h1 h1' hs hst e1]

theorem untilInner_agree {g1 g1' g2 g2' : Rat → Option α} {B1 B1' : List Rat} {d1 t s : Rat}
    (h1 : StepOn g1 B1 d1 none) (h1' : StepOn g1' B1' d1 none) (ht : d1 ≤ t) (hts : t ≤ s)
    (e2 : g2 s = g2' s) (e1 : ∀ x, t ≤ x → x ≤ s → g1 x = g1' x) :
    untilInner g1 g2 B1 t s = untilInner g1' g2' B1' t s := by
  simp only [untilInner, e2, foldWin_agree winOp_min h1 h1' ht hts e1]

theorem since_agree {g1 g1' g2 g2' : Rat → Option α} {B1 B1' B2 B2' : List Rat}
    {d1 d2 t lo hi : Rat}
    (h1 : StepOn g1 B1 d1 none) (h1' : StepOn g1' B1' d1 none)
    (h2 : StepOn g2 B2 d2 none) (h2' : StepOn g2' B2' d2 none)
    (hlo : max d1 d2 ≤ lo) (hle : lo ≤ hi) (hhi : hi ≤ t)
    (e1 : ∀ x, lo ≤ x → x ≤ t → g1 x = g1' x) (e2 : ∀ x, lo ≤ x → x ≤ hi → g2 x = g2' x) :
    foldWin pmax ninf (sinceInner g1 g2 B1 t) (B1 ++ B2) lo (some hi)
      = foldWin pmax ninf (sinceInner g1' g2' B1' t) (B1' ++ B2') lo (some hi) := by
  apply winOp_max.some (sinceInner_stepOn h1 h2 hlo hhi) hle (sinceInner_stepOn h1' h2' hlo hhi) hle
  apply winSet_congr
  intro s hs1 hs2
  have hs2' : s ≤ hi := hs2
  exact sinceInner_agree h1 h1' (le_trans (le_max_left _ _) (le_trans hlo hs1))
    (le_trans hs2' hhi) (e2 s hs1 hs2') (fun x hx1 hx2 => e1 x (le_trans hs1 hx1) hx2)

theorem until_agree {g1 g1' g2 g2' : Rat → Option α} {B1 B1' B2 B2' : List Rat}
    {d1 d2 t lo hi : Rat}
    (h1 : StepOn g1 B1 d1 none) (h1' : StepOn g1' B1' d1 none)
    (h2 : StepOn g2 B2 d2 none) (h2' : StepOn g2' B2' d2 none)
    (ht : max d1 d2 ≤ t) (hlo : t ≤ lo) (hle : lo ≤ hi)
    (e1 : ∀ x, t ≤ x → x ≤ hi → g1 x = g1' x) (e2 : ∀ x, lo ≤ x → x ≤ hi → g2 x = g2' x) :
    foldWin pmax ninf (untilInner g1 g2 B1 t) (B1 ++ B2) lo (some hi)
      = foldWin pmax ninf (untilInner g1' g2' B1' t) (B1' ++ B2') lo (some hi) := by
  apply winOp_max.some ((untilInner_stepOn h1 h2 ht).restrict hlo _) hle
    ((untilInner_stepOn h1' h2' ht).restrict hlo _) hle
  apply winSet_congr
  intro s hs1 hs2
  have hs2' : s ≤ hi := hs2
  exact untilInner_agree h1 h1' (le_trans (le_max_left _ _) ht) (le_trans hlo hs1)
    (e2 s hs1 hs2') (fun x hx1 hx2 => e1 x hx1 (le_trans hx2 hs2'))

omit [Val α] [LawfulVal α] in
theorem guard_congr {t d : Rat} {z x y : Option α} (h : d ≤ t → x = y) :
    (if t < d then z else x) = (if t < d then z else y) :=
  if_ctx_congr Iff.rfl (fun _ => rfl) fun ht => h (not_lt.1 ht)

/-! One lemma per node class: the node at `t` reads its operands on a window; operands that agree
there give the same value.  `a'`, `b'` stand for the scaled bounds. -/

theorem past_agree {f : α → α → α} {init : α} (hf : WinOp f init) {g g' : Rat → Option α}
    {B B' : List Rat} {d t : Rat} (hg : StepOn g B d none) (hg' : StepOn g' B' d none)
    (e : ∀ s, s ≤ t → g s = g' s) :
    (if t < d then none else foldWin f init g B d (some t))
      = (if t < d then none else foldWin f init g' B' d (some t)) :=
  guard_congr fun ht => foldWin_agree hf hg hg' le_rfl ht fun s _ h2 => e s h2

theorem tb_past_agree {f : α → α → α} {init : α} (hf : WinOp f init) {g g' : Rat → Option α}
    {B B' : List Rat} {d t a' b' : Rat} (hg : StepOn g B d none) (hg' : StepOn g' B' d none)
    (ha : 0 ≤ a') (hab : a' ≤ b') (e : ∀ s, s ≤ t → g s = g' s) :
    (if t < d then none else if t - a' < d then some init else
        foldWin f init g B (max (t - b') d) (some (t - a')))
      = (if t < d then none else if t - a' < d then some init else
        foldWin f init g' B' (max (t - b') d) (some (t - a'))) :=
  guard_congr fun _ => guard_congr fun h2 =>
    foldWin_agree hf hg hg' (le_max_right _ _) (max_le (sub_le_sub_left hab t) h2)
      fun s _ hs => e s (le_trans hs (sub_le_self t ha))

theorem tb_future_agree {f : α → α → α} {init : α} (hf : WinOp f init) {g g' : Rat → Option α}
    {B B' : List Rat} {d t a' b' : Rat} (hg : StepOn g B d none) (hg' : StepOn g' B' d none)
    (ha : 0 ≤ a') (hab : a' ≤ b') (e : ∀ s, s ≤ t + b' → g s = g' s) :
    (if t < d then none else foldWin f init g B (t + a') (some (t + b')))
      = (if t < d then none else foldWin f init g' B' (t + a') (some (t + b'))) :=
  guard_congr fun ht => foldWin_agree hf hg hg' (le_trans ht (le_add_of_nonneg_right ha))
    (add_le_add_right hab t) fun s _ h2 => e s h2

theorem operand_stepOn (cfg : DCfg) (hs : 0 ≤ cfg.scale) {w w' : DEnv α} {φ : F α} {T : Rat}
    (hsup : supported φ = true) (hw : w.WF φ.vars) (hw' : w'.WF φ.vars)
    (h : AgreeUpTo w w' φ.vars T) :
    dom w φ = dom w' φ ∧ StepOn (rhoD cfg w φ) (bps cfg w φ) (dom w φ) none ∧
      StepOn (rhoD cfg w' φ) (bps cfg w' φ) (dom w φ) none := by
  have hd := dom_congr h
  refine ⟨hd, rhoD_stepOn cfg hs w φ hsup hw, ?_⟩
  rw [hd]
  exact rhoD_stepOn cfg hs w' φ hsup hw'

/-- C16 (dense): for a supported formula without unbounded future operators, the value at `t`
    depends only on the signals up to `t + hor φ · scale`. -/
theorem C16_dense_settled (cfg : DCfg) (hs : 0 ≤ cfg.scale) (w w' : DEnv α) (φ : F α)
    (hsup : supported φ = true) (hb : φ.bounded = true) (hw : w.WF φ.vars) (hw' : w'.WF φ.vars)
    (t : Rat) (h : AgreeUpTo w w' φ.vars (t + (hor φ : Rat) * cfg.scale)) :
    rhoD cfg w φ t = rhoD cfg w' φ t := by
  induction φ generalizing t with
  | var x =>
    exact (h x (List.mem_singleton_self x)).2 t
      (le_add_of_nonneg_right (mul_nonneg (Nat.cast_nonneg _) hs))
  | const c => rfl
  | un op φ ih => rw [rhoD_un, rhoD_un, ih hsup hb hw hw' t h]
  | bin op φ ψ ihφ ihψ =>
    obtain ⟨sφ, sψ⟩ := supported_bin hsup
    obtain ⟨bφ, bψ⟩ := Bool.and_eq_true_iff.1 hb
    rw [rhoD_bin, rhoD_bin,
      ihφ sφ bφ hw.left hw'.left t
        (h.left.le (read_mono cfg hs (le_max_left (hor φ) (hor ψ)) le_rfl)),
      ihψ sψ bψ hw.right hw'.right t
        (h.right.le (read_mono cfg hs (le_max_right (hor φ) (hor ψ)) le_rfl))]
  | tmp1 op φ ih =>
    obtain ⟨hop, sφ⟩ := Bool.and_eq_true_iff.1 hsup
    obtain ⟨hbop, bφ⟩ := Bool.and_eq_true_iff.1 hb
    obtain ⟨hd, hg, hg'⟩ := operand_stepOn cfg hs sφ hw hw' h
    cases op
    case once =>
      rw [rhoD_tmp1_once, rhoD_tmp1_once, ← hd]
      exact past_agree winOp_max hg hg' fun s hst =>
        ih sφ bφ hw hw' s (h.le (read_mono cfg hs le_rfl hst))
    case hist =>
      rw [rhoD_tmp1_hist, rhoD_tmp1_hist, ← hd]
      exact past_agree winOp_min hg hg' fun s hst =>
        ih sφ bφ hw hw' s (h.le (read_mono cfg hs le_rfl hst))
    case ev | alw => exact absurd hbop Bool.false_ne_true
    all_goals exact absurd hop Bool.false_ne_true
  | tmp2 op φ ψ ihφ ihψ =>
    obtain ⟨sφ, sψ⟩ := supported_tmp2 hsup
    obtain ⟨hb2, bψ⟩ := Bool.and_eq_true_iff.1 hb
    obtain ⟨hbop, bφ⟩ := Bool.and_eq_true_iff.1 hb2
    obtain ⟨hdφ, g1, g1'⟩ := operand_stepOn cfg hs sφ hw.left hw'.left h.left
    obtain ⟨hdψ, g2, g2'⟩ := operand_stepOn cfg hs sψ hw.right hw'.right h.right
    cases op
    case «until» => exact absurd hbop Bool.false_ne_true
    case since =>
    rw [rhoD_since, rhoD_since, ← hdφ, ← hdψ]
    exact guard_congr fun ht => since_agree g1 g1' g2 g2' le_rfl ht le_rfl
      (fun s _ hst => ihφ sφ bφ hw.left hw'.left s
        (h.left.le (read_mono cfg hs (le_max_left (hor φ) (hor ψ)) hst)))
      (fun s _ hst => ihψ sψ bψ hw.right hw'.right s
        (h.right.le (read_mono cfg hs (le_max_right (hor φ) (hor ψ)) hst)))
  | tb1 op a b φ ih =>
    obtain ⟨hab, sφ⟩ := supported_tb1 hsup
    have bφ : φ.bounded = true := hb
    obtain ⟨ha', hab'⟩ := scale_bounds cfg hs hab
    obtain ⟨hd, hg, hg'⟩ := operand_stepOn cfg hs sφ hw hw' h
    cases op
    case once =>
      rw [rhoD_tb1_once, rhoD_tb1_once, ← hd]
      exact tb_past_agree winOp_max hg hg' ha' hab' fun s hst =>
        ih sφ bφ hw hw' s (h.le (read_mono cfg hs le_rfl hst))
    case hist =>
      rw [rhoD_tb1_hist, rhoD_tb1_hist, ← hd]
      exact tb_past_agree winOp_min hg hg' ha' hab' fun s hst =>
        ih sφ bφ hw hw' s (h.le (read_mono cfg hs le_rfl hst))
    case ev =>
      rw [rhoD_tb1_ev, rhoD_tb1_ev, ← hd]
      exact tb_future_agree winOp_max hg hg' ha' hab' fun s hst =>
        ih sφ bφ hw hw' s (h.le (read_le cfg hs le_rfl hst))
    case alw =>
      rw [rhoD_tb1_alw, rhoD_tb1_alw, ← hd]
      exact tb_future_agree winOp_min hg hg' ha' hab' fun s hst =>
        ih sφ bφ hw hw' s (h.le (read_le cfg hs le_rfl hst))
  | tb2 op a b φ ψ ihφ ihψ =>
    obtain ⟨hop, hab, sφ, sψ⟩ := supported_tb2 hsup
    obtain ⟨bφ, bψ⟩ := Bool.and_eq_true_iff.1 hb
    obtain ⟨ha', hab'⟩ := scale_bounds cfg hs hab
    obtain ⟨hdφ, g1, g1'⟩ := operand_stepOn cfg hs sφ hw.left hw'.left h.left
    obtain ⟨hdψ, g2, g2'⟩ := operand_stepOn cfg hs sψ hw.right hw'.right h.right
    cases op
    case precedes => exact absurd rfl hop
    case since =>
      rw [rhoD_tb2_since, rhoD_tb2_since, ← hdφ, ← hdψ]
      exact guard_congr fun _ => guard_congr fun h2 =>
        since_agree g1 g1' g2 g2' (le_max_right _ _)
          (max_le (sub_le_sub_left hab' t) h2) (sub_le_self t ha')
          (fun s _ hst => ihφ sφ bφ hw.left hw'.left s
            (h.left.le (read_mono cfg hs (le_max_left (hor φ) (hor ψ)) hst)))
          (fun s _ hst => ihψ sψ bψ hw.right hw'.right s
            (h.right.le (read_mono cfg hs (le_max_right (hor φ) (hor ψ))
              (le_trans hst (sub_le_self t ha')))))
    case «until» =>
      rw [rhoD_tb2_until, rhoD_tb2_until, ← hdφ, ← hdψ]
      exact guard_congr fun ht => until_agree g1 g1' g2 g2' ht
        (le_add_of_nonneg_right ha') (add_le_add_right hab' t)
        (fun s _ hst => ihφ sφ bφ hw.left hw'.left s
          (h.left.le (read_le cfg hs (Nat.add_le_add_right (le_max_left (hor φ) (hor ψ)) b) hst)))
        (fun s _ hst => ihψ sψ bψ hw.right hw'.right s
          (h.right.le (read_le cfg hs (Nat.add_le_add_right (le_max_right (hor φ) (hor ψ)) b) hst)))

omit [Val α] [LawfulVal α] in
theorem pastOnly_bounded_hor (φ : F α) (hp : pastOnly φ = true) :
    φ.bounded = true ∧ hor φ = 0 := by
  induction φ with
  | var x => exact ⟨rfl, rfl⟩
  | const c => exact ⟨rfl, rfl⟩
  | un op φ ih => exact ih hp
  | bin op φ ψ ihφ ihψ =>
    simp only [pastOnly, Bool.and_eq_true] at hp
    simp [F.bounded, hor, ihφ hp.1, ihψ hp.2]
  | tmp1 op φ ih =>
    cases op <;> simp [pastOnly] at hp <;> simp [F.bounded, hor, ih hp]
  | tmp2 op φ ψ ihφ ihψ =>
    cases op <;> simp [pastOnly] at hp
    simp [F.bounded, hor, ihφ hp.1, ihψ hp.2]
  | tb1 op a b φ ih =>
    cases op <;> simp [pastOnly] at hp <;> simp [F.bounded, hor, ih hp]
  | tb2 op a b φ ψ ihφ ihψ =>
    cases op <;> simp [pastOnly] at hp
    simp [F.bounded, hor, ihφ hp.1, ihψ hp.2]

/-- C05 causality: a past formula at `t` depends on the signals up to `t` only. -/
theorem C05_causal (cfg : DCfg) (hs : 0 ≤ cfg.scale) (w w' : DEnv α) (φ : F α)
    (hsup : supported φ = true) (hp : pastOnly φ = true) (hw : w.WF φ.vars) (hw' : w'.WF φ.vars)
    (t : Rat) (h : AgreeUpTo w w' φ.vars t) :
    rhoD cfg w φ t = rhoD cfg w' φ t := by
  obtain ⟨hb, h0⟩ := pastOnly_bounded_hor φ hp
  apply C16_dense_settled cfg hs w w' φ hsup hb hw hw' t
  rw [h0]
  simpa using h

/-- Consequence for chunked input: if `w1` and `w2` are what has been fed after two different
    chunkings of the same signals `w` (each a prefix of `w` that covers `t`), the value the
    semantics assigns at `t` is the same — that of `w` itself. -/
theorem C05_chunking_irrelevant (cfg : DCfg) (hs : 0 ≤ cfg.scale) (w w1 w2 : DEnv α) (φ : F α)
    (hsup : supported φ = true) (hp : pastOnly φ = true)
    (hw : w.WF φ.vars) (hw1 : w1.WF φ.vars) (hw2 : w2.WF φ.vars)
    (t : Rat) (h1 : AgreeUpTo w1 w φ.vars t) (h2 : AgreeUpTo w2 w φ.vars t) :
    rhoD cfg w1 φ t = rhoD cfg w2 φ t :=
  (C05_causal cfg hs w1 w φ hsup hp hw1 hw t h1).trans
    (C05_causal cfg hs w2 w φ hsup hp hw2 hw t h2).symm

end Rtamt.Dense
