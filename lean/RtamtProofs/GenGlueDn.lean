/-
  The update visitor of the DENSE-time online interpreter and `AbstractDenseTimeOnlineInterpreter.update` / `.set_ast` /
  `.reset` as translated from the Python source denote the mirrors `visitOnM` / `updateSpecsOn` / `runSpecsOn` /
  `runProgramOn` of `Rtamt/Dense/ProgramOn.lean` (operator dictionary keyed by the node name, per-update memo, the flag
  `constants_sent`).

  `Rtamt/Py/GeneratedGlueDn.lean` is produced on every run by `harness/py2lean.py` (`generate_glue_dense`) from
  `rtamt/semantics/abstract_online_interpreter.py` (`AbstractOnlineUpdateVisitor`),
  `rtamt/semantics/abstract_dense_time_online_interpreter.py` (`DenseTimeOnlineUpdateVisitor.visitConstant` / `.visitVariable`,
  inlined into `visitLeaf`; `AbstractDenseTimeOnlineInterpreter.update` with `set_variable_to_ast_from_dataset` inlined,
  `.set_ast`, `.reset`) and `AbstractAstVisitor.visitAst`; `Rtamt/Py/GlueDn.lean` gives the terms their meaning and
  `Rtamt/Py/RunGlueDn.lean` adds the dispatch of `AbstractAstVisitor.visit`.

  The mirror follows the statement order of the code (operands first, then the memo), so the statements are plain
  equalities on every state:

    genGlueDn_visit      one visit                = visitOnM       (signal, dictionary, memo; exceptions)
    genGlueDn_round      visitAst                 = updateSpecsOn
    genGlueDn_update     update(dataset)          = updateSpecsOn on the batch `applyData free vod dataset`; flag set,
                                                    var_object_dict cleared, `rob[len(rob) - 1]` returned
    genGlueDn_run        a sequence of updates    = runSpecsOn     (the flag as it is in the first call, `True` afterwards)
    genGlueDn_program    fresh monitor            = runProgramOn
    genGlueDn_set_ast / genGlueDn_reset / genGlueDn_reset_run
    genGlueDn_supported / genGlueDn_opaque        what is outside the translated subset / kept as a named step

  `results` (what `get_value` reads) is carried along; `genGlueDn_visit_frame` states that a visit binds its node there.

  Hypotheses of the run theorems: `specs ≠ []` (`rob[len(rob) - 1]` raises `IndexError` otherwise, see `Example`) and
  `NoVarKeys` (no operation object registered under a variable name — the guard of the one statement of
  `set_variable_to_ast_from_dataset` that is not translated; true of the dictionary `set_ast` builds, `noVarKeys_init`,
  and kept by every update, `updateSpecsOn_props`).
-/
import Rtamt.Py.RunGlueDn
import RtamtProofs.C09Dense

namespace Rtamt.Py.GDn
open Rtamt Val Rtamt.Dense Rtamt.Dense.Alg Rtamt.Dense.AlgOn Rtamt.Dense.ProgramOn

variable {α : Type} [Val α] [DecidableEq α]

omit [Val α] [DecidableEq α] in
theorem gGet_gSet_same (x : String) (v : GV α) (l : List (String × GV α)) : gGet x (gSet x v l) = .ok v := by
  simp [gGet, gSet]

omit [Val α] [DecidableEq α] in
theorem gGet_gSet_ne {x y : String} (h : x ≠ y) (v : GV α) (l : List (String × GV α)) :
    gGet x (gSet y v l) = gGet x l := by
  unfold gGet gSet
  rw [Assoc.lookup_write_ne h]

/-- The part of the translated `visitUnary` / `visitBinary` after the operands: `finishOn` on the operator dictionary and
    the memo, and the node bound in `results`. -/
def finishG (cfg : DCfg) (χ : F α) (args : List (ASig α)) (st1 : GSt α) : Except PyErr (ASig α × GSt α) :=
  (finishOn cfg χ args (st1.ops, st1.updated)).map fun r =>
    (r.1, { st1 with ops := r.2.1, updated := r.2.2, results := memoSet st1.results χ r.1 })

theorem execGS_seq (cfg : DCfg) (a b : GS) (env : GEnv α) (st : GSt α) (specs : List (Visit α)) :
    execGS cfg (.seq a b) env st specs = execGS cfg a env st specs >>= fun p => execGS cfg b p.1 p.2 specs := by
  rw [execGS]

/-- `x = self.visit(node.children[i], …)` followed by `rest` and `return e`: the visit of the operand, then — `R` — the
    rest with `x` bound to the operand's signal. -/
theorem visit_then (cfg : DCfg) (x : String) (i : Nat) (rest : GS) (e : GE) (env : GEnv α) (st : GSt α) (k : Visit α)
    (hk : env.kids[i]? = some k) (R : ASig α × GSt α → Except PyErr (ASig α × GSt α))
    (hrest : ∀ p : ASig α × GSt α,
      (execGS cfg rest { env with loc := gSet x (.sig p.1) env.loc } p.2 [] >>= fun q => evalGE cfg q.1 q.2 e)
        >>= valOf = R p) :
    (execGS cfg (.seq (.setLoc x (.visit i)) rest) env st [] >>= fun q => evalGE cfg q.1 q.2 e) >>= valOf =
      k st >>= R := by
  rw [execGS_seq, execGS, evalGE, hk]
  dsimp only
  cases k st with
  | error e => rfl
  | ok p => exact hrest p

theorem callG_ret (cfg : DCfg) (body : GS) (e : GE) (env : GEnv α) (specs : List (Visit α)) (st : GSt α) :
    callG cfg ⟨body, some e⟩ env specs st = execGS cfg body env st specs >>= fun p => evalGE cfg p.1 p.2 e := rfl

/-- The statements of the translated `visitUnary` / `visitBinary` after the visits of the operands; `opn` is the local that
    holds the operation object, `args` the arguments of its `update`. -/
def finishS (opn : String) (args : List GE) : GS :=
  .seq (.ite (.inDict "updated" .nodeName) (.setLoc "sample_return" (.getDict "updated" .nodeName))
      (.seq (.setLoc opn (.getDict "online_operator_dict" .nodeName))
        (.seq (.setLoc "sample_return" (.opUpdate opn args)) (.setDict "updated" .nodeName (.loc "sample_return")))))
    (.setDict "results" .node (.loc "sample_return"))

theorem finishS_exec (cfg : DCfg) (env : GEnv α) (st : GSt α) (opn : String) (args : List GE) (vs : List (ASig α))
    (hargs : evalArgs cfg { env with loc := gSet opn (.opRef env.node) env.loc } st args = .ok (vs, st)) :
    (execGS cfg (finishS opn args) env st [] >>= fun p => evalGE cfg p.1 p.2 (.loc "sample_return")) >>= valOf =
      finishG cfg env.node vs st := by
  unfold finishS finishG finishOn
  simp only [execGS, evalGE]
  cases hu : List.lookup env.node st.updated with
  | some w =>
    simp only [hu, Option.isSome_some, gGet_gSet_same, valOf, asSig, bind, Except.bind, pure, Except.pure]
    rfl
  | none =>
    cases ho : List.lookup env.node st.ops with
    | none => simp only [ho, Option.isSome_none, bind, Except.bind, StoreOn.get]; rfl
    | some s =>
      simp only [ho, Option.isSome_none, gGet_gSet_same, hargs, bind, Except.bind, pure, Except.pure, StoreOn.get]
      cases nodeStepOn cfg env.node s vs with
      | error e => rfl
      | ok q => simp only [gGet_gSet_same, valOf, asSig, bind, Except.bind, pure, Except.pure]; rfl

theorem unary_body (cfg : DCfg) (χ : F α) (k : Visit α) (st : GSt α) :
    (do valOf (← callG cfg Gen.GlueDn.update_visitUnary { node := χ, kids := [k] } [] st)) =
      k st >>= fun p => finishG cfg χ [p.1] p.2 := by
  show callG cfg ⟨.seq (.setLoc "sample" (.visit 0)) (finishS "op" [.loc "sample"]), some (.loc "sample_return")⟩
    { node := χ, kids := [k] } [] st >>= valOf = _
  rw [callG_ret]
  refine visit_then cfg _ 0 _ _ _ st k rfl _ fun p => finishS_exec cfg _ p.2 _ _ [p.1] ?_
  simp only [evalArgs, evalGE, gGet_gSet_ne (by decide : "sample" ≠ "op"), gGet_gSet_same, asSig, bind,
    Except.bind, pure, Except.pure]

theorem binary_body (cfg : DCfg) (χ : F α) (k1 k2 : Visit α) (st : GSt α) :
    (do valOf (← callG cfg Gen.GlueDn.update_visitBinary { node := χ, kids := [k1, k2] } [] st)) =
      k1 st >>= fun p1 => k2 p1.2 >>= fun p2 => finishG cfg χ [p1.1, p2.1] p2.2 := by
  show callG cfg ⟨.seq (.setLoc "sample_left" (.visit 0)) (.seq (.setLoc "sample_right" (.visit 1))
    (finishS "operator" [.loc "sample_left", .loc "sample_right"])), some (.loc "sample_return")⟩
    { node := χ, kids := [k1, k2] } [] st >>= valOf = _
  rw [callG_ret]
  refine visit_then cfg _ 0 _ _ _ st k1 rfl _ fun p1 => visit_then cfg _ 1 _ _ _ p1.2 k2 rfl _ fun p2 =>
    finishS_exec cfg _ p2.2 _ _ [p1.1, p2.1] ?_
  simp only [evalArgs, evalGE, gGet_gSet_ne (by decide : "sample_left" ≠ "operator"),
    gGet_gSet_ne (by decide : "sample_right" ≠ "operator"),
    gGet_gSet_ne (by decide : "sample_left" ≠ "sample_right"), gGet_gSet_same, asSig, bind,
    Except.bind, pure, Except.pure]

/-- The translated `visitLeaf` on a variable: the batch of the variable (`visitVariable`, no field). -/
theorem leaf_body_var (cfg : DCfg) (x : String) (st : GSt α) :
    visitGlueDn cfg (.var x) st =
      .ok (st.vod x, { st with results := memoSet st.results (.var x) (st.vod x) }) := by
  rw [visitGlueDn]
  unfold callG Gen.GlueDn.update_visitLeaf
  simp only [execGS, evalGE, bind, Except.bind, pure, Except.pure, gGet_gSet_same, asSig, valOf]

theorem tmOf_zero : tmOf (.lit 0) = Tm.zero := rfl

/-- The translated `visitLeaf` on a constant (`visitConstant`): `[]` once the constants have been sent. -/
theorem leaf_body_const (cfg : DCfg) (c : α) (st : GSt α) :
    visitGlueDn cfg (.const c) st =
      .ok (if st.sent then [] else [(Tm.zero, c), (.inf, c)],
        { st with results := memoSet st.results (.const c) (if st.sent then [] else [(Tm.zero, c), (.inf, c)]) }) := by
  rw [visitGlueDn]
  unfold callG Gen.GlueDn.update_visitLeaf
  obtain ⟨ops, upd, res, sent, vod⟩ := st
  cases sent
  all_goals
    simp only [execGS, evalGE, bind, Except.bind, pure, Except.pure, gGet_gSet_same, asSig, valOf, tmOf_zero]
    rfl

/-- The outcome of translated code against the mirror's: the same value, operator dictionary and memo — or the same
    exception; the flag is still `sent` and `var_object_dict` still `vod`. -/
def SimG {β : Type} (sent : Bool) (vod : String → ASig α) :
    Except PyErr (β × (StoreOn α × MemoOn α)) → Except PyErr (β × GSt α) → Prop :=
  Exc.Rel fun a b => a = (b.1, (b.2.ops, b.2.updated)) ∧ b.2.sent = sent ∧ b.2.vod = vod

/-- `SimG` for a visit of `χ`: the node is bound in `results` as well. -/
def SimR (χ : F α) (sent : Bool) (vod : String → ASig α) :
    Except PyErr (ASig α × (StoreOn α × MemoOn α)) → Except PyErr (ASig α × GSt α) → Prop :=
  Exc.Rel fun a b => (a = (b.1, (b.2.ops, b.2.updated)) ∧ b.2.sent = sent ∧ b.2.vod = vod) ∧ b.2.results.lookup χ = some b.1

section SimG
omit [Val α] [DecidableEq α]
variable {β γ γ' : Type} {sent : Bool} {vod : String → ASig α} {m : Except PyErr (β × (StoreOn α × MemoOn α))}
  {g : Except PyErr (β × GSt α)}

/-- Agreement survives `>>=`: the continuations are compared on states with the same flag and `var_object_dict`. -/
theorem SimG.bind {Q : γ → γ' → Prop} {f : β × (StoreOn α × MemoOn α) → Except PyErr γ} {k : β × GSt α → Except PyErr γ'}
    (h : SimG sent vod m g)
    (hk : ∀ v st1, st1.sent = sent → st1.vod = vod → Exc.Rel Q (f (v, (st1.ops, st1.updated))) (k (v, st1))) :
    Exc.Rel Q (m >>= f) (g >>= k) :=
  Exc.Rel.bind h fun _ b _ _ ⟨e, h2, h3⟩ => e ▸ hk b.1 b.2 h2 h3

theorem SimG.map_eq (h : SimG sent vod m g) : g.map (fun r => (r.1, (r.2.ops, r.2.updated))) = m := by
  rcases h.inv with ⟨e, rfl, rfl⟩ | ⟨_, b, rfl, rfl, rfl, -⟩ <;> rfl

theorem SimG.frame {r : β × GSt α} (h : SimG sent vod m (.ok r)) : r.2.sent = sent ∧ r.2.vod = vod := by
  obtain ⟨_, -, -, hf⟩ := Exc.Rel.ok_right.1 h
  exact hf

end SimG

omit [Val α] in
theorem SimR.sim {χ : F α} {sent : Bool} {vod : String → ASig α} {m : Except PyErr (ASig α × (StoreOn α × MemoOn α))}
    {g : Except PyErr (ASig α × GSt α)} (h : SimR χ sent vod m g) : SimG sent vod m g := by
  rcases h.inv with ⟨e, rfl, rfl⟩ | ⟨_, _, rfl, rfl, h, -⟩
  · exact rfl
  · exact h

theorem visitGlueDn_node1 (cfg : DCfg) {χ φ : F α} (hn : C09Dense.Node1 χ φ) (st : GSt α) :
    visitGlueDn cfg χ st = visitGlueDn cfg φ st >>= fun p => finishG cfg χ [p.1] p.2 := by
  rw [← unary_body]; cases hn <;> rw [visitGlueDn]

theorem visitGlueDn_node2 (cfg : DCfg) {χ φ ψ : F α} (hn : C09Dense.Node2 χ φ ψ) (st : GSt α) :
    visitGlueDn cfg χ st =
      visitGlueDn cfg φ st >>= fun p1 => visitGlueDn cfg ψ p1.2 >>= fun p2 => finishG cfg χ [p1.1, p2.1] p2.2 := by
  rw [← binary_body]; cases hn <;> rw [visitGlueDn]

theorem finishG_simR (cfg : DCfg) (χ : F α) (args : List (ASig α)) (st1 : GSt α) (sent : Bool) (vod : String → ASig α)
    (hs : st1.sent = sent) (hv : st1.vod = vod) :
    SimR χ sent vod (finishOn cfg χ args (st1.ops, st1.updated)) (finishG cfg χ args st1) := by
  unfold finishG
  cases finishOn cfg χ args (st1.ops, st1.updated) with
  | error e => exact rfl
  | ok r => exact ⟨⟨rfl, hs, hv⟩, List.lookup_cons_self⟩

theorem visit_simR (cfg : DCfg) (φ : F α) : ∀ (st : GSt α) (sent : Bool) (vod : String → ASig α),
    st.sent = sent → st.vod = vod →
    SimR φ sent vod (visitOnM cfg vod sent φ (st.ops, st.updated)) (visitGlueDn cfg φ st) := by
  induction φ using C09Dense.nodeInduction with
  | var x =>
    rintro st _ _ rfl rfl
    rw [leaf_body_var, visitOnM]
    exact ⟨⟨rfl, rfl, rfl⟩, List.lookup_cons_self⟩
  | const c =>
    rintro st _ _ rfl rfl
    rw [leaf_body_const, visitOnM]
    exact ⟨⟨rfl, rfl, rfl⟩, List.lookup_cons_self⟩
  | n1 hn ih =>
    intro st sent vod hs hv
    rw [visitGlueDn_node1 cfg hn, hn.visit]
    exact (ih st sent vod hs hv).sim.bind fun v st1 h2 h3 => finishG_simR cfg _ [v] st1 sent vod h2 h3
  | n2 hn ih1 ih2 =>
    intro st sent vod hs hv
    rw [visitGlueDn_node2 cfg hn, hn.visit]
    exact (ih1 st sent vod hs hv).sim.bind fun v1 st1 h2 h3 =>
      (ih2 st1 sent vod h2 h3).sim.bind fun v2 st2 j2 j3 => finishG_simR cfg _ [v1, v2] st2 sent vod j2 j3

/-- What of the state the mirror keeps: the operator dictionary and the memo. -/
def proj (r : ASig α × GSt α) : ASig α × (StoreOn α × MemoOn α) := (r.1, (r.2.ops, r.2.updated))

/-- One visit through the translated `visitBinary` / `visitUnary` / `visitLeaf` (with `visitConstant` / `visitVariable` of the
    dense-time visitor) is `visitOnM`: the same signal, operator dictionary and memo, the same exception —
    on every state, `inp` being `var_object_dict` and `sent` the flag `constants_sent`. -/
theorem genGlueDn_visit (cfg : DCfg) (φ : F α) (st : GSt α) :
    (visitGlueDn cfg φ st).map proj = visitOnM cfg st.vod st.sent φ (st.ops, st.updated) :=
  (visit_simR cfg φ st _ _ rfl rfl).sim.map_eq

/-- … and it changes neither the flag nor `var_object_dict`, and binds the node in `results`. -/
theorem genGlueDn_visit_frame (cfg : DCfg) (φ : F α) (st st' : GSt α) (v : ASig α)
    (h : visitGlueDn cfg φ st = .ok (v, st')) :
    st'.sent = st.sent ∧ st'.vod = st.vod ∧ st'.results.lookup φ = some v := by
  have h0 := visit_simR cfg φ st _ _ rfl rfl
  rw [h] at h0
  obtain ⟨_, -, ⟨-, hs, hv⟩, hr⟩ := Exc.Rel.ok_right.1 h0
  exact ⟨hs, hv, hr⟩

/-- The loop of `visitAst`: the assertions are visited in order, the signals collected. -/
def specsLoop : List (Visit α) → GSt α → Except PyErr (List (ASig α) × GSt α)
  | [], st => .ok ([], st)
  | f :: fs, st => do
      let (v, st1) ← f st
      let (l, st') ← specsLoop fs st1
      pure (v :: l, st')

/-- One iteration of `for spec in ast.specs: out.append(self.visit(spec, …))`. -/
def specStep (cfg : DCfg) (p : GEnv α × GSt α) (f : Visit α) : Except PyErr (GEnv α × GSt α) :=
  execGS cfg (.appendLoc "out" .visitSpec) { p.1 with spec := some f } p.2 []

theorem specStep_eq (cfg : DCfg) (env : GEnv α) (st : GSt α) (f : Visit α) (acc : List (ASig α))
    (hout : gGet "out" env.loc >>= asList = .ok acc) :
    specStep cfg (env, st) f =
      f st >>= fun p => pure ({ env with spec := some f, loc := gSet "out" (.list (acc ++ [p.1])) env.loc }, p.2) := by
  obtain ⟨g, h1, h2⟩ := Exc.bind_eq_ok.1 hout
  unfold specStep
  simp only [execGS, evalGE, h1, h2, bind, Except.bind, pure, Except.pure]
  cases f st with
  | error e => rfl
  | ok p => rfl

/-- `return out` of `visitAst`: the local `out` read as the list of results. -/
def readOut (cfg : DCfg) (p : GEnv α × GSt α) : Except PyErr (List (ASig α) × GSt α) := do
  let r ← evalGE cfg p.1 p.2 (.loc "out")
  pure (← asList r.1, r.2)

theorem forSpecs_loop (cfg : DCfg) (fs : List (Visit α)) : ∀ (env : GEnv α) (acc : List (ASig α)) (st : GSt α),
    gGet "out" env.loc >>= asList = .ok acc →
    fs.foldlM (specStep cfg) (env, st) >>= readOut cfg = (specsLoop fs st).map fun r => (acc ++ r.1, r.2) := by
  induction fs with
  | nil =>
    intro env acc st hout
    obtain ⟨g, h1, h2⟩ := Exc.bind_eq_ok.1 hout
    simp only [List.foldlM_nil, readOut, evalGE, h1, h2, specsLoop, bind, Except.bind, pure, Except.pure, Except.map,
      List.append_nil]
  | cons f fs ih =>
    intro env acc st hout
    rw [List.foldlM_cons, specStep_eq cfg env st f acc hout, specsLoop]
    cases f st with
    | error e => rfl
    | ok p =>
      obtain ⟨v, st1⟩ := p
      refine (ih _ (acc ++ [v]) st1 (by rw [gGet_gSet_same]; rfl)).trans ?_
      simp only [Exc.ok_bind]
      cases specsLoop fs st1 with
      | error e => rfl
      | ok q => exact congrArg (fun l => Except.ok (l, q.2)) (List.append_assoc acc [v] q.1)

theorem execGS_clearUpdated (cfg : DCfg) (env : GEnv α) (st : GSt α) (specs : List (Visit α)) :
    execGS cfg (.clearDict "updated") env st specs = .ok (env, { st with updated := [] }) := id rfl
theorem execGS_setOut (cfg : DCfg) (env : GEnv α) (st : GSt α) (specs : List (Visit α)) :
    execGS cfg (.setLoc "out" .emptyList) env st specs =
      .ok ({ env with loc := gSet "out" .nil env.loc }, st) := id rfl
theorem execGS_forSpecs (cfg : DCfg) (env : GEnv α) (st : GSt α) (specs : List (Visit α)) :
    execGS cfg (.forSpecs (.appendLoc "out" .visitSpec)) env st specs = specs.foldlM (specStep cfg) (env, st) := id rfl
theorem x_err_bind {ε σ ρ : Type} (e : ε) (f : σ → Except ε ρ) : (Except.error e >>= f) = .error e :=
  Exc.error_bind e f

/-- The translated `visitAst` of the update visitor: the memo is cleared, then the assertions are visited in order. -/
theorem updateSpecsGDn_eq (cfg : DCfg) (specs : List (F α)) (st : GSt α) :
    updateSpecsGDn cfg specs st = specsLoop (specs.map (visitGlueDn cfg)) { st with updated := [] } := by
  unfold updateSpecsGDn callG Gen.GlueDn.update_visitAst
  simp only [execGS_seq, execGS_clearUpdated, execGS_setOut, execGS_forSpecs, Exc.ok_bind]
  rw [bind_assoc]
  refine (forSpecs_loop cfg _ { node := F.const Val.zero, loc := gSet "out" GV.nil [] } []
    { st with updated := [] } rfl).trans ?_
  cases specsLoop (specs.map (visitGlueDn cfg)) { st with updated := [] } with
  | error e => rfl
  | ok q => rfl

theorem specsLoop_sim (cfg : DCfg) (specs : List (F α)) : ∀ (st : GSt α) (sent : Bool) (vod : String → ASig α),
    st.sent = sent → st.vod = vod →
    SimG sent vod (visitSpecsOn cfg vod sent specs (st.ops, st.updated)) (specsLoop (specs.map (visitGlueDn cfg)) st) := by
  induction specs with
  | nil => intro st sent vod hs hv; exact ⟨rfl, hs, hv⟩
  | cons φ rest ih =>
    intro st sent vod hs hv
    rw [visitSpecsOn, List.map_cons, specsLoop]
    exact (visit_simR cfg φ st sent vod hs hv).sim.bind fun v st1 h2 h3 =>
      (ih st1 sent vod h2 h3).bind fun l st2 j2 j3 => ⟨rfl, j2, j3⟩

/-- What of the state after `visitAst` the mirror keeps. -/
def projR (r : List (ASig α) × GSt α) : List (ASig α) × MemoOn α × StoreOn α := (r.1, r.2.updated, r.2.ops)

/-- `visitAst` of the translated update visitor is `updateSpecsOn`: the signals of all assertions, the memo of the round,
    the new operator dictionary — or the same exception. -/
theorem genGlueDn_round (cfg : DCfg) (specs : List (F α)) (st : GSt α) :
    (updateSpecsGDn cfg specs st).map projR = updateSpecsOn cfg st.vod st.sent specs st.ops := by
  rw [updateSpecsGDn_eq, updateSpecsOn, ← (specsLoop_sim cfg specs { st with updated := [] } _ _ rfl rfl).map_eq]
  cases specsLoop (specs.map (visitGlueDn cfg)) { st with updated := [] } with
  | error e => rfl
  | ok p => rfl

/-- … and it changes neither the flag nor `var_object_dict`. -/
theorem genGlueDn_round_frame (cfg : DCfg) (specs : List (F α)) (st st' : GSt α) (l : List (ASig α))
    (h : updateSpecsGDn cfg specs st = .ok (l, st')) : st'.sent = st.sent ∧ st'.vod = st.vod := by
  have h0 := specsLoop_sim cfg specs { st with updated := [] } _ _ rfl rfl
  rw [updateSpecsGDn_eq] at h
  rw [h] at h0
  exact h0.frame

/-- `set_variable_to_ast_from_dataset(dataset)` on `var_object_dict`: the entries of the dataset that name a free
    variable are written, in order (a later entry for the same variable replaces an earlier one). -/
def applyData (free : List String) (vod : String → ASig α) : List (String × ASig α) → (String → ASig α)
  | [] => vod
  | (x, s) :: rest => applyData free (if free.contains x then vodSet vod x s else vod) rest

/-- No operation object is registered under the name of a variable (variables and constants have none: `initStoreOn`;
    an update only re-binds operator nodes, `updateSpecsOn_props`). -/
def NoVarKeys (ops : StoreOn α) : Prop := ∀ x, ops.lookup (.var x) = none

/-- The body of `for data in dataset:` in `set_variable_to_ast_from_dataset`, as translated. -/
def dataBody : GS :=
  (.seq (.setLoc "var_name" (.dataIdx 0)) (.seq (.setLoc "var_object" (.dataIdx 1))
    (.ite (.inFreeVars (.dataIdx 0))
      (.seq (.setVar (.loc "var_name") (.loc "var_object"))
        (.ite (.inOps (.loc "var_name")) (.unsupported "self.online_operator_dict[var_name].sample = var_object") .skip))
      .skip)))

/-- The statements of `update` after `set_variable_to_ast_from_dataset(dataset)`, as translated. -/
def tailBody : GS :=
  (.seq (.setLoc "rob" .visitAst) (.seq (.setLoc "rob" (.lastOf "rob"))
    (.seq (.opaque "self.ast.results = self.updateVisitor.results") (.seq (.setFlag (.boolLit true))
      (.seq (.opaque "out = self.ast.var_object_dict[self.ast.out_var]")
        (.seq (.ite .outVarField (.unsupported "setattr(out, self.ast.out_var_field, rob)") .skip) .clearVars))))))

theorem interp_update_shape :
    Gen.GlueDn.interp_update =
      { body := .seq (.opaque "self.exist_ast()") (.seq (.forData dataBody) tailBody), ret := some (.loc "rob") } := rfl

/-- One iteration of `for data in dataset:`. -/
def dataStep (cfg : DCfg) (p : GEnv α × GSt α) (d : String × ASig α) : Except PyErr (GEnv α × GSt α) :=
  execGS cfg dataBody { p.1 with data := some d } p.2 []

theorem dataStep_eq (cfg : DCfg) (env : GEnv α) (st : GSt α) (x : String) (s : ASig α)
    (hnv : st.ops.lookup (.var x) = none) :
    dataStep cfg (env, st) (x, s) =
      .ok ({ env with data := some (x, s),
                      loc := gSet "var_object" (.sig s) (gSet "var_name" (.str x) env.loc) },
           { st with vod := if env.free.contains x then vodSet st.vod x s else st.vod }) := by
  unfold dataStep dataBody
  have h1 : gGet "var_name" (gSet "var_object" (GV.sig s) (gSet "var_name" (GV.str x) env.loc)) = .ok (GV.str x) := by
    rw [gGet_gSet_ne (by decide), gGet_gSet_same]
  simp only [execGS, evalGE, bind, Except.bind, pure, Except.pure]
  cases env.free.contains x with
  | false => rfl
  | true =>
    simp only [h1, gGet_gSet_same, asSig, hnv, Option.isSome_none]
    rfl

theorem forData_loop (cfg : DCfg) (ds : List (String × ASig α)) : ∀ (env : GEnv α) (st : GSt α), NoVarKeys st.ops →
    ∃ env', ds.foldlM (dataStep cfg) (env, st) = .ok (env', { st with vod := applyData env.free st.vod ds }) ∧
      env'.vast = env.vast := by
  induction ds with
  | nil => intro env st _; exact ⟨env, rfl, rfl⟩
  | cons d ds ih =>
    intro env st hnv
    obtain ⟨x, s⟩ := d
    rw [List.foldlM_cons, dataStep_eq cfg env st x s (hnv x)]
    exact ih _ _ hnv

theorem x_opaque (cfg : DCfg) (w : String) (env : GEnv α) (st : GSt α) (specs : List (Visit α)) :
    execGS cfg (.opaque w) env st specs = .ok (env, st) := id rfl
theorem x_forData (cfg : DCfg) (env : GEnv α) (st : GSt α) (specs : List (Visit α)) :
    execGS cfg (.forData dataBody) env st specs = env.dataset.foldlM (dataStep cfg) (env, st) := id rfl

/-- The translated `update(dataset)`: the dataset is written to `var_object_dict`, `visitAst` runs, the signal of the last
    assertion is returned (`rob[len(rob) - 1]`: `IndexError` without assertions); the flag is set and `var_object_dict`
    cleared afterwards. -/
theorem updateGDn_eq (cfg : DCfg) (free : List String) (specs : List (F α)) (d : List (String × ASig α)) (st : GSt α)
    (hnv : NoVarKeys st.ops) :
    updateGDn cfg free specs d st =
      match updateSpecsGDn cfg specs { st with vod := applyData free st.vod d } with
      | .error e => .error e
      | .ok (l, st2) =>
        match l[l.length - 1]? with
        | none => .error .index
        | some rob => .ok (rob, { st2 with sent := true, vod := fun _ => [] }) := by
  unfold updateGDn callG
  rw [interp_update_shape]
  simp only [execGS_seq, x_opaque, Exc.ok_bind, x_forData]
  obtain ⟨env', h1, h3⟩ := forData_loop cfg d
    { node := F.const Val.zero, vast := some (updateSpecsGDn cfg specs), free := free, dataset := d } st hnv
  rw [h1]
  simp only [tailBody, execGS, evalGE, h3, bind, Except.bind, pure, Except.pure]
  cases updateSpecsGDn cfg specs { st with vod := applyData free st.vod d } with
  | error e => rfl
  | ok q =>
    obtain ⟨l, st2⟩ := q
    simp only [gGet_gSet_same, asList]
    cases l[l.length - 1]? with
    | none => rfl
    | some rob =>
      simp only [gGet_gSet_same, valOf, asSig, bind, Except.bind, pure, Except.pure]

/-- One `update()` of the mirror: one signal per assertion; no operation object appears under a variable name. -/
theorem updateSpecsOn_props (cfg : DCfg) (inp : String → ASig α) (sent : Bool) (specs : List (F α)) (st st' : StoreOn α)
    (vs : List (ASig α)) (mm : MemoOn α) (h : updateSpecsOn cfg inp sent specs st = .ok (vs, mm, st')) :
    vs.length = specs.length ∧ (NoVarKeys st → NoVarKeys st') := by
  rw [C09Dense.updateSpecsOn_eq] at h
  obtain ⟨k1, k2⟩ := Keyed.roundK_frame _ specs st _ h
  exact ⟨k1, fun hnv x => (k2 _ (Keyed.not_inSpecs_var specs x)).trans (hnv x)⟩

/-- What the visitor reads as `var_object_dict` in the successive `update(dataset)` calls: the dataset written over the
    dictionary — as it is before the first call, all `[]` (the `fromkeys(…, [])` at the end of `update`) afterwards. -/
def inputsOf (free : List String) (vod : String → ASig α) : List (List (String × ASig α)) → List (String → ASig α)
  | [] => []
  | d :: ds => applyData free vod d :: inputsOf free (fun _ => []) ds

/-- `rob[len(rob) - 1]`. -/
def lastSig (l : List (ASig α)) : ASig α := (l[l.length - 1]?).getD []

/-- One `update(dataset)` through the translated methods is one `updateSpecsOn` of the mirror on the batch
    `applyData free vod dataset`; it returns the signal of the last assertion, sets the flag and clears `var_object_dict`. -/
theorem genGlueDn_update (cfg : DCfg) (free : List String) (specs : List (F α)) (hs : specs ≠ [])
    (d : List (String × ASig α)) (st : GSt α) (hnv : NoVarKeys st.ops) :
    match updateGDn cfg free specs d st with
    | .error e => updateSpecsOn cfg (applyData free st.vod d) st.sent specs st.ops = .error e
    | .ok (rob, st') =>
        ∃ vs, updateSpecsOn cfg (applyData free st.vod d) st.sent specs st.ops = .ok (vs, st'.updated, st'.ops) ∧
          rob = lastSig vs ∧ st'.sent = true ∧ st'.vod = (fun _ => []) ∧ NoVarKeys st'.ops := by
  rw [updateGDn_eq cfg free specs d st hnv]
  have hr := genGlueDn_round cfg specs { st with vod := applyData free st.vod d }
  cases hu : updateSpecsGDn cfg specs { st with vod := applyData free st.vod d } with
  | error e =>
    rw [hu] at hr
    exact hr.symm
  | ok q =>
    obtain ⟨l, st2⟩ := q
    rw [hu] at hr
    obtain ⟨hlen : l.length = specs.length, hkeys⟩ := updateSpecsOn_props cfg _ _ specs _ _ _ _ hr.symm
    obtain ⟨rob, hrob⟩ : ∃ rob, l[l.length - 1]? = some rob := by
      have : specs.length ≠ 0 := fun h => hs (List.length_eq_zero_iff.1 h)
      exact ⟨_, List.getElem?_eq_getElem (by omega)⟩
    simp only []
    rw [hrob]
    exact ⟨l, hr.symm, (congrArg (·.getD []) hrob).symm, rfl, rfl, hkeys hnv⟩

/-- A whole run: the sequence of `update(dataset)` calls through the translated methods is `runSpecsOn` of the mirror — the
    flag as it is in the first call and `True` in all later ones —, per call the signal of the last assertion and the memo of
    the round; the same exception otherwise. -/
theorem genGlueDn_run (cfg : DCfg) (free : List String) (specs : List (F α)) (hs : specs ≠ [])
    (ds : List (List (String × ASig α))) (st : GSt α) (hnv : NoVarKeys st.ops) :
    runSpecsGDn cfg free specs st ds =
      (runSpecsOn cfg specs st.ops st.sent (inputsOf free st.vod ds)).map
        (fun l => l.map (fun r => (lastSig r.1, r.2))) := by
  induction ds generalizing st with
  | nil => rfl
  | cons d ds ih =>
    have h := genGlueDn_update cfg free specs hs d st hnv
    simp only [runSpecsGDn, inputsOf, runSpecsOn, bind, Except.bind, pure, Except.pure]
    cases hg : updateGDn cfg free specs d st with
    | error e =>
      rw [hg] at h
      rw [h]; rfl
    | ok p =>
      obtain ⟨rob, st'⟩ := p
      rw [hg] at h
      obtain ⟨vs, h1, h2, h3, h4, h5⟩ := h
      rw [h1]
      simp only [ih st' h5, h3, h4, h2]
      cases runSpecsOn cfg specs st'.ops true (inputsOf free (fun _ => []) ds) with
      | error e => rfl
      | ok rest => rfl

theorem noVarKeys_init (specs : List (F α)) (st st' : StoreOn α) (h : initStoreOn specs st = .ok st')
    (hnv : NoVarKeys st) : NoVarKeys st' :=
  fun x => ((C09Dense.initStoreOn_binds specs st st' h).2 _ (Keyed.not_inSpecs_var specs x)).trans (hnv x)

/-- A fresh monitor (`set_ast`: the dictionary of the construction visitor, the flag `False`) fed `datasets` through the
    translated `update` is `runProgramOn` of the mirror. -/
theorem genGlueDn_program (cfg : DCfg) (free : List String) (specs : List (F α)) (hs : specs ≠ [])
    (ds : List (List (String × ASig α))) (upd res : MemoOn α) (vod : String → ASig α) :
    (do let o ← initStoreOn specs []
        runSpecsGDn cfg free specs { ops := o, updated := upd, results := res, sent := false, vod := vod } ds) =
      (runProgramOn cfg specs (inputsOf free vod ds)).map (fun l => l.map (fun r => (lastSig r.1, r.2))) := by
  unfold runProgramOn
  cases hi : initStoreOn specs ([] : StoreOn α) with
  | error e => rfl
  | ok o =>
    exact genGlueDn_run cfg free specs hs ds _ (noVarKeys_init specs [] o hi (fun _ => rfl))

/-- The translated `set_ast`: the dictionary is built anew (the step of the parent class), the flag is `False` again and
    `var_object_dict` holds the empty batch for every variable; memo and `results` of the visitor stay. -/
theorem genGlueDn_set_ast (cfg : DCfg) (specs : List (F α)) (st : GSt α) :
    setAstGDn cfg specs st =
      (initStoreOn specs []).map (fun o => { st with ops := o, sent := false, vod := fun _ => [] }) := by
  unfold setAstGDn callG Gen.GlueDn.interp_set_ast
  simp only [execGS, evalGE, bind, Except.bind, pure, Except.pure]
  cases initStoreOn specs ([] : StoreOn α) with
  | error e => rfl
  | ok o => rfl

/-- The translated `reset` is `set_ast(self.ast)`: the two translated bodies are the same term. -/
theorem genGlueDn_reset (cfg : DCfg) (specs : List (F α)) (st : GSt α) :
    resetGDn cfg specs st =
      (initStoreOn specs []).map (fun o => { st with ops := o, sent := false, vod := fun _ => [] }) :=
  genGlueDn_set_ast cfg specs st

/-- After `reset()` (or `set_ast`) the monitor behaves as a fresh one: the run through the translated methods is
    `runProgramOn` of the mirror, whatever the state was. -/
theorem genGlueDn_reset_run (cfg : DCfg) (free : List String) (specs : List (F α)) (hs : specs ≠ [])
    (ds : List (List (String × ASig α))) (st : GSt α) :
    (do let st' ← resetGDn cfg specs st
        runSpecsGDn cfg free specs st' ds) =
      (runProgramOn cfg specs (inputsOf free (fun _ => []) ds)).map (fun l => l.map (fun r => (lastSig r.1, r.2))) := by
  rw [genGlueDn_reset, ← genGlueDn_program cfg free specs hs ds st.updated st.results]
  cases initStoreOn specs ([] : StoreOn α) with
  | error e => rfl
  | ok o => rfl

/-- Nothing in the translated methods is outside the translated subset, except
    * the loop of `visitVariable` under `if node.field:` (variables of a user-defined type; `node.field` is empty for
      the float-typed variables of the model, `GE.nodeField`),
    * `self.online_operator_dict[var_name].sample = var_object` under `if var_name in self.online_operator_dict:` in
      `set_variable_to_ast_from_dataset` (no operation object is registered under a variable name, `NoVarKeys`),
    * `setattr(out, self.ast.out_var_field, rob)` under `if self.ast.out_var_field:` (empty for a float-typed output). -/
theorem genGlueDn_supported :
    Gen.GlueDn.methods.map (fun p => (p.1, p.2.unsup)) =
      [("update_visitAst", []), ("update_visitBinary", []), ("update_visitUnary", []),
       ("update_visitLeaf",
         ["for val in vals:     sample_return.append([val[0], operator.attrgetter(node.field)(val[1])])"]),
       ("interp_update",
         ["self.online_operator_dict[var_name].sample = var_object", "setattr(out, self.ast.out_var_field, rob)"]),
       ("interp_set_ast", []), ("interp_reset", [])] := by
  rfl

/-- The statements of `update` kept as named steps without effect on the model's state (all others are translated or
    `unsupported`): the check that a specification has been parsed, the alias `ast.results` of the visitor's `results`,
    the read of the output variable's object. -/
theorem genGlueDn_opaque :
    Gen.GlueDn.methods.map (fun p => (p.1, p.2.body.opaques)) =
      [("update_visitAst", []), ("update_visitBinary", []), ("update_visitUnary", []), ("update_visitLeaf", []),
       ("interp_update",
         ["self.exist_ast()", "self.ast.results = self.updateVisitor.results",
          "out = self.ast.var_object_dict[self.ast.out_var]"]),
       ("interp_set_ast", []), ("interp_reset", [])] := by
  rfl

namespace Example

/-- Three values `-inf < 0 < +inf`. -/
local instance : Val (Fin 3) where
  lt a b := decide (a < b)
  neg a := Fin.rev a
  abs a := if a < 1 then Fin.rev a else a
  add a _ := a
  sub a b := if a < b then 0 else if b < a then 2 else 1
  mul a _ := a
  div a _ := a
  pinf := 2
  ninf := 0
  zero := 1
  sqrt a := a
  exp a := a
  ln a := a
  pow a _ := a
  log a _ := a

local instance exceptDecEq {ε β : Type} [DecidableEq ε] [DecidableEq β] : DecidableEq (Except ε β)
  | .ok a, .ok b => if h : a = b then isTrue (by rw [h]) else isFalse (fun h' => h (Except.ok.inj h'))
  | .error a, .error b => if h : a = b then isTrue (by rw [h]) else isFalse (fun h' => h (Except.error.inj h'))
  | .ok _, .error _ => isFalse (fun h => by cases h)
  | .error _, .ok _ => isFalse (fun h => by cases h)

local instance decSig : DecidableEq (ASig (Fin 3)) := inferInstance
local instance decMemo : DecidableEq (MemoOn (Fin 3)) := inferInstance
local instance decOut : DecidableEq (ASig (Fin 3) × MemoOn (Fin 3)) := inferInstance

/-- A fresh monitor: the dictionary of `set_ast`, empty memo and `results`, the flag `False`. -/
def fresh (o : StoreOn (Fin 3)) : GSt (Fin 3) :=
  { ops := o, updated := [], results := [], sent := false, vod := fun _ => [] }

def outOf (l : List (List (ASig (Fin 3)) × MemoOn (Fin 3))) : List (ASig (Fin 3) × MemoOn (Fin 3)) :=
  l.map (fun r => (lastSig r.1, r.2))

/-- `-(2)`: the constant signal reaches the operation in the first `update` only. -/
def negConst : List (F (Fin 3)) := [.un .negate (.const 2)]

example :
    (do let o ← initStoreOn negConst []
        runSpecsGDn {} ["x"] negConst (fresh o) [[], []]) =
      .ok [([(Tm.zero, 0), (.inf, 0)], [(.un .negate (.const 2), [(Tm.zero, 0), (.inf, 0)])]),
           ([], [(.un .negate (.const 2), [])])] := by
  decide +kernel

example :
    (do let o ← initStoreOn negConst []
        runSpecsGDn {} ["x"] negConst (fresh o) [[], []]) =
    (do let o ← initStoreOn negConst []
        (runSpecsOn {} negConst o false (inputsOf ["x"] (fun _ => []) [[], []])).map outOf) := by
  decide +kernel

/-- Without assertions `rob[len(rob) - 1]` raises `IndexError` (hence `specs ≠ []` in `genGlueDn_run`). -/
example : runSpecsGDn {} ["x"] ([] : List (F (Fin 3))) (fresh []) [[]] = .error .index := by
  decide +kernel

/-- Four assertions that share `once(x)` (one operation object, updated once per `update`: the memo); a constant below
    `-` below `historically`; a bounded `once`. -/
def exSpecs : List (F (Fin 3)) :=
  [.tmp1 .once (.var "x"), .un .negate (.tmp1 .once (.var "x")), .tmp1 .hist (.un .negate (.const 2)),
   .tb1 .once 0 1 (.un .abs (.tmp1 .once (.var "x")))]

/-- Three `update(dataset)` calls: `y` is not a free variable, the last call leaves `x` out. -/
def exData : List (List (String × ASig (Fin 3))) :=
  [[("x", [(.fin 0, 0), (.fin 1, 1)]), ("y", [(.fin 0, 2)])], [("x", [(.fin 2, 2), (.fin 3, 0)])], []]

example :
    (do let o ← initStoreOn exSpecs []
        runSpecsGDn {} ["x"] exSpecs (fresh o) exData) =
    (do let o ← initStoreOn exSpecs []
        (runSpecsOn {} exSpecs o false (inputsOf ["x"] (fun _ => []) exData)).map outOf) := by
  decide +kernel

/-- … and the signals of *all* assertions, round by round (`visitAst`). -/
example :
    (do let o ← initStoreOn exSpecs []
        let (l1, st1) ← updateSpecsGDn {} exSpecs { fresh o with vod := applyData ["x"] (fun _ => []) exData[0]! }
        let (l2, _) ← updateSpecsGDn {} exSpecs { st1 with sent := true, vod := applyData ["x"] (fun _ => []) exData[1]! }
        pure [l1, l2]) =
    (do let o ← initStoreOn exSpecs []
        (runSpecsOn {} exSpecs o false (inputsOf ["x"] (fun _ => []) (exData.take 2))).map (fun l => l.map (·.1))) := by
  decide +kernel

end Example

end Rtamt.Py.GDn
