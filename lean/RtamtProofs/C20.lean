/-
  C20 — Explanations of a violation are a sufficient cause (partial: fragment `explFrag`).

  "When a discrete-time offline specification is violated at time 0 and explain() has been
   called, the intervals reported for the input variables form a sufficient cause: every
   trace that coincides with the original one on all reported (variable, sample) positions
   violates the specification at time 0 as well. For a specification that is satisfied at
   time 0 nothing is reported."

  Proved for the mirror of the explainer (`Rtamt/Discrete/Explain.lean`) on `F.explFrag`
  (predicates over arithmetic terms; not / and / or / implies; prev / next weak and strong;
  once / historically / eventually / always bounded or not).  Excluded: since / until (the
  explainer raises), iff / xor and rise / fall (both operands resp. the operand are explained
  with the same polarity, which is not sound in general).

  The proof goes by the table of rules (`ExplRules.lean`).  One lemma per window says what it does to a well-formed list
  (`Acts`: the list stays `Good` and covers the positions the window relates to a covered one); `Rule.acts` adds the
  selection and the union, `Rule.preserves` turns the induction hypothesis about the list handed to an operand into one
  about every position the operator reads, and per operator one fact about its semantics is left (`C20_monoU`).
-/
import RtamtProofs.Lemmas.Lawful
import RtamtProofs.ExplRules
import Mathlib.Order.Fin.Basic
import RtamtProofs.Lemmas.Instance

namespace Rtamt
open Val

variable {α : Type} [Val α] [LawfulVal α]

/-- "Satisfied at `t`" in the explainer's sense: `rho >= 0`; violated: `rho < 0`. -/
def holdsAs (flag : Bool) (v : α) : Prop := if flag then isSat v = true else isUnsat v = true

def covered (I : Ivs) (t : Nat) : Prop := ∃ p ∈ I, p.1 ≤ t ∧ t ≤ p.2

theorem covered_nil (t : Nat) : ¬ covered [] t := by
  rintro ⟨p, hp, _⟩; cases hp

theorem covered_cons (p : Nat × Nat) (I : Ivs) (t : Nat) :
    covered (p :: I) t ↔ (p.1 ≤ t ∧ t ≤ p.2) ∨ covered I t := by
  unfold covered; simp

theorem covered_append (I J : Ivs) (t : Nat) :
    covered (I ++ J) t ↔ covered I t ∨ covered J t := by
  unfold covered
  constructor
  · rintro ⟨p, hp, h⟩
    rcases List.mem_append.1 hp with hp | hp
    · exact Or.inl ⟨p, hp, h⟩
    · exact Or.inr ⟨p, hp, h⟩
  · rintro (⟨p, hp, h⟩ | ⟨p, hp, h⟩)
    · exact ⟨p, List.mem_append.2 (Or.inl hp), h⟩
    · exact ⟨p, List.mem_append.2 (Or.inr hp), h⟩

theorem covered_flatMap (h : Nat × Nat → Ivs) (I : Ivs) (t : Nat) :
    covered (I.flatMap h) t ↔ ∃ q ∈ I, covered (h q) t := by
  unfold covered
  constructor
  · rintro ⟨p, hp, ht⟩
    obtain ⟨q, hq, hpq⟩ := List.mem_flatMap.1 hp
    exact ⟨q, hq, p, hpq, ht⟩
  · rintro ⟨q, hq, p, hpq, ht⟩
    exact ⟨p, List.mem_flatMap.2 ⟨q, hq, hpq⟩, ht⟩

theorem covered_singleton (b e t : Nat) : covered [(b, e)] t ↔ b ≤ t ∧ t ≤ e := by
  simp [covered]

/-- Disjoint and increasing. -/
def Dj (I : Ivs) : Prop := I.Pairwise (fun p q => p.2 < q.1)

theorem dj_singleton (p : Nat × Nat) : Dj [p] := List.pairwise_singleton _ _

theorem runsLoop_true {S : Nat → Bool} {i : Nat} (h : S i = true) (e k : Nat) (cur : Option Nat) :
    runsLoop S e (k + 1) i cur = runsLoop S e k (i + 1) (some (cur.getD i)) := by
  cases cur <;> simp [runsLoop, h]

/-- Where `S` fails the loop closes the open run at `i - 1`, as it does at `e` when no index is left. -/
theorem runsLoop_false {S : Nat → Bool} {i : Nat} (h : S i = false) (e k : Nat) (cur : Option Nat) :
    runsLoop S e (k + 1) i cur = runsLoop S (i - 1) 0 i cur ++ runsLoop S e k (i + 1) none := by
  cases cur <;> simp [runsLoop, h]

theorem closing_spec (S : Nat → Bool) (i : Nat) (cur : Option Nat) (hcur : ∀ s, cur = some s → s < i) :
    (∀ t, covered (runsLoop S (i - 1) 0 i cur) t ↔ cur.getD i ≤ t ∧ t < i) ∧
    (∀ r ∈ runsLoop S (i - 1) 0 i cur, cur.getD i ≤ r.1 ∧ r.1 ≤ r.2 ∧ r.2 < i) ∧
    Dj (runsLoop S (i - 1) 0 i cur) := by
  cases cur with
  | none =>
    refine ⟨fun t => ⟨fun h => absurd h (covered_nil t), fun h => ?_⟩, fun r hr => ?_, List.Pairwise.nil⟩
    · simp only [Option.getD_none] at h; omega
    · simp [runsLoop] at hr
  | some s =>
    have := hcur s rfl
    refine ⟨fun t => ?_, fun r hr => ?_, dj_singleton _⟩
    · show covered [(s, i - 1)] t ↔ s ≤ t ∧ t < i
      rw [covered_singleton]; omega
    · obtain rfl : r = (s, i - 1) := List.mem_singleton.1 hr
      show s ≤ s ∧ s ≤ i - 1 ∧ i - 1 < i
      omega

/-- `cur.getD i` is where the covered positions begin: the start of the open run, which reaches up to `i`. -/
theorem runsLoop_spec (S : Nat → Bool) (e : Nat) :
    ∀ (k i : Nat) (cur : Option Nat), i + k = e + 1 → (∀ s, cur = some s → s < i) →
      (∀ t, covered (runsLoop S e k i cur) t ↔
        (cur.getD i ≤ t ∧ t < i) ∨ ((i ≤ t ∧ t ≤ e) ∧ S t = true)) ∧
      (∀ r ∈ runsLoop S e k i cur, cur.getD i ≤ r.1 ∧ r.1 ≤ r.2 ∧ r.2 ≤ e) ∧
      Dj (runsLoop S e k i cur) := by
  intro k
  induction k with
  | zero =>
    intro i cur hik hcur
    obtain rfl : i = e + 1 := by omega
    obtain ⟨h1, h2, h3⟩ := closing_spec S (e + 1) cur hcur
    rw [Nat.add_sub_cancel] at h1 h2 h3
    refine ⟨fun t => ?_, fun r hr => ?_, h3⟩
    · rw [h1]
      exact ⟨Or.inl, fun h => h.elim id fun h => by omega⟩
    · have := h2 r hr; omega
  | succ k ih =>
    intro i cur hik hcur
    have hc : cur.getD i ≤ i := by
      cases cur with
      | none => exact le_rfl
      | some s => exact le_of_lt (hcur s rfl)
    cases hS : S i with
    | true =>
      rw [runsLoop_true hS]
      obtain ⟨h1, h2, h3⟩ := ih (i + 1) (some (cur.getD i)) (by omega) (by rintro s ⟨⟩; omega)
      refine ⟨fun t => ?_, h2, h3⟩
      rw [h1, Option.getD_some]
      -- the two sides differ at `t = i` only, where `S` holds
      constructor
      · rintro (h | h)
        · by_cases hti : t = i
          · exact Or.inr ⟨⟨by omega, by omega⟩, by rw [hti]; exact hS⟩
          · exact Or.inl ⟨h.1, by omega⟩
        · exact Or.inr ⟨⟨by omega, h.1.2⟩, h.2⟩
      · rintro (h | h)
        · exact Or.inl ⟨h.1, by omega⟩
        · by_cases hti : t = i
          · exact Or.inl ⟨by omega, by omega⟩
          · exact Or.inr ⟨⟨by omega, h.1.2⟩, h.2⟩
    | false =>
      rw [runsLoop_false hS]
      obtain ⟨c1, c2, c3⟩ := closing_spec S i cur hcur
      obtain ⟨h1, h2, h3⟩ := ih (i + 1) none (by omega) (by rintro s ⟨⟩)
      simp only [Option.getD_none] at h1 h2
      refine ⟨fun t => ?_, fun r hr => ?_, ?_⟩
      · rw [covered_append, c1, h1]
        constructor
        · rintro (h | h | h)
          · exact Or.inl h
          · omega
          · exact Or.inr ⟨⟨by omega, h.1.2⟩, h.2⟩
        · rintro (h | h)
          · exact Or.inl h
          · refine Or.inr (Or.inr ⟨⟨?_, h.1.2⟩, h.2⟩)
            -- `t ≠ i` because `S` fails at `i`
            by_contra hne
            obtain rfl : t = i := by omega
            rw [hS] at h
            exact Bool.false_ne_true h.2
      · rcases List.mem_append.1 hr with hr | hr
        · have := c2 r hr; omega
        · have := h2 r hr; omega
      · refine List.pairwise_append.2 ⟨c3, h3, fun r hr r' hr' => ?_⟩
        have := c2 r hr
        have := h2 r' hr'
        show r.2 < r'.1
        omega

theorem runs_covered (S : Nat → Bool) (b e t : Nat) :
    covered (runs S b e) t ↔ (b ≤ t ∧ t ≤ e) ∧ S t = true := by
  unfold runs
  by_cases hbe : b ≤ e + 1
  · rw [(runsLoop_spec S e (e + 1 - b) b none (by omega) (by rintro s ⟨⟩)).1]
    simp only [Option.getD_none]
    exact ⟨fun h => h.elim (fun h => by omega) id, Or.inr⟩
  · have : e + 1 - b = 0 := by omega
    rw [this]
    simp only [runsLoop]
    exact ⟨fun h => absurd h (covered_nil t), fun h => by omega⟩

theorem runs_struct (S : Nat → Bool) (b e : Nat) :
    (∀ r ∈ runs S b e, b ≤ r.1 ∧ r.1 ≤ r.2 ∧ r.2 ≤ e) ∧ Dj (runs S b e) := by
  unfold runs
  by_cases hbe : b ≤ e + 1
  · exact (runsLoop_spec S e (e + 1 - b) b none (by omega) (by rintro s ⟨⟩)).2
  · have : e + 1 - b = 0 := by omega
    rw [this]
    simp [runsLoop, Dj]

theorem runsAll_eq (S : Nat → Bool) (I : Ivs) :
    runsAll S I = I.flatMap (fun p => runs S p.1 p.2) := rfl

theorem runsAll_covered (S : Nat → Bool) (I : Ivs) (t : Nat) :
    covered (runsAll S I) t ↔ covered I t ∧ S t = true := by
  rw [runsAll_eq, covered_flatMap]
  constructor
  · rintro ⟨q, hq, h⟩
    rw [runs_covered] at h
    exact ⟨⟨q, hq, h.1⟩, h.2⟩
  · rintro ⟨⟨q, hq, h⟩, h3⟩
    exact ⟨q, hq, (runs_covered S q.1 q.2 t).2 ⟨h, h3⟩⟩

/-- The interval lists the explainer produces from `[(0,0)]`: non-empty intervals below `n`;
    every covered position below the begin of an interval is covered by an earlier interval, and
    every covered position above its end by a later one (so the first begin is the least covered
    position, the last end the greatest one — hereditarily under run-extraction). -/
def Good (n : Nat) (I : Ivs) : Prop :=
  (∀ p ∈ I, p.1 ≤ p.2 ∧ p.2 < n) ∧
  (∀ L p R, I = L ++ p :: R → ∀ t, covered I t → t < p.1 → covered L t) ∧
  (∀ L p R, I = L ++ p :: R → ∀ t, covered I t → p.2 < t → covered R t)

theorem good_nil (n : Nat) : Good n [] := by
  refine ⟨by simp, ?_, ?_⟩ <;> intro L p R h <;> simp at h

theorem good_singleton (n b e : Nat) (h1 : b ≤ e) (h2 : e < n) : Good n [(b, e)] := by
  -- the only interval of the list contains every covered position
  have key : ∀ (L : Ivs) p R, [(b, e)] = L ++ p :: R → ∀ t, covered [(b, e)] t → p.1 ≤ t ∧ t ≤ p.2 := by
    intro L p R h t ht
    cases L with
    | nil =>
      simp at h
      obtain ⟨rfl, _⟩ := h
      exact (covered_singleton b e t).1 ht
    | cons x L => simp at h
  refine ⟨by simp; omega, fun L p R h t ht hlt => ?_, fun L p R h t ht hlt => ?_⟩
  · have := key L p R h t ht; omega
  · have := key L p R h t ht; omega

theorem flatMap_eq_append_cons {β γ : Type} (h : β → List γ) :
    ∀ (I : List β) (L' : List γ) (r : γ) (R' : List γ), I.flatMap h = L' ++ r :: R' →
      ∃ L p R l l', I = L ++ p :: R ∧ h p = l ++ r :: l' ∧ L' = L.flatMap h ++ l ∧
        R' = l' ++ R.flatMap h := by
  intro I
  induction I with
  | nil => intro L' r R' h'; simp at h'
  | cons x xs ih =>
    intro L' r R' h'
    rw [List.flatMap_cons, List.append_eq_append_iff] at h'
    rcases h' with ⟨a', h1, h2⟩ | ⟨c', h1, h2⟩
    · obtain ⟨L, p, R, l, l', e1, e2, e3, e4⟩ := ih a' r R' h2
      refine ⟨x :: L, p, R, l, l', by simp [e1], e2, ?_, e4⟩
      rw [h1, e3]; simp
    · cases c' with
      | nil =>
        simp only [List.nil_append] at h2
        obtain ⟨L, p, R, l, l', e1, e2, e3, e4⟩ := ih [] r R' h2.symm
        refine ⟨x :: L, p, R, l, l', by simp [e1], e2, ?_, e4⟩
        simp only [List.append_nil] at h1
        rw [List.flatMap_cons, ← h1, List.append_assoc, ← e3]; simp
      | cons c cs =>
        simp only [List.cons_append, List.cons.injEq] at h2
        obtain ⟨rfl, rfl⟩ := h2
        exact ⟨[], x, xs, L', cs, rfl, h1, by simp, rfl⟩

/-- Blocks `h p` put in place of the intervals `p` of a well-formed list: every position `t` of a block
    `h q` comes from a position `u` of `q` such that the block of every interval around `u` covers `t`,
    and `u` is not right (left) of `p` when `t` is left (right) of an interval of `h p`. -/
theorem good_flatMap (n : Nat) (I : Ivs) (h : Nat × Nat → Ivs) (hI : Good n I)
    (hb : ∀ p ∈ I, ∀ r ∈ h p, r.1 ≤ r.2 ∧ r.2 < n)
    (hD : ∀ p ∈ I, Dj (h p))
    (hE : ∀ q ∈ I, ∀ t, covered (h q) t → ∃ u, (q.1 ≤ u ∧ u ≤ q.2) ∧
      (∀ p ∈ I, p.1 ≤ u → u ≤ p.2 → covered (h p) t) ∧
      ∀ p ∈ I, ∀ r ∈ h p, (t < r.1 → u ≤ p.2) ∧ (r.2 < t → p.1 ≤ u)) :
    Good n (I.flatMap h) := by
  obtain ⟨hI1, hI2, hI3⟩ := hI
  refine ⟨?_, ?_, ?_⟩
  · intro r hr
    obtain ⟨p, hp, hrp⟩ := List.mem_flatMap.1 hr
    exact hb p hp r hrp
  · intro L' r R' hdec t ht hlt
    obtain ⟨L, p, R, l, l', e1, e2, e3, e4⟩ := flatMap_eq_append_cons h I L' r R' hdec
    have hpI : p ∈ I := by rw [e1]; simp
    have hrp : r ∈ h p := by rw [e2]; simp
    obtain ⟨q, hq, htq⟩ := (covered_flatMap h I t).1 ht
    obtain ⟨u, hu, hall, hside⟩ := hE q hq t htq
    rw [e3, covered_append]
    by_cases hup : u < p.1
    · obtain ⟨p'', hp'', h1, h2⟩ := hI2 L p R e1 u ⟨q, hq, hu⟩ hup
      have hp''I : p'' ∈ I := by rw [e1]; exact List.mem_append.2 (Or.inl hp'')
      exact Or.inl ((covered_flatMap h L t).2 ⟨p'', hp'', hall p'' hp''I h1 h2⟩)
    · have hc := hall p hpI (by omega) ((hside p hpI r hrp).1 hlt)
      rw [e2, covered_append, covered_cons] at hc
      rcases hc with hc | hc | ⟨s, hs, hs1, hs2⟩
      · exact Or.inr hc
      · omega
      · exfalso
        have hd := hD p hpI
        rw [e2] at hd
        have := (List.pairwise_cons.1 (List.pairwise_append.1 hd).2.1).1 s hs
        have := (hb p hpI r hrp).1
        omega
  · intro L' r R' hdec t ht hlt
    obtain ⟨L, p, R, l, l', e1, e2, e3, e4⟩ := flatMap_eq_append_cons h I L' r R' hdec
    have hpI : p ∈ I := by rw [e1]; simp
    have hrp : r ∈ h p := by rw [e2]; simp
    obtain ⟨q, hq, htq⟩ := (covered_flatMap h I t).1 ht
    obtain ⟨u, hu, hall, hside⟩ := hE q hq t htq
    rw [e4, covered_append]
    by_cases hup : p.2 < u
    · obtain ⟨p'', hp'', h1, h2⟩ := hI3 L p R e1 u ⟨q, hq, hu⟩ hup
      have hp''I : p'' ∈ I := by rw [e1]; simp [hp'']
      exact Or.inr ((covered_flatMap h R t).2 ⟨p'', hp'', hall p'' hp''I h1 h2⟩)
    · have hc := hall p hpI ((hside p hpI r hrp).2 hlt) (by omega)
      rw [e2, covered_append, covered_cons] at hc
      rcases hc with ⟨s, hs, hs1, hs2⟩ | hc | hc
      · exfalso
        have hd := hD p hpI
        rw [e2] at hd
        have := (List.pairwise_append.1 hd).2.2 s hs r (by simp)
        have := (hb p hpI r hrp).1
        omega
      · omega
      · exact Or.inl hc

/-- `f` maps well-formed lists to well-formed lists, and the positions of `f I` are those `R` relates to a position of `I`. -/
def Acts (n : Nat) (f : Ivs → Ivs) (R : Nat → Nat → Prop) : Prop :=
  ∀ I, Good n I → Good n (f I) ∧ ∀ w, covered (f I) w ↔ ∃ t, covered I t ∧ R t w

theorem Acts.comp {n : Nat} {f g : Ivs → Ivs} {R Q : Nat → Nat → Prop} (hf : Acts n f R) (hg : Acts n g Q) :
    Acts n (g ∘ f) (fun t w => ∃ v, R t v ∧ Q v w) := fun I hI => by
  obtain ⟨h1, c1⟩ := hf I hI
  obtain ⟨h2, c2⟩ := hg _ h1
  refine ⟨h2, fun w => ?_⟩
  rw [Function.comp_apply, c2]
  constructor
  · rintro ⟨v, hv, hq⟩
    obtain ⟨t, ht, hr⟩ := (c1 v).1 hv
    exact ⟨t, ht, v, hr, hq⟩
  · rintro ⟨t, ht, v, hr, hq⟩
    exact ⟨v, (c1 v).2 ⟨t, ht, hr⟩, hq⟩

theorem acts_runsAll (n : Nat) (S : Nat → Bool) : Acts n (runsAll S) (fun t w => w = t ∧ S w = true) := fun I hI => by
  refine ⟨good_flatMap n I (fun p => runs S p.1 p.2) hI (fun p hp r hr => ?_) (fun p _ => (runs_struct S p.1 p.2).2)
    (fun q _ t ht => ?_), fun w => (runsAll_covered S I w).trans
      ⟨fun h => ⟨w, h.1, rfl, h.2⟩, by rintro ⟨t, ht, rfl, h⟩; exact ⟨ht, h⟩⟩⟩
  · have := (runs_struct S p.1 p.2).1 r hr
    have := hI.1 p hp
    omega
  · rw [runs_covered] at ht
    refine ⟨t, ht.1, fun p _ h1 h2 => (runs_covered S p.1 p.2 t).2 ⟨⟨h1, h2⟩, ht.2⟩, fun p _ r hr => ?_⟩
    have := (runs_struct S p.1 p.2).1 r hr
    omega

/-- What the windows of the bounded operators have in common, as maps `(x, y) ↦ (g x, g' y)` on intervals: `g`, `g'` are
    monotone, and every position `t` of the image of an interval is the image of a position `u` of it - placed left of whatever
    begins right of `t` and right of whatever ends left of it - such that the image of every interval around `u` is around `t`. -/
def Shift (g g' : Nat → Nat) : Prop :=
  (∀ x y, x ≤ y → g x ≤ g y ∧ g' x ≤ g' y) ∧
  ∀ q₁ q₂ t, q₁ ≤ q₂ → g q₁ ≤ t → t ≤ g' q₂ → ∃ u, (q₁ ≤ u ∧ u ≤ q₂) ∧ (∀ x, t < g x → u < x) ∧
    (∀ y, g' y < t → y < u) ∧ ∀ x y, x ≤ u → u ≤ y → g x ≤ t ∧ t ≤ g' y

theorem fwd_shift (n : Nat) {a b : Nat} (hab : a ≤ b) :
    Shift (fun x => min (x + a) (n - 1)) (fun y => min (y + b) (n - 1)) := by
  refine ⟨fun x y h => by dsimp only; omega, fun q₁ q₂ t hq h1 h2 => ?_⟩
  simp only [le_min_iff, min_le_iff, lt_min_iff, min_lt_iff] at h1 h2 ⊢
  -- `t - b` where that lies in the interval, else its begin
  by_cases h : q₁ + b ≤ t
  · obtain ⟨u, rfl⟩ : ∃ u, t = u + b := ⟨t - b, by omega⟩
    exact ⟨u, by omega, fun x _ => by omega, fun y _ => by omega, fun x y _ _ => by omega⟩
  · exact ⟨q₁, by omega, fun x _ => by omega, fun y _ => by omega, fun x y _ _ => by omega⟩

theorem bwd_shift {a b : Nat} (hab : a ≤ b) : Shift (· - b) (· - a) := by
  refine ⟨fun x y h => by dsimp only; omega, fun q₁ q₂ t hq h1 h2 => ?_⟩
  beta_reduce at h1 h2 ⊢
  simp only [Nat.sub_le_iff_le_add, Nat.lt_sub_iff_add_lt] at h1 ⊢
  -- `t + a` where that lies in the interval, else its begin
  by_cases h : q₁ ≤ t + a ∧ 0 < t
  · exact ⟨t + a, by omega, fun x _ => by omega, fun y _ => by omega, fun x y _ _ => by omega⟩
  · exact ⟨q₁, by omega, fun x _ => by omega, fun y _ => by omega, fun x y _ _ => by omega⟩

theorem Shift.acts {g g' : Nat → Nat} (h : Shift g g') (n : Nat) (hb : ∀ x y, x ≤ y → y < n → g x ≤ g' y ∧ g' y < n) :
    Acts n (fun I => I.flatMap fun p => [(g p.1, g' p.2)]) (fun t w => g t ≤ w ∧ w ≤ g' t) := fun I hI => by
  refine ⟨good_flatMap n I _ hI (fun p hp r hr => ?_) (fun p _ => dj_singleton _) (fun q hq t ht => ?_), fun w => ?_⟩
  · rw [List.mem_singleton.1 hr]
    exact hb _ _ (hI.1 p hp).1 (hI.1 p hp).2
  · obtain ⟨h1, h2⟩ := (covered_singleton ..).1 ht
    obtain ⟨u, hu, hl, hr, hc⟩ := h.2 q.1 q.2 t (hI.1 q hq).1 h1 h2
    refine ⟨u, hu, fun p _ h1 h2 => (covered_singleton ..).2 (hc _ _ h1 h2), fun p hp r hr' => ?_⟩
    rw [List.mem_singleton.1 hr']
    have := (hI.1 p hp).1
    exact ⟨fun hlt => by have := hl _ hlt; omega, fun hlt => by have := hr _ hlt; omega⟩
  · rw [covered_flatMap]
    constructor
    · rintro ⟨p, hp, hw⟩
      obtain ⟨h1, h2⟩ := (covered_singleton ..).1 hw
      obtain ⟨u, hu, _, _, hc⟩ := h.2 p.1 p.2 w (hI.1 p hp).1 h1 h2
      exact ⟨u, ⟨p, hp, hu⟩, hc u u le_rfl le_rfl⟩
    · rintro ⟨t, ⟨p, hp, h1, h2⟩, h3, h4⟩
      exact ⟨p, hp, (covered_singleton ..).2 ⟨le_trans (h.1 _ _ h1).1 h3, le_trans h4 (h.1 _ _ h2).2⟩⟩

def nextBlock (n : Nat) (p : Nat × Nat) : Ivs :=
  if p.1 < n - 1 ∧ p.2 < n - 1 then [(p.1 + 1, p.2 + 1)]
  else if p.1 < n - 1 ∧ n - 1 ≤ p.2 then [(p.1 + 1, p.2)] else []

def prevBlock (p : Nat × Nat) : Ivs :=
  if p.1 > 0 ∧ p.2 > 0 then [(p.1 - 1, p.2 - 1)]
  else if p.1 ≤ 0 ∧ p.2 > 0 then [(p.1, p.2 - 1)] else []

theorem explNext_eq (n : Nat) (I : Ivs) : explNext n I = I.flatMap (nextBlock n) := by
  unfold explNext
  rw [List.filterMap_eq_flatMap_toList]
  congr 1
  funext ⟨b, e⟩
  simp only [nextBlock]
  split_ifs <;> rfl

theorem explPrev_eq (I : Ivs) : explPrev I = I.flatMap prevBlock := by
  unfold explPrev
  rw [List.filterMap_eq_flatMap_toList]
  congr 1
  funext ⟨b, e⟩
  simp only [prevBlock]
  split_ifs <;> rfl

theorem nextBlock_covered (n : Nat) (p : Nat × Nat) (hp : p.1 ≤ p.2 ∧ p.2 < n) (t : Nat) :
    covered (nextBlock n p) t ↔ 1 ≤ t ∧ t < n ∧ p.1 ≤ t - 1 ∧ t - 1 ≤ p.2 := by
  obtain ⟨hp1, hp2⟩ := hp
  unfold nextBlock
  split_ifs with h1 h2
  · rw [covered_singleton]; omega
  · rw [covered_singleton]; omega
  · constructor
    · intro h; exact absurd h (covered_nil t)
    · intro h; omega

theorem prevBlock_covered (p : Nat × Nat) (t : Nat) :
    covered (prevBlock p) t ↔ p.1 ≤ t + 1 ∧ t + 1 ≤ p.2 := by
  unfold prevBlock
  split_ifs with h1 h2
  · rw [covered_singleton]; omega
  · rw [covered_singleton]; omega
  · constructor
    · intro h; exact absurd h (covered_nil t)
    · intro h; omega

theorem nextBlock_mem (n : Nat) (p r : Nat × Nat) (hp : p.1 ≤ p.2 ∧ p.2 < n) (hr : r ∈ nextBlock n p) :
    r.1 = p.1 + 1 ∧ r.1 ≤ r.2 ∧ r.2 < n ∧ (r.2 = p.2 + 1 ∨ r.2 = n - 1) := by
  unfold nextBlock at hr
  split_ifs at hr with h1 h2
  · rw [List.mem_singleton] at hr; subst hr
    refine ⟨rfl, ?_, ?_, ?_⟩ <;> dsimp only <;> omega
  · rw [List.mem_singleton] at hr; subst hr
    refine ⟨rfl, ?_, ?_, ?_⟩ <;> dsimp only <;> omega
  · cases hr

theorem prevBlock_mem (p r : Nat × Nat) (hp : p.1 ≤ p.2) (hr : r ∈ prevBlock p) :
    r.1 = p.1 - 1 ∧ r.1 ≤ r.2 ∧ r.2 + 1 = p.2 := by
  unfold prevBlock at hr
  split_ifs at hr with h1 h2
  · rw [List.mem_singleton] at hr; subst hr
    refine ⟨?_, ?_, ?_⟩ <;> dsimp only <;> omega
  · rw [List.mem_singleton] at hr; subst hr
    refine ⟨?_, ?_, ?_⟩ <;> dsimp only <;> omega
  · cases hr

theorem dj_block_next (n : Nat) (p : Nat × Nat) : Dj (nextBlock n p) := by
  unfold nextBlock
  split_ifs <;> simp [Dj]

theorem dj_block_prev (p : Nat × Nat) : Dj (prevBlock p) := by
  unfold prevBlock
  split_ifs <;> simp [Dj]

theorem acts_next (n : Nat) : Acts n (explNext n) (fun t w => w = t + 1 ∧ w < n) := fun I hI => by
  have hI1 := hI.1
  rw [explNext_eq]
  refine ⟨good_flatMap n I _ hI (fun p hp r hr => ?_) (fun p _ => dj_block_next n p) (fun q hq t ht => ?_), fun w => ?_⟩
  · have := nextBlock_mem n p r (hI1 p hp) hr
    omega
  · rw [nextBlock_covered n q (hI1 q hq)] at ht
    refine ⟨t - 1, by omega, fun p hp h1 h2 => ?_, fun p hp r hr => ?_⟩
    · rw [nextBlock_covered n p (hI1 p hp)]; omega
    · have := nextBlock_mem n p r (hI1 p hp) hr
      have := hI1 p hp
      omega
  · rw [covered_flatMap]
    constructor
    · rintro ⟨p, hp, h⟩
      rw [nextBlock_covered n p (hI1 p hp)] at h
      exact ⟨w - 1, ⟨p, hp, h.2.2⟩, by omega, h.2.1⟩
    · rintro ⟨t, ⟨p, hp, h⟩, rfl, h2⟩
      exact ⟨p, hp, (nextBlock_covered n p (hI1 p hp) _).2 ⟨by omega, h2, h⟩⟩

theorem acts_prev (n : Nat) : Acts n explPrev (fun t w => w + 1 = t) := fun I hI => by
  have hI1 := hI.1
  rw [explPrev_eq]
  refine ⟨good_flatMap n I _ hI (fun p hp r hr => ?_) (fun p _ => dj_block_prev p) (fun q hq t ht => ?_), fun w => ?_⟩
  · have := prevBlock_mem p r (hI1 p hp).1 hr
    have := hI1 p hp
    omega
  · rw [prevBlock_covered q] at ht
    refine ⟨t + 1, by omega, fun p hp h1 h2 => ?_, fun p hp r hr => ?_⟩
    · rw [prevBlock_covered p]; omega
    · have := prevBlock_mem p r (hI1 p hp).1 hr
      omega
  · rw [covered_flatMap]
    simp only [prevBlock_covered]
    exact ⟨fun ⟨p, hp, h⟩ => ⟨w + 1, ⟨p, hp, h⟩, rfl⟩, by rintro ⟨t, ⟨p, hp, h⟩, rfl⟩; exact ⟨p, hp, h⟩⟩

theorem good_lt (n : Nat) (I : Ivs) (hI : Good n I) (t : Nat) (ht : covered I t) : t < n := by
  obtain ⟨p, hp, h⟩ := ht
  have := hI.1 p hp
  omega

/-- The positions `w` of the operand that a visit at position `t` depends on. -/
def Win.rel (n a b : Nat) : Win → Nat → Nat → Prop
  | .same, t, w => w = t
  | .next, t, w => w = t + 1 ∧ w < n
  | .prev, t, w => w + 1 = t
  | .toEnd, t, w => t ≤ w ∧ w < n
  | .fromZero, t, w => w ≤ t
  | .fwd, t, w => min (t + a) (n - 1) ≤ w ∧ w ≤ min (t + b) (n - 1)
  | .bwd, t, w => t - b ≤ w ∧ w ≤ t - a

theorem acts_first (n a b : Nat) : Acts n (Win.ivs n a b .toEnd) (Win.rel n a b .toEnd) := fun I hI => by
  cases I with
  | nil => exact ⟨good_nil n, fun w => ⟨fun h => absurd h (covered_nil w), fun ⟨t, ht, _⟩ => absurd ht (covered_nil t)⟩⟩
  | cons p R =>
    have hp := hI.1 p List.mem_cons_self
    refine ⟨good_singleton n p.1 (n - 1) (by omega) (by omega), fun w => ?_⟩
    show covered [(p.1, n - 1)] w ↔ ∃ t, covered (p :: R) t ∧ t ≤ w ∧ w < n
    rw [covered_singleton]
    constructor
    · exact fun h => ⟨p.1, ⟨p, List.mem_cons_self, le_rfl, hp.1⟩, h.1, by omega⟩
    · rintro ⟨t, ht, h1, h2⟩
      -- the first interval of a well-formed list begins first
      have : p.1 ≤ t := by
        by_contra hlt
        exact covered_nil t (hI.2.1 [] p R rfl t ht (by omega))
      omega

theorem acts_last (n a b : Nat) : Acts n (Win.ivs n a b .fromZero) (Win.rel n a b .fromZero) := fun I hI => by
  rcases List.eq_nil_or_concat I with rfl | ⟨L, q, rfl⟩
  · exact ⟨good_nil n, fun w => ⟨fun h => absurd h (covered_nil w), fun ⟨t, ht, _⟩ => absurd ht (covered_nil t)⟩⟩
  · rw [List.concat_eq_append] at hI ⊢
    have hq := hI.1 q (by simp)
    rw [show Win.ivs n a b .fromZero (L ++ [q]) = [(0, q.2)] by simp [Win.ivs, lastEnd]]
    refine ⟨good_singleton n 0 q.2 (Nat.zero_le _) hq.2, fun w => ?_⟩
    rw [covered_singleton]
    constructor
    · exact fun h => ⟨q.2, ⟨q, by simp, hq.1, le_rfl⟩, h.2⟩
    · rintro ⟨t, ht, (h1 : w ≤ t)⟩
      -- and its last interval ends last
      have : t ≤ q.2 := by
        by_contra hlt
        exact covered_nil t (hI.2.2 L q [] rfl t ht (by omega))
      omega

theorem Win.acts (n : Nat) {a b : Nat} (hab : a ≤ b) : ∀ (W : Win), Acts n (W.ivs n a b) (W.rel n a b)
  | .same => fun I hI => ⟨hI, fun w => ⟨fun h => ⟨w, h, rfl⟩, by rintro ⟨t, ht, rfl⟩; exact ht⟩⟩
  | .next => acts_next n
  | .prev => acts_prev n
  | .toEnd => acts_first n a b
  | .fromZero => acts_last n a b
  | .fwd => fun I hI => by
    rw [show Win.ivs n a b .fwd I = I.flatMap fun p => [(min (p.1 + a) (n - 1), min (p.2 + b) (n - 1))] from List.map_eq_flatMap]
    exact (fwd_shift n hab).acts n (fun x y _ _ => by omega) I hI
  | .bwd => fun I hI => by
    rw [show Win.ivs n a b .bwd I = I.flatMap fun p => [(p.1 - b, p.2 - a)] from List.map_eq_flatMap]
    exact (bwd_shift hab).acts n (fun x y _ _ => by omega) I hI

/-- `u` changes the representation of a well-formed list, not what it covers. -/
abbrev KeepsCover (n : Nat) (u : Ivs → Ivs) : Prop := Acts n u (fun t w => w = t)

theorem keepsCover_id (n : Nat) : KeepsCover n id := Win.acts n (Nat.le_refl 0) .same

/-- What the operand of a rule is explained on, position by position. -/
def Rule.rel (r : Rule) (n a b : Nat) (s : Nat → α) (flag : Bool) (t w : Nat) : Prop :=
  r.win.rel n a b t w ∧ (r.selects flag = true → polTest (r.flag flag) (s w) = true)

omit [LawfulVal α] in
theorem Rule.acts {n a b : Nat} (r : Rule) (hab : a ≤ b) {u : Ivs → Ivs} (hu : KeepsCover n u) (s : Nat → α) (flag : Bool) :
    Acts n (r.ivs u n a b s flag) (r.rel n a b s flag) := fun I hI => by
  have hw := Win.acts n hab r.win
  have h : Good n (bif r.selects flag then runsAll (fun i => polTest (r.flag flag) (s i)) (r.win.ivs n a b I) else r.win.ivs n a b I) ∧
      ∀ w, covered (bif r.selects flag then runsAll (fun i => polTest (r.flag flag) (s i)) (r.win.ivs n a b I) else r.win.ivs n a b I) w ↔
        ∃ t, covered I t ∧ r.rel n a b s flag t w := by
    unfold Rule.rel
    cases r.selects flag
    · simpa using hw I hI
    · obtain ⟨g, c⟩ := (hw.comp (acts_runsAll n _)) I hI
      refine ⟨g, fun w => (c w).trans ⟨?_, ?_⟩⟩
      · rintro ⟨t, ht, v, h1, rfl, h2⟩
        exact ⟨t, ht, h1, fun _ => h2⟩
      · rintro ⟨t, ht, h1, h2⟩
        exact ⟨t, ht, w, h1, rfl, h2 rfl⟩
  unfold Rule.ivs
  cases r.win.timed
  · exact h
  · obtain ⟨g, c⟩ := hu _ h.1
    refine ⟨g, fun w => (c w).trans ⟨?_, fun h' => ⟨w, (h.2 w).2 h', rfl⟩⟩⟩
    rintro ⟨v, hv, rfl⟩
    exact (h.2 _).1 hv

theorem isUnsat_iff (v : α) : isUnsat v = true ↔ v < Val.zero := LawfulVal.lt_iff _ _

theorem isUnsat_false_iff (v : α) : isUnsat v = false ↔ Val.zero ≤ v := by
  rw [← not_lt, ← isUnsat_iff, Bool.not_eq_true]

theorem isSat_iff (v : α) : isSat v = true ↔ Val.zero ≤ v := by
  unfold isSat
  rw [Bool.not_eq_true', ← isUnsat_false_iff]; rfl

theorem isSat_false_iff (v : α) : isSat v = false ↔ v < Val.zero := by
  unfold isSat
  rw [Bool.not_eq_false', LawfulVal.lt_iff]

theorem neg_lt_zero_iff (hz : Val.neg (Val.zero : α) = Val.zero) (v : α) :
    Val.neg v < Val.zero ↔ Val.zero < v := by
  rw [← not_le, ← not_le, not_iff_not]
  conv_lhs => rw [← hz]
  exact neg_le_neg_iff _ _

theorem zero_lt_neg_iff (hz : Val.neg (Val.zero : α) = Val.zero) (v : α) :
    Val.zero < Val.neg v ↔ v < Val.zero := by
  rw [← not_le, ← not_le, not_iff_not]
  conv_lhs => rw [← hz]
  exact neg_le_neg_iff _ _

/-- Monotone preservation: `v'` is "at least as satisfied" as a strictly satisfied `v`
    (`flag = true`), resp. "at least as violated" as a violated `v` (`flag = false`). -/
def pres (flag : Bool) (v v' : α) : Prop :=
  if flag then (Val.zero < v → v ≤ v') else (v < Val.zero → v' ≤ v)

theorem pres_of_eq (flag : Bool) {v v' : α} (h : v' = v) : pres flag v v' := by
  subst h; unfold pres; split <;> intro _ <;> exact le_rfl

theorem pres_neg (hz : Val.neg (Val.zero : α) = Val.zero) (flag : Bool) {v v' : α}
    (h : pres (!flag) v v') : pres flag (Val.neg v) (Val.neg v') := by
  cases flag with
  | false =>
    intro h'
    exact (neg_le_neg_iff _ _).2 (h ((neg_lt_zero_iff hz v).1 h'))
  | true =>
    intro h'
    exact (neg_le_neg_iff _ _).2 (h ((zero_lt_neg_iff hz v).1 h'))

theorem pres_pmin (flag : Bool) {a a' b b' : α} (ha : pres flag a a') (hb : pres flag b b') :
    pres flag (pmin a b) (pmin a' b') := by
  rw [pmin_eq, pmin_eq]
  cases flag with
  | true =>
    intro h
    rw [lt_min_iff] at h
    exact min_le_min (ha h.1) (hb h.2)
  | false =>
    intro h
    rcases le_total a b with hab | hab
    · rw [min_eq_left hab] at h ⊢
      exact le_trans (min_le_left _ _) (ha h)
    · rw [min_eq_right hab] at h ⊢
      exact le_trans (min_le_right _ _) (hb h)

/-- `pres flag` read in `αᵒᵈ` is `pres (!flag)`, and `pmin` there is `pmax`. -/
theorem pres_pmax (flag : Bool) {a a' b b' : α} (ha : pres flag a a') (hb : pres flag b b') :
    pres flag (pmax a b) (pmax a' b') := by
  cases flag
  · exact pres_pmin (α := αᵒᵈ) true ha hb
  · exact pres_pmin (α := αᵒᵈ) false ha hb

theorem minOver_le (lo hi : Nat) (f : Nat → α) (w : Nat) (h1 : lo ≤ w) (h2 : w < hi) :
    minOver lo hi f ≤ f w := (le_minOver_iff lo hi f _).1 le_rfl w h1 h2

theorem pres_minOver (flag : Bool) (lo hi : Nat) (f f' : Nat → α)
    (h : ∀ w, lo ≤ w → w < hi → pres flag (f w) (f' w)) :
    pres flag (minOver lo hi f) (minOver lo hi f') := by
  cases flag with
  | true =>
    intro h0
    rw [le_minOver_iff]
    intro w h1 h2
    have hw := minOver_le lo hi f w h1 h2
    exact le_trans hw (h w h1 h2 (lt_of_lt_of_le h0 hw))
  | false =>
    intro h0
    -- otherwise `min (minOver lo hi f') 0` would be a lower bound of `f` above its minimum
    by_contra hlt
    refine absurd ((le_minOver_iff lo hi f _).2 fun w h1 h2 => ?_) (not_le.2 (lt_min (not_le.1 hlt) h0))
    by_cases hw : f w < Val.zero
    · exact le_trans (min_le_left _ _) (le_trans (minOver_le lo hi f' w h1 h2) (h w h1 h2 hw))
    · exact le_trans (min_le_right _ _) (not_lt.1 hw)

theorem pres_maxOver (flag : Bool) (lo hi : Nat) (f f' : Nat → α)
    (h : ∀ w, lo ≤ w → w < hi → pres flag (f w) (f' w)) :
    pres flag (maxOver lo hi f) (maxOver lo hi f') := by
  cases flag
  · exact pres_minOver (α := αᵒᵈ) true lo hi f f' h
  · exact pres_minOver (α := αᵒᵈ) false lo hi f f' h

theorem both_ok {x y : Except Unit (List (String × Ivs))} {ex : List (String × Ivs)}
    (h : (do let a ← x; let b ← y; pure (a ++ b)) = .ok ex) :
    ∃ a b, x = .ok a ∧ y = .ok b ∧ ex = a ++ b := by
  cases x with
  | error e => cases h
  | ok a =>
    cases y with
    | error e => cases h
    | ok b =>
      refine ⟨a, b, rfl, rfl, ?_⟩
      cases h; rfl

theorem reported_append (a b : List (String × Ivs)) (x : String) (t : Nat) :
    reported (a ++ b) x t = (reported a x t || reported b x t) := by
  unfold reported; rw [List.any_append]

theorem reported_single (x z : String) (I : Ivs) (t : Nat) :
    reported [(x, I)] z t = true ↔ (x == z) = true ∧ covered I t := by
  simp [reported, covered]

omit [Val α] [LawfulVal α] in
theorem hag_left {σ σ' : String → Nat → α} {n : Nat} {a b : List (String × Ivs)}
    (hag : ∀ x t, reported (a ++ b) x t = true → t < n → σ' x t = σ x t) :
    ∀ x t, reported a x t = true → t < n → σ' x t = σ x t :=
  fun x t h => hag x t (by rw [reported_append, h]; rfl)

omit [Val α] [LawfulVal α] in
theorem hag_right {σ σ' : String → Nat → α} {n : Nat} {a b : List (String × Ivs)}
    (hag : ∀ x t, reported (a ++ b) x t = true → t < n → σ' x t = σ x t) :
    ∀ x t, reported b x t = true → t < n → σ' x t = σ x t :=
  fun x t h => hag x t (by rw [reported_append, h]; simp)

omit [LawfulVal α] in
/-- Without the union the exact variant is the mirror. -/
theorem explainU_id (σ : String → Nat → α) (n : Nat) (φ : F α) (I : Ivs) (flag : Bool) :
    explainU id σ n φ I flag = explain σ n φ I flag := by
  induction φ generalizing I flag with
  | var x => rfl
  | const c => rfl
  | un op φ ih => cases op <;> exact ih _ _
  | bin op φ ψ ih1 ih2 =>
    have both : ∀ f I₁ I₂, (do let a ← explainU id σ n φ I₁ f; let b ← explainU id σ n ψ I₂ flag; pure (a ++ b)) =
        (do let a ← explain σ n φ I₁ f; let b ← explain σ n ψ I₂ flag; pure (a ++ b)) :=
      fun f I₁ I₂ => by rw [ih1, ih2]
    cases op <;> cases flag <;> exact both _ _ _
  | tmp1 op φ ih => cases op <;> cases flag <;> exact ih _ _
  | tmp2 op φ ψ ih1 ih2 => rfl
  | tb1 op a b φ ih => cases op <;> cases flag <;> exact ih _ _
  | tb2 op a b φ ψ ih1 ih2 => rfl

/-! ### arithmetic terms

  The operands of a predicate are arithmetic terms.  A term is explained in closed form - every variable of it with the list
  it was handed - and its value at `t` depends on its variables at `t` only. -/

omit [LawfulVal α] in
theorem explainU_term (u : Ivs → Ivs) (σ : String → Nat → α) (n : Nat) (I : Ivs) :
    ∀ (φ : F α), φ.explTerm = true → ∀ flag, explainU u σ n φ I flag = .ok (φ.vars.map (·, I))
  | .var _, _, _ => rfl
  | .const _, _, _ => rfl
  | .un op φ, h, flag => by
    simp only [F.explTerm, Bool.and_eq_true] at h
    have hr : op.kind.rule = { win := .same } := by cases op <;> first | rfl | exact absurd h.1 (by decide)
    rw [explainU_un, hr]
    exact explainU_term u σ n I φ h.2 flag
  | .bin op φ ψ, h, flag => by
    simp only [F.explTerm, Bool.and_eq_true] at h
    have hr : op.kind.rules = ({ win := .same }, { win := .same }) := by
      cases op <;> first | rfl | exact absurd h.1.1 (by decide)
    rw [explainU_bin, hr]
    show (do let a ← explainU u σ n φ I flag; let b ← explainU u σ n ψ I flag; pure (a ++ b)) = _
    rw [explainU_term u σ n I φ h.1.2 flag, explainU_term u σ n I ψ h.2 flag, F.vars, List.map_append]; rfl

omit [LawfulVal α] in
theorem rho_term (σ σ' : String → Nat → α) (n t : Nat) :
    ∀ (φ : F α), φ.explTerm = true → (∀ x ∈ φ.vars, σ' x t = σ x t) → rho σ' n φ t = rho σ n φ t
  | .var x, _, h => h x (List.mem_singleton.2 rfl)
  | .const _, _, _ => rfl
  | .un op φ, ht, h => by
    simp only [F.explTerm, Bool.and_eq_true] at ht
    exact congrArg op.app (rho_term σ σ' n t φ ht.2 h)
  | .bin op φ ψ, ht, h => by
    simp only [F.explTerm, Bool.and_eq_true] at ht
    show op.app _ _ = op.app _ _
    rw [rho_term σ σ' n t φ ht.1.2 fun x hx => h x (List.mem_append_left _ hx),
      rho_term σ σ' n t ψ ht.2 fun x hx => h x (List.mem_append_right _ hx)]

omit [LawfulVal α] in
/-- A predicate over terms: at a covered position its value is that on the original trace. -/
theorem pred_exact (u : Ivs → Ivs) (σ σ' : String → Nat → α) (n : Nat) (c : Cmp) (φ ψ : F α)
    (hf : (F.bin (.pred c) φ ψ).explFrag = true) (I : Ivs) (flag : Bool) (ex : List (String × Ivs))
    (hex : explainU u σ n (.bin (.pred c) φ ψ) I flag = .ok ex) (hI : Good n I)
    (hag : ∀ x t, reported ex x t = true → t < n → σ' x t = σ x t) (t : Nat) (ht : covered I t) :
    rho σ' n (.bin (.pred c) φ ψ) t = rho σ n (.bin (.pred c) φ ψ) t := by
  simp only [F.explFrag, Bool.and_eq_true] at hf
  have e : explainU u σ n (.bin (.pred c) φ ψ) I flag = .ok ((φ.vars ++ ψ.vars).map (·, I)) := by
    rw [explainU_bin]
    show (do let a ← explainU u σ n φ I flag; let b ← explainU u σ n ψ I flag; pure (a ++ b)) = _
    rw [explainU_term u σ n I φ hf.1 flag, explainU_term u σ n I ψ hf.2 flag, List.map_append]; rfl
  cases hex.symm.trans e
  have hv : ∀ x ∈ φ.vars ++ ψ.vars, σ' x t = σ x t := fun x hx =>
    hag x t (List.any_eq_true.2 ⟨(x, I), List.mem_map.2 ⟨x, hx, rfl⟩, by
      obtain ⟨p, hp, h⟩ := ht
      simpa using ⟨p.1, p.2, hp, h⟩⟩) (good_lt n I hI t ht)
  show c.app _ _ = c.app _ _
  rw [rho_term σ σ' n t φ hf.1 fun x hx => hv x (List.mem_append_left _ hx),
    rho_term σ σ' n t ψ hf.2 fun x hx => hv x (List.mem_append_right _ hx)]

omit [Val α] [LawfulVal α] in
theorem rel_ite {R : α → α → Prop} {c : Prop} [Decidable c] {a a' b b' : α} (ha : c → R a a')
    (hb : ¬ c → R b b') : R (if c then a else b) (if c then a' else b') := by
  split
  · exact ha ‹_›
  · exact hb ‹_›

/-- If the values of the operand are preserved where the rule explains it, they are preserved at every position the window
    relates to a covered one: a position the selection leaves out has the other polarity, and `pres` asks nothing there. -/
theorem Rule.preserves {n a b : Nat} (r : Rule) (hab : a ≤ b) {u : Ivs → Ivs} (hu : KeepsCover n u) {flag : Bool} {I : Ivs}
    (hI : Good n I) {s s' : Nat → α} (h : ∀ w, covered (r.ivs u n a b s flag I) w → pres (r.flag flag) (s w) (s' w))
    {t : Nat} (ht : covered I t) {w : Nat} (hw : r.win.rel n a b t w) : pres (r.flag flag) (s w) (s' w) := by
  have hc : polTest (r.flag flag) (s w) = true → covered (r.ivs u n a b s flag I) w := fun hp =>
    ((r.acts hab hu s flag I hI).2 w).2 ⟨t, ht, hw, fun _ => hp⟩
  cases hf : r.flag flag <;> rw [hf] at hc h
  · exact fun h0 => h w (hc ((isUnsat_iff _).2 h0)) h0
  · exact fun h0 => h w (hc ((isSat_iff _).2 (le_of_lt h0))) h0

/-- The invariant behind C20, whatever `u` does to the representation of the lists: where a trace agrees with `σ` on what
    is reported, the value of `φ` at every position of `I` moves away from `0` on the side of `flag`, if at all (`pres`).
    Per operator one fact about its semantics is left: a minimum, a maximum, a negation, a conditional. -/
theorem C20_monoU (hz : Val.neg (Val.zero : α) = Val.zero) (σ σ' : String → Nat → α) (n : Nat) {u : Ivs → Ivs} (hu : KeepsCover n u) :
    ∀ (φ : F α), φ.explFrag = true →
      ∀ (I : Ivs) (flag : Bool) (ex : List (String × Ivs)),
      explainU u σ n φ I flag = .ok ex → Good n I →
      (∀ x t, reported ex x t = true → t < n → σ' x t = σ x t) →
      ∀ t, covered I t → pres flag (rho σ n φ t) (rho σ' n φ t)
  | .var _, hf, _, _, _, _, _, _, _, _ => by simp [F.explFrag] at hf
  | .const _, hf, _, _, _, _, _, _, _, _ => by simp [F.explFrag] at hf
  | .un op φ, hf, I, flag, ex, hex, hI, hag, t, ht => by
    simp only [F.explFrag, Bool.and_eq_true] at hf
    cases op <;> try (simp at hf; done)
    rw [explainU_un] at hex
    exact pres_neg hz flag (Rule.preserves _ le_rfl hu hI
      (C20_monoU hz σ σ' n hu φ hf.2 _ _ ex hex (Rule.acts _ le_rfl hu _ _ I hI).1 hag) ht rfl)
  | .bin op φ ψ, hf, I, flag, ex, hex, hI, hag, t, ht => by
    cases op
    case pred c => exact pres_of_eq flag (pred_exact u σ σ' n c φ ψ hf I flag ex hex hI hag t ht)
    case' and | or | implies =>
      simp only [F.explFrag, Bool.and_eq_true] at hf
      rw [explainU_bin] at hex
      obtain ⟨a, b, h1, h2, rfl⟩ := both_ok hex
      have p1 := Rule.preserves _ le_rfl hu hI (C20_monoU hz σ σ' n hu φ hf.1 _ _ a h1 (Rule.acts _ le_rfl hu _ _ I hI).1
        (hag_left hag)) ht (show Win.rel n 0 0 .same t t from rfl)
      have p2 := Rule.preserves _ le_rfl hu hI (C20_monoU hz σ σ' n hu ψ hf.2 _ _ b h2 (Rule.acts _ le_rfl hu _ _ I hI).1
        (hag_right hag)) ht (show Win.rel n 0 0 .same t t from rfl)
    -- a minimum, a maximum, the maximum of the negated antecedent and the consequent
    case and => exact pres_pmin flag p1 p2
    case or => exact pres_pmax flag p1 p2
    case implies => exact pres_pmax flag (pres_neg hz flag p1) p2
    all_goals simp [F.explFrag] at hf
  | .tmp1 op φ, hf, I, flag, ex, hex, hI, hag, t, ht => by
    simp only [F.explFrag, Bool.and_eq_true] at hf
    rw [explainU_tmp1] at hex
    have p := fun w => Rule.preserves _ le_rfl hu hI
      (C20_monoU hz σ σ' n hu φ hf.2 _ _ ex hex (Rule.acts _ le_rfl hu _ _ I hI).1 hag) ht (w := w)
    rw [show op.kind.rule.flag flag = flag by cases op <;> rfl] at p
    cases op with
    | rise | fall => simp at hf
    | prev | sprev => exact rel_ite (fun _ => pres_of_eq flag rfl) fun h0 => p _ (show t - 1 + 1 = t by omega)
    | next | snext => exact rel_ite (fun h0 => p _ ⟨rfl, h0⟩) fun _ => pres_of_eq flag rfl
    | alw => exact pres_minOver flag t n _ _ fun w h1 h2 => p w ⟨h1, h2⟩
    | ev => exact pres_maxOver flag t n _ _ fun w h1 h2 => p w ⟨h1, h2⟩
    | hist => exact pres_minOver flag 0 (t + 1) _ _ fun w _ h2 => p w (show w ≤ t by omega)
    | once => exact pres_maxOver flag 0 (t + 1) _ _ fun w _ h2 => p w (show w ≤ t by omega)
  | .tmp2 _ _ _, hf, _, _, _, _, _, _, _, _ => by simp [F.explFrag] at hf
  | .tb1 op a b φ, hf, I, flag, ex, hex, hI, hag, t, ht => by
    simp only [F.explFrag, Bool.and_eq_true, decide_eq_true_eq] at hf
    rw [explainU_tb1] at hex
    have p := fun w => Rule.preserves _ hf.1 hu hI
      (C20_monoU hz σ σ' n hu φ hf.2 _ _ ex hex (Rule.acts _ hf.1 hu _ _ I hI).1 hag) ht (w := w)
    rw [show op.kind.rule.flag flag = flag by cases op <;> rfl] at p
    have := good_lt n I hI t ht
    cases op with
    | alw => exact pres_minOver flag _ _ _ _ fun w h1 h2 => p w (show min (t + a) (n - 1) ≤ w ∧ w ≤ min (t + b) (n - 1) by omega)
    | ev => exact pres_maxOver flag _ _ _ _ fun w h1 h2 => p w (show min (t + a) (n - 1) ≤ w ∧ w ≤ min (t + b) (n - 1) by omega)
    | hist => exact pres_minOver flag _ _ _ _ fun w h1 h2 => p w (show t - b ≤ w ∧ w ≤ t - a by omega)
    | once => exact pres_maxOver flag _ _ _ _ fun w h1 h2 => p w (show t - b ≤ w ∧ w ≤ t - a by omega)
  | .tb2 _ _ _ _ _, hf, _, _, _, _, _, _, _, _ => by simp [F.explFrag] at hf

/-- `C20_monoU` for the mirror `explain`.  `Good n I` and `neg 0 = 0` are needed: see the counterexamples below. -/
theorem C20_mono (hz : Val.neg (Val.zero : α) = Val.zero) (σ σ' : String → Nat → α) (n : Nat) :
    ∀ (φ : F α), φ.explFrag = true →
      ∀ (I : Ivs) (flag : Bool) (ex : List (String × Ivs)),
      explain σ n φ I flag = .ok ex → Good n I →
      (∀ x t, reported ex x t = true → t < n → σ' x t = σ x t) →
      ∀ t, covered I t → pres flag (rho σ n φ t) (rho σ' n φ t) :=
  fun φ hf I flag ex hex => C20_monoU hz σ σ' n (keepsCover_id n) φ hf I flag ex ((explainU_id σ n φ I flag).trans hex)

theorem both_ok_intro {x y : Except Unit (List (String × Ivs))}
    (hx : ∃ a, x = .ok a) (hy : ∃ b, y = .ok b) :
    ∃ ex, (do let a ← x; let b ← y; pure (a ++ b)) = .ok ex := by
  obtain ⟨a, rfl⟩ := hx
  obtain ⟨b, rfl⟩ := hy
  exact ⟨a ++ b, rfl⟩

omit [LawfulVal α] in
theorem explainU_ok_frag (u : Ivs → Ivs) (σ : String → Nat → α) (n : Nat) :
    ∀ (φ : F α), φ.explFrag = true → ∀ (I : Ivs) (flag : Bool), ∃ ex, explainU u σ n φ I flag = .ok ex
  | .var _, hf, _, _ => by simp [F.explFrag] at hf
  | .const _, hf, _, _ => by simp [F.explFrag] at hf
  | .un op φ, hf, I, flag => by
    simp only [F.explFrag, Bool.and_eq_true] at hf
    rw [explainU_un]
    exact explainU_ok_frag u σ n φ hf.2 _ _
  | .bin op φ ψ, hf, I, flag => by
    rw [explainU_bin]
    cases op with
    | pred c =>
      simp only [F.explFrag, Bool.and_eq_true] at hf
      exact both_ok_intro ⟨_, explainU_term u σ n _ φ hf.1 _⟩ ⟨_, explainU_term u σ n _ ψ hf.2 _⟩
    | and | or | implies =>
      simp only [F.explFrag, Bool.and_eq_true] at hf
      exact both_ok_intro (explainU_ok_frag u σ n φ hf.1 _ _) (explainU_ok_frag u σ n ψ hf.2 _ _)
    | _ => simp [F.explFrag] at hf
  | .tmp1 op φ, hf, I, flag => by
    simp only [F.explFrag, Bool.and_eq_true] at hf
    rw [explainU_tmp1]
    exact explainU_ok_frag u σ n φ hf.2 _ _
  | .tmp2 _ _ _, hf, _, _ => by simp [F.explFrag] at hf
  | .tb1 op a b φ, hf, I, flag => by
    simp only [F.explFrag, Bool.and_eq_true] at hf
    rw [explainU_tb1]
    exact explainU_ok_frag u σ n φ hf.2 _ _
  | .tb2 _ _ _ _ _, hf, _, _ => by simp [F.explFrag] at hf

/-- Three values `0 < 1 < 2` with `neg x = 2 - x`; `zero` is a parameter (`neg 1 = 1`);
    `sub l r = l`, so that the predicate `x >= x` has the value of `x`. -/
@[reducible] def val3 (z : Fin 3) : Val (Fin 3) where
  lt a b := decide (a < b)
  neg a := Fin.rev a
  abs a := a
  add a _ := a
  sub a _ := a
  mul a _ := a
  div a _ := a
  pinf := 2
  ninf := 0
  zero := z
  sqrt a := a
  exp a := a
  ln a := a
  pow a _ := a
  log a _ := a

@[reducible] def lawful3 (z : Fin 3) : @LawfulVal (Fin 3) (val3 z) :=
  letI := val3 z
  { toLinearOrder := inferInstance
    toBoundedOrder := inferInstance
    lt_iff := fun _ _ => decide_eq_true_iff
    pinf_top := rfl
    ninf_bot := rfl
    neg_neg := fun a => Fin.rev_rev a
    neg_le_neg := fun _ _ h => Fin.rev_le_rev.2 h }

def cexPred (x : String) : F (Fin 3) := .bin (.pred .ge) (.var x) (.var x)

/-- The naive invariant (the comment before `C20_invariant_partial`) fails for `not` explained as "satisfied" when
    the operand is exactly `0` (here `zero = 1 = neg 1`): `not ((a >= a) and (b >= b))` on `a = b = 1`. -/
theorem C20_invariant_false_zero :
    ¬ ∀ (α : Type) (_ : Val α) (_ : LawfulVal α) (_ : Val.neg (Val.zero : α) = Val.zero)
        (σ σ' : String → Nat → α) (n : Nat) (φ : F α) (_ : φ.explFrag = true)
        (I : Ivs) (flag : Bool) (ex : List (String × Ivs))
        (_ : explain σ n φ I flag = .ok ex)
        (_ : ∀ t, covered I t → t < n)
        (_ : ∀ t, covered I t → holdsAs flag (rho σ n φ t))
        (_ : ∀ x t, reported ex x t = true → t < n → σ' x t = σ x t),
        ∀ t, covered I t → holdsAs flag (rho σ' n φ t) := by
  intro h
  have h0 : ∀ t, covered [(0, 0)] t → t = 0 := fun t ht => Nat.le_zero.1 ((covered_singleton 0 0 t).1 ht).2
  have := h (Fin 3) (val3 1) (lawful3 1) rfl (fun _ _ => 1) (fun _ _ => 2) 1
    (.un .not (.bin .and (cexPred "a") (cexPred "b"))) rfl [(0, 0)] true
    [("a", []), ("a", []), ("b", []), ("b", [])] rfl
    (fun t ht => by rw [h0 t ht]; exact Nat.one_pos)
    (fun t ht => by rw [h0 t ht]; show @isSat _ (val3 1) _ = true; decide)
    (fun x t hr => by simp [reported] at hr)
    0 ⟨(0, 0), List.mem_singleton.2 rfl, le_rfl, le_rfl⟩
  exact absurd this (by show ¬ (@isSat _ (val3 1) _ = true); decide)

/-- The naive invariant fails on interval lists whose first begin is not the least covered position:
    `eventually (a >= a)` explained as "violated" on `[(3,3),(0,0)]`. -/
theorem C20_invariant_false_unsorted :
    ¬ ∀ (α : Type) (_ : Val α) (_ : LawfulVal α) (_ : Val.neg (Val.zero : α) = Val.zero)
        (σ σ' : String → Nat → α) (n : Nat) (φ : F α) (_ : φ.explFrag = true)
        (I : Ivs) (flag : Bool) (ex : List (String × Ivs))
        (_ : explain σ n φ I flag = .ok ex)
        (_ : ∀ t, covered I t → t < n)
        (_ : ∀ t, covered I t → holdsAs flag (rho σ n φ t))
        (_ : ∀ x t, reported ex x t = true → t < n → σ' x t = σ x t),
        ∀ t, covered I t → holdsAs flag (rho σ' n φ t) := by
  intro h
  have h0 : ∀ t, covered [(3, 3), (0, 0)] t → t = 3 ∨ t = 0 := by
    intro t ht
    simp only [covered_cons, covered_nil, or_false] at ht
    omega
  have := h (Fin 3) (val3 1) (lawful3 1) rfl (fun _ _ => 0) (fun _ t => if t = 0 then 2 else 0) 4
    (.tmp1 .ev (cexPred "a")) rfl [(3, 3), (0, 0)] false
    [("a", [(3, 3)]), ("a", [(3, 3)])] rfl
    (fun t ht => by rcases h0 t ht with rfl | rfl <;> omega)
    (fun t ht => by rcases h0 t ht with rfl | rfl <;> (show @isUnsat _ (val3 1) _ = true; decide))
    (fun x t hr _ => by
      have : t = 3 := by
        simp [reported] at hr
        omega
      subst this; rfl)
    0 ⟨(0, 0), by simp, le_rfl, le_rfl⟩
  exact absurd this (by show ¬ (@isUnsat _ (val3 1) _ = true); decide)

def cexPhi : F (Fin 3) := .un .not (.bin .or (cexPred "a") (cexPred "b"))

/-- `C20_sufficient_partial` fails when `neg zero ≠ zero` (here `zero = 2`, `neg 2 = 0`):
    `not ((a >= a) or (b >= b))` on `a = b = 1`; nothing is reported, `a = b = 0` satisfies. -/
theorem C20_sufficient_partial_false :
    ¬ ∀ (α : Type) (_ : Val α) (_ : LawfulVal α) (σ σ' : String → Nat → α) (n : Nat) (_ : 0 < n)
        (φ : F α) (_ : φ.explFrag = true) (ex : List (String × Ivs))
        (_ : explainSpec σ n φ = .ok ex) (_ : isUnsat (rho σ n φ 0) = true)
        (_ : ∀ x t, reported ex x t = true → t < n → σ' x t = σ x t),
        isUnsat (rho σ' n φ 0) = true := by
  intro h
  have := h (Fin 3) (val3 2) (lawful3 2) (fun _ _ => 1) (fun _ _ => 0) 1 Nat.one_pos cexPhi rfl
    [("a", []), ("a", []), ("b", []), ("b", [])] rfl rfl
    (fun x t hr => by simp [reported] at hr)
  exact absurd this (by decide)

/-- Strict polarity: `rho > 0` resp. `rho < 0` (for `flag = false` this is `holdsAs false`). -/
def holdsStrictly (flag : Bool) (v : α) : Prop := if flag then Val.zero < v else v < Val.zero

/-  The naive generalised invariant —  if the formula has the polarity `flag` at every covered position of
    `I` on the original trace, and `σ'` coincides with `σ` on every position reported when
    explaining `(I, flag)`, then the formula has polarity `flag` at every covered position on `σ'`.

    is FALSE (it is not stated as a theorem; refuted by `C20_invariant_false_zero` and
    `C20_invariant_false_unsorted`; see `C20_invariant_partial` and `C20_mono` for what holds).  Counterexamples (values in any lawful instance with the usual
    arithmetic, e.g. `EReal`; `0` is `F.const 0`):
    1. `flag = true` and a value exactly `0` under `not` (or in the antecedent of `implies`):
       `φ = not ((a >= 0) and (b >= 0))`, `n = 1`, `I = [(0,0)]`, `flag = true`, `σ a 0 = 0`,
       `σ b 0 = 3`: `rho = -0 = 0 >= 0`; the conjunction is explained as "violated", none of its
       conjuncts is `< 0`, nothing is reported; `σ' a 0 = σ' b 0 = 7` gives `rho = -7 < 0`.
       ("satisfied" `>= 0` / "violated" `< 0` are not exchanged by negation.)
    2. an interval list whose first begin is not its least covered position (the unbounded
       operators only look at the first begin / the last end):
       `φ = eventually (a >= 0)`, `n = 4`, `I = [(3,3),(0,0)]`, `flag = false`, `σ a t = -1`:
       only `(a, 3)` is reported; `σ' a 0 = 5` gives `rho σ' φ 0 = 5 >= 0` at the covered `t = 0`.
    3. `LawfulVal` does not relate `Val.neg` and `Val.zero`: with `zero := 1` (usual order and
       negation) `φ = not ((a >= 0) or (b >= 0))`, `n = 1`, `I = [(0,0)]`, `flag = false`,
       `σ a 0 = σ b 0 = 1/2`: `rho = -1/2 < zero`, no disjunct is `>= zero`, nothing is reported;
       `σ' a 0 = σ' b 0 = -10` gives `rho = 10 >= zero`. -/

/-- The invariant on well-formed interval lists (`Good`: what the explainer produces from
    `[(0,0)]`), with strict polarities, for values with `neg 0 = 0`. -/
theorem C20_invariant_partial (hz : Val.neg (Val.zero : α) = Val.zero)
    (σ σ' : String → Nat → α) (n : Nat) (φ : F α) (hfrag : φ.explFrag = true)
    (I : Ivs) (flag : Bool) (ex : List (String × Ivs))
    (hex : explain σ n φ I flag = .ok ex)
    (hI : Good n I)
    (horig : ∀ t, covered I t → holdsStrictly flag (rho σ n φ t))
    (hagree : ∀ x t, reported ex x t = true → t < n → σ' x t = σ x t) :
    ∀ t, covered I t → holdsStrictly flag (rho σ' n φ t) := by
  intro t ht
  have h := C20_mono hz σ σ' n φ hfrag I flag ex hex hI hagree t ht
  have ho := horig t ht
  cases flag with
  | true => exact lt_of_lt_of_le ho (h ho)
  | false => exact lt_of_le_of_lt (h ho) ho

/-- C20 on the fragment, whatever `u` does to the representation of the lists (`C20_monoU` at `[(0, 0)]`, violated). -/
theorem C20_sufficientU (hz : Val.neg (Val.zero : α) = Val.zero) (σ σ' : String → Nat → α) (n : Nat) (hn : 0 < n)
    {u : Ivs → Ivs} (hu : KeepsCover n u) (φ : F α) (hfrag : φ.explFrag = true) (ex : List (String × Ivs))
    (hex : explainU u σ n φ [(0, 0)] false = .ok ex) (hviol : isUnsat (rho σ n φ 0) = true)
    (hagree : ∀ x t, reported ex x t = true → t < n → σ' x t = σ x t) :
    isUnsat (rho σ' n φ 0) = true := by
  have h := C20_monoU hz σ σ' n hu φ hfrag [(0, 0)] false ex hex (good_singleton n 0 0 le_rfl hn) hagree 0
    ((covered_singleton 0 0 0).2 ⟨le_rfl, le_rfl⟩) ((isUnsat_iff _).1 hviol)
  exact (isUnsat_iff _).2 (lt_of_le_of_lt h ((isUnsat_iff _).1 hviol))

/-- C20 (partial: on the fragment `explFrag`), for values with `neg 0 = 0` (floats, `EReal`): the
    positions reported for a specification violated at time 0 are a sufficient cause of the
    violation — every trace `σ'` that coincides with `σ` on all reported positions violates the
    specification at time 0.  Without `hz` the statement is false, because `LawfulVal` does not
    relate `Val.neg` and `Val.zero` (`C20_sufficient_partial_false`). -/
theorem C20_sufficient_partial (hz : Val.neg (Val.zero : α) = Val.zero)
    (σ σ' : String → Nat → α) (n : Nat) (hn : 0 < n) (φ : F α)
    (hfrag : φ.explFrag = true) (ex : List (String × Ivs))
    (hex : explainSpec σ n φ = .ok ex) (hviol : isUnsat (rho σ n φ 0) = true)
    (hagree : ∀ x t, reported ex x t = true → t < n → σ' x t = σ x t) :
    isUnsat (rho σ' n φ 0) = true := by
  unfold explainSpec at hex
  rw [if_pos hviol, ← explainU_id] at hex
  exact C20_sufficientU hz σ σ' n hn (keepsCover_id n) φ hfrag ex hex hviol hagree

omit [LawfulVal α] in
/-- For a specification that is satisfied at time 0 nothing is reported. -/
theorem C20_satisfied_empty (σ : String → Nat → α) (n : Nat) (φ : F α)
    (hsat : isUnsat (rho σ n φ 0) = false) :
    explainSpec σ n φ = .ok [] := by
  unfold explainSpec
  rw [hsat]
  rfl

omit [LawfulVal α] in
/-- The explainer is defined on the whole fragment (it raises only on since / until). -/
theorem C20_defined_on_fragment (σ : String → Nat → α) (n : Nat) (φ : F α) (hfrag : φ.explFrag = true)
    (I : Ivs) (flag : Bool) : ∃ ex, explain σ n φ I flag = .ok ex :=
  explainU_id σ n φ I flag ▸ explainU_ok_frag id σ n φ hfrag I flag

/-- Non-vacuity: the hypothesis `hz` holds for the extended reals (and for IEEE doubles, `-0.0 == 0.0`). -/
example : Val.neg (Val.zero : EReal) = Val.zero := by simp [Val.neg, Val.zero]

end Rtamt
