/-
  The functions of `rtamt/explanation/ltl/discrete_time/explanations.py`, as translated from the source
  (`Rtamt/Py/GeneratedExpl.lean`), compute the interval lists of the mirror (`Rtamt/Discrete/Explain.lean`):
  part B - the one-operand scans of the unbounded temporal operators.
-/
import RtamtProofs.GenExplLtlA
import RtamtProofs.GenOffLemmas

namespace Rtamt.Py
open Rtamt Val ExplSteps LtlA

variable {α : Type} [Val α]

namespace ScanB

/-! ### the scan `for i in range(lo, hi)`: the state machine of part A on `state`, `start`, `op_intervals` -/

/-- `state = False; for i in range(lo, hi): ...; if state: op_intervals.append([start, last])`. -/
def scanTail (pol : Bool) (lo hi last : E) : S :=
  .seq (.setLoc "state" (.bin .eq (.int 0) (.int 1)))
    (.seq (.for_ "i" lo hi (machS pol "state" "start" "op_intervals" "op_signal"))
      (finS "state" "start" "op_intervals" last))

/-- The variables the scan does not touch keep their values. -/
def Keeps (l l' : Store α) : Prop :=
  ∀ x : String, x ∉ ["state", "start", "op_intervals", "i"] → getKey x l' = getKey x l

theorem names : NamesOK "state" "start" "op_intervals" "op_signal" := by
  constructor <;> decide

omit [Val α] in
theorem castI_cons (x : Nat × Nat) (l : Ivs) : castI (x :: l) = ((x.1 : Int), (x.2 : Int)) :: castI l := rfl
omit [Val α] in
theorem castI_nil : castI [] = [] := rfl

theorem scanTail_exec (pol : Bool) (s : List α) (lo hi last : E) (env : Env α) (b e : Nat) (hb : Int) (acc : IvsZ)
    (hsig : getKey "op_signal" env.loc = .ok (.list s))
    (hacc : getKey "op_intervals" env.loc = .ok (encZ acc))
    (hlo : ∀ env' : Env α, Keeps env.loc env'.loc → evalE env' lo = .ok (.int (b : Nat)))
    (hhi : ∀ env' : Env α, Keeps env.loc env'.loc → evalE env' hi = .ok (.int hb))
    (hlast : ∀ env' : Env α, Keeps env.loc env'.loc → evalE env' last = .ok (.int (e : Nat)))
    (hn : (hb - (b : Nat)).toNat = e + 1 - b) (he : e < s.length) :
    ∃ env', exec (scanTail pol lo hi last) env = .ok env' ∧ env'.self = env.self ∧ Keeps env.loc env'.loc ∧
      getKey "op_intervals" env'.loc = .ok (encZ (acc ++ castI (runs (fun i => polTest pol (atL s i)) b e))) := by
  have hk0 : Keeps env.loc ({ env with loc := setKey "state" (.bool false) env.loc } : Env α).loc :=
    fun x hx => getKey_setKey_ne _ _ _ _ (fun h => hx (by simp [h]))
  obtain ⟨env2, he2, hself2, hk2, -, hm2⟩ := foldlM_range_sim
    (fun env k => exec (machS pol "state" "start" "op_intervals" "op_signal")
      { env with loc := setKey "i" (.int (k : Nat)) env.loc })
    (mstep (fun i => polTest pol (atL s i)))
    (fun _ (env' : Env α) m => env'.self = env.self ∧ Keeps env.loc env'.loc ∧
      getKey "op_signal" env'.loc = .ok (.list s) ∧ MachInv "state" "start" "op_intervals" env'.loc m)
    (e + 1 - b) b { env with loc := setKey "state" (.bool false) env.loc } (none, acc)
    ⟨rfl, hk0, (getKey_setKey_ne _ _ _ _ (by simp)).trans hsig,
      ⟨getKey_setKey_same _ _ _, fun c hc => (by cases hc), (getKey_setKey_ne _ _ _ _ (by simp)).trans hacc⟩⟩
    (fun k env' m _ hk ⟨hs', hkp, hsig', hm'⟩ => by
      have gi : ∀ x, x ≠ "i" → getKey x (setKey "i" (V.int (k : Int)) env'.loc) = getKey x env'.loc :=
        fun x hx => getKey_setKey_ne _ _ _ _ hx
      obtain ⟨env'', hex, hs'', hm'', hf''⟩ := mach_step pol _ _ _ _ names
        { env' with loc := setKey "i" (.int (k : Nat)) env'.loc } s k (by omega) (getKey_setKey_same _ _ _)
        ((gi _ (by simp)).trans hsig') m (hm'.congr (gi _ (by simp)) (gi _ (by simp)) (gi _ (by simp)))
      refine ⟨env'', hex, hs''.trans hs', fun x hx => ?_, (hf'' _ (by simp)).trans ((gi _ (by simp)).trans hsig'), hm''⟩
      simp only [List.mem_cons, List.not_mem_nil, or_false, not_or] at hx
      exact (hf'' x (by simp [hx])).trans ((gi x hx.2.2.2).trans (hkp x (by simp [hx]))))
  obtain ⟨env3, he3, hself3, hout3, hk3⟩ := fin_step "state" "start" "op_intervals" last env2 (e : Nat) _ hm2
    (fun _ _ => hlast _ hk2)
  refine ⟨env3, ?_, hself3.trans hself2, fun x hx => (hk3 x (fun h => hx (by simp [h]))).trans (hk2 x hx), ?_⟩
  · unfold scanTail
    rw [exec_seq, exec_setLoc, evalE_False, ok_bind, ok_bind, exec_seq,
      exec_for b hb (hlo _ hk0) (hhi _ hk0), hn, he2, ok_bind]
    exact he3
  · rw [hout3, runsLoop_fold _ e _ b none acc (fun c hc => by cases hc)]
    rfl

/-- `getKey` on the parameter store and through updates. -/
macro "getKey_simp" : tactic =>
  `(tactic| simp only [getKey_setKey_ne, getKey_setKey_same, getKey_cons_same, getKey_cons_ne, ne_eq, String.reduceEq,
      not_false_eq_true, not_true_eq_false])

/-- The shape shared by `explain_sat_eventually` and `explain_unsat_always`. -/
def evMethod (pol : Bool) : Method :=
  { params := ["op_signal", "intervals"],
    body := .seq (.setLoc "op_intervals" .emptyList)
      (.ite (.un .truthy (.loc "intervals"))
        (.seq (.unpack "begin" "end" (.idx (.loc "intervals") (.int 0)))
          (scanTail pol (.loc "begin") (.len (.loc "op_signal")) (.bin .sub (.len (.loc "op_signal")) (.int 1))))
        .skip),
    ret := some (.loc "op_intervals") }

/-- The shape shared by `explain_sat_once` and `explain_unsat_historically`. -/
def onceMethod (pol : Bool) : Method :=
  { params := ["op_signal", "intervals"],
    body := .seq (.setLoc "op_intervals" .emptyList)
      (.ite (.un .truthy (.loc "intervals"))
        (.seq (.unpack "begin" "end" (.idx (.loc "intervals") (.bin .sub (.len (.loc "intervals")) (.int 1))))
          (scanTail pol (.int 0) (.bin .add (.loc "end") (.int 1)) (.loc "end")))
        .skip),
    ret := some (.loc "op_intervals") }

theorem call_two (a b : String) (body : S) (r : E) (x y : V α) :
    call { params := [a, b], body := body, ret := some r } [] [x, y]
      = (exec body { self := [], loc := [(a, x), (b, y)] } >>= fun env => evalE env r >>= fun v => .ok (env.self, v)) := by
  rfl

/-- The local variables after `begin, end = intervals[..]`. -/
abbrev locAfter (s : List α) (l : IvsZ) (b0 e0 : Int) : Store α :=
  setKey "end" (.int e0) (setKey "begin" (.int b0)
    (setKey "op_intervals" (.dlist []) [("op_signal", .list s), ("intervals", .ivs l)]))

theorem ev_generic (pol : Bool) {s : List α} (hs : 0 < s.length) (I : Ivs) :
    call (α := α) (evMethod pol) [] [.list s, encI I]
      = .ok ([], encI (match firstBegin I with | some b => runs (fun i => polTest pol (atL s i)) b (s.length - 1) | none => [])) := by
  unfold evMethod
  rw [call_two, exec_seq, exec_setLoc, evalE_emptyList, ok_bind, ok_bind, exec_ite, evalE_un, evalE_loc]
  cases I with
  | nil =>
    getKey_simp
    rw [ok_bind, encI, truthy_encZ, ok_bind]
    simp only [castI_nil, List.isEmpty_nil, Bool.not_true]
    rw [exec_skip, ok_bind, evalE_loc]
    getKey_simp
    rw [ok_bind]; rfl
  | cons q rest =>
    obtain ⟨b0, e0⟩ := q
    getKey_simp
    rw [ok_bind, encI, truthy_encZ, castI_cons, encZ_cons, ok_bind]
    simp only [List.isEmpty_cons, Bool.not_false]
    rw [exec_seq, exec_unpack, evalE_idx, evalE_loc, evalE_int]
    getKey_simp
    rw [ok_bind, ok_bind, show evalIdx (α := α) (.ivs (((b0 : Int), (e0 : Int)) :: castI rest)) (.int 0)
      = .ok (.pair (.int b0) (.int e0)) from rfl, ok_bind]
    dsimp only
    rw [ok_bind]
    obtain ⟨env', hex, hself, -, hres⟩ := scanTail_exec pol s (.loc "begin") (.len (.loc "op_signal"))
      (.bin .sub (.len (.loc "op_signal")) (.int 1))
      ⟨[], locAfter s (((b0 : Int), (e0 : Int)) :: castI rest) b0 e0⟩ b0 (s.length - 1) (s.length : Int) []
      (by getKey_simp) (by getKey_simp; rfl)
      (fun env' hf => by
        rw [evalE_loc, hf "begin" (by simp)]; getKey_simp)
      (fun env' hf => by
        rw [evalE_len, evalE_loc, hf "op_signal" (by simp)]; getKey_simp
        rw [ok_bind, lenV_list])
      (fun env' hf => by
        rw [evalE_bin, evalE_len, evalE_loc, hf "op_signal" (by simp)]; getKey_simp
        rw [ok_bind, lenV_list, ok_bind, evalE_int, ok_bind, evalBin_sub_int]
        congr 2; omega)
      (by omega) (by omega)
    rw [hex, ok_bind, evalE_loc, hres, ok_bind, hself]
    rfl

theorem once_generic (pol : Bool) {s : List α} (I : Ivs) (h : InRange s.length I) :
    call (α := α) (onceMethod pol) [] [.list s, encI I]
      = .ok ([], encI (match lastEnd I with | some e => runs (fun i => polTest pol (atL s i)) 0 e | none => [])) := by
  unfold onceMethod
  rw [call_two, exec_seq, exec_setLoc, evalE_emptyList, ok_bind, ok_bind, exec_ite, evalE_un, evalE_loc]
  cases hI : I.getLast? with
  | none =>
    have : I = [] := by simpa using hI
    subst this
    getKey_simp
    rw [ok_bind, encI, truthy_encZ, ok_bind]
    simp only [castI_nil, List.isEmpty_nil, Bool.not_true]
    rw [exec_skip, ok_bind, evalE_loc]
    getKey_simp
    rw [ok_bind]; rfl
  | some q =>
    obtain ⟨b0, e0⟩ := q
    have hne : I ≠ [] := by rintro rfl; simp at hI
    have hne' : castI I ≠ [] := by simpa [castI] using hne
    have hlast : (castI I).getLast? = some ((b0 : Int), (e0 : Int)) := by
      simp [castI, List.getLast?_map, hI]
    have he0 : e0 < s.length := h (b0, e0) (List.mem_of_getLast? hI)
    have hle : lastEnd I = some e0 := by simp [lastEnd, hI]
    getKey_simp
    rw [ok_bind, encI, truthy_encZ, encZ_ne_nil hne', ok_bind, List.isEmpty_eq_false_iff.2 hne']
    simp only [Bool.not_false]
    rw [exec_seq, exec_unpack, evalE_idx, evalE_loc, evalE_bin, evalE_len, evalE_loc, evalE_int]
    getKey_simp
    rw [ok_bind, ok_bind, show lenV (α := α) (.ivs (castI I)) = .ok (.int (castI I).length) from rfl,
      ok_bind, ok_bind, evalBin_sub_int, ok_bind, evalIdx_last _ _ hlast, ok_bind]
    dsimp only
    rw [ok_bind]
    obtain ⟨env', hex, hself, -, hres⟩ := scanTail_exec pol s (.int 0) (.bin .add (.loc "end") (.int 1)) (.loc "end")
      ⟨[], locAfter s (castI I) b0 e0⟩ 0 e0 ((e0 : Int) + 1) []
      (by getKey_simp) (by getKey_simp; rfl)
      (fun env' hf => by rw [evalE_int]; rfl)
      (fun env' hf => by
        rw [evalE_bin, evalE_loc, hf "end" (by simp)]; getKey_simp
        rw [ok_bind, evalE_int, ok_bind, evalBin_add_int])
      (fun env' hf => by
        rw [evalE_loc, hf "end" (by simp)]; getKey_simp)
      (by omega) he0
    rw [hex, ok_bind, evalE_loc, hres, ok_bind, hself, hle]
    rfl

end ScanB

open ScanB

/-- `explain_sat_eventually`: the runs of satisfaction from the begin of the first interval to the end of the signal. -/
theorem fn_sat_eventually (s : List α) (hs : 0 < s.length) (I : Ivs) :
    call (α := α) Gen.Expl.ltl_explain_sat_eventually [] [.list s, encI I]
      = .ok ([], encI (match firstBegin I with | some b => runs (fun i => isSat (atL s i)) b (s.length - 1) | none => [])) :=
  ev_generic true hs I

theorem fn_unsat_always (s : List α) (hs : 0 < s.length) (I : Ivs) :
    call (α := α) Gen.Expl.ltl_explain_unsat_always [] [.list s, encI I]
      = .ok ([], encI (match firstBegin I with | some b => runs (fun i => isUnsat (atL s i)) b (s.length - 1) | none => [])) :=
  ev_generic false hs I

/-- `explain_sat_once`: the runs of satisfaction from 0 to the end of the last interval. -/
theorem fn_sat_once (s : List α) (I : Ivs) (h : InRange s.length I) :
    call (α := α) Gen.Expl.ltl_explain_sat_once [] [.list s, encI I]
      = .ok ([], encI (match lastEnd I with | some e => runs (fun i => isSat (atL s i)) 0 e | none => [])) :=
  once_generic true I h

theorem fn_unsat_historically (s : List α) (I : Ivs) (h : InRange s.length I) :
    call (α := α) Gen.Expl.ltl_explain_unsat_historically [] [.list s, encI I]
      = .ok ([], encI (match lastEnd I with | some e => runs (fun i => isUnsat (atL s i)) 0 e | none => [])) :=
  once_generic false I h

end Rtamt.Py
