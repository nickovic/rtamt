/-
  The functions of `dense_time/online/intersection.py` that the operation classes hand to the online `intersection`
  (`disjunction`, `conjunction`, …, `log`, `split`): each is a function, not a method, `def m(a, b): return e`, so a call
  is the value of `e` on the two arguments (`callAt_ret2`).  `GenDenseOnInter.lean` instantiates the contract of
  `intersection` with them; the class theorems of `GenDenseOnBin.lean`, `GenDenseOnIA.lean` and `GenDenseOn.lean` hand
  them to `gen_bin_update_sim` and its like.
-/
import RtamtProofs.GenDenseOnLogic

namespace Rtamt.Py.DnOn
open Rtamt Val Rtamt.Dense Rtamt.Dense.Alg

variable {α : Type} [Val α]

theorem runFn_ret2 (call : Call α) (fuel : Nat) (fn : Fn) (e : E) (p q : String) (x y : DV α)
    (hm : fn.isMethod = false) (hp : fn.params = [p, q]) (hb : fn.body = .ret e) :
    runFn call fuel fn [x, y] = evalE call [(p, x), (q, y)] e := by
  unfold runFn
  rw [hm, hb, hp]
  simp only [Bool.false_eq_true, ↓reduceIte, List.length_cons, List.length_nil, ne_eq, not_true_eq_false, exec,
    List.zip_cons_cons, List.zip_nil_right]
  cases evalE call [(p, x), (q, y)] e <;> rfl

theorem callAt_ret2 (fuel k : Nat) (m : String) (fn : Fn) (e : E) (p q : String) (x y : DV α)
    (hl : Gen.DenseOn.fns.lookup m = some fn) (hm : fn.isMethod = false) (hp : fn.params = [p, q])
    (hb : fn.body = .ret e) :
    callAt Gen.DenseOn.fns fuel (k + 1) m [x, y] = evalE (callAt Gen.DenseOn.fns fuel k) [(p, x), (q, y)] e := by
  rw [callAt_fn _ _ _ _ fn _ hl, runFn_ret2 _ _ _ e p q x y hm hp hb]

/-! Where the body calls a function of the library, `simp only` evaluates it down to the call of `builtin` on two values;
what is left is the right-hand side by definition. -/

section methods
variable (fuel k : Nat) (a b : α)

theorem gen_on_disjunction :
    callAt Gen.DenseOn.fns fuel (k + 1) "disjunction" [.val a, .val b] = .ok (.val (pmax a b) : DV α) := by
  rw [callAt_ret2 fuel k _ Gen.DenseOn.fn_disjunction _ _ _ _ _ (fns_at 4 rfl) rfl rfl rfl]
  simp only [evalE, getLoc_cons, resolve, List.lookup, String.reduceBEq, String.reduceEq, ↓reduceIte, ok_bind,
    callAt_lib fuel k (f := "max") (lib_at 1 rfl)]
  rfl

theorem gen_on_conjunction :
    callAt Gen.DenseOn.fns fuel (k + 1) "conjunction" [.val a, .val b] = .ok (.val (pmin a b) : DV α) := by
  rw [callAt_ret2 fuel k _ Gen.DenseOn.fn_conjunction _ _ _ _ _ (fns_at 5 rfl) rfl rfl rfl]
  simp only [evalE, getLoc_cons, resolve, List.lookup, String.reduceBEq, String.reduceEq, ↓reduceIte, ok_bind,
    callAt_lib fuel k (f := "min") (lib_at 2 rfl)]
  rfl

theorem gen_on_implication :
    callAt Gen.DenseOn.fns fuel (k + 1) "implication" [.val a, .val b] = .ok (.val (pmax (Val.neg a) b) : DV α) := by
  rw [callAt_ret2 fuel k _ Gen.DenseOn.fn_implication _ _ _ _ _ (fns_at 6 rfl) rfl rfl rfl]
  simp only [evalE, getLoc_cons, resolve, List.lookup, String.reduceBEq, String.reduceEq, ↓reduceIte, ok_bind, evalNeg,
    callAt_lib fuel k (f := "max") (lib_at 1 rfl)]
  rfl

theorem gen_on_xor :
    callAt Gen.DenseOn.fns fuel (k + 1) "xor" [.val a, .val b] = .ok (.val (Val.abs (Val.sub a b)) : DV α) := by
  rw [callAt_ret2 fuel k _ Gen.DenseOn.fn_xor _ _ _ _ _ (fns_at 7 rfl) rfl rfl rfl]
  simp only [evalE, getLoc_cons, resolve, List.lookup, String.reduceBEq, String.reduceEq, ↓reduceIte, ok_bind,
    callAt_lib fuel k (f := "abs") (lib_at 3 rfl)]
  rfl

theorem gen_on_iff :
    callAt Gen.DenseOn.fns fuel (k + 1) "iff" [.val a, .val b] = .ok (.val (Val.neg (Val.abs (Val.sub a b))) : DV α) := by
  rw [callAt_ret2 fuel k _ Gen.DenseOn.fn_iff _ _ _ _ _ (fns_at 8 rfl) rfl rfl rfl]
  simp only [evalE, getLoc_cons, resolve, List.lookup, String.reduceBEq, String.reduceEq, ↓reduceIte, ok_bind,
    callAt_lib fuel k (f := "abs") (lib_at 3 rfl)]
  rfl

theorem gen_on_addition :
    callAt Gen.DenseOn.fns fuel (k + 1) "addition" [.val a, .val b] = .ok (.val (Val.add a b) : DV α) := by
  rw [callAt_ret2 fuel k _ Gen.DenseOn.fn_addition _ _ _ _ _ (fns_at 9 rfl) rfl rfl rfl]
  rfl

theorem gen_on_subtraction :
    callAt Gen.DenseOn.fns fuel (k + 1) "subtraction" [.val a, .val b] = .ok (.val (Val.sub a b) : DV α) := by
  rw [callAt_ret2 fuel k _ Gen.DenseOn.fn_subtraction _ _ _ _ _ (fns_at 10 rfl) rfl rfl rfl]
  rfl

theorem gen_on_multiplication :
    callAt Gen.DenseOn.fns fuel (k + 1) "multiplication" [.val a, .val b] = .ok (.val (Val.mul a b) : DV α) := by
  rw [callAt_ret2 fuel k _ Gen.DenseOn.fn_multiplication _ _ _ _ _ (fns_at 11 rfl) rfl rfl rfl]
  rfl

theorem gen_on_division :
    callAt Gen.DenseOn.fns fuel (k + 1) "division" [.val a, .val b] = .ok (.val (Val.div a b) : DV α) := by
  rw [callAt_ret2 fuel k _ Gen.DenseOn.fn_division _ _ _ _ _ (fns_at 15 rfl) rfl rfl rfl]
  simp only [evalE, getLoc_cons, resolve, List.lookup, String.reduceBEq, String.reduceEq, ↓reduceIte, ok_bind,
    callAt_lib fuel k (f := "float") (lib_at 7 rfl)]
  rfl

theorem gen_on_power :
    callAt Gen.DenseOn.fns fuel (k + 1) "power" [.val a, .val b] = .ok (.val (Val.pow a b) : DV α) := by
  rw [callAt_ret2 fuel k _ Gen.DenseOn.fn_power _ _ _ _ _ (fns_at 12 rfl) rfl rfl rfl]
  simp only [evalE, getLoc_cons, resolve, List.lookup, String.reduceBEq, String.reduceEq, ↓reduceIte, ok_bind,
    callAt_lib fuel k (f := "math.pow") (lib_at 8 rfl)]
  rfl

theorem gen_on_log :
    callAt Gen.DenseOn.fns fuel (k + 1) "log" [.val a, .val b] = .ok (.val (Val.log a b) : DV α) := by
  rw [callAt_ret2 fuel k _ Gen.DenseOn.fn_log _ _ _ _ _ (fns_at 13 rfl) rfl rfl rfl]
  simp only [evalE, getLoc_cons, resolve, List.lookup, String.reduceBEq, String.reduceEq, ↓reduceIte, ok_bind,
    callAt_lib fuel k (f := "math.log") (lib_at 6 rfl)]
  rfl

theorem gen_on_split :
    callAt Gen.DenseOn.fns fuel (k + 1) "split" [.val a, .val b] = .ok (encPair (a, b) : DV α) := by
  rw [callAt_ret2 fuel k _ Gen.DenseOn.fn_split _ _ _ _ _ (fns_at 16 rfl) rfl rfl rfl]
  rfl

end methods

end Rtamt.Py.DnOn
