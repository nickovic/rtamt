/-
  The explainer as a table of rules.

  Every visit method of the explainer hands its operand(s) a list obtained from its own list `I` in three steps:
  a WINDOW (`Win`: the same list, one sample later / earlier, from the first begin to the end of the trace, from 0 to the
  last end, every interval shifted and clipped by `[a, b]` forwards / backwards), at one of the two polarities a SELECTION
  (the maximal runs inside the window on which the operand has the polarity it is visited with), and - after a bounded
  window - `interval_union`.  `Rule.ivs` is that list; `explainU_un` … `explainU_bin` say that the mirror is the table
  `Kind.rule`, `Kind.rules`.
-/
import Rtamt.Discrete.ExplainU

namespace Rtamt
open Val

variable {α : Type} [Val α]

inductive Win
  | same | next | prev | toEnd | fromZero | fwd | bwd
  deriving DecidableEq

/-- `a`, `b`: the bounds of a bounded operator (they reach the function as arguments). -/
def Win.ivs (n a b : Nat) : Win → Ivs → Ivs
  | .same, I => I
  | .next, I => explNext n I
  | .prev, I => explPrev I
  | .toEnd, I => match firstBegin I with | some b => [(b, n - 1)] | none => []
  | .fromZero, I => match lastEnd I with | some e => [(0, e)] | none => []
  | .fwd, I => I.map (fun (x, y) => (min (x + a) (n - 1), min (y + b) (n - 1)))
  | .bwd, I => I.map (fun (x, y) => (x - b, y - a))

/-- The bounded windows: the code applies `interval_union` to what it computes for them. -/
def Win.timed : Win → Bool
  | .fwd | .bwd => true
  | _ => false

/-- `v >= 0` for polarity `true`, `v < 0` for `false`. -/
def polTest (pol : Bool) (v : α) : Bool := bif pol then isSat v else isUnsat v

structure Rule where
  win : Win
  /-- `some p`: when the node is explained with polarity `p`, only the runs of the window on which the operand has the
      polarity it is visited with are passed on.  A minimum (`always`, `historically`, `and`) is violated because of its
      violated operands and satisfied because of all of them: `some false`; a maximum: `some true`. -/
  sel : Option Bool := none
  /-- The operand is visited with the opposite polarity. -/
  neg : Bool := false
  deriving DecidableEq

def Rule.flag (r : Rule) (flag : Bool) : Bool := bif r.neg then !flag else flag

def Rule.selects (r : Rule) (flag : Bool) : Bool :=
  match r.sel with
  | none => false
  | some p => p == flag

def Rule.ivs (r : Rule) (u : Ivs → Ivs) (n a b : Nat) (s : Nat → α) (flag : Bool) (I : Ivs) : Ivs :=
  let J := bif r.selects flag then runsAll (fun i => polTest (r.flag flag) (s i)) (r.win.ivs n a b I) else r.win.ivs n a b I
  bif r.win.timed then u J else J

/-- The table of rules by node class (the classes that are not named have the rule of a point-wise operator). -/
def Kind.rule : Kind → Rule
  | .Neg => { win := .same, neg := true }
  | .Previous | .StrongPrevious => { win := .prev }
  | .Next | .StrongNext => { win := .next }
  | .Always => { win := .toEnd, sel := some false }
  | .Eventually => { win := .toEnd, sel := some true }
  | .Historically => { win := .fromZero, sel := some false }
  | .Once => { win := .fromZero, sel := some true }
  | .TimedAlways => { win := .fwd, sel := some false }
  | .TimedEventually => { win := .fwd, sel := some true }
  | .TimedHistorically => { win := .bwd, sel := some false }
  | .TimedOnce => { win := .bwd, sel := some true }
  | _ => { win := .same }

/-- The two operands of a point-wise operator: `implies` is the maximum of the negated antecedent and the consequent. -/
def Kind.rules : Kind → Rule × Rule
  | .Conjunction => ({ win := .same, sel := some false }, { win := .same, sel := some false })
  | .Disjunction => ({ win := .same, sel := some true }, { win := .same, sel := some true })
  | .Implies => ({ win := .same, sel := some true, neg := true }, { win := .same, sel := some true })
  | _ => ({ win := .same }, { win := .same })

/-- The scan of the one interval there may be (`runs`) is the scan of the list of that interval (`runsAll`). -/
theorem runsAll_toEnd (p : Nat → Bool) (n a b : Nat) (I : Ivs) :
    runsAll p (Win.ivs n a b .toEnd I) = match firstBegin I with | some b => runs p b (n - 1) | none => [] := by
  show runsAll p (match firstBegin I with | some b => [(b, n - 1)] | none => []) = _
  cases firstBegin I <;> simp [runsAll]

theorem runsAll_fromZero (p : Nat → Bool) (n a b : Nat) (I : Ivs) :
    runsAll p (Win.ivs n a b .fromZero I) = match lastEnd I with | some e => runs p 0 e | none => [] := by
  show runsAll p (match lastEnd I with | some e => [(0, e)] | none => []) = _
  cases lastEnd I <;> simp [runsAll]

theorem explainU_un (u : Ivs → Ivs) (σ : String → Nat → α) (n : Nat) (op : Un) (φ : F α) (I : Ivs) (flag : Bool) :
    explainU u σ n (.un op φ) I flag = explainU u σ n φ (op.kind.rule.ivs u n 0 0 (rho σ n φ) flag I) (op.kind.rule.flag flag) := by
  cases op <;> rfl

theorem explainU_tmp1 (u : Ivs → Ivs) (σ : String → Nat → α) (n : Nat) (op : T1) (φ : F α) (I : Ivs) (flag : Bool) :
    explainU u σ n (.tmp1 op φ) I flag = explainU u σ n φ (op.kind.rule.ivs u n 0 0 (rho σ n φ) flag I) (op.kind.rule.flag flag) := by
  cases op <;> cases flag
  case alw.false | ev.true => exact congrArg (explainU u σ n φ · _) (runsAll_toEnd _ n 0 0 I).symm
  case hist.false | once.true => exact congrArg (explainU u σ n φ · _) (runsAll_fromZero _ n 0 0 I).symm
  all_goals rfl

theorem explainU_tb1 (u : Ivs → Ivs) (σ : String → Nat → α) (n : Nat) (op : TB1) (a b : Nat) (φ : F α) (I : Ivs)
    (flag : Bool) :
    explainU u σ n (.tb1 op a b φ) I flag = explainU u σ n φ (op.kind.rule.ivs u n a b (rho σ n φ) flag I) (op.kind.rule.flag flag) := by
  cases op <;> cases flag <;> rfl

theorem explainU_bin (u : Ivs → Ivs) (σ : String → Nat → α) (n : Nat) (op : Bin) (φ ψ : F α) (I : Ivs) (flag : Bool) :
    explainU u σ n (.bin op φ ψ) I flag = (do
      let a ← explainU u σ n φ (op.kind.rules.1.ivs u n 0 0 (rho σ n φ) flag I) (op.kind.rules.1.flag flag)
      let b ← explainU u σ n ψ (op.kind.rules.2.ivs u n 0 0 (rho σ n ψ) flag I) (op.kind.rules.2.flag flag)
      pure (a ++ b)) := by
  cases op <;> cases flag <;> rfl

end Rtamt
