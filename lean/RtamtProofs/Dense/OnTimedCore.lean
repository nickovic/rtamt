/-
  Dense time, online: `OnceTimedOperation` / `HistoricallyTimedOperation` (`timedUpdateCore`) over a stream.

  The stream theorems are FALSE for `timedUpdateCore` over arbitrary `Shape` streams (finding F48; the repaired operation is
  `timedUpdate = timedUpdateCore ∘ dropRepeat`, and `OnTimed.lean` proves them for `timedUpdate`): an operand
  stream in which a batch repeats the sample the previous batch ended with (allowed by `Shape`, and what the bounded
  operations themselves return) can make ONE returned batch contain the same time stamp twice, with different values:
  `once[0,1]` on `[[(0,9),(1,5)], [(1,5),(2,7)]]` returns `[(0,9),(1,9)]` and then `[(1,9),(2,5),(2,7)]`
  (`#eval` of `runUn (timedUpdateCore ltW Val.ninf 0 1) {}` on `Float`, and the real `OnceTimedOperation(0,1)`), so
  `Shape.batch_sorted` fails (the values read by `valAtA` are still right).  Reason: the own segment
  `(t_n+a, t_n+b, v_n)` of the last sample of a batch, pushed on a top segment with a larger value that ends at
  `t_n+b`, leaves a degenerate segment `(t_n+b, t_n+b, v_n)`; a new first stamp re-ends it, a repeated sample does
  not, and a later sample with stamp `t_n+(b-a)` and a larger value then puts a second segment at the same start.

  Proved here (`timedStream_once_core_sup`, `timedStream_hist_core_inf`, one `SupFn` / `InfFn` clause each;
  `timedStream_once_core`, `timedStream_hist_core` in two cases): the statements with the additional hypothesis
  `Sorted Bs.flatten` (no repeated sample in the operand stream), plus the fact that the state's `rs` is the last
  operand stamp; `timedStream_once_covered'` / `timedStream_hist_covered'`: the returned stream covers exactly what
  the operand stream covers.

  Structure (helper namespace `TimedAux`): the stack is a chain of segments whose base `c` moves with the cuts
  (`ChainC`, `InvC`, `pushSeg_spec` in `AlgStack`, where `pushSeg_reend` compares the own segment of the last sample
  with the same segment ending at infinity); the segments of one batch pushed (`fold_batch`, over `FwdAux.fold_good`,
  the induction shared with the offline operation); the output loop as pure functions (`timedEmit_eq`), which on a
  chain is an accumulator under the frontier invariant `OutInv` of the merge loops and returns a `BinAux.ResOK` piece
  (`emit_acc`, `emit_stack`); cutting the stack at the last stamp (`cut_chain`); the ideal value `Wn` of the samples
  seen so far and how a batch changes it (`Wn_step`, `Wn_stable`, `Wn_const`); one update (`step_first`, `step_next`,
  `step_empty`), the pieces glued to the concatenated output by `Flat.append_res` / `Flat.append` (`inv_step`), the run
  (`run_inv`, `timed_core`, `timed_final`: the ideal value is the supremum over the clipped window,
  `FwdAux.ideal_isLUB`).  `historically` is the same for the dual order.
-/
import RtamtProofs.Dense.OnOut
import RtamtProofs.Dense.AlgFwd
import Mathlib.Data.List.Induction

namespace Rtamt.Dense.AlgOn
open Rtamt Val Rtamt.Dense.Alg
open Rtamt.Dense.Alg.FwdAux

namespace TimedAux

section core
variable {α : Type} [LinearOrder α] [OrderBot α]
variable (worse : α → α → Bool) (hw : ∀ x y, worse x y = true ↔ x < y)
include hw

omit [LinearOrder α] [OrderBot α] hw in
theorem onSegs_cons2 (a b : ℚ) (τ τ' : Tm) (v v' : α) (l : ASig α) :
    onSegs a b ((τ, v) :: (τ', v') :: l) = ⟨τ.add a, τ'.add b, v⟩ :: onSegs a b ((τ', v') :: l) := rfl

omit [LinearOrder α] [OrderBot α] hw in
theorem onSegs_one (a b : ℚ) (τ : Tm) (v : α) : onSegs a b [(τ, v)] = [⟨τ.add a, τ.add b, v⟩] := rfl

omit hw in
/-- The stack `x :: r'` after the pushes of a batch whose last sample is stamped `τ`: the top segment is that
    sample's own segment, or what is left of it; re-ended at infinity it makes the stack a chain from `c`. -/
structure TopOK (a b : ℚ) (x : Seg α) (r' : List (Seg α)) (c : Tm) (τ : ℚ) : Prop where
  hi : x.hi = Tm.fin (τ + b)
  lo : Tm.fin (τ + a) ≤ x.lo
  le : x.lo ≤ x.hi
  inv : InvC (⟨x.lo, Tm.inf, x.v⟩ :: r') c (Tm.fin (τ + a)) Tm.inf

/-- All the segments of one batch pushed on a stack that fits: the result, with its top segment re-ended at infinity,
    is the stack the offline segments give. -/
theorem fold_batch {a b : ℚ} (hab : a ≤ b) {q : ℚ} {v : α} {rest : ASig α} (hs : Sorted ((Tm.fin q, v) :: rest))
    (hf : ∀ p ∈ rest, p.1 ≠ Tm.inf) {stk : List (Seg α)} {c : Tm}
    (hF : Fit stk c (Tm.fin (q + a)) (Tm.fin (q + b))) :
    ∃ x r' τ vn, ((Tm.fin q, v) :: rest).getLast? = some (Tm.fin τ, vn) ∧
      (onSegs a b ((Tm.fin q, v) :: rest)).foldlM (pushSeg worse) stk = .ok (x :: r') ∧ TopOK a b x r' c τ ∧
      ∀ t, segval (⟨x.lo, Tm.inf, x.v⟩ :: r') t =
        (fwdSegs a b ((Tm.fin q, v) :: rest)).foldl (stepF t) (segval stk t) := by
  obtain ⟨τ, vn, tl, stk1, htl, hF1, e, hv⟩ := fold_good worse hw hab rest q v stk hs
    (InterAux.infOK_of_fin (List.forall_mem_cons.2 ⟨nofun, hf⟩)) hF
  obtain ⟨rfl, hl⟩ := htl.resolve_right fun h => hf _ h.2 rfl
  rw [e _ (onSegs_cons2 a b)]
  simp only [hv]
  rcases hF1 with ⟨rfl, rfl⟩ | ⟨L, H, hI, hL, h1, h2, h3⟩
  · exact ⟨⟨Tm.fin (τ + a), Tm.fin (τ + b), vn⟩, [], τ, vn, hl, rfl, ⟨rfl, le_refl _,
      (fin_le_fin _ _).2 (by linarith), inv_single (⟨Tm.fin (τ + a), Tm.inf, vn⟩ : Seg α) (fin_lt_inf _)⟩,
      segval_single _⟩
  · obtain ⟨stk', p1, p2, -, p4⟩ := pushSeg_spec worse hw hI hL (b := ⟨Tm.fin (τ + a), Tm.inf, vn⟩)
      ⟨h1, h2, lt_of_le_of_lt h3 (fin_lt_inf _), fin_lt_inf _⟩
    obtain ⟨x, r', q1, q2, q4, q5, q3⟩ := pushSeg_reend worse hw hI hL
      (b := ⟨Tm.fin (τ + a), Tm.fin (τ + b), vn⟩) h1 h2 h3 Tm.inf (lt_of_le_of_lt h3 (fin_lt_inf _))
    obtain rfl : stk' = ⟨x.lo, Tm.inf, x.v⟩ :: r' := Except.ok.inj (p1.symm.trans q3)
    refine ⟨x, r', τ, vn, hl, ?_, ⟨q2, q4, q5, p2⟩, p4⟩
    rw [onSegs_one, List.foldlM_cons, add_fin, add_fin, q1]; rfl

end core

section emit
variable {α : Type} [Val α]

/-- What the output loop keeps of one segment. -/
def cutF (r : Tm) (b : Seg α) : Option (Seg α) :=
  if Tm.le b.hi r then none
  else if Tm.le b.lo r && Tm.lt r b.hi then some ⟨r, b.hi, b.v⟩ else some b

/-- What the output loop keeps of the list of segments (bottom first). -/
def cutB (r : Tm) (L : List (Seg α)) : List (Seg α) := L.filterMap (cutF r)

/-- Whether the start of a segment with value `v` that `r` has reached is appended: the value differs from the
    previous one, or the segment is the last one. -/
def emits (prev : Option α) (v : α) (isLast : Bool) : Bool :=
  (match prev with | none => true | some x => vne v x) || isLast

/-- The samples the output loop appends. -/
def emR (r : Tm) : Option α → List (Seg α) → ASig α
  | _, [] => []
  | prev, b :: rest =>
      (if (Tm.le b.hi r || (Tm.le b.lo r && Tm.lt r b.hi)) && emits prev b.v rest.isEmpty
        then [(b.lo, b.v)] else []) ++ emR r (some b.v) rest

/-- The pending sample `last` after the output loop. -/
def emLast (r : Tm) : Option (Tm × α) → List (Seg α) → Option (Tm × α)
  | last, [] => last
  | last, b :: rest =>
      emLast r (if Tm.le b.hi r then some (b.lo, b.v)
        else if Tm.le b.lo r && Tm.lt r b.hi then (if Tm.lt b.lo r then some (r, b.v) else some (b.lo, b.v))
        else last) rest

theorem timedEmit_eq (r : Tm) (L : List (Seg α)) : ∀ (prev : Option α) (res : ASig α) (last : Option (Tm × α))
    (keep : List (Seg α)),
    timedEmit (some r) L prev res last keep = (res ++ emR r prev L, emLast r last L, keep ++ cutB r L) := by
  induction L with
  | nil => intro prev res last keep; simp [timedEmit, emR, emLast, cutB]
  | cons b rest ih =>
    intro prev res last keep
    simp only [timedEmit, ih, emR, emits, emLast, cutB, cutF, List.filterMap_cons]
    by_cases h1 : Tm.le b.hi r = true
    · simp only [h1, Bool.true_or, Bool.true_and, if_true]
      split <;> (try split) <;> simp
    · have h1' : Tm.le b.hi r = false := by simpa using h1
      by_cases h2 : (Tm.le b.lo r && Tm.lt r b.hi) = true
      · simp only [h1', h2, Bool.false_or, Bool.true_and, if_true, Bool.false_eq_true, if_false]
        split <;> (try split) <;> simp
      · have h2' : (Tm.le b.lo r && Tm.lt r b.hi) = false := by simpa using h2
        simp [h1', h2']

theorem em_ended {r : Tm} {b : Seg α} (h : b.hi ≤ r) (prev : Option α) (last : Option (Tm × α))
    (rest : List (Seg α)) :
    emR r prev (b :: rest) =
        (if emits prev b.v rest.isEmpty = true then [(b.lo, b.v)] else []) ++ emR r (some b.v) rest ∧
      emLast r last (b :: rest) = emLast r (some (b.lo, b.v)) rest := by
  simp [emR, emLast, (le_iff _ _).2 h]

theorem em_inside {r : Tm} {b : Seg α} (h1 : b.lo ≤ r) (h2 : r < b.hi) (prev : Option α) (last : Option (Tm × α))
    (rest : List (Seg α)) :
    emR r prev (b :: rest) =
        (if emits prev b.v rest.isEmpty = true then [(b.lo, b.v)] else []) ++ emR r (some b.v) rest ∧
      emLast r last (b :: rest) = emLast r (some (r, b.v)) rest := by
  have e : (if Tm.lt b.lo r = true then some (r, b.v) else some (b.lo, b.v)) = some (r, b.v) := by
    split
    · rfl
    · rename_i h; rw [le_antisymm h1 ((lt_false_iff _ _).1 (by simpa using h))]
  simp [emR, emLast, (le_false_iff _ _).2 h2, (le_iff _ _).2 h1, (lt_iff _ _).2 h2, e]

theorem em_after {r : Tm} {b : Seg α} (h1 : r < b.lo) (h2 : b.lo ≤ b.hi) (prev : Option α)
    (last : Option (Tm × α)) (rest : List (Seg α)) :
    emR r prev (b :: rest) = emR r (some b.v) rest ∧ emLast r last (b :: rest) = emLast r last rest := by
  simp [emR, emLast, (le_false_iff _ _).2 h1, (le_false_iff _ _).2 (lt_of_lt_of_le h1 h2)]

/-- The end of `update`: the pending sample is appended when it is later than the last sample. -/
def finalize (res : ASig α) (last : Option (Tm × α)) : ASig α :=
  match last with
  | none => res
  | some (t, v) => BinAux.finish res t v

/-- Consecutive segments, bottom first; only the last one may be degenerate. -/
def BChain : List (Seg α) → Prop
  | [] => True
  | [x] => x.lo ≤ x.hi
  | x :: y :: r => x.lo < x.hi ∧ x.hi = y.lo ∧ BChain (y :: r)

/-- The sample list of a list of segments. -/
def smp (L : List (Seg α)) : ASig α := L.map (fun g => (g.lo, g.v))

theorem emit_after (r : Tm) (last : Option (Tm × α)) (L : List (Seg α)) : ∀ (x : Seg α) (prev : Option α),
    BChain (x :: L) → r < x.lo → emR r prev (x :: L) = [] ∧ emLast r last (x :: L) = last := by
  induction L with
  | nil => intro x prev hc hr; exact em_after hr hc prev last []
  | cons y L ih =>
    intro x prev hc hr
    obtain ⟨e1, e2⟩ := em_after hr (le_of_lt hc.1) prev last (y :: L)
    rw [e1, e2]
    exact ih y _ hc.2.2 (hc.2.1 ▸ lt_trans hr hc.1)

theorem prev_of_not_emits (hv : ∀ a b : α, vne a b = false → a = b) {prev : Option α} {v : α} {e : Bool}
    (h : emits prev v e = false) : prev = some v := by
  cases prev with
  | none => cases h
  | some w =>
    simp only [emits, Bool.or_eq_false_iff] at h
    rw [hv v w h.1]

omit [Val α] in
theorem valAtA_smp_cons (x : Seg α) (L : List (Seg α)) (t : ℚ) (h : x.lo ≤ Tm.fin t) :
    valAtA (smp (x :: L)) t = some ((valAtA (smp L) t).getD x.v) := by
  rw [smp, List.map_cons]; exact InterAux.valAtA_cons_of_le h

omit [Val α] in
theorem valAtA_smp_none (x : Seg α) (L : List (Seg α)) (t : ℚ) (h : Tm.fin t < x.lo) :
    valAtA (smp (x :: L)) t = none := by
  rw [smp, List.map_cons]; exact (InterAux.valAtA_cons_none _ _ _ _).2 h

omit [Val α] in
theorem valAtA_smp_first {x : Seg α} {L : List (Seg α)} (hc : BChain (x :: L)) {t : ℚ} (h1 : x.lo ≤ Tm.fin t)
    (h2 : L = [] ∨ Tm.fin t < x.hi) : valAtA (smp (x :: L)) t = some x.v := by
  rw [valAtA_smp_cons x L t h1]
  cases L with
  | nil => rfl
  | cons y L => rw [valAtA_smp_none y L t (hc.2.1 ▸ h2.resolve_left (by simp))]; rfl

/-- The loop at a first segment that contains `r`, or is the only one and starts at `r`: what follows is passed over. -/
theorem em_top {r c : ℚ} {x : Seg α} {L : List (Seg α)} (prev : Option α) (last0 : Option (Tm × α))
    (hc : BChain (x :: L)) (hx : x.lo = Tm.fin c) (hcr : c ≤ r) (h : Tm.fin r < x.hi ∨ (L = [] ∧ c = r)) :
    emR (Tm.fin r) prev (x :: L) = (if emits prev x.v L.isEmpty = true then [(Tm.fin c, x.v)] else []) ∧
      emLast (Tm.fin r) last0 (x :: L) = some (Tm.fin r, x.v) := by
  by_cases h' : Tm.fin r < x.hi
  · obtain ⟨e1, e2⟩ := em_inside (by rw [hx]; exact (fin_le_fin _ _).2 hcr) h' prev last0 L
    have ha : emR (Tm.fin r) (some x.v) L = [] ∧
        emLast (Tm.fin r) (some (Tm.fin r, x.v)) L = some (Tm.fin r, x.v) := by
      cases L with
      | nil => exact ⟨rfl, rfl⟩
      | cons y L => exact emit_after _ _ L y _ hc.2.2 (hc.2.1 ▸ h')
    rw [e1, e2, ha.1, ha.2, hx]
    exact ⟨List.append_nil _, rfl⟩
  · obtain ⟨rfl, rfl⟩ := h.resolve_left h'
    obtain ⟨e1, e2⟩ := em_ended (not_lt.1 h') prev last0 []
    rw [e1, e2, hx]
    exact ⟨List.append_nil _, rfl⟩

/-- One segment `[c, m')` with value `v` that `G` takes there: emitted, or passed over because the result ends with `v`. -/
theorem outInv_seg (hv : ∀ a b : α, vne a b = false → a = b) {G : ℚ → Option α} {D c : ℚ} {m' : Tm} {res : ASig α}
    {prev : Option α} {v : α} (e : Bool) (hO : InterAux.OutInv G D res (Tm.fin c)) (hm : Tm.fin c < m')
    (hprev : ∀ w, prev = some w → ∃ q, res.getLast? = some q ∧ q.2 = w)
    (hG : ∀ t, Tm.fin c ≤ Tm.fin t → Tm.fin t < m' → G t = some v) :
    InterAux.OutInv G D (res ++ if emits prev v e = true then [(Tm.fin c, v)] else []) m' ∧
      ∃ q, (res ++ if emits prev v e = true then [(Tm.fin c, v)] else []).getLast? = some q ∧ q.2 = v := by
  by_cases he : emits prev v e = true
  · rw [if_pos he]
    exact ⟨hO.snoc hm v hG, _, List.getLast?_concat, rfl⟩
  · obtain ⟨q, hq, rfl⟩ := hprev v (prev_of_not_emits hv (Bool.eq_false_iff.2 he))
    rw [if_neg he, List.append_nil]
    exact ⟨hO.skip hm hq hG, q, hq, rfl⟩

theorem emit_acc_top (hv : ∀ a b : α, vne a b = false → a = b) {G : ℚ → Option α} {D r c : ℚ} {x : Seg α}
    {L : List (Seg α)} (prev : Option α) (last0 : Option (Tm × α)) (res : ASig α) (hc : BChain (x :: L))
    (hx : x.lo = Tm.fin c) (hcr : c ≤ r) (h : Tm.fin r < x.hi ∨ (L = [] ∧ c = r))
    (hO : InterAux.OutInv G D res (Tm.fin c)) (hprev : ∀ v, prev = some v → ∃ q, res.getLast? = some q ∧ q.2 = v)
    (hG : ∀ t, c ≤ t → t ≤ r → G t = valAtA (smp (x :: L)) t) :
    BinAux.ResOK G D r x.v (finalize (res ++ emR (Tm.fin r) prev (x :: L)) (emLast (Tm.fin r) last0 (x :: L))) := by
  obtain ⟨e1, e2⟩ := em_top prev last0 hc hx hcr h
  have hseg : ∀ t, c ≤ t → t ≤ r → G t = some x.v := fun t h1 h2 => by
    rw [hG t h1 h2]
    exact valAtA_smp_first hc (by rw [hx]; exact (fin_le_fin _ _).2 h1)
      (h.elim (fun h => Or.inr (lt_of_le_of_lt ((fin_le_fin _ _).2 h2) h)) fun h => Or.inl h.1)
  rw [e1, e2]
  show BinAux.ResOK G D r x.v (BinAux.finish _ _ _)
  rcases lt_or_eq_of_le hcr with hlt | rfl
  · obtain ⟨hO', -⟩ := outInv_seg hv L.isEmpty hO ((fin_lt_fin _ _).2 hlt) hprev fun t h1 h2 =>
      hseg t ((fin_le_fin _ _).1 h1) ((fin_lt_fin _ _).1 h2).le
    rw [BinAux.finish_below _ _ _ hO'.below]
    exact BinAux.resOK_of_outInv hO' (hseg r hcr le_rfl)
  · -- the segment starts at `r`: its start is the pending sample, appended once
    have : BinAux.finish (res ++ if emits prev x.v L.isEmpty = true then [(Tm.fin c, x.v)] else []) (Tm.fin c) x.v =
        res ++ [(Tm.fin c, x.v)] := by
      split
      · exact BinAux.finish_snoc_self res _ _
      · rw [List.append_nil]; exact BinAux.finish_below _ _ _ hO.below
    rw [this]
    exact BinAux.resOK_of_outInv hO (hseg c le_rfl le_rfl)

/-- The output loop on a chain from `c ≤ r` whose last segment starts at or after `r`, continuing a result `res` that is right
    below `c` (`prev` is the value it ends with): the completed result is right up to and including `r`. -/
theorem emit_acc (hv : ∀ a b : α, vne a b = false → a = b) (G : ℚ → Option α) (D r : ℚ) (L : List (Seg α)) :
    ∀ (x : Seg α) (c : ℚ) (prev : Option α) (last0 : Option (Tm × α)) (res : ASig α),
    BChain (x :: L) → x.lo = Tm.fin c → c ≤ r → (∀ z, (x :: L).getLast? = some z → Tm.fin r ≤ z.lo) →
    InterAux.OutInv G D res (Tm.fin c) → (∀ v, prev = some v → ∃ q, res.getLast? = some q ∧ q.2 = v) →
    (∀ t, c ≤ t → t ≤ r → G t = valAtA (smp (x :: L)) t) →
    ∃ vr, BinAux.ResOK G D r vr (finalize (res ++ emR (Tm.fin r) prev (x :: L)) (emLast (Tm.fin r) last0 (x :: L))) := by
  induction L with
  | nil =>
    intro x c prev last0 res hc hx hcr hlast hO hprev hG
    have h1 : Tm.fin r ≤ x.lo := hlast x rfl
    rw [hx] at h1
    exact ⟨_, emit_acc_top hv prev last0 res hc hx hcr (Or.inr ⟨rfl, le_antisymm hcr ((fin_le_fin _ _).1 h1)⟩) hO hprev hG⟩
  | cons y L ih =>
    intro x c prev last0 res hc hx hcr hlast hO hprev hG
    by_cases hA : x.hi ≤ Tm.fin r
    · -- the segment ends before `r`
      obtain ⟨c', hc'⟩ := exists_fin_of_le_fin hA
      have hcc' : Tm.fin c < Tm.fin c' := by rw [← hx, ← hc']; exact hc.1
      have hc'r : c' ≤ r := (fin_le_fin _ _).1 (hc' ▸ hA)
      obtain ⟨eR, eL⟩ := em_ended hA prev last0 (y :: L)
      obtain ⟨hO', hq⟩ := outInv_seg hv (y :: L).isEmpty hO hcc' hprev fun t h1 h2 => by
        have h2' := (fin_lt_fin _ _).1 h2
        rw [hG t ((fin_le_fin _ _).1 h1) (by linarith)]
        exact valAtA_smp_first hc (hx ▸ h1) (Or.inr (hc' ▸ h2))
      rw [eR, eL, ← List.append_assoc, hx]
      refine ih y c' (some x.v) _ _ hc.2.2 (hc.2.1.symm.trans hc') hc'r
        (fun z hz => hlast z (by rw [List.getLast?_cons_cons]; exact hz)) hO'
        (fun v e => by cases e; exact hq) fun t h1 h2 => ?_
      have hy : y.lo ≤ Tm.fin t := by rw [← hc.2.1, hc']; exact (fin_le_fin _ _).2 h1
      rw [hG t (by have := (fin_lt_fin _ _).1 hcc'; linarith) h2,
        valAtA_smp_cons x _ t (le_trans (le_of_lt (hc.2.1 ▸ hc.1)) hy), valAtA_smp_cons y L t hy]
      rfl
    · exact ⟨_, emit_acc_top hv prev last0 res hc hx hcr (Or.inl (not_le.1 hA)) hO hprev hG⟩

end emit

/-! ### from stacks (top first) to lists of segments (bottom first) -/

section stack
variable {α : Type}

theorem cutB_reverse (r : Tm) (L : List (Seg α)) : (cutB r L.reverse).reverse = L.filterMap (cutF r) := by
  rw [cutB, List.filterMap_reverse, List.reverse_reverse]

theorem rev_bchain_aux {c : Tm} : ∀ (r : List (Seg α)) (x : Seg α) (M : List (Seg α)), ChainC c (x :: r) →
    BChain (x :: M) → ∃ z N, (x :: r).reverse ++ M = z :: N ∧ z.lo = c ∧ BChain (z :: N) := by
  intro r
  induction r with
  | nil =>
    intro x M h hM
    exact ⟨x, M, by simp, h.1, hM⟩
  | cons y r ih =>
    intro x M h hM
    obtain ⟨z, N, e1, e2, e3⟩ := ih y (x :: M) h.2.2 ⟨h.2.2.top_lt, h.1, hM⟩
    refine ⟨z, N, ?_, e2, e3⟩
    rw [← e1]; simp

/-- The actual stack (its top segment may be degenerate) read bottom first. -/
theorem rev_bchain {c : Tm} {xv x : Seg α} {r' : List (Seg α)} (h : ChainC c (xv :: r')) (hlo : x.lo = xv.lo)
    (hle : x.lo ≤ x.hi) :
    ∃ z N, (x :: r').reverse = z :: N ∧ z.lo = c ∧ BChain (z :: N) ∧ (z :: N).getLast? = some x := by
  have hl : ((x :: r').reverse).getLast? = some x := by simp
  cases r' with
  | nil => exact ⟨x, [], rfl, hlo.trans h.1, hle, rfl⟩
  | cons y r'' =>
    obtain ⟨z, N, e1, e2, e3⟩ := rev_bchain_aux r'' y [x] h.2.2 ⟨h.2.2.top_lt, h.1.trans hlo.symm, hle⟩
    have e : (x :: y :: r'').reverse = z :: N := by rw [← e1]; simp
    exact ⟨z, N, e, e2, e3, by rw [← e]; exact hl⟩

theorem smp_reverse_congr (x xv : Seg α) (r' : List (Seg α)) (hlo : x.lo = xv.lo) (hv : x.v = xv.v) :
    smp (x :: r').reverse = smp (xv :: r').reverse := by
  simp [smp, hlo, hv]

theorem cutF_of_lt {r : Tm} {x : Seg α} (hr : r < x.hi) :
    cutF r x = some ⟨if x.lo ≤ r then r else x.lo, x.hi, x.v⟩ := by
  by_cases hx : x.lo ≤ r
  · simp [cutF, (le_false_iff _ _).2 hr, (le_iff _ _).2 hx, (lt_iff _ _).2 hr, hx]
  · simp [cutF, (le_false_iff _ _).2 hr, (le_false_iff _ _).2 (not_le.1 hx), hx]

variable [LinearOrder α] [OrderBot α]

/-- Cutting a chain at a time `r` inside its top segment: only that segment is left, from `r` on. -/
theorem cut_chain_top {c r : Tm} {x : Seg α} {rest : List (Seg α)} (h : ChainC c (x :: rest)) (hxlo : x.lo ≤ r)
    (hr : r < x.hi) :
    rest.filterMap (cutF r) = [] ∧ ChainC r [⟨r, x.hi, x.v⟩] ∧
      ∀ t, r ≤ Tm.fin t → segval [⟨r, x.hi, x.v⟩] t = segval (x :: rest) t := by
  refine ⟨?_, ⟨rfl, hr⟩, fun t ht => ?_⟩
  · rw [List.filterMap_eq_nil_iff]
    intro z hz
    simp [cutF, (le_iff _ _).2 (le_trans (h.hi_le z hz) hxlo)]
  · by_cases hx : Tm.fin t < x.hi
    · rw [segval_cons_has _ (show Has x t from ⟨le_trans hxlo ht, hx⟩),
        segval_cons_has _ (show Has (⟨r, x.hi, x.v⟩ : Seg α) t from ⟨ht, hx⟩)]
    · rw [segval_cons_of_le x _ (not_lt.1 hx), segval_cons_of_le (⟨r, x.hi, x.v⟩ : Seg α) _ (not_lt.1 hx),
        segval_bot_tail h (le_trans hxlo ht)]
      rfl

/-- Cutting a chain at a time `r` inside it: what the output loop keeps is a chain from `r` with the same values. -/
theorem cut_chain {c : Tm} (r : Tm) (rest : List (Seg α)) : ∀ (x : Seg α), ChainC c (x :: rest) → c ≤ r → r < x.hi →
    ChainC r (⟨if x.lo ≤ r then r else x.lo, x.hi, x.v⟩ :: rest.filterMap (cutF r)) ∧
      ∀ t, r ≤ Tm.fin t →
        segval (⟨if x.lo ≤ r then r else x.lo, x.hi, x.v⟩ :: rest.filterMap (cutF r)) t = segval (x :: rest) t := by
  induction rest with
  | nil =>
    intro x h hc hr
    rw [if_pos (le_of_eq_of_le h.1 hc)]
    exact (cut_chain_top h (le_of_eq_of_le h.1 hc) hr).2
  | cons y rest ih =>
    intro x h hc hr
    by_cases hxlo : x.lo ≤ r
    · obtain ⟨e, h2⟩ := cut_chain_top h hxlo hr
      rw [if_pos hxlo, e]
      exact h2
    · have hy : r < y.hi := h.1 ▸ not_le.1 hxlo
      obtain ⟨e6, e7⟩ := ih y h.2.2 hc hy
      rw [if_neg hxlo, List.filterMap_cons_some (cutF_of_lt hy)]
      refine ⟨⟨h.1, h.2.1, e6⟩, fun t ht => ?_⟩
      by_cases hx : Has x t
      · rw [segval_cons_has _ hx, segval_cons_has _ hx]
      · rw [segval_cons_not _ hx, segval_cons_not _ hx, e7 t ht]

end stack

section ideal
variable {α : Type} [LinearOrder α] [OrderBot α]

/-- The value the offline algorithm computes at `t` for the sample list `I` (its last sample extended to infinity). -/
noncomputable def Wn (a b : ℚ) (I : ASig α) (t : ℚ) : α := (fwdSegs a b I).foldl (stepF t) ⊥

theorem Wn_le_iff (a b : ℚ) (I : ASig α) (t : ℚ) (z : α) :
    Wn a b I t ≤ z ↔ ∀ s ∈ fwdSegs a b I, Has s t → s.v ≤ z := by
  rw [Wn, foldl_stepF_le_iff]
  simp

/-- A segment cut at `e`. -/
def cap (e : Tm) (s : Seg α) : Seg α := ⟨s.lo, min s.hi e, s.v⟩

omit [LinearOrder α] [OrderBot α] in
theorem has_cap (e : Tm) (s : Seg α) (t : ℚ) : Has (cap e s) t ↔ Has s t ∧ Tm.fin t < e := by
  simp only [Has, cap, lt_min_iff]
  tauto

theorem add_mono {x y : Tm} (h : x ≤ y) (q : ℚ) : x.add q ≤ y.add q := by
  cases x with
  | inf =>
    cases y with
    | inf => exact le_refl _
    | fin _ => exact absurd h (not_inf_le_fin _)
  | fin p =>
    cases y with
    | inf => exact le_inf _
    | fin p' => exact (fin_le_fin _ _).2 (by have := (fin_le_fin _ _).1 h; linarith)

omit [LinearOrder α] [OrderBot α] in
theorem fwdSegs_append (a b : ℚ) (q : ℚ) (v : α) (rest : ASig α) : ∀ (I : ASig α), (∀ p ∈ I, p.1 ≤ Tm.fin q) →
    fwdSegs a b (I ++ (Tm.fin q, v) :: rest) =
      (fwdSegs a b I).map (cap (Tm.fin (q + b))) ++ fwdSegs a b ((Tm.fin q, v) :: rest) := by
  intro I
  induction I with
  | nil => intro _; rfl
  | cons p I ih =>
    intro h
    obtain ⟨τ, w⟩ := p
    cases I with
    | nil =>
      rw [List.singleton_append, fwdSegs_cons2, fwdSegs_one]
      simp [cap]
    | cons p' I' =>
      obtain ⟨τ', w'⟩ := p'
      have h' : τ' ≤ Tm.fin q := h (τ', w') (by simp)
      have := ih (fun p hp => h p (List.mem_cons_of_mem _ hp))
      rw [List.cons_append, List.cons_append, fwdSegs_cons2, ← List.cons_append, this, fwdSegs_cons2, List.map_cons,
        List.cons_append]
      congr 1
      have : τ'.add b ≤ Tm.fin (q + b) := add_mono h' b
      simp [cap, min_eq_left this]

theorem Wn_append_le_iff (a b : ℚ) (q : ℚ) (v : α) (rest I : ASig α) (h : ∀ p ∈ I, p.1 ≤ Tm.fin q) (t : ℚ) (z : α) :
    Wn a b (I ++ (Tm.fin q, v) :: rest) t ≤ z ↔
      (t < q + b → Wn a b I t ≤ z) ∧ ∀ s ∈ fwdSegs a b ((Tm.fin q, v) :: rest), Has s t → s.v ≤ z := by
  rw [Wn_le_iff, fwdSegs_append a b q v rest I h, Wn_le_iff]
  constructor
  · intro H
    refine ⟨fun ht s hs hst => ?_, fun s hs hst => H s (List.mem_append_right _ hs) hst⟩
    exact H (cap (Tm.fin (q + b)) s) (List.mem_append_left _ (List.mem_map_of_mem hs))
      ((has_cap _ _ _).2 ⟨hst, (fin_lt_fin _ _).2 ht⟩)
  · rintro ⟨H1, H2⟩ s hs hst
    rcases List.mem_append.1 hs with hs | hs
    · obtain ⟨s', hs', rfl⟩ := List.mem_map.1 hs
      obtain ⟨h1, h2⟩ := (has_cap _ _ _).1 hst
      exact H1 ((fin_lt_fin _ _).1 h2) s' hs' h1
    · exact H2 s hs hst

omit [LinearOrder α] [OrderBot α] in
theorem fwdSegs_lo_ge (a b : ℚ) (rest : ASig α) : ∀ (q : ℚ) (v : α), Sorted ((Tm.fin q, v) :: rest) →
    ∀ s ∈ fwdSegs a b ((Tm.fin q, v) :: rest), Tm.fin (q + a) ≤ s.lo := by
  induction rest with
  | nil =>
    intro q v _ s hs
    rw [fwdSegs_one, List.mem_singleton] at hs; subst hs; exact le_refl _
  | cons p rest ih =>
    intro q v hsrt s hs
    obtain ⟨τ', v'⟩ := p
    obtain ⟨hs1, hs2⟩ := sorted_cons hsrt
    rw [fwdSegs_cons2, List.mem_cons] at hs
    rcases hs with rfl | hs
    · exact le_refl _
    · have hlt : Tm.fin q < τ' := hs1 _ (List.mem_cons_self ..)
      cases τ' with
      | inf =>
        obtain rfl := InterAux.sorted_inf_nil hs2
        rw [fwdSegs_one, List.mem_singleton] at hs; subst hs
        exact le_inf _
      | fin q' =>
        have := ih q' v' hs2 s hs
        have h2 : q < q' := (fin_lt_fin _ _).1 hlt
        exact le_trans ((fin_le_fin _ _).2 (by linarith)) this

/-- New samples do not change the value before their first segment starts. -/
theorem Wn_stable {a b : ℚ} (hab : a ≤ b) (q : ℚ) (v : α) (rest I : ASig α) (h : ∀ p ∈ I, p.1 ≤ Tm.fin q)
    (hs : Sorted ((Tm.fin q, v) :: rest)) (t : ℚ) (ht : t < q + a) :
    Wn a b (I ++ (Tm.fin q, v) :: rest) t = Wn a b I t := by
  apply eq_of_forall_ge_iff
  intro z
  rw [Wn_append_le_iff a b q v rest I h]
  constructor
  · rintro ⟨H, _⟩; exact H (by linarith)
  · intro H
    refine ⟨fun _ => H, fun s hs' hst => ?_⟩
    have := fwdSegs_lo_ge a b rest q v hs s hs'
    have h2 := hst.1
    have : Tm.fin (q + a) ≤ Tm.fin t := le_trans this h2
    exact absurd ((fin_le_fin _ _).1 this) (not_le.2 ht)

/-- The stack values after a batch. -/
theorem Wn_step (a b : ℚ) (q : ℚ) (v : α) (rest I : ASig α) (h : ∀ p ∈ I, p.1 ≤ Tm.fin q) (t : ℚ) (X : α)
    (hX : X = if t < q + b then Wn a b I t else ⊥) :
    (fwdSegs a b ((Tm.fin q, v) :: rest)).foldl (stepF t) X = Wn a b (I ++ (Tm.fin q, v) :: rest) t := by
  apply eq_of_forall_ge_iff
  intro z
  rw [Wn_append_le_iff a b q v rest I h, foldl_stepF_le_iff, hX]
  by_cases ht : t < q + b
  · simp [ht]
  · simp [ht]

omit [LinearOrder α] [OrderBot α] in
theorem sorted_head_le_last {q τ : ℚ} {v vn : α} {rest : ASig α} (hs : Sorted ((Tm.fin q, v) :: rest))
    (hl : ((Tm.fin q, v) :: rest).getLast? = some (Tm.fin τ, vn)) : q ≤ τ := by
  rcases List.mem_cons.1 (List.mem_of_getLast? hl) with h | h
  · cases h; exact le_refl _
  · exact le_of_lt ((fin_lt_fin _ _).1 ((sorted_cons hs).1 _ h))

omit [LinearOrder α] [OrderBot α] in
theorem fwdSegs_hi (a b : ℚ) (rest : ASig α) : ∀ (p : Tm × α) (τ : ℚ) (vn : α), Sorted (p :: rest) →
    (p :: rest).getLast? = some (Tm.fin τ, vn) →
    ∀ s ∈ fwdSegs a b (p :: rest), s.hi ≤ Tm.fin (τ + b) ∨ (s.hi = Tm.inf ∧ s.lo = Tm.fin (τ + a)) := by
  induction rest with
  | nil =>
    intro p τ vn _ hl s hs
    obtain ⟨σ, w⟩ := p
    simp only [List.getLast?_singleton, Option.some.injEq, Prod.mk.injEq] at hl
    obtain ⟨rfl, rfl⟩ := hl
    rw [fwdSegs_one, List.mem_singleton] at hs; subst hs
    exact Or.inr ⟨rfl, rfl⟩
  | cons p' rest ih =>
    intro p τ vn hsrt hl s hs
    obtain ⟨σ, w⟩ := p
    obtain ⟨σ', w'⟩ := p'
    obtain ⟨_, hs2⟩ := sorted_cons hsrt
    rw [List.getLast?_cons_cons] at hl
    rw [fwdSegs_cons2, List.mem_cons] at hs
    rcases hs with rfl | hs
    · left
      show σ'.add b ≤ Tm.fin (τ + b)
      have : σ' ≤ Tm.fin τ := by
        cases rest with
        | nil =>
          simp only [List.getLast?_singleton, Option.some.injEq, Prod.mk.injEq] at hl
          rw [hl.1]
        | cons p'' rest' =>
          have hm : (Tm.fin τ, vn) ∈ p'' :: rest' := by
            rw [List.getLast?_cons_cons] at hl
            exact List.mem_of_getLast? hl
          exact le_of_lt ((sorted_cons hs2).1 _ hm)
      exact add_mono this b
    · exact ih (σ', w') τ vn hs2 hl s hs

/-- With `b = 0` the value from the last stamp on is constant. -/
theorem Wn_const {a b : ℚ} (ha : 0 ≤ a) (hab : a ≤ b) (hb : b = 0) (I : ASig α) (hs : Sorted I) (τ : ℚ) (vn : α)
    (hl : I.getLast? = some (Tm.fin τ, vn)) (t : ℚ) (ht : τ ≤ t) : Wn a b I t = Wn a b I τ := by
  have ha0 : a = 0 := le_antisymm (by linarith) ha
  cases I with
  | nil => cases hl
  | cons p rest =>
    apply eq_of_forall_ge_iff
    intro z
    rw [Wn_le_iff, Wn_le_iff]
    have key : ∀ s ∈ fwdSegs a b (p :: rest), Has s t ↔ Has s τ := by
      intro s hs'
      rcases fwdSegs_hi a b rest p τ vn hs hl s hs' with h1 | ⟨h1, h2⟩
      · rw [hb, add_zero] at h1
        constructor
        · intro hh; exact absurd (lt_of_le_of_lt ((fin_le_fin _ _).2 ht) hh.2) (not_lt.2 h1)
        · intro hh; exact absurd hh.2 (not_lt.2 h1)
      · rw [ha0, add_zero] at h2
        constructor
        · intro _; exact ⟨le_of_eq h2, by rw [h1]; exact fin_lt_inf _⟩
        · intro _; exact ⟨by rw [h2]; exact (fin_le_fin _ _).2 ht, by rw [h1]; exact fin_lt_inf _⟩
    constructor
    · intro H s hs' hst; exact H s hs' ((key s hs').2 hst)
    · intro H s hs' hst; exact H s hs' ((key s hs').1 hst)

theorem reend_inv {c L : Tm} {lo : Tm} {v : α} {r' : List (Seg α)} (hI : InvC (⟨lo, Tm.inf, v⟩ :: r') c L Tm.inf)
    {e : Tm} (he : lo < e) :
    InvC (⟨lo, e, v⟩ :: r') c L e ∧
      ∀ t, segval (⟨lo, e, v⟩ :: r') t = if Tm.fin t < e then segval (⟨lo, Tm.inf, v⟩ :: r') t else ⊥ := by
  have hch : ChainC c (⟨lo, e, v⟩ :: r') := hI.chain.cut (e := e) he
  have hv : ∀ t, segval (⟨lo, e, v⟩ :: r') t = if Tm.fin t < e then segval (⟨lo, Tm.inf, v⟩ :: r') t else ⊥ := by
    intro t
    by_cases ht : Tm.fin t < e
    · rw [if_pos ht]
      exact segval_cut (⟨lo, Tm.inf, v⟩ : Seg α) r' ht (le_inf _)
    · rw [if_neg ht]
      exact hch.segval_bot (not_lt.1 ht)
  refine ⟨⟨hch, ⟨_, _, rfl, rfl⟩, fun t t' h1 h2 => ?_⟩, hv⟩
  rw [hv t, hv t']
  by_cases ht' : Tm.fin t' < e
  · have ht : Tm.fin t < e := lt_of_le_of_lt ((fin_le_fin _ _).2 h2) ht'
    rw [if_pos ht, if_pos ht']
    exact hI.anti t t' h1 h2
  · rw [if_neg ht']; exact bot_le

end ideal

section step
variable {α : Type} [Val α]

theorem timedEmit_init (r : Tm) (L : List (Seg α)) :
    timedEmit (some r) L none [] none [] = (emR r none L, emLast r none L, cutB r L) := by
  rw [timedEmit_eq]; rfl

/-- State and returned batch after a non-empty batch whose last stamp is `τ`, from the stack after the pushes. -/
def updated (τ : ℚ) (stk : List (Seg α)) : TimedSt α × ASig α :=
  ({ segs := cutB (Tm.fin τ) stk.reverse, rs := some (Tm.fin τ), started := true },
    finalize (emR (Tm.fin τ) none stk.reverse) (emLast (Tm.fin τ) none stk.reverse))

/-- `update` on a non-empty batch when segments are pending. -/
theorem timedUpdate_cons (worse : α → α → Bool) (neutral : α) (a b : ℚ) (st : TimedSt α) (q : ℚ) (v : α)
    (rest : ASig α) (x : Seg α) (r' : List (Seg α)) (h : st.segs.reverse = x :: r') (hst : st.started = true)
    (stk : List (Seg α)) (τ' : ℚ) (vn : α) (hl : ((Tm.fin q, v) :: rest).getLast? = some (Tm.fin τ', vn))
    (hf : (onSegs a b ((Tm.fin q, v) :: rest)).foldlM (pushSeg worse) (⟨x.lo, Tm.fin (q + b), x.v⟩ :: r') = .ok stk) :
    timedUpdateCore worse neutral a b st ((Tm.fin q, v) :: rest) = .ok (updated τ' stk) := by
  simp only [timedUpdateCore, h, hst, hl]
  simp only [Bool.not_true, Bool.and_false, Bool.false_eq_true, if_false, List.reverse_reverse, add_fin, hf, bind,
    Except.bind, pure, Except.pure, Bool.true_or, timedEmit_init]
  rfl

/-- `update` on a non-empty batch when no segment is pending. -/
theorem timedUpdate_cons_nil (worse : α → α → Bool) (neutral : α) (a b : ℚ) (st : TimedSt α) (q : ℚ) (v : α)
    (rest : ASig α) (h : st.segs = [])
    (stk : List (Seg α)) (τ' : ℚ) (vn : α) (hl : ((Tm.fin q, v) :: rest).getLast? = some (Tm.fin τ', vn))
    (hf : (onSegs a b ((Tm.fin q, v) :: rest)).foldlM (pushSeg worse)
      (if (Tm.fin q == Tm.zero && decide (0 < a) && !st.started) = true
        then [⟨Tm.zero, Tm.fin (q + a), neutral⟩] else []) = .ok stk) :
    timedUpdateCore worse neutral a b st ((Tm.fin q, v) :: rest) = .ok (updated τ' stk) := by
  have e : (if (Tm.fin q == Tm.zero && decide (0 < a) && !st.started) = true
      then ([] : List (Seg α)) ++ [⟨Tm.zero, (Tm.fin q).add a, neutral⟩] else []).reverse =
      (if (Tm.fin q == Tm.zero && decide (0 < a) && !st.started) = true
        then [⟨Tm.zero, Tm.fin (q + a), neutral⟩] else []) := by
    split <;> simp
  simp only [timedUpdateCore, h, hl, List.reverse_nil]
  rw [e, hf]
  simp only [bind, Except.bind, pure, Except.pure, List.isEmpty_cons, Bool.not_false, Bool.or_true, timedEmit_init]
  rfl

/-- `update` on an empty batch. -/
theorem timedUpdate_nil (worse : α → α → Bool) (neutral : α) (a b : ℚ) (st : TimedSt α) :
    timedUpdateCore worse neutral a b st [] =
      .ok ({ segs := (timedEmit st.rs st.segs none [] none []).2.2, rs := st.rs, started := st.started },
        finalize (timedEmit st.rs st.segs none [] none []).1 (timedEmit st.rs st.segs none [] none []).2.1) := by
  simp only [timedUpdateCore, onSegs, List.foldlM_nil, List.getLast?_nil, List.reverse_reverse, bind, Except.bind, pure,
    Except.pure, List.isEmpty_nil, Bool.not_true, Bool.or_false]
  rfl

end step

section step2
variable {α : Type} [Val α] [LinearOrder α] [OrderBot α]

/-- What one returned batch looks like: strictly increasing stamps from `c` to `r`, read as `V` in between
    (`BinAux.ResOK` for a function defined on all of `[c, r]`). -/
structure OutOK (out : ASig α) (c r : ℚ) (V : ℚ → α) : Prop where
  sorted : Sorted out
  stamps : ∀ p ∈ out, Tm.fin c ≤ p.1 ∧ p.1 ≤ Tm.fin r
  last : ∃ vr, out.getLast? = some (Tm.fin r, vr)
  head : ∃ v0, out.head? = some (Tm.fin c, v0)
  val : ∀ t, c ≤ t → t ≤ r → valAtA out t = some (V t)

/-- The output loop on the actual stack (whose top segment, re-ended at infinity, makes it a chain). -/
theorem emit_stack (hv : ∀ a b : α, vne a b = false → a = b) {c r : ℚ} {x : Seg α} {r' : List (Seg α)}
    (hch : ChainC (Tm.fin c) (⟨x.lo, Tm.inf, x.v⟩ :: r')) (hle : x.lo ≤ x.hi) (hrx : Tm.fin r ≤ x.lo) (hcr : c ≤ r) :
    ∃ vr, BinAux.ResOK (fun t => some (segval (⟨x.lo, Tm.inf, x.v⟩ :: r') t)) c r vr (updated r (x :: r')).2 := by
  obtain ⟨z, N, e1, e2, e3, e4⟩ := rev_bchain (x := x) hch rfl hle
  have hsm : smp (x :: r').reverse = smp ((⟨x.lo, Tm.inf, x.v⟩ : Seg α) :: r').reverse :=
    smp_reverse_congr x ⟨x.lo, Tm.inf, x.v⟩ r' rfl rfl
  rw [updated, e1] at *
  refine emit_acc hv _ c r N z c none none [] e3 e2 hcr (fun w hw => by rw [e4] at hw; cases hw; exact hrx)
    (InterAux.OutInv.nil _ _) (fun _ h => nomatch h) fun t h1 _ => ?_
  rw [hsm, show smp (_ :: r').reverse = pre (_ :: r') from rfl, valAtA_pre hch ((fin_le_fin _ _).2 h1) (fin_lt_inf _)]

omit [Val α] [LinearOrder α] [OrderBot α] in
/-- With `b = 0` nothing is kept. -/
theorem cut_all {c : Tm} (r : ℚ) (x : Seg α) (r' : List (Seg α)) (hch : ChainC c (⟨x.lo, Tm.inf, x.v⟩ :: r'))
    (hle : x.lo ≤ x.hi) (hr : x.hi = Tm.fin r) : (x :: r').filterMap (cutF (Tm.fin r)) = [] := by
  rw [List.filterMap_eq_nil_iff]
  intro z hz
  have : Tm.le z.hi (Tm.fin r) = true := by
    rw [le_iff]
    rcases List.mem_cons.1 hz with rfl | hz
    · exact le_of_eq hr
    · exact hr ▸ le_trans (hch.hi_le z hz) hle
  simp [cutF, this]

/-- The state of the operation after samples up to `τ` whose ideal value function is `W`. -/
structure StOK (a b : ℚ) (st : TimedSt α) (τ : ℚ) (W : ℚ → α) : Prop where
  rs : st.rs = some (Tm.fin τ)
  started : st.started = true
  segs : (b = 0 ∧ st.segs = []) ∨ (0 < b ∧ ∃ x r', st.segs.reverse = x :: r' ∧ x.hi = Tm.fin (τ + b) ∧
    Tm.fin (τ + a) ≤ x.lo ∧ x.lo ≤ x.hi ∧
    InvC (⟨x.lo, Tm.inf, x.v⟩ :: r') (Tm.fin τ) (Tm.fin (τ + a)) Tm.inf ∧
    ∀ t, τ ≤ t → segval (⟨x.lo, Tm.inf, x.v⟩ :: r') t = W t)

/-- Output loop and new state, from the stack after the pushes.  With `b = 0` nothing is kept. -/
theorem emit_state (hv : ∀ a b : α, vne a b = false → a = b) {a b : ℚ} (ha : 0 ≤ a) (hb : 0 ≤ b) {c τ' : ℚ}
    {x : Seg α} {r' : List (Seg α)} (hcr : c ≤ τ') (hx : TopOK a b x r' (Tm.fin c) τ')
    (W : ℚ → α) (hW : ∀ t, c ≤ t → segval (⟨x.lo, Tm.inf, x.v⟩ :: r') t = W t) :
    StOK a b (updated τ' (x :: r')).1 τ' W ∧
      ∃ vr, BinAux.ResOK (fun t => some (W t)) c τ' vr (updated τ' (x :: r')).2 := by
  obtain ⟨hxhi, hxlo, hle, hI⟩ := hx
  have hrx : Tm.fin τ' ≤ x.lo := le_trans ((fin_le_fin _ _).2 (by linarith)) hxlo
  obtain ⟨vr, k2⟩ := emit_stack hv hI.chain hle hrx hcr
  refine ⟨⟨rfl, rfl, ?_⟩, vr, k2.congr fun t h1 _ => congrArg some (hW t h1)⟩
  rcases lt_or_eq_of_le hb with hb | hb
  · refine Or.inr ⟨hb, ?_⟩
    have hr : Tm.fin τ' < x.hi := by rw [hxhi]; exact (fin_lt_fin _ _).2 (by linarith)
    obtain ⟨d6, d7⟩ := cut_chain (Tm.fin τ') r' ⟨x.lo, Tm.inf, x.v⟩ hI.chain ((fin_le_fin _ _).2 hcr) (fin_lt_inf _)
    refine ⟨⟨if x.lo ≤ Tm.fin τ' then Tm.fin τ' else x.lo, x.hi, x.v⟩, r'.filterMap (cutF (Tm.fin τ')), ?_, hxhi,
      ?_, ?_, ?_, ?_⟩
    · show (cutB (Tm.fin τ') (x :: r').reverse).reverse = _
      rw [cutB_reverse, List.filterMap_cons_some (cutF_of_lt hr)]
    · show Tm.fin (τ' + a) ≤ (if x.lo ≤ Tm.fin τ' then Tm.fin τ' else x.lo)
      split
      · rename_i h; exact le_trans hxlo h
      · exact hxlo
    · show (if x.lo ≤ Tm.fin τ' then Tm.fin τ' else x.lo) ≤ x.hi
      split
      · exact le_of_lt hr
      · exact hle
    · refine ⟨d6, ⟨_, _, rfl, rfl⟩, fun t t' h1 h2 => ?_⟩
      have ht : Tm.fin τ' ≤ Tm.fin t := le_trans ((fin_le_fin _ _).2 (by linarith)) h1
      rw [d7 t ht, d7 t' (le_trans ht ((fin_le_fin _ _).2 h2))]
      exact hI.anti t t' h1 h2
    · intro t ht
      rw [d7 t ((fin_le_fin _ _).2 ht)]
      exact hW t (le_trans hcr ht)
  · refine Or.inl ⟨hb.symm, ?_⟩
    show cutB (Tm.fin τ') (x :: r').reverse = []
    rw [cutB, List.filterMap_reverse, cut_all τ' x r' hI.chain hle (by rw [hxhi, ← hb, add_zero])]
    rfl

variable (worse : α → α → Bool) (hw : ∀ x y, worse x y = true ↔ x < y)
include hw

theorem step_first (hv : ∀ a b : α, vne a b = false → a = b) {a b : ℚ} (ha : 0 ≤ a) (hab : a ≤ b) (v : α)
    (rest : ASig α) (hs : Sorted ((Tm.fin 0, v) :: rest)) (hf : ∀ p ∈ rest, p.1 ≠ Tm.inf) :
    ∃ st' out τ' vn, ((Tm.fin 0, v) :: rest).getLast? = some (Tm.fin τ', vn) ∧
      timedUpdateCore worse ⊥ a b {} ((Tm.fin 0, v) :: rest) = .ok (st', out) ∧
      StOK a b st' τ' (Wn a b ((Tm.fin 0, v) :: rest)) ∧
      ∃ vr, BinAux.ResOK (fun t => some (Wn a b ((Tm.fin 0, v) :: rest) t)) 0 τ' vr out := by
  have key : ∃ x r' τ' vn, ((Tm.fin 0, v) :: rest).getLast? = some (Tm.fin τ', vn) ∧
      (onSegs a b ((Tm.fin 0, v) :: rest)).foldlM (pushSeg worse)
        (if (Tm.fin 0 == Tm.zero && decide (0 < a) && !({} : TimedSt α).started) = true
          then [⟨Tm.zero, Tm.fin (0 + a), ⊥⟩] else []) = .ok (x :: r') ∧ TopOK a b x r' (Tm.fin 0) τ' ∧
      ∀ t, segval (⟨x.lo, Tm.inf, x.v⟩ :: r') t = Wn a b ((Tm.fin 0, v) :: rest) t := by
    by_cases h0 : 0 < a
    · have hc : (Tm.fin 0 == Tm.zero && decide (0 < a) && !({} : TimedSt α).started) = true := by
        simp [h0, Tm.zero]
      rw [if_pos hc]
      obtain ⟨x, r', τ', vn, i1, i2, i3, i7⟩ := fold_batch worse hw hab hs hf (fit_init h0 hab)
      refine ⟨x, r', τ', vn, i1, i2, i3, fun t => ?_⟩
      rw [i7 t, segval_init]; rfl
    · have ha0 : a = 0 := le_antisymm (not_lt.1 h0) ha
      have hc : (Tm.fin 0 == Tm.zero && decide (0 < a) && !({} : TimedSt α).started) = false := by
        simp [h0]
      rw [hc]
      obtain ⟨x, r', τ', vn, i1, i2, i3, i7⟩ := fold_batch worse hw hab hs hf (Or.inl ⟨rfl, by rw [ha0, add_zero]⟩)
      exact ⟨x, r', τ', vn, i1, i2, i3, fun t => (i7 t).trans rfl⟩
  obtain ⟨x, r', τ', vn, i1, i2, i3, i7⟩ := key
  have e := timedUpdate_cons_nil worse ⊥ a b {} 0 v rest rfl (x :: r') τ' vn i1 i2
  have h0τ : (0 : ℚ) ≤ τ' := sorted_head_le_last hs i1
  obtain ⟨k1, k2⟩ := emit_state hv ha (le_trans ha hab) h0τ i3 _ (fun t _ => i7 t)
  exact ⟨_, _, τ', vn, i1, e, k1, k2⟩

theorem step_next (hv : ∀ a b : α, vne a b = false → a = b) {a b : ℚ} (ha : 0 ≤ a) (hab : a ≤ b)
    {st : TimedSt α} {τ : ℚ} (I : ASig α) (hI : ∀ p ∈ I, p.1 ≤ Tm.fin τ) (hst : StOK a b st τ (Wn a b I))
    (q : ℚ) (v : α) (rest : ASig α) (hq : τ < q) (hs : Sorted ((Tm.fin q, v) :: rest))
    (hf : ∀ p ∈ rest, p.1 ≠ Tm.inf) :
    ∃ st' out τ' vn, ((Tm.fin q, v) :: rest).getLast? = some (Tm.fin τ', vn) ∧
      timedUpdateCore worse ⊥ a b st ((Tm.fin q, v) :: rest) = .ok (st', out) ∧
      StOK a b st' τ' (Wn a b (I ++ (Tm.fin q, v) :: rest)) ∧
      ∃ vr, BinAux.ResOK (fun t => some (Wn a b (I ++ (Tm.fin q, v) :: rest) t)) (if 0 < b then τ else q) τ' vr out := by
  have hI' : ∀ p ∈ I, p.1 ≤ Tm.fin q := fun p hp => le_trans (hI p hp) ((fin_le_fin _ _).2 (le_of_lt hq))
  rcases hst.segs with ⟨hb0, hsegs⟩ | ⟨hb, x, r', e1, e2, e3, e4, e5, e6⟩
  · -- `b = 0`: nothing pending
    have ha0 : a = 0 := le_antisymm (by linarith) ha
    have hc : (Tm.fin q == Tm.zero && decide (0 < a) && !st.started) = false := by
      rw [hst.started]; simp
    obtain ⟨x, r', τ', vn, i1, i2, i3, i7⟩ := fold_batch worse hw hab hs hf (Or.inl ⟨rfl, by rw [ha0, add_zero]⟩)
    have e := timedUpdate_cons_nil worse ⊥ a b st q v rest hsegs (x :: r') τ' vn i1 (by rw [hc]; exact i2)
    have hW : ∀ t, q ≤ t → segval (⟨x.lo, Tm.inf, x.v⟩ :: r') t = Wn a b (I ++ (Tm.fin q, v) :: rest) t := by
      intro t ht
      rw [i7 t]
      exact Wn_step a b q v rest I hI' t ⊥ (by rw [if_neg]; rw [hb0]; linarith)
    obtain ⟨k1, k2⟩ := emit_state hv ha (le_of_eq hb0.symm) (sorted_head_le_last hs i1) i3 _ hW
    refine ⟨_, _, τ', vn, i1, e, k1, ?_⟩
    rw [if_neg (by rw [hb0]; exact lt_irrefl _)]
    exact k2
  · -- `0 < b`: the last pending segment is re-ended
    have hlt : x.lo < Tm.fin (q + b) :=
      lt_of_le_of_lt e4 (by rw [e2]; exact (fin_lt_fin _ _).2 (by linarith))
    obtain ⟨j1, j2⟩ := reend_inv e5 hlt
    obtain ⟨y, s', τ', vn, i1, i2, i3, i7⟩ := fold_batch worse hw hab hs hf (Or.inr ⟨_, _, j1,
      (fin_le_fin _ _).2 (by linarith), (fin_le_fin _ _).2 (by linarith), (fin_le_fin _ _).2 (by linarith), le_refl _⟩)
    have e := timedUpdate_cons worse ⊥ a b st q v rest x r' e1 hst.started (y :: s') τ' vn i1 i2
    have hW : ∀ t, τ ≤ t → segval (⟨y.lo, Tm.inf, y.v⟩ :: s') t = Wn a b (I ++ (Tm.fin q, v) :: rest) t := by
      intro t ht
      rw [i7 t]
      refine Wn_step a b q v rest I hI' t _ ?_
      rw [j2 t]
      by_cases h : t < q + b
      · rw [if_pos ((fin_lt_fin _ _).2 h), if_pos h, e6 t ht]
      · rw [if_neg (fun h' => h ((fin_lt_fin _ _).1 h')), if_neg h]
    have hττ' : τ ≤ τ' := le_trans (le_of_lt hq) (sorted_head_le_last hs i1)
    obtain ⟨k1, k2⟩ := emit_state hv ha (le_of_lt hb) hττ' i3 _ hW
    refine ⟨_, _, τ', vn, i1, e, k1, ?_⟩
    rw [if_pos hb]
    exact k2

omit hw in
theorem step_empty (hv : ∀ a b : α, vne a b = false → a = b) {a b : ℚ} (ha : 0 ≤ a)
    {st : TimedSt α} {τ : ℚ} {W : ℚ → α} (hst : StOK a b st τ W) :
    ∃ st' out, timedUpdateCore worse ⊥ a b st [] = .ok (st', out) ∧ StOK a b st' τ W ∧
      (0 < b → ∃ vr, BinAux.ResOK (fun t => some (W t)) τ τ vr out) ∧ (b = 0 → out = []) := by
  rw [timedUpdate_nil]
  rcases hst.segs with ⟨hb0, hsegs⟩ | ⟨hb, x, r', e1, e2, e3, e4, e5, e6⟩
  · have e : timedEmit st.rs st.segs none ([] : ASig α) none [] = ([], none, []) := by
      rw [hsegs]; simp [timedEmit]
    rw [e]
    refine ⟨_, _, rfl, ⟨hst.rs, hst.started, Or.inl ⟨hb0, rfl⟩⟩, fun h => absurd h (by rw [hb0]; exact lt_irrefl _),
      fun _ => rfl⟩
  · have hs : st.segs = (x :: r').reverse := by rw [← e1, List.reverse_reverse]
    obtain ⟨k1, k2⟩ := emit_state hv ha (le_of_lt hb) (le_refl τ) ⟨e2, e3, e4, e5⟩ W e6
    rw [hst.rs, hs, hst.started, timedEmit_init]
    exact ⟨_, _, rfl, k1, fun _ => k2, fun h => absurd hb (by rw [h]; exact lt_irrefl _)⟩

omit hw in
/-- An empty batch before any sample. -/
theorem step_empty_init (a b : ℚ) : timedUpdateCore worse (⊥ : α) a b {} [] = .ok ({}, []) := by
  rw [timedUpdate_nil]
  rfl

end step2

section flat2
variable {α : Type} [Val α] [LinearOrder α] [OrderBot α]

/-- The concatenation of the batches returned so far: starts at 0, ends with the sample at the last input stamp `τ`,
    non-decreasing stamps with repetitions of identical samples only, and reads as `W` up to `τ`: `Flat` for a function
    defined on all of `[0, τ]`, with the last sample. -/
structure FlatOK (O : ASig α) (τ : ℚ) (W : ℚ → α) : Prop where
  head : ∃ v0, O.head? = some (Tm.fin 0, v0)
  last : O.getLast? = some (Tm.fin τ, W τ)
  weak : O.Pairwise (fun p q => Tm.lt p.1 q.1 = true ∨ p = q)
  stamps : ∀ p ∈ O, p.1 < Tm.fin τ ∨ p = (Tm.fin τ, W τ)
  val : ∀ t, 0 ≤ t → t ≤ τ → valAtA O t = some (W t)

end flat2

section stream
variable {α : Type} [Val α] [LinearOrder α] [OrderBot α]

/-- The invariant of the run: after the samples `I`, the state `st` and the concatenation `O` of the returned batches, which
    reads as the ideal value of `I` and ends at the last stamp of `I`. -/
def StreamInv (a b : ℚ) (I : ASig α) (st : TimedSt α) (O : ASig α) : Prop :=
  Flat O 0 (fun t => some (Wn a b I t)) ∧
  ((I = [] ∧ st.segs = [] ∧ st.rs = none ∧ st.started = false ∧ O = []) ∨
   (∃ τ vn w, I.getLast? = some (Tm.fin τ, vn) ∧ StOK a b st τ (Wn a b I) ∧ O.getLast? = some (Tm.fin τ, w)))

variable (worse : α → α → Bool) (hw : ∀ x y, worse x y = true ↔ x < y)
include hw

theorem inv_step (hv : ∀ a b : α, vne a b = false → a = b) {a b : ℚ} (ha : 0 ≤ a) (hab : a ≤ b)
    {I : ASig α} {st : TimedSt α} {O : ASig α} (hinv : StreamInv a b I st O) (B : ASig α)
    (hsrt : Sorted (I ++ B)) (hfin : ∀ p ∈ B, p.1 ≠ Tm.inf)
    (h0 : ∀ p, (I ++ B).head? = some p → p.1 = Tm.fin 0) :
    ∃ st1 out1, timedUpdateCore worse ⊥ a b st B = .ok (st1, out1) ∧ Sorted out1 ∧
      StreamInv a b (I ++ B) st1 (O ++ out1) := by
  obtain ⟨hF, hcase⟩ := hinv
  obtain ⟨hsI, hsB, hIB⟩ := (InterAux.sorted_append I B).1 hsrt
  have hnil : Sorted ([] : ASig α) := by simp [Sorted, times]
  rcases hcase with ⟨hI, hseg, hrs, hstd, hfl⟩ | ⟨τ, vn, w, hl, hst, hlo⟩
  · subst hI hfl
    have hst0 : st = {} := by
      cases st; simp only at hseg hrs hstd; subst hseg hrs hstd; rfl
    subst hst0
    cases B with
    | nil => exact ⟨{}, [], step_empty_init worse a b, hnil, Flat.nil _ _, Or.inl ⟨rfl, rfl, rfl, rfl, rfl⟩⟩
    | cons p rest =>
      obtain ⟨σ, v⟩ := p
      have hσ : σ = Tm.fin 0 := h0 (σ, v) rfl
      subst hσ
      obtain ⟨st', out, τ', vn, i1, i2, i3, vr, i4⟩ := step_first worse hw hv ha hab v rest hsB
        (fun p hp => hfin p (List.mem_cons_of_mem _ hp))
      exact ⟨st', out, i2, i4.sorted, i4.flat, Or.inr ⟨τ', vn, vr, i1, i3, i4.last⟩⟩
  · have hIle : ∀ p ∈ I, p.1 ≤ Tm.fin τ := (BasicAux.weak_of_sorted hsI).le_last hl
    have hb0 : 0 ≤ b := le_trans ha hab
    cases B with
    | nil =>
      obtain ⟨st', out, i1, i2, i3, i4⟩ := step_empty worse hv ha hst
      rw [List.append_nil]
      rcases lt_or_eq_of_le hb0 with hb | hb
      · obtain ⟨vr, ho⟩ := i3 hb
        obtain ⟨hF', hl'⟩ := (hF.append_res hlo ho).2 _ (Or.inl rfl)
        exact ⟨st', out, i1, ho.sorted, hF', Or.inr ⟨τ, vn, vr, hl, i2, hl'⟩⟩
      · rw [i4 hb.symm] at i1
        exact ⟨st', [], i1, hnil, by rw [List.append_nil]; exact ⟨hF, Or.inr ⟨τ, vn, w, hl, i2, hlo⟩⟩⟩
    | cons p rest =>
      obtain ⟨σ, v⟩ := p
      cases σ with
      | inf => exact absurd rfl (hfin (Tm.inf, v) (List.mem_cons_self ..))
      | fin q =>
        have hq : τ < q := (fin_lt_fin _ _).1
          (hIB _ (List.mem_of_getLast? hl) (Tm.fin q, v) (List.mem_cons_self ..))
        obtain ⟨st', out, τ', vn', i1, i2, i3, vr, i4⟩ := step_next worse hw hv ha hab I hIle hst q v rest hq hsB
          (fun p hp => hfin p (List.mem_cons_of_mem _ hp))
        have hIq : ∀ p ∈ I, p.1 ≤ Tm.fin q := fun p hp => le_trans (hIle p hp) ((fin_le_fin _ _).2 (le_of_lt hq))
        have hstab : ∀ t, t < q → Wn a b (I ++ (Tm.fin q, v) :: rest) t = Wn a b I t := fun t ht =>
          Wn_stable hab q v rest I hIq hsB t (by linarith)
        -- what was returned is right for the longer input as well
        have hF1 := hF.congr hlo fun t _ ht => congrArg some (hstab t (lt_of_le_of_lt ht hq)).symm
        have hone : out ≠ [] := fun e => by have := i4.last; rw [e] at this; cases this
        have hlast : (I ++ (Tm.fin q, v) :: rest).getLast? = some (Tm.fin τ', vn') := by
          rw [List.getLast?_append_of_ne_nil _ (List.cons_ne_nil _ _)]; exact i1
        refine ⟨st', out, i2, i4.sorted, ?_, Or.inr ⟨τ', vn', vr, hlast, i3,
          by rw [List.getLast?_append_of_ne_nil _ hone]; exact i4.last⟩⟩
        by_cases hb : 0 < b
        · rw [if_pos hb] at i4
          exact ((hF1.append_res hlo i4).2 _ (Or.inl rfl)).1
        · -- `b = 0`: the batch starts at `q`, and between `τ` and `q` the value stays what it was at `τ`
          rw [if_neg hb] at i4
          have hb' : b = 0 := le_antisymm (not_lt.1 hb) hb0
          have hout : ∀ p ∈ out, Tm.fin τ < p.1 := fun p hp => lt_of_lt_of_le ((fin_lt_fin _ _).2 hq) (i4.ge p hp)
          refine hF1.append hlo i4.sorted i4.last (fun p hp => Or.inl (hout p hp)) fun t h1 h2 => ?_
          by_cases htq : q ≤ t
          · rw [i4.val t htq h2]; rfl
          · rw [InterAux.valAtA_none_of_lt out t fun p hp => lt_of_lt_of_le ((fin_lt_fin _ _).2 (not_le.1 htq)) (i4.ge p hp),
              hstab t (not_le.1 htq), Wn_const ha hab hb' I hsI τ vn hl t h1.le]
            exact (hF.at_last hlo).symm

theorem run_inv (hv : ∀ a b : α, vne a b = false → a = b) {a b : ℚ} (ha : 0 ≤ a) (hab : a ≤ b)
    (Bs : List (ASig α)) : ∀ (I : ASig α) (st : TimedSt α) (O : ASig α), StreamInv a b I st O →
    Sorted (I ++ Bs.flatten) → (∀ B ∈ Bs, ∀ p ∈ B, p.1 ≠ Tm.inf) →
    (∀ p, (I ++ Bs.flatten).head? = some p → p.1 = Tm.fin 0) →
    ∃ st' outs, runUn (timedUpdateCore worse ⊥ a b) st Bs = .ok (st', outs) ∧ (∀ o ∈ outs, Sorted o) ∧
      StreamInv a b (I ++ Bs.flatten) st' (O ++ outs.flatten) := by
  induction Bs with
  | nil =>
    intro I st O hinv _ _ _
    exact ⟨st, [], rfl, (fun _ h => nomatch h), by simpa using hinv⟩
  | cons B Bs ih =>
    intro I st O hinv hsrt hfin h0
    rw [List.flatten_cons, ← List.append_assoc] at hsrt h0 ⊢
    have hsIB : Sorted (I ++ B) := ((InterAux.sorted_append _ _).1 hsrt).1
    obtain ⟨st1, out1, e1, hs1, hinv1⟩ := inv_step worse hw hv ha hab hinv B hsIB
      (fun p hp => hfin B (List.mem_cons_self ..) p hp)
      (fun p hp => h0 p (by
        cases hIB : I ++ B with
        | nil => rw [hIB] at hp; cases hp
        | cons x xs => rw [hIB] at hp; exact hp))
    obtain ⟨st', outs, e2, hs2, hinv2⟩ := ih (I ++ B) st1 (O ++ out1) hinv1 hsrt
      (fun B' hB' => hfin B' (List.mem_cons_of_mem _ hB')) h0
    refine ⟨st', out1 :: outs, ?_, List.forall_mem_cons.2 ⟨hs1, hs2⟩, ?_⟩
    · simp only [runUn, e1, e2, bind, Except.bind, pure, Except.pure]
    · rw [List.flatten_cons, ← List.append_assoc]; exact hinv2

end stream

section final
variable {α : Type} [iv : Val α] [io : LinearOrder α] [ib : OrderBot α]
variable (worse : α → α → Bool) (hw : ∀ x y, worse x y = true ↔ x < y)
include hw

omit iv io ib hw in
theorem covered_last {Bs : List (ASig α)} {τ : ℚ} {v : α} (h : Bs.flatten.getLast? = some (Tm.fin τ, v)) (d t : ℚ) :
    Covered Bs d t ↔ d ≤ t ∧ t ≤ τ := by
  unfold Covered
  rw [h]
  constructor
  · rintro ⟨τ0, p, h1, h2, h3⟩
    cases h1; cases h2; exact h3
  · exact fun h3 => ⟨τ, _, rfl, rfl, h3⟩

/-- The run of the bounded operation over a stream without repeated samples, for any order the stack works with: the returned
    stream is the ideal value of the samples received, up to the last stamp received. -/
theorem timed_core (hv : ∀ a b : α, vne a b = false → a = b) {a b : ℚ} (ha : 0 ≤ a) (hab : a ≤ b)
    {Bs : List (ASig α)} (hsh : Shape Bs 0) (hstrict : Sorted Bs.flatten) :
    ∃ st outs, runUn (timedUpdateCore worse ⊥ a b) {} Bs = .ok (st, outs) ∧
      st.rs = (Bs.flatten.getLast?).map (·.1) ∧ StreamOK outs 0 (fun t => some (Wn a b Bs.flatten t)) ∧
      ∀ t, Covered outs 0 t ↔ Covered Bs 0 t := by
  obtain ⟨st, outs, e, hso, hinv⟩ := run_inv worse hw hv ha hab Bs [] {} []
    ⟨Flat.nil _ _, Or.inl ⟨rfl, rfl, rfl, rfl, rfl⟩⟩ (by simpa using hstrict) hsh.finite
    (by simpa using hsh.start)
  rw [List.nil_append, List.nil_append] at hinv
  obtain ⟨hF, hcase⟩ := hinv
  refine ⟨st, outs, e, ?_, streamOK_iff.2 ⟨hso, hF⟩, fun t => ?_⟩
  · rcases hcase with ⟨hI, _, hrs, _, _⟩ | ⟨τ, vn, w, hl, hst, _⟩
    · rw [hrs, hI]; rfl
    · rw [hst.rs, hl]; rfl
  · rcases hcase with ⟨hI, _, _, _, hfl⟩ | ⟨τ, vn, w, hl, _, hlo⟩
    · exact ⟨fun ⟨_, _, h, _⟩ => (by rw [hfl] at h; cases h), fun ⟨_, _, h, _⟩ => by rw [hI] at h; cases h⟩
    · exact (covered_last hlo 0 t).trans (covered_last hl 0 t).symm

omit iv io ib hw in
theorem wfa_flatten {Bs : List (ASig α)} (hsh : Shape Bs 0) (hstrict : Sorted Bs.flatten) (hne : Bs.flatten ≠ []) :
    WFA Bs.flatten 0 := by
  refine ⟨hstrict, ?_, InterAux.infOK_of_fin (fun p hp => ?_)⟩
  · cases hI : Bs.flatten with
    | nil => exact absurd hI hne
    | cons p rest =>
      have := hsh.start p (by rw [hI]; rfl)
      simp [times, this]
  · obtain ⟨B, hB, hpB⟩ := List.mem_flatten.1 hp
    exact hsh.finite B hB p hpB

omit iv io ib hw in
theorem valuesOn_covered {Bs : List (ASig α)} {g : Rat → Option α} (h : StreamOK Bs 0 g) {t : ℚ}
    (hc : Covered Bs 0 t) (lo hi : ℚ) (hlo : 0 ≤ lo) (hhi : hi ≤ t) :
    valuesOn (valAtA Bs.flatten) lo hi = valuesOn g lo hi := by
  obtain ⟨τ, p, h1, h2, h3, h4⟩ := hc
  ext y
  constructor
  · rintro ⟨u, u1, u2, u3⟩
    exact ⟨u, u1, u2, by rw [← h.2 u ⟨τ, p, h1, h2, by linarith, by linarith⟩]; exact u3⟩
  · rintro ⟨u, u1, u2, u3⟩
    exact ⟨u, u1, u2, by rw [h.2 u ⟨τ, p, h1, h2, by linarith, by linarith⟩]; exact u3⟩

/-- The contract of the bounded operation over a stream without repeated samples, for the order the stack works
    with (`⊥` is the neutral value): the supremum over the window clipped to `[0, ∞)`. -/
theorem timed_final (hv : ∀ a b : α, vne a b = false → a = b) {a b : ℚ} (ha : 0 ≤ a) (hab : a ≤ b)
    {Bs : List (ASig α)} {g : Rat → Option α} (h : StreamOK Bs 0 g) (hstrict : Sorted Bs.flatten) :
    ∃ st outs, runUn (timedUpdateCore worse ⊥ a b) {} Bs = .ok (st, outs) ∧
      st.rs = (Bs.flatten.getLast?).map (·.1) ∧ Shape outs 0 ∧
      ∀ t, Covered outs 0 t → ∃ v, valAtA outs.flatten t = some v ∧ IsLUB (valuesOn g (max (t - b) 0) (t - a)) v := by
  obtain ⟨st, outs, e, hrs, hS, hc⟩ := timed_core worse hw hv ha hab h.1 hstrict
  refine ⟨st, outs, e, hrs, hS.1, fun t ht => ⟨_, hS.2 t ht, ?_⟩⟩
  have hcov := (hc t).1 ht
  have hne : Bs.flatten ≠ [] := by
    obtain ⟨τ, p, h1, _⟩ := hcov
    intro h'; rw [h'] at h1; cases h1
  rw [← valuesOn_covered h hcov _ _ (le_max_right _ _) (by linarith)]
  exact ideal_isLUB ⟨wfa_flatten h.1 hstrict hne, fun _ _ => rfl⟩ hab t

theorem timed_covered (hv : ∀ a b : α, vne a b = false → a = b) {a b : ℚ} (ha : 0 ≤ a) (hab : a ≤ b)
    {Bs : List (ASig α)} (hsh : Shape Bs 0) (hstrict : Sorted Bs.flatten) {st : TimedSt α} {outs : List (ASig α)}
    (he : runUn (timedUpdateCore worse ⊥ a b) {} Bs = .ok (st, outs)) (t : ℚ) : Covered outs 0 t ↔ Covered Bs 0 t := by
  obtain ⟨st', outs', e, _, _, h⟩ := timed_core worse hw hv ha hab hsh hstrict
  rw [he] at e
  cases Except.ok.inj e
  exact h t

end final

end TimedAux

open TimedAux

variable {α : Type} [Val α] [LawfulVal α]

/-- `OnceTimedOperation` over an operand stream that starts at 0 and has no repeated sample: no exception; what has
    been returned so far is the supremum over the window `[t-b, t-a]` clipped to `[0, ∞)`; the state remembers the last
    stamp. -/
theorem timedStream_once_core_sup (a b : Rat) (ha : 0 ≤ a) (hab : a ≤ b) {Bs : List (ASig α)} {g : Rat → Option α}
    (h : StreamOK Bs 0 g) (hstrict : Sorted Bs.flatten) :
    ∃ st outs, runUn (timedUpdateCore ltW Val.ninf a b) {} Bs = .ok (st, outs) ∧
      st.rs = (Bs.flatten.getLast?).map (·.1) ∧ Shape outs 0 ∧
      SupFn (fun t => valuesOn g (max (t - b) 0) (t - a)) (Covered outs 0) (valAtA outs.flatten) := by
  have hc := timed_final (ltW (α := α)) (fun x y => LawfulVal.lt_iff x y) (fun x y => (vne_eq_false_iff x y).1)
    ha hab h hstrict
  rw [← LawfulVal.ninf_bot] at hc
  exact hc

/-- `HistoricallyTimedOperation`. -/
theorem timedStream_hist_core_inf (a b : Rat) (ha : 0 ≤ a) (hab : a ≤ b) {Bs : List (ASig α)} {g : Rat → Option α}
    (h : StreamOK Bs 0 g) (hstrict : Sorted Bs.flatten) :
    ∃ st outs, runUn (timedUpdateCore gtW Val.pinf a b) {} Bs = .ok (st, outs) ∧
      st.rs = (Bs.flatten.getLast?).map (·.1) ∧ Shape outs 0 ∧
      InfFn (fun t => valuesOn g (max (t - b) 0) (t - a)) (Covered outs 0) (valAtA outs.flatten) := by
  have hc := @timed_final αᵒᵈ (inferInstanceAs (Val α)) _ _ (gtW (α := α))
    (fun x y => LawfulVal.lt_iff (OrderDual.ofDual y) (OrderDual.ofDual x))
    (fun x y => (vne_eq_false_iff (α := α) x y).1) a b ha hab Bs g h hstrict
  have hbot : (⊥ : αᵒᵈ) = OrderDual.toDual (Val.pinf : α) :=
    congrArg OrderDual.toDual (LawfulVal.pinf_top (α := α)).symm
  rw [hbot] at hc
  exact hc

/-- The same in two cases: `-inf` while the window `[t-b, t-a]` lies before 0. -/
theorem timedStream_once_core (a b : Rat) (ha : 0 ≤ a) (hab : a ≤ b) {Bs : List (ASig α)} {g : Rat → Option α}
    (h : StreamOK Bs 0 g) (hstrict : Sorted Bs.flatten) :
    ∃ st outs, runUn (timedUpdateCore ltW Val.ninf a b) {} Bs = .ok (st, outs) ∧
      st.rs = (Bs.flatten.getLast?).map (·.1) ∧ Shape outs 0 ∧
      ∀ t, Covered outs 0 t →
        (t - a < 0 → valAtA outs.flatten t = some Val.ninf) ∧
        (0 ≤ t - a → ∃ v, valAtA outs.flatten t = some v ∧ IsLUB (valuesOn g (max (t - b) 0) (t - a)) v) := by
  obtain ⟨st, outs, e, hrs, hS, hv⟩ := timedStream_once_core_sup a b ha hab h hstrict
  exact ⟨st, outs, e, hrs, hS, hv.cases⟩

/-- `HistoricallyTimedOperation`. -/
theorem timedStream_hist_core (a b : Rat) (ha : 0 ≤ a) (hab : a ≤ b) {Bs : List (ASig α)} {g : Rat → Option α}
    (h : StreamOK Bs 0 g) (hstrict : Sorted Bs.flatten) :
    ∃ st outs, runUn (timedUpdateCore gtW Val.pinf a b) {} Bs = .ok (st, outs) ∧
      st.rs = (Bs.flatten.getLast?).map (·.1) ∧ Shape outs 0 ∧
      ∀ t, Covered outs 0 t →
        (t - a < 0 → valAtA outs.flatten t = some Val.pinf) ∧
        (0 ≤ t - a → ∃ v, valAtA outs.flatten t = some v ∧ IsGLB (valuesOn g (max (t - b) 0) (t - a)) v) := by
  obtain ⟨st, outs, e, hrs, hS, hv⟩ := timedStream_hist_core_inf a b ha hab h hstrict
  exact ⟨st, outs, e, hrs, hS, hv.cases⟩

theorem timedStream_once_covered' (a b : Rat) (ha : 0 ≤ a) (hab : a ≤ b) {Bs : List (ASig α)}
    (hsh : Shape Bs 0) (hstrict : Sorted Bs.flatten) {st : TimedSt α} {outs : List (ASig α)}
    (he : runUn (timedUpdateCore ltW Val.ninf a b) {} Bs = .ok (st, outs)) (t : Rat) :
    Covered outs 0 t ↔ Covered Bs 0 t := by
  rw [LawfulVal.ninf_bot] at he
  exact timed_covered (ltW (α := α)) (fun x y => LawfulVal.lt_iff x y) (fun x y => (vne_eq_false_iff x y).1)
    ha hab hsh hstrict he t

theorem timedStream_hist_covered' (a b : Rat) (ha : 0 ≤ a) (hab : a ≤ b) {Bs : List (ASig α)}
    (hsh : Shape Bs 0) (hstrict : Sorted Bs.flatten) {st : TimedSt α} {outs : List (ASig α)}
    (he : runUn (timedUpdateCore gtW Val.pinf a b) {} Bs = .ok (st, outs)) (t : Rat) :
    Covered outs 0 t ↔ Covered Bs 0 t := by
  have hbot : (Val.pinf : α) = OrderDual.ofDual (⊥ : αᵒᵈ) := LawfulVal.pinf_top (α := α)
  rw [hbot] at he
  exact @timed_covered αᵒᵈ (inferInstanceAs (Val α)) _ _ (gtW (α := α))
    (fun x y => LawfulVal.lt_iff (OrderDual.ofDual y) (OrderDual.ofDual x))
    (fun x y => (vne_eq_false_iff (α := α) x y).1) a b ha hab Bs hsh hstrict st outs he t

end Rtamt.Dense.AlgOn
