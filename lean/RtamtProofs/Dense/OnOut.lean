/-
  Dense time, online: an output under construction.  Every operation class builds what it returns as a sorted sample list
  that reads as a function `G` from a start `D` up to a frontier, in three stages:
  * `InterAux.OutInv G D out m`: right on `[D, m)`, extended by `snoc` / `skip` while the frontier `m` moves (the merge
    loops and the output loop of the bounded operations);
  * `BinAux.ResOK G D τ v res`: the frontier sample `(τ, v)` appended (`finish`): right on the closed `[D, τ]`;
  * `Flat E d g`: the concatenation of the batches returned so far, which is `StreamOK` without the batch boundaries
    (`streamOK_iff`).  A batch that continues behind the last sample, or starts by repeating it, is glued on by
    `Flat.append`; `Flat.append_res` is the case of a `ResOK` piece that starts at the last sample.
-/
import RtamtProofs.Dense.OnBasic

namespace Rtamt.Dense.AlgOn
open Rtamt Val Rtamt.Dense.Alg

namespace BinAux
open InterAux
attribute [local instance] InterAux.tmOrder

variable {α β : Type}

/-- `if last: if not result: result.append(last) else: if last[0] > result[-1][0]: result.append(last)`. -/
def finish (result : ASig β) (t : Tm) (v : β) : ASig β :=
  match result.getLast? with
  | none => [(t, v)]
  | some (t', _) => if Tm.lt t' t then result ++ [(t, v)] else result

theorem finish_below (out : ASig β) (m : Tm) (v : β) (h : ∀ τ' ∈ times out, τ' < m) :
    finish out m v = out ++ [(m, v)] := by
  rcases List.eq_nil_or_concat out with rfl | ⟨init, q, rfl⟩
  · rfl
  · rw [List.concat_eq_append] at h ⊢
    obtain ⟨t', x⟩ := q
    have : t' < m := h t' (mem_times_snoc.2 (Or.inr rfl))
    simp only [finish, List.getLast?_append, List.getLast?_singleton, Option.some_or]
    rw [if_pos ((lt_iff _ _).2 this)]

theorem finish_snoc_self (X : ASig β) (m : Tm) (v : β) : finish (X ++ [(m, v)]) m v = X ++ [(m, v)] := by
  simp only [finish, List.getLast?_concat]
  exact if_neg (by rw [lt_iff]; exact lt_irrefl m)

/-- The result of one update before `last_output` is looked at: it starts at the frontier `D` the update began with, ends
    with the pending sample `(τ, v)` and denotes `G` on the closed `[D, τ]`: `OutInv` at the frontier `τ` plus the sample
    there (`resOK_of_outInv`).  `Flat.append_res` glues it, with `D` the last emitted stamp, to what was emitted before. -/
structure ResOK (G : Rat → Option β) (D τ : Rat) (v : β) (res : ASig β) : Prop where
  sorted : Sorted res
  head : (times res).head? = some (Tm.fin D)
  last : res.getLast? = some (Tm.fin τ, v)
  le : ∀ x ∈ times res, x ≤ Tm.fin τ
  val : ∀ t, D ≤ t → t ≤ τ → valAtA res t = G t

theorem resOK_of_outInv {G : Rat → Option β} {D τ : Rat} {v : β} {out : ASig β} (h : OutInv G D out (Tm.fin τ))
    (hv : G τ = some v) : ResOK G D τ v (out ++ [(Tm.fin τ, v)]) := by
  refine ⟨sorted_snoc h.sorted h.below v, ?_, List.getLast?_concat, ?_, ?_⟩
  · have := h.start
    rwa [times_append]
  · intro x hx
    rcases mem_times_snoc.1 hx with hx | rfl
    · exact (h.below x hx).le
    · exact le_rfl
  · intro t h1 h2
    rcases lt_or_eq_of_le h2 with hlt | heq
    · rw [BasicAux.valAtA_append_after _ _ _ _ ((fin_lt_fin _ _).2 hlt)]
      exact h.val t h1 ((fin_lt_fin _ _).2 hlt)
    · subst heq
      rw [BasicAux.valAtA_append_at _ _ _ _ le_rfl (fun τ' hτ' => (h.below τ' hτ').le)]
      exact hv.symm

theorem ResOK.congr {G G' : Rat → Option β} {D τ : Rat} {v : β} {res : ASig β} (h : ResOK G D τ v res)
    (hg : ∀ t, D ≤ t → t ≤ τ → G t = G' t) : ResOK G' D τ v res :=
  ⟨h.sorted, h.head, h.last, h.le, fun t h0 h1 => (h.val t h0 h1).trans (hg t h0 h1)⟩

theorem ResOK.le_tau {G : Rat → Option β} {D τ : Rat} {v : β} {res : ASig β} (h : ResOK G D τ v res) : D ≤ τ := by
  obtain ⟨v, r, e⟩ := eq_cons_of_head h.head
  exact (fin_le_fin _ _).1 (h.le _ (e ▸ List.mem_cons_self))

theorem ResOK.ge {G : Rat → Option β} {D τ : Rat} {v : β} {res : ASig β} (h : ResOK G D τ v res) :
    ∀ x ∈ res, Tm.fin D ≤ x.1 := by
  obtain ⟨v0, tl, rfl⟩ := eq_cons_of_head h.head
  intro x hx
  rcases List.mem_cons.1 hx with rfl | hx
  · exact le_rfl
  · exact le_of_lt (((sorted_append [(Tm.fin D, v0)] tl).1 h.sorted).2.2 _ (List.mem_singleton_self _) x hx)

end BinAux

open InterAux BasicAux
attribute [local instance] InterAux.tmOrder

variable {β : Type}

theorem BasicAux.Weak.rel_last {X : ASig β} (h : Weak X) {p : Tm × β} (hp : X.getLast? = some p) :
    ∀ x ∈ X, Tm.lt x.1 p.1 = true ∨ x = p := by
  obtain ⟨init, rfl⟩ := List.getLast?_eq_some_iff.1 hp
  intro x hx
  rcases List.mem_append.1 hx with hx | hx
  · exact (List.pairwise_append.1 h).2.2 x hx p List.mem_cons_self
  · exact Or.inr (List.mem_singleton.1 hx)

/-- The concatenation `E` of the batches of a stream that denotes `g` from `d` on. -/
structure Flat (E : ASig β) (d : Rat) (g : Rat → Option β) : Prop where
  weak : Weak E
  fin : ∀ x ∈ E, x.1 ≠ Tm.inf
  start : ∀ p, E.head? = some p → p.1 = Tm.fin d
  val : ∀ t τ p, E.getLast? = some p → p.1 = Tm.fin τ → d ≤ t → t ≤ τ → valAtA E t = g t

theorem streamOK_iff {Bs : List (ASig β)} {d : Rat} {g : Rat → Option β} :
    StreamOK Bs d g ↔ (∀ B ∈ Bs, Sorted B) ∧ Flat Bs.flatten d g :=
  ⟨fun h => ⟨h.1.batch_sorted, h.1.weak, fun x hx => by
      obtain ⟨B, hB, hxB⟩ := List.mem_flatten.1 hx
      exact h.1.finite B hB x hxB, h.1.start, fun t τ p hl e h1 h2 => h.2 t ⟨τ, p, hl, e, h1, h2⟩⟩,
    fun ⟨hs, hF⟩ => ⟨⟨hs, fun B hB p hp => hF.fin p (List.mem_flatten.2 ⟨B, hB, hp⟩), hF.weak, hF.start⟩,
      fun t ⟨τ, p, hl, e, h1, h2⟩ => hF.val t τ p hl e h1 h2⟩⟩

theorem Flat.nil (d : Rat) (g : Rat → Option β) : Flat ([] : ASig β) d g :=
  ⟨List.Pairwise.nil, fun _ h => (nomatch h), fun _ h => (nomatch h), fun _ _ _ h => (nomatch h)⟩

variable {E o : ASig β} {d μ r : Rat} {v vr : β} {g : Rat → Option β}

theorem Flat.ge_start (hE : Flat E d g) : ∀ x ∈ E, Tm.fin d ≤ x.1 := by
  intro x hx
  cases hh : E.head? with
  | none => rw [List.head?_eq_none_iff.1 hh] at hx; cases hx
  | some a =>
    rw [← hE.start a hh]
    exact hE.weak.head_le hh x hx

theorem Flat.le_last (hE : Flat E d g) (hl : E.getLast? = some (Tm.fin μ, v)) : ∀ x ∈ E, x.1 ≤ Tm.fin μ :=
  hE.weak.le_last hl

theorem Flat.start_le (hE : Flat E d g) (hl : E.getLast? = some (Tm.fin μ, v)) : d ≤ μ :=
  (fin_le_fin _ _).1 (hE.ge_start _ (List.mem_of_getLast? hl))

theorem Flat.at_last (hE : Flat E d g) (hl : E.getLast? = some (Tm.fin μ, v)) : g μ = some v := by
  rw [← hE.val μ μ _ hl rfl (hE.start_le hl) le_rfl]
  exact valAtA_last _ _ _ hl (times_le_of (hE.le_last hl))

/-- A time up to any stamp of the stream is covered. -/
theorem Flat.val_of_mem (hE : Flat E d g) {p : Tm × β} (hp : p ∈ E) {t : Rat} (h1 : d ≤ t) (h2 : Tm.fin t ≤ p.1) :
    valAtA E t = g t := by
  cases hq : E.getLast? with
  | none => rw [List.getLast?_eq_none_iff.1 hq] at hp; cases hp
  | some q =>
    cases hτ : q.1 with
    | inf => exact absurd hτ (hE.fin q (List.mem_of_getLast? hq))
    | fin τ =>
      have := le_trans h2 (hE.weak.le_last hq _ hp)
      rw [hτ, fin_le_fin] at this
      exact hE.val t τ q hq hτ h1 this

/-- A first piece is the stream of its one batch. -/
theorem BinAux.ResOK.flat {G : Rat → Option β} {D τ : Rat} {res : ASig β} (h : BinAux.ResOK G D τ v res) :
    Flat res D G := by
  refine ⟨weak_of_sorted h.sorted, fun x hx e => ?_, fun p hp => ?_, fun t τ' p hp e => ?_⟩
  · exact absurd (e ▸ h.le x.1 (mem_times hx)) (not_le.2 (fin_lt_inf τ))
  · obtain ⟨v0, tl, rfl⟩ := eq_cons_of_head h.head
    cases hp; rfl
  · rw [h.last] at hp
    cases hp; cases e
    exact h.val t

/-- What an update returns is appended: a sorted list `o` up to `r`, behind the last sample `(μ, v)` or starting with that very
    sample, that continues `g` (read with `v` standing in before its first stamp). -/
theorem Flat.append (hE : Flat E d g) (hl : E.getLast? = some (Tm.fin μ, v)) (hs : Sorted o)
    (hlast : o.getLast? = some (Tm.fin r, vr)) (hcross : ∀ q ∈ o, Tm.fin μ < q.1 ∨ q = (Tm.fin μ, v))
    (hval : ∀ t, μ < t → t ≤ r → (valAtA o t).or (some v) = g t) : Flat (E ++ o) d g := by
  have hEle := hE.le_last hl
  have hole : ∀ q ∈ o, q.1 ≤ Tm.fin r := (weak_of_sorted hs).le_last hlast
  have hEne : E ≠ [] := fun e => by rw [e] at hl; cases hl
  have hone : o ≠ [] := fun e => by rw [e] at hlast; cases hlast
  have hμo : ∀ q ∈ o, Tm.fin μ ≤ q.1 := fun q hq => (hcross q hq).elim le_of_lt fun e => by rw [e]
  refine ⟨?_, ?_, ?_, ?_⟩
  · refine List.pairwise_append.2 ⟨hE.weak, weak_of_sorted hs, fun x hx q hq => ?_⟩
    rcases hcross q hq with h | rfl
    · exact Or.inl ((lt_iff _ _).2 (lt_of_le_of_lt (hEle x hx) h))
    · exact hE.weak.rel_last hl x hx
  · intro x hx
    rcases List.mem_append.1 hx with hx | hx
    · exact hE.fin x hx
    · exact fun e => absurd (e ▸ hole x hx) (not_le.2 (fin_lt_inf r))
  · intro p hp
    rw [List.head?_append_of_ne_nil _ hEne] at hp
    exact hE.start p hp
  · intro t τ p hp e h1 h2
    rw [List.getLast?_append_of_ne_nil _ hone, hlast] at hp
    cases hp
    cases e
    by_cases htμ : t < μ
    · rw [valAtA_append_gt E o t fun q hq => lt_of_lt_of_le ((fin_lt_fin _ _).2 htμ) (hμo q hq)]
      exact hE.val t μ _ hl rfl h1 htμ.le
    · have htμ' := not_lt.1 htμ
      rw [valAtA_append_le E o t fun x hx => le_trans (hEle x hx) ((fin_le_fin _ _).2 htμ'),
        valAtA_last E _ t hl (times_le_of fun x hx => le_trans (hEle x hx) ((fin_le_fin _ _).2 htμ'))]
      rcases lt_or_eq_of_le htμ' with h | rfl
      · exact hval t h h2
      · -- at `μ` itself `o` is undefined or repeats `v`
        rw [hE.at_last hl]
        cases ho : valAtA o μ with
        | none => rfl
        | some y =>
          obtain ⟨q, hq, rfl, hle⟩ := valAtA_mem_le ho
          rcases hcross q hq with h | rfl
          · exact absurd hle (not_le.2 h)
          · rfl

/-- Thinning: a sublist with the same first sample is a stream again, of whatever it reads as up to its last stamp. -/
theorem Flat.thin {E' : ASig β} {g' : Rat → Option β} (hE : Flat E d g) (hsub : E'.Sublist E) (hhead : E'.head? = E.head?)
    (hval : ∀ t τ p, E'.getLast? = some p → p.1 = Tm.fin τ → d ≤ t → t ≤ τ → valAtA E' t = g' t) : Flat E' d g' :=
  ⟨hE.weak.sublist hsub, fun x hx => hE.fin x (hsub.subset hx), fun p hp => hE.start p (hhead ▸ hp), hval⟩

theorem Flat.congr (hE : Flat E d g) (hl : E.getLast? = some (Tm.fin μ, v)) {g' : Rat → Option β}
    (hg : ∀ t, d ≤ t → t ≤ μ → g t = g' t) : Flat E d g' :=
  ⟨hE.weak, hE.fin, hE.start, fun t τ p hp e h1 h2 => by
    rw [hl] at hp; cases hp; cases e
    exact (hE.val t μ _ hl rfl h1 h2).trans (hg t h1 h2)⟩

/-- The next result starts with the sample the emitted stream ends with; appended with or without that sample it extends the
    stream up to the new frontier. -/
theorem Flat.append_res {Gt : Rat → Option β} {E : ASig β} {d μ τ : Rat} {v v' : β} {res : ASig β} (hE : Flat E d Gt)
    (hl : E.getLast? = some (Tm.fin μ, v)) (h : BinAux.ResOK Gt μ τ v' res) :
    res = (Tm.fin μ, v) :: res.tail ∧ ∀ o, o = res ∨ o = res.tail →
      Flat (E ++ o) d Gt ∧ (E ++ o).getLast? = some (Tm.fin τ, v') := by
  have hμτ := h.le_tau
  obtain ⟨a2, rest, rfl⟩ := eq_cons_of_head h.head
  have hrest : ∀ q ∈ rest, Tm.fin μ < q.1 :=
    ((sorted_append [(Tm.fin μ, a2)] rest).1 h.sorted).2.2 _ (List.mem_singleton_self _)
  have e2 : v = a2 := by
    have := h.val μ le_rfl hμτ
    rw [valAtA_cons_of_le le_rfl, valAtA_none_of_lt rest μ hrest, hE.at_last hl] at this
    exact (Option.some.inj this).symm
  subst e2
  refine ⟨rfl, fun o ho => ?_⟩
  simp only [List.tail_cons] at ho
  have hcross : ∀ q ∈ o, Tm.fin μ < q.1 ∨ q = (Tm.fin μ, v) := by
    intro q hq
    rcases ho with e | e <;> rw [e] at hq
    · exact (List.mem_cons.1 hq).elim Or.inr fun hq => Or.inl (hrest q hq)
    · exact Or.inl (hrest q hq)
  have hso : Sorted o := by
    rcases ho with e | e <;> rw [e]
    · exact h.sorted
    · exact sorted_tail h.sorted
  have hv : ∀ t, μ < t → t ≤ τ → (valAtA o t).or (some v) = Gt t := by
    intro t h1 h2
    rw [← h.val t h1.le h2, valAtA_cons_of_le ((fin_le_fin _ _).2 h1.le)]
    rcases ho with e | e <;> rw [e]
    · rw [valAtA_cons_of_le ((fin_le_fin _ _).2 h1.le)]; rfl
    · cases valAtA rest t <;> rfl
  have hlast : o = [] ∧ rest = [] ∨ o.getLast? = some (Tm.fin τ, v') := by
    have := h.last
    rcases ho with e | e <;> rw [e]
    · exact Or.inr this
    · cases rest with
      | nil => exact Or.inl ⟨rfl, rfl⟩
      | cons b rest' => rw [List.getLast?_cons_cons] at this; exact Or.inr this
  rcases hlast with ⟨e1, e2⟩ | hr
  · -- nothing new: the frontier has not moved
    subst e2
    have := h.last
    simp only [List.getLast?_singleton, Option.some.injEq, Prod.mk.injEq] at this
    obtain ⟨e3, rfl⟩ := this
    cases e3
    rw [e1, List.append_nil]
    exact ⟨hE, hl⟩
  · exact ⟨hE.append hl hso hr hcross hv,
      by rw [List.getLast?_append_of_ne_nil _ fun e => by rw [e] at hr; cases hr]; exact hr⟩

end Rtamt.Dense.AlgOn
