/-
  Dense time, online (C05): the binary point-wise operation classes (`binUpdate`: buffers, the online intersection
  `interOn` with remainders and the pending `last` sample, `last_output`).  The stream returned over any chunking of two
  operand streams, or of a stream and the batches of a constant node, is the point-wise combination (`streams_ok`).

  The merge loop `onLoop` is the offline `interLoop` (`Dense/AlgInter.lean`: the same thirteen tests `allen13`, the same
  moves, the same `appendD`) that also hands back the pending sample and what it has not consumed.  Its invariant
  `LoopSt` is `OutInv` below the frontier (the later of the two head stamps) and "the lists still combine to `G`" from
  there on, for lists that are `Good` (increasing up to a first `inf`), whose head intervals `Touch` (cases 1 and 13
  cannot occur) and of which one is finite (`FinOr`: a stream never carries `inf`, the constant's `[0, c], [inf, c]`
  does).  `onLoop_spec` gives `LoopRes` (the invariant at the remainders, each a `Suf` of its list; once a step was made
  the pending sample is the value at the frontier), `interOn_spec` adds the tail loop over the list that is left
  (`InterRes`: `finish` of the result is right up to the new frontier `τ`, `ResOK`).  For buffers that denote `g1`, `g2`
  up to a horizon (`Track`: the last stamp of a stream, `inf` for the constant) this is `interOn_sem`, and `UpdOK` is
  what the runs use of an update function: `binUpdate_ok` here, `binUpdateNL` in `Dense/OnBinNL.lean`.

  A run keeps `Phase` (nothing emitted while an operand has not started; afterwards the emitted `Flat` list ends at the
  later head, which `lastOut` holds) and, per operand, `Opnd`: a stream with `BufOK` (from its head on the buffer reads
  as what was consumed) or the constant with `CBuf`.  `stepG` is one update, `run` the induction over the batches.
-/
import RtamtProofs.Dense.OnOut

namespace Rtamt.Dense.AlgOn
open Rtamt Val Rtamt.Dense.Alg

namespace BinAux
open InterAux
attribute [local instance] InterAux.tmOrder

variable {α β : Type}

/-- Adjacent stamps increase, up to (and including) the first stamp `inf`; what follows an `inf` stamp is never read. -/
def Good : ASig β → Prop
  | [] => True
  | [_] => True
  | (p, _) :: (c, w) :: r => p < c ∧ (c = Tm.inf ∨ Good ((c, w) :: r))

/-- The end of the interval of the head sample: the second stamp (the head stamp for a single sample). -/
def nxt : ASig β → Tm
  | [] => Tm.inf
  | [(p, _)] => p
  | _ :: (c, _) :: _ => c

def hd : ASig β → Tm
  | [] => Tm.inf
  | (p, _) :: _ => p

theorem good_head_lt {p v c w} {r : ASig β} (h : Good ((p, v) :: (c, w) :: r)) : p < c := h.1

theorem good_tail {p v c w} {r : ASig β} (h : Good ((p, v) :: (c, w) :: r)) (hc : c ≠ Tm.inf) : Good ((c, w) :: r) := by
  rcases h.2 with h | h
  · exact absurd h hc
  · exact h

theorem ne_inf_of_le {a b : Tm} (h : a ≤ b) (hb : b ≠ Tm.inf) : a ≠ Tm.inf := by
  intro e; subst e
  exact hb (le_antisymm (le_inf b) h)

theorem exists_fin {a : Tm} (h : a ≠ Tm.inf) : ∃ q, a = Tm.fin q := by
  cases a with
  | fin q => exact ⟨q, rfl⟩
  | inf => exact absurd rfl h

theorem good_of_sorted : ∀ {s : ASig β}, Sorted s → Good s
  | [], _ => trivial
  | [_], _ => trivial
  | _ :: _ :: _, h => ⟨sorted_head_lt h, Or.inr (good_of_sorted (sorted_tail h))⟩

theorem hd_le_nxt : ∀ {s : ASig β}, Good s → hd s ≤ nxt s
  | [], _ => le_rfl
  | [(_, _)], _ => le_rfl
  | (_, _) :: (_, _) :: _, h => le_of_lt h.1

theorem valAtA_at_head (p : Rat) (v : β) (r : ASig β) (h : Good ((Tm.fin p, v) :: r)) :
    valAtA ((Tm.fin p, v) :: r) p = some v := by
  cases r with
  | nil => simp [valAtA_cons, ScanAux.valAtA_nil]
  | cons q r =>
    obtain ⟨c, w⟩ := q
    exact valAtA_head _ _ _ _ _ _ le_rfl h.1

@[simp] theorem hd_cons (p : Tm) (v : β) (r : ASig β) : hd ((p, v) :: r) = p := rfl
@[simp] theorem nxt_cons2 (a : Tm × β) (c : Tm) (w : β) (r : ASig β) : nxt (a :: (c, w) :: r) = c := rfl
@[simp] theorem nxt_single (p : Tm) (v : β) : nxt [(p, v)] = p := rfl

theorem ne_nil_of_hd {l : ASig β} (h : hd l ≠ Tm.inf) : l ≠ [] := by
  intro e; subst e; exact h rfl

/-- The pending sample carries the value at the frontier. -/
def LastOK (G : Rat → Option β) (last : Last β) (m : Tm) : Prop :=
  ∃ τ v, m = Tm.fin τ ∧ last = .item m v ∧ G τ = some v

/-- The intervals of the two head samples touch or overlap. -/
def Touch (l1 l2 : ASig α) : Prop := hd l2 ≤ nxt l1 ∧ hd l1 ≤ nxt l2

/-- One of the two lists has finite stamps only: a stream never carries `inf`, the constant node's buffer
    `[0, c], [inf, c]` does, and at most one operand is the constant (`run`, `Opnd.feed`).  The earlier of the two
    interval ends, to which the loop moves the frontier, is then finite (`FinOr.ends`, used in `LoopSt.popL`). -/
def FinOr (l1 l2 : ASig α) : Prop := (∀ x ∈ l1, x.1 ≠ Tm.inf) ∨ (∀ x ∈ l2, x.1 ≠ Tm.inf)

/-- `r` is what remains of `l` after samples before the head of `r` have been removed. -/
def Suf (l r : ASig α) : Prop := ∃ pre, l = pre ++ r ∧ ∀ x ∈ pre, x.1 < hd r

theorem Suf.refl (l : ASig α) : Suf l l := ⟨[], rfl, by simp⟩

theorem Suf.hd_le {b r : ASig α} (h : Suf b r) : hd b ≤ hd r := by
  obtain ⟨pre, rfl, hpre⟩ := h
  cases pre with
  | nil => exact le_rfl
  | cons y pre =>
    obtain ⟨y1, y2⟩ := y
    exact (hpre (y1, y2) (by simp)).le

theorem Suf.cons {p : Tm} {v : α} {l r : ASig α} (hp : p < hd l) (h : Suf l r) : Suf ((p, v) :: l) r := by
  have hlt : p < hd r := lt_of_lt_of_le hp h.hd_le
  obtain ⟨pre, rfl, hpre⟩ := h
  exact ⟨(p, v) :: pre, rfl, fun x hx => (List.mem_cons.1 hx).elim (fun e => e ▸ hlt) (hpre x)⟩

/-- Invariant of `onLoop` at `(l1, l2, out)`; the frontier is the later head stamp `max (hd l1) (hd l2)`, a finite time.
    `out` is the result from `D` to below the frontier (`outInv`), and from the frontier on the lists still combine to `G`,
    the combination of the lists the loop started with (`hG`).  `touch` makes cases 1 and 13 unreachable. -/
structure LoopSt (f : α → α → β) (G : Rat → Option β) (D : Rat) (l1 l2 : ASig α) (out : ASig β) : Prop where
  good1 : Good l1
  good2 : Good l2
  finOr : FinOr l1 l2
  fin1 : hd l1 ≠ Tm.inf
  fin2 : hd l2 ≠ Tm.inf
  touch : Touch l1 l2
  outInv : OutInv G D out (max (hd l1) (hd l2))
  hG : ∀ t, max (hd l1) (hd l2) ≤ Tm.fin t → lift2 f (valAtA l1) (valAtA l2) t = G t

theorem FinOr.tail1 {a : Tm × α} {l1 l2 : ASig α} (h : FinOr (a :: l1) l2) : FinOr l1 l2 := by
  rcases h with h | h
  · exact Or.inl fun x hx => h x (List.mem_cons_of_mem _ hx)
  · exact Or.inr h

theorem FinOr.ends {a1 a2 : Tm × α} {c1 c2 : Tm} {w1 w2 : α} {r1 r2 : ASig α}
    (h : FinOr (a1 :: (c1, w1) :: r1) (a2 :: (c2, w2) :: r2)) : c1 ≠ Tm.inf ∨ c2 ≠ Tm.inf :=
  h.imp (fun hf => hf (c1, w1) (List.mem_cons_of_mem _ List.mem_cons_self))
    (fun hf => hf (c2, w2) (List.mem_cons_of_mem _ List.mem_cons_self))

theorem lift2_some (f : α → α → β) {g1 g2 : Rat → Option α} {t : Rat} {a b : α} (ha : g1 t = some a) (hb : g2 t = some b) :
    lift2 f g1 g2 t = some (f a b) := by
  unfold lift2; rw [ha, hb]

theorem lastOK_mk (f : α → α → β) (G : Rat → Option β) (l1 l2 : ASig α) (τ : Rat) (a b : α)
    (hG : ∀ t, Tm.fin τ ≤ Tm.fin t → lift2 f (valAtA l1) (valAtA l2) t = G t)
    (ha : valAtA l1 τ = some a) (hb : valAtA l2 τ = some b) : LastOK G (.item (Tm.fin τ) (f a b)) (Tm.fin τ) :=
  ⟨τ, f a b, rfl, rfl, (hG τ le_rfl).symm.trans (lift2_some f ha hb)⟩

/-- A step that removes the head of the first list. -/
theorem LoopSt.popL {f : α → α → β} {G : Rat → Option β} {D : Rat} {p1 v1 c1 w1} {r1 : ASig α} {p2 v2 c2 w2} {r2 : ASig α}
    {out : ASig β} (h : LoopSt f G D ((p1, v1) :: (c1, w1) :: r1) ((p2, v2) :: (c2, w2) :: r2) out)
    (hc : c1 ≤ c2) (out' : ASig β) (ho : OutInv G D out' c1) :
    LoopSt f G D ((c1, w1) :: r1) ((p2, v2) :: (c2, w2) :: r2) out' := by
  have h1 : p1 < c1 := h.good1.1
  have h2 : p2 < c2 := h.good2.1
  have ht := h.touch
  simp only [Touch, hd_cons, nxt_cons2] at ht
  have hc1 : c1 ≠ Tm.inf := h.finOr.ends.elim id (ne_inf_of_le hc)
  have hg1 : Good ((c1, w1) :: r1) := good_tail h.good1 hc1
  have hm : max c1 p2 = c1 := max_eq_left ht.1
  refine ⟨hg1, h.good2, h.finOr.tail1, hc1, h.fin2, ⟨?_, hc⟩, ?_, ?_⟩
  · exact le_trans ht.1 (hd_le_nxt hg1)
  · simp only [hd_cons, hm]; exact ho
  · simp only [hd_cons, hm]
    have := h.hG
    simp only [hd_cons] at this
    exact lift2_adv_left f p1 v1 c1 w1 r1 _ G _ _ h1 le_rfl (max_le h1.le ht.1) this

theorem lift2_swap (f : α → α → β) (g1 g2 : Rat → Option α) (t : Rat) :
    lift2 (fun a b => f b a) g2 g1 t = lift2 f g1 g2 t := by
  unfold lift2
  cases g1 t <;> cases g2 t <;> rfl

/-- The two lists change places: what is shown for the first list holds for the second. -/
theorem LoopSt.swap {f : α → α → β} {G : Rat → Option β} {D : Rat} {l1 l2 : ASig α} {out : ASig β}
    (h : LoopSt f G D l1 l2 out) : LoopSt (fun a b => f b a) G D l2 l1 out :=
  ⟨h.good2, h.good1, h.finOr.symm, h.fin2, h.fin1, h.touch.symm, max_comm (hd l1) (hd l2) ▸ h.outInv,
    fun t ht => (lift2_swap f _ _ t).trans (h.hG t (max_comm (hd l1) (hd l2) ▸ ht))⟩

/-- What `onLoop` returns from `(l1, l2, out, last)`: the invariant holds again at the remainders `r1`, `r2`, and the loop
    has stopped because one of them is a single sample.  `LoopSt` says nothing of `last`, so (field `last`) either no step was
    made and all four come back as they were, or every step set `last` to the value of `G` at the frontier it moved to. -/
structure LoopRes (f : α → α → β) (G : Rat → Option β) (D : Rat) (l1 l2 : ASig α) (out : ASig β) (last : Last β)
    (out' : ASig β) (last' : Last β) (r1 r2 : ASig α) : Prop where
  suf1 : Suf l1 r1
  suf2 : Suf l2 r2
  st : LoopSt f G D r1 r2 out'
  single : r1.length ≤ 1 ∨ r2.length ≤ 1
  last : (out' = out ∧ last' = last ∧ r1 = l1 ∧ r2 = l2) ∨ LastOK G last' (max (hd r1) (hd r2))

theorem LoopRes.swap {f : α → α → β} {G : Rat → Option β} {D : Rat} {l1 l2 : ASig α} {out out' : ASig β}
    {last last' : Last β} {r1 r2 : ASig α} (h : LoopRes f G D l1 l2 out last out' last' r1 r2) :
    LoopRes (fun a b => f b a) G D l2 l1 out last out' last' r2 r1 :=
  ⟨h.suf2, h.suf1, h.st.swap, h.single.symm,
    h.last.imp (fun ⟨e1, e2, e3, e4⟩ => ⟨e1, e2, e4, e3⟩) (fun hL => max_comm (hd r1) (hd r2) ▸ hL)⟩

/-- The head of the first list has been removed: the pending sample sits at the new frontier `c1` and combines the new head
    value with the value `y` of the second list there. -/
theorem LoopRes.advL {f : α → α → β} {G : Rat → Option β} {D : Rat} {p1 : Tm} {v1 : α} {c1 : Tm} {w1 : α} {r1 l2 : ASig α}
    {out out'' out' : ASig β} {last last' : Last β} {s1 s2 : ASig α} {y : α}
    (hst : LoopSt f G D ((c1, w1) :: r1) l2 out'') (h1 : p1 < c1) (hle : hd l2 ≤ c1)
    (hy : ∀ τ, c1 = Tm.fin τ → valAtA l2 τ = some y)
    (h : LoopRes f G D ((c1, w1) :: r1) l2 out'' (.item c1 (f w1 y)) out' last' s1 s2) :
    LoopRes f G D ((p1, v1) :: (c1, w1) :: r1) l2 out last out' last' s1 s2 := by
  refine ⟨h.suf1.cons h1, h.suf2, h.st, h.single, Or.inr ?_⟩
  rcases h.last with ⟨_, e2, e3, e4⟩ | h'
  · rw [e2, e3, e4]
    obtain ⟨τ, rfl⟩ := exists_fin hst.fin1
    have hG := hst.hG
    simp only [hd_cons, max_eq_left hle] at hG ⊢
    exact lastOK_mk f G _ _ τ w1 y hG (valAtA_at_head _ _ _ hst.good1) (hy τ rfl)
  · exact h'

theorem onLoop_single (f : α → α → β) (ne : β → β → Bool) (l1 l2 : ASig α) (h : l1.length ≤ 1 ∨ l2.length ≤ 1)
    (out : ASig β) (last : Last β) : onLoop f ne l1 l2 out last = .ok (out, last, l1, l2) := by
  rw [onLoop]
  intro p1 v1 c1 w1 r1 p2 v2 c2 w2 r2 e1 e2
  subst e1 e2
  simp only [List.length_cons] at h
  omega

theorem onLoop_spec (f : α → α → β) (ne : β → β → Bool) (hne : ∀ a b, ne a b = false → a = b)
    (G : Rat → Option β) (D : Rat) :
    ∀ (n : Nat) (l1 l2 : ASig α) (out : ASig β) (last : Last β), l1.length + l2.length ≤ n →
      LoopSt f G D l1 l2 out →
      ∃ out' last' r1 r2, onLoop f ne l1 l2 out last = .ok (out', last', r1, r2) ∧
        LoopRes f G D l1 l2 out last out' last' r1 r2 := by
  intro n
  induction n with
  | zero =>
    intro l1 l2 out last hn hst
    exact absurd (List.eq_nil_of_length_eq_zero (by omega)) (ne_nil_of_hd hst.fin1)
  | succ n ih =>
    intro l1 l2 out last hn hst
    by_cases hs : l1.length ≤ 1 ∨ l2.length ≤ 1
    · exact ⟨out, last, l1, l2, onLoop_single f ne l1 l2 hs out last,
        Suf.refl _, Suf.refl _, hst, hs, Or.inl ⟨rfl, rfl, rfl, rfl⟩⟩
    obtain ⟨⟨p1, v1⟩, ⟨c1, w1⟩, r1, rfl⟩ := exists_cons_cons fun h => hs (Or.inl h)
    obtain ⟨⟨p2, v2⟩, ⟨c2, w2⟩, r2, rfl⟩ := exists_cons_cons fun h => hs (Or.inr h)
    clear hs
    have h1 : p1 < c1 := hst.good1.1
    have h2 : p2 < c2 := hst.good2.1
    have ht := hst.touch
    simp only [Touch, hd_cons, nxt_cons2] at ht
    have hG := hst.hG
    have hO := hst.outInv
    simp only [hd_cons] at hG hO
    simp only [List.length_cons] at hn
    -- `allen13` is applied with `max p1 p2` abstracted from the three branches that append
    rw [onLoop, allen13 h1 h2 _ _ _ _ _
      (fun m => onLoop f ne ((c1, w1) :: r1) ((p2, v2) :: (c2, w2) :: r2) (appendD ne out (m, f v1 v2)) (.item c1 (f w1 v2)))
      (fun m => onLoop f ne ((c1, w1) :: r1) ((p2, v2) :: (c2, w2) :: r2) (appendD ne out (m, f v1 v2)) (.item c2 (f w1 w2)))
      (fun m => onLoop f ne ((p1, v1) :: (c1, w1) :: r1) ((c2, w2) :: r2) (appendD ne out (m, f v1 v2)) (.item c2 (f v1 w2)))]
    -- case 1 is unreachable
    rw [if_neg (not_lt.2 ht.1)]
    by_cases hA : c1 = p2
    · -- case 2
      subst hA
      rw [if_pos rfl]
      have hst' := hst.popL h2.le out (by rw [← max_eq_right h1.le]; exact hO)
      obtain ⟨out', last', s1, s2, he, hres⟩ := ih ((c1, w1) :: r1) ((c1, v2) :: (c2, w2) :: r2) out
        (.item c1 (f w1 v2)) (by simp only [List.length_cons]; omega) hst'
      exact ⟨out', last', s1, s2, he, hres.advL hst' h1 le_rfl
        fun τ e => by subst e; exact valAtA_at_head _ _ _ hst.good2⟩
    rw [if_neg hA]
    rw [if_neg (not_lt.2 ht.2)]
    by_cases hB : c2 = p1
    · -- case 11
      subst hB
      rw [if_pos rfl]
      have hst' := (hst.swap.popL h1.le out (by rw [← max_eq_left h2.le]; exact hO)).swap
      obtain ⟨out', last', s1, s2, he, hres⟩ := ih ((c2, v1) :: (c1, w1) :: r1) ((c2, w2) :: r2) out
        (.item c2 (f v1 w2)) (by simp only [List.length_cons]; omega) hst'
      exact ⟨out', last', s1, s2, he, (hres.swap.advL hst'.swap h2 le_rfl
        fun τ e => by subst e; exact valAtA_at_head _ _ _ hst.good1).swap⟩
    rw [if_neg hB]
    have hA' : p2 < c1 := lt_of_le_of_ne ht.1 (Ne.symm hA)
    have hB' : p1 < c2 := lt_of_le_of_ne ht.2 (Ne.symm hB)
    have hlt1 : max p1 p2 < c1 := max_lt h1 hA'
    have hlt2 : max p1 p2 < c2 := max_lt hB' h2
    by_cases hC : c1 < c2
    · -- cases 3, 9, 10
      rw [if_pos hC]
      have hst' := hst.popL hC.le (appendD ne out (max p1 p2, f v1 v2))
        (hO.push ne hne hlt1 (f v1 v2) (lift2_heads f p1 v1 c1 w1 r1 p2 v2 c2 w2 r2 G c1 le_rfl hC.le hG))
      obtain ⟨out', last', s1, s2, he, hres⟩ := ih ((c1, w1) :: r1) ((p2, v2) :: (c2, w2) :: r2) _
        (.item c1 (f w1 v2)) (by simp only [List.length_cons]; omega) hst'
      exact ⟨out', last', s1, s2, he, hres.advL hst' h1 hA'.le
        fun τ e => by subst e; exact valAtA_head _ _ _ _ _ _ hA'.le hC⟩
    rw [if_neg hC]
    by_cases hE : c1 = c2
    · -- cases 4, 5, 8
      subst hE
      rw [if_pos rfl]
      have hst' := hst.popL le_rfl (appendD ne out (max p1 p2, f v1 v2))
        (hO.push ne hne hlt1 (f v1 v2) (lift2_heads f p1 v1 c1 w1 r1 p2 v2 c1 w2 r2 G c1 le_rfl le_rfl hG))
      obtain ⟨out', last', s1, s2, he, hres⟩ := ih ((c1, w1) :: r1) ((p2, v2) :: (c1, w2) :: r2) _
        (.item c1 (f w1 w2)) (by simp only [List.length_cons]; omega) hst'
      refine ⟨out', last', s1, s2, he, hres.advL hst' h1 hA'.le fun τ e => ?_⟩
      subst e
      rw [valAtA_tail _ _ _ _ _ _ h2 le_rfl]
      exact valAtA_at_head _ _ _ (good_tail hst.good2 (by simp))
    · -- cases 6, 7, 12
      rw [if_neg hE]
      have hD : c2 < c1 := lt_of_le_of_ne (not_lt.1 hC) (Ne.symm hE)
      have hst' := (hst.swap.popL hD.le (appendD ne out (max p1 p2, f v1 v2))
        (hO.push ne hne hlt2 (f v1 v2) (lift2_heads f p1 v1 c1 w1 r1 p2 v2 c2 w2 r2 G c2 hD.le le_rfl hG))).swap
      obtain ⟨out', last', s1, s2, he, hres⟩ := ih ((p1, v1) :: (c1, w1) :: r1) ((c2, w2) :: r2) _
        (.item c2 (f v1 w2)) (by simp only [List.length_cons]; omega) hst'
      exact ⟨out', last', s1, s2, he, (hres.swap.advL hst'.swap h2 hB'.le
        fun τ e => by subst e; exact valAtA_head _ _ _ _ _ _ hB'.le hD).swap⟩

/-- The tail loop over the first list, `t` lying in the closed interval of its head sample: the value of the list at `t`
    is combined with the fixed sample of the second list; it is appended unless the head stamp is `t` itself. -/
theorem tail1_spec (f : α → α → β) (ne : β → β → Bool) (t : Rat) (v2 : α) (p1 : Tm) (v1 : α) (c1 : Tm) (w1 : α)
    (r1 : ASig α) (out : ASig β) (last : Last β) (hg : Good ((p1, v1) :: (c1, w1) :: r1)) (ha : p1 ≤ Tm.fin t)
    (hb : Tm.fin t ≤ c1) :
    ∃ y, valAtA ((p1, v1) :: (c1, w1) :: r1) t = some y ∧
      tail1 f ne (Tm.fin t) v2 ((p1, v1) :: (c1, w1) :: r1) out last =
        (if p1 = Tm.fin t then out else appendD ne out (Tm.fin t, f y v2), .item (Tm.fin t) (f y v2)) := by
  rw [tail1]
  simp only [lt_iff, beq_iff_eq]
  rw [if_neg (not_lt.2 ha)]
  by_cases e : p1 = Tm.fin t
  · exact ⟨v1, valAtA_head _ _ _ _ _ _ ha (e ▸ hg.1), by rw [if_pos e, if_pos e]⟩
  rw [if_neg e]
  by_cases e2 : Tm.fin t < c1
  · refine ⟨v1, valAtA_head _ _ _ _ _ _ ha e2, ?_⟩
    rw [if_pos e2, if_neg e]
    cases r1 with
    | nil => rw [tail1]; intros; simp_all
    | cons q r =>
      obtain ⟨d, u⟩ := q
      rw [tail1]
      simp only [lt_iff]
      rw [if_pos e2]
  · have e3 : Tm.fin t = c1 := le_antisymm hb (not_lt.1 e2)
    subst e3
    refine ⟨w1, ?_, ?_⟩
    · rw [valAtA_tail _ _ _ _ _ _ hg.1 le_rfl]
      exact valAtA_at_head _ _ _ (good_tail hg (by simp))
    rw [if_neg e2, if_pos rfl, if_neg e]
    cases r1 with
    | nil => rw [tail1]; intros; simp_all
    | cons q r =>
      obtain ⟨d, u⟩ := q
      rw [tail1]
      simp only [lt_iff, beq_iff_eq]
      rw [if_neg (lt_irrefl _), if_pos trivial]

theorem tail2_eq_tail1 (f : α → α → β) (ne : β → β → Bool) (p : Tm) (v : α) :
    ∀ (l : ASig α) (out : ASig β) (last : Last β),
      tail2 f ne p v l out last = tail1 (fun a b => f b a) ne p v l out last
  | [], _, _ => by simp [tail1, tail2]
  | [_], _, _ => by simp [tail1, tail2]
  | (p2, v2) :: (c2, w2) :: r, out, last => by
    rw [tail1, tail2]
    simp only [tail2_eq_tail1 f ne p v ((c2, w2) :: r)]

/-- `interOn` after its main loop. -/
theorem interOn_of_loop (f : α → α → β) (ne : β → β → Bool) (p1 : Tm) (v1 : α) (t1 : ASig α) (p2 : Tm) (v2 : α) (t2 : ASig α)
    {out : ASig β} {last : Last β} {l1 l2 : ASig α}
    (he : onLoop f ne ((p1, v1) :: t1) ((p2, v2) :: t2) [] (if p1 == p2 then .item p1 (f v1 v2) else .nil) =
      .ok (out, last, l1, l2)) :
    interOn f ne ((p1, v1) :: t1) ((p2, v2) :: t2) =
      match l1, l2 with
      | _ :: _ :: _, (q2, x2) :: _ =>
          .ok ((tail1 f ne q2 x2 l1 out last).1, (tail1 f ne q2 x2 l1 out last).2, l1, l2)
      | (q1, x1) :: _, _ :: _ :: _ =>
          .ok ((tail2 f ne q1 x1 l2 out last).1, (tail2 f ne q1 x1 l2 out last).2, l1, l2)
      | _, _ => .ok (out, last, l1, l2) := by
  unfold interOn
  simp only []
  rw [Exc.bind_ok_eq he]
  rcases l1 with _ | ⟨⟨q1, x1⟩, _ | ⟨b1, r1⟩⟩ <;> rcases l2 with _ | ⟨⟨q2, x2⟩, _ | ⟨b2, r2⟩⟩ <;> rfl

theorem finish_appendD (ne : β → β → Bool) (out : ASig β) (m : Tm) (v : β) (h : ∀ τ' ∈ times out, τ' < m) :
    finish (appendD ne out (m, v)) m v = out ++ [(m, v)] := by
  unfold appendD
  cases hq : out.getLast? with
  | none => rw [List.getLast?_eq_none_iff.1 hq]; exact finish_snoc_self [] m v
  | some q =>
    dsimp only
    split_ifs
    · exact finish_snoc_self out m v
    · exact finish_below out m v h

/-- What `interOn` returns on `b1`, `b2`: `LoopRes` after the tail loop, with the exit frontier named `τ` and the pending
    sample known to be `.item τ v`.  `res` speaks of `finish out' τ v` (what `binUpdate` makes of the two) and not of `out'`:
    the tail loop may already have appended the sample at `τ`, or not (`interRes_mk`). -/
structure InterRes (f : α → α → β) (G : Rat → Option β) (D : Rat) (b1 b2 : ASig α) (out' : ASig β) (τ : Rat) (v : β)
    (r1 r2 : ASig α) : Prop where
  suf1 : Suf b1 r1
  suf2 : Suf b2 r2
  good1 : Good r1
  good2 : Good r2
  touch : Touch r1 r2
  front : max (hd r1) (hd r2) = Tm.fin τ
  single : r1.length ≤ 1 ∨ r2.length ≤ 1
  hG : ∀ t, Tm.fin τ ≤ Tm.fin t → lift2 f (valAtA r1) (valAtA r2) t = G t
  res : ResOK G D τ v (finish out' (Tm.fin τ) v)

theorem interRes_mk {f : α → α → β} (ne : β → β → Bool) {G : Rat → Option β} {D : Rat} {b1 b2 : ASig α} {out0 : ASig β}
    {last0 : Last β} {out : ASig β} {last : Last β} {r1 r2 : ASig α}
    (hres : LoopRes f G D b1 b2 out0 last0 out last r1 r2) {τ : Rat} (hτ : max (hd r1) (hd r2) = Tm.fin τ) {v : β}
    (hv : G τ = some v) (out'' : ASig β) (ho : out'' = out ∨ out'' = appendD ne out (Tm.fin τ, v)) :
    InterRes f G D b1 b2 out'' τ v r1 r2 := by
  have hO := hres.st.outInv
  rw [hτ] at hO
  have hGG := hres.st.hG
  rw [hτ] at hGG
  refine ⟨hres.suf1, hres.suf2, hres.st.good1, hres.st.good2, hres.st.touch, hτ, hres.single, hGG, ?_⟩
  have : finish out'' (Tm.fin τ) v = out ++ [(Tm.fin τ, v)] := by
    rcases ho with rfl | rfl
    · exact finish_below _ _ _ hO.below
    · exact finish_appendD _ _ _ _ hO.below
  rw [this]
  exact resOK_of_outInv hO hv

theorem valAtA_single (τ : Rat) (x : β) : valAtA [(Tm.fin τ, x)] τ = some x :=
  valAtA_at_head τ x [] trivial

theorem interOn_spec (f : α → α → β) (ne : β → β → Bool) (hne : ∀ a b, ne a b = false → a = b)
    (G : Rat → Option β) (D : Rat) (b1 b2 : ASig α) (hst : LoopSt f G D b1 b2 []) :
    ∃ out' τ v r1 r2, interOn f ne b1 b2 = .ok (out', .item (Tm.fin τ) v, r1, r2) ∧
      InterRes f G D b1 b2 out' τ v r1 r2 := by
  cases b1 with
  | nil => exact absurd rfl (ne_nil_of_hd hst.fin1)
  | cons a1 t1 =>
  cases b2 with
  | nil => exact absurd rfl (ne_nil_of_hd hst.fin2)
  | cons a2 t2 =>
  obtain ⟨p1, v1⟩ := a1
  obtain ⟨p2, v2⟩ := a2
  obtain ⟨out, last, r1, r2, he, hres⟩ := onLoop_spec f ne hne G D _ ((p1, v1) :: t1) ((p2, v2) :: t2) []
    (if p1 == p2 then .item p1 (f v1 v2) else .nil) le_rfl hst
  have hst' := hres.st
  have ht := hst'.touch
  have hGG := hst'.hG
  cases r1 with
  | nil => exact absurd rfl (ne_nil_of_hd hst'.fin1)
  | cons y1 s1 =>
  cases r2 with
  | nil => exact absurd rfl (ne_nil_of_hd hst'.fin2)
  | cons y2 s2 =>
  obtain ⟨q1, x1⟩ := y1
  obtain ⟨q2, x2⟩ := y2
  have hf1 := hst'.fin1
  have hf2 := hst'.fin2
  simp only [hd_cons] at hf1 hf2 hGG
  obtain ⟨τ1, rfl⟩ := exists_fin hf1
  obtain ⟨τ2, rfl⟩ := exists_fin hf2
  cases s1 with
  | nil =>
    cases s2 with
    | nil =>
      -- both remainders are single samples
      simp only [Touch, hd_cons, nxt_single] at ht
      have e : τ1 = τ2 := by
        have := le_antisymm ht.2 ht.1
        injection this
      subst e
      have hτ : max (hd [(Tm.fin τ1, x1)]) (hd [(Tm.fin τ1, x2)]) = Tm.fin τ1 := by simp
      rw [max_self] at hGG
      have hv : G τ1 = some (f x1 x2) := by
        rw [← hGG τ1 le_rfl]
        exact lift2_some f (valAtA_single _ _) (valAtA_single _ _)
      have hl : last = .item (Tm.fin τ1) (f x1 x2) := by
        rcases hres.last with ⟨_, e2, e3, e4⟩ | ⟨τ', v', h1, h2, h3⟩
        · cases e3; cases e4
          rw [e2, if_pos (beq_self_eq_true _)]
        · rw [hτ] at h1 h2
          cases h1
          rw [hv] at h3
          cases h3
          exact h2
      subst hl
      exact ⟨out, τ1, f x1 x2, _, _, interOn_of_loop f ne p1 v1 t1 p2 v2 t2 he,
        interRes_mk ne hres hτ hv out (Or.inl rfl)⟩
    | cons z2 s2 =>
      -- the second list still has more than one sample: `tail2`
      obtain ⟨c2, w2⟩ := z2
      simp only [Touch, hd_cons, nxt_single, nxt_cons2] at ht
      have hτ : max (hd [(Tm.fin τ1, x1)]) (hd ((Tm.fin τ2, x2) :: (c2, w2) :: s2)) = Tm.fin τ1 := by
        simp only [hd_cons]; exact max_eq_left ht.1
      simp only [max_eq_left ht.1] at hGG
      have hi := interOn_of_loop f ne p1 v1 t1 p2 v2 t2 he
      simp only [] at hi
      obtain ⟨y, hy, htl⟩ := tail1_spec (fun a b => f b a) ne τ1 x1 _ x2 c2 w2 s2 out last hst'.good2 ht.1 ht.2
      rw [tail2_eq_tail1, htl] at hi
      have hv : G τ1 = some (f x1 y) := by
        rw [← hGG τ1 le_rfl]
        exact lift2_some f (valAtA_single _ _) hy
      refine ⟨_, τ1, _, _, _, hi, interRes_mk ne hres hτ hv _ ?_⟩
      split_ifs
      exacts [Or.inl rfl, Or.inr rfl]
  | cons z1 s1 =>
    obtain ⟨c1, w1⟩ := z1
    cases s2 with
    | cons z2 s2 =>
      exfalso
      have := hres.single
      simp at this
    | nil =>
      -- the first list still has more than one sample: `tail1`
      simp only [Touch, hd_cons, nxt_single, nxt_cons2] at ht
      have hτ : max (hd ((Tm.fin τ1, x1) :: (c1, w1) :: s1)) (hd [(Tm.fin τ2, x2)]) = Tm.fin τ2 := by
        simp only [hd_cons]; exact max_eq_right ht.2
      simp only [max_eq_right ht.2] at hGG
      have hi := interOn_of_loop f ne p1 v1 t1 p2 v2 t2 he
      simp only [] at hi
      obtain ⟨y, hy, htl⟩ := tail1_spec f ne τ2 x2 _ x1 c1 w1 s1 out last hst'.good1 ht.2 ht.1
      rw [htl] at hi
      have hv : G τ2 = some (f y x2) := by
        rw [← hGG τ2 le_rfl]
        exact lift2_some f hy (valAtA_single _ _)
      refine ⟨_, τ2, _, _, _, hi, interRes_mk ne hres hτ hv _ ?_⟩
      split_ifs
      exacts [Or.inl rfl, Or.inr rfl]

section upd
variable [Val α]

/-- `if self.last_output and result: if self.last_output == result[0]: result.pop(0)`. -/
def dropFirst (lo : Option (Tm × α)) (result : ASig α) : ASig α :=
  match lo, result with
  | some (t, v), (t', v') :: rest => if t == t' && !vne v v' then rest else result
  | _, _ => result

def newLast (lo : Option (Tm × α)) (result : ASig α) : Option (Tm × α) :=
  match result.getLast? with
  | some p => some p
  | none => lo

omit [Val α] in
theorem interOn_nil_left (f : α → α → β) (ne : β → β → Bool) (s2 : ASig α) :
    interOn f ne [] s2 = .ok ([], .nil, [], s2) := by
  unfold interOn; rfl

omit [Val α] in
theorem interOn_nil_right (f : α → α → β) (ne : β → β → Bool) (s1 : ASig α) :
    interOn f ne s1 [] = .ok ([], .nil, s1, []) := by
  unfold interOn
  cases s1 <;> rfl

theorem binUpdate_empty (f : α → α → α) (st : BinSt α) (sl sr : ASig α)
    (h : joinBuf st.buf1 sl = [] ∨ joinBuf st.buf2 sr = []) :
    binUpdate f st sl sr =
      .ok ({ buf1 := joinBuf st.buf1 sl, buf2 := joinBuf st.buf2 sr, lastOut := st.lastOut }, []) := by
  unfold binUpdate
  rcases h with h | h
  · simp only [h, interOn_nil_left]
    cases hl : st.lastOut <;> rfl
  · simp only [h, interOn_nil_right]
    cases hl : st.lastOut <;> rfl

theorem binUpdate_of_inter (f : α → α → α) (st : BinSt α) (sl sr : ASig α) (out : ASig α) (t : Tm) (v : α)
    (r1 r2 : ASig α) (h : interOn f vne (joinBuf st.buf1 sl) (joinBuf st.buf2 sr) = .ok (out, .item t v, r1, r2)) :
    binUpdate f st sl sr =
      .ok ({ buf1 := r1, buf2 := r2, lastOut := newLast st.lastOut (dropFirst st.lastOut (finish out t v)) },
        dropFirst st.lastOut (finish out t v)) := by
  unfold binUpdate
  simp only []
  rw [Exc.bind_ok_eq h]
  unfold finish dropFirst newLast
  dsimp only
  cases hg : out.getLast? with
  | none => rfl
  | some p => rfl

end upd

theorem valAtA_isSome_of_hd_le {r : ASig β} {t : Rat} (hne : r ≠ []) (h : hd r ≤ Tm.fin t) : ∃ v, valAtA r t = some v := by
  cases r with
  | nil => exact absurd rfl hne
  | cons p r => exact ⟨_, valAtA_cons_of_le (v := p.2) h⟩

theorem valAtA_none_of_lt_hd {r : ASig β} {t : Rat} (h : Tm.fin t < hd r) : valAtA r t = none := by
  cases r with
  | nil => rfl
  | cons p r => exact (valAtA_cons_none p.1 p.2 r t).2 h

theorem Suf.val {b r : ASig α} (h : Suf b r) (hne : r ≠ []) (t : Rat) (ht : hd r ≤ Tm.fin t) : valAtA r t = valAtA b t := by
  obtain ⟨pre, rfl, hpre⟩ := h
  rw [BasicAux.valAtA_append_le pre r t fun y hy => le_trans (hpre y hy).le ht]
  obtain ⟨v, hv⟩ := valAtA_isSome_of_hd_le hne ht
  rw [hv]; rfl

theorem Suf.mem {b r : ASig α} (h : Suf b r) {x : Tm × α} (hx : x ∈ r) : x ∈ b := by
  obtain ⟨pre, rfl, _⟩ := h
  exact List.mem_append_right _ hx

theorem Suf.getLast {b r : ASig α} (h : Suf b r) (hne : r ≠ []) : r.getLast? = b.getLast? := by
  obtain ⟨pre, rfl, _⟩ := h
  rw [List.getLast?_append]
  cases hr : r.getLast? with
  | none => exact absurd (List.getLast?_eq_none_iff.1 hr) hne
  | some p => rfl

/-- A later sample has a later stamp or is identical (the `weak` clause of `Shape`). -/
def Weak (l : ASig β) : Prop := l.Pairwise (fun p q => Tm.lt p.1 q.1 = true ∨ p = q)

theorem Weak.prefix {X Y : ASig β} (h : Weak (X ++ Y)) : Weak X := (List.pairwise_append.1 h).1

theorem valAtA_snoc_dup {I : ASig β} {p : Tm × β} (hw : BasicAux.Weak I) (hp : I.getLast? = some p) (t : Rat) :
    valAtA (I ++ [p]) t = valAtA I t := by
  obtain ⟨p1, p2⟩ := p
  by_cases h : Tm.fin t < p1
  · exact BasicAux.valAtA_append_after _ _ _ _ h
  · rw [not_lt] at h
    have hle : ∀ τ' ∈ times I, τ' ≤ Tm.fin t := times_le_of fun x hx => le_trans (hw.le_last hp x hx) h
    rw [BasicAux.valAtA_append_at _ _ _ _ h hle, BasicAux.valAtA_last _ _ _ hp hle]

/-- The operand buffer `b` denotes `g` from its head up to the horizon `lam`, a bound of all its stamps: the last stamp for a
    stream (`track_of_bufOK`; behind it the list goes on with its last value, `g` need not), `inf` for the constant
    (`track_const`).  The new frontier of `interOn` lies below a stamp of each buffer, hence within both horizons. -/
structure Track (g : Rat → Option α) (b : ASig α) (lam : Tm) : Prop where
  good : Good b
  le : ∀ x ∈ times b, x ≤ lam
  ok : ∀ t, hd b ≤ Tm.fin t → Tm.fin t ≤ lam → valAtA b t = g t

theorem hd_mem {r : ASig α} (h : r ≠ []) : hd r ∈ times r := by
  cases r with
  | nil => exact absurd rfl h
  | cons a r => exact List.mem_cons_self

theorem nxt_mem {r : ASig α} (h : r ≠ []) : nxt r ∈ times r := by
  cases r with
  | nil => exact absurd rfl h
  | cons a r =>
    obtain ⟨a1, a2⟩ := a
    cases r with
    | nil => exact List.mem_cons_self
    | cons b r => exact List.mem_cons_of_mem _ List.mem_cons_self

theorem Suf.times_sub {b r : ASig α} (h : Suf b r) {x : Tm} (hx : x ∈ times r) : x ∈ times b := by
  simp only [times, List.mem_map] at hx ⊢
  obtain ⟨y, hy, rfl⟩ := hx
  exact ⟨y, h.mem hy, rfl⟩

section sem
variable [Val α] [LawfulVal α]
set_option linter.unusedSectionVars false

theorem dropFirst_none (res : ASig α) : dropFirst none res = res := by
  unfold dropFirst; rfl

theorem dropFirst_same (t : Tm) (v : α) (rest : ASig α) : dropFirst (some (t, v)) ((t, v) :: rest) = rest := by
  unfold dropFirst
  have : vne v v = false := (vne_eq_false_iff v v).2 rfl
  simp [this]

theorem newLast_append (E res : ASig α) : newLast E.getLast? res = (E ++ res).getLast? := by
  unfold newLast
  rw [List.getLast?_append]
  cases res.getLast? <;> rfl

theorem ne_inf_of_max {a b : Tm} {μ : Rat} (h : max a b = Tm.fin μ) : a ≠ Tm.inf ∧ b ≠ Tm.inf := by
  have hne : Tm.fin μ ≠ Tm.inf := by simp
  exact ⟨ne_inf_of_le (by rw [← h]; exact le_max_left _ _) hne, ne_inf_of_le (by rw [← h]; exact le_max_right _ _) hne⟩

/-- The online intersection of two operand buffers that denote `g1`, `g2` up to their horizons: its result, completed
    by the pending sample, is the point-wise combination from the later head `μ` up to the new frontier `τ`. -/
theorem interOn_sem (f : α → α → α) (g1 g2 : Rat → Option α) (b1 b2 : ASig α) (lam1 lam2 : Tm) (μ : Rat)
    (h1 : Track g1 b1 lam1) (h2 : Track g2 b2 lam2) (hfin : FinOr b1 b2) (ht : Touch b1 b2)
    (hμ : max (hd b1) (hd b2) = Tm.fin μ) :
    ∃ out τ v r1 r2, interOn f vne b1 b2 = .ok (out, .item (Tm.fin τ) v, r1, r2) ∧
      ResOK (lift2 f g1 g2) μ τ v (finish out (Tm.fin τ) v) ∧ Suf b1 r1 ∧ Suf b2 r2 ∧ Touch r1 r2 ∧
      max (hd r1) (hd r2) = Tm.fin τ := by
  obtain ⟨hf1, hf2⟩ := ne_inf_of_max hμ
  have hst : LoopSt f (lift2 f (valAtA b1) (valAtA b2)) μ b1 b2 [] :=
    ⟨h1.good, h2.good, hfin, hf1, hf2, ht, by rw [hμ]; exact OutInv.nil _ _, fun t _ => rfl⟩
  obtain ⟨out, τ, v, r1, r2, hi, hR⟩ := interOn_spec f vne (fun a b => (vne_eq_false_iff a b).1) _ μ b1 b2 hst
  refine ⟨out, τ, v, r1, r2, hi, hR.res.congr ?_, hR.suf1, hR.suf2, hR.touch, hR.front⟩
  obtain ⟨hg1, hg2⟩ := ne_inf_of_max hR.front
  have hn1 : r1 ≠ [] := ne_nil_of_hd hg1
  have hn2 : r2 ≠ [] := ne_nil_of_hd hg2
  -- the new frontier lies within both horizons
  have hτ1 : Tm.fin τ ≤ lam1 := by
    rw [← hR.front]
    exact max_le (h1.le _ (hR.suf1.times_sub (hd_mem hn1)))
      (le_trans hR.touch.1 (h1.le _ (hR.suf1.times_sub (nxt_mem hn1))))
  have hτ2 : Tm.fin τ ≤ lam2 := by
    rw [← hR.front]
    exact max_le (le_trans hR.touch.2 (h2.le _ (hR.suf2.times_sub (nxt_mem hn2))))
      (h2.le _ (hR.suf2.times_sub (hd_mem hn2)))
  intro t ht1 ht2
  have hμt : Tm.fin μ ≤ Tm.fin t := (fin_le_fin _ _).2 ht1
  have htτ : Tm.fin t ≤ Tm.fin τ := (fin_le_fin _ _).2 ht2
  exact lift2_congr f t
    (h1.ok t (le_trans (by rw [← hμ]; exact le_max_left _ _) hμt) (le_trans htτ hτ1))
    (h2.ok t (le_trans (by rw [← hμ]; exact le_max_right _ _) hμt) (le_trans htτ hτ2))

theorem newLast_of_last {lo : Option (Tm × α)} {res : ASig α} {p : Tm × α} (h : res.getLast? = some p) :
    newLast lo res = some p := by
  unfold newLast; rw [h]

/-- What the runs over the operand streams use of an update function (`binUpdate f`, and `binUpdateNL f` of
    `MultiplicationOperation`): nothing happens while an operand has not started; afterwards the emitted stream `E` is
    extended up to the new frontier, which is recorded in `lastOut`. -/
structure UpdOK (f : α → α → α) (upd : BinSt α → ASig α → ASig α → Except PyErr (BinSt α × ASig α)) : Prop where
  empty : ∀ (st : BinSt α) (sl sr : ASig α), st.lastOut = none → joinBuf st.buf1 sl = [] ∨ joinBuf st.buf2 sr = [] →
    upd st sl sr = .ok ({ buf1 := joinBuf st.buf1 sl, buf2 := joinBuf st.buf2 sr, lastOut := none }, [])
  /-- `Phase` read on the joined buffers (both non-empty, later head `μ`, heads touching; `stepG` derives this), the operands
      tracked up to their horizons: the update returns `o` with `E ++ o` right up to the new frontier `τ`, and leaves
      `lastOut` and the remainders as the second case of `Phase` wants them. -/
  sem : ∀ (g1 g2 : Rat → Option α) (st : BinSt α) (sl sr : ASig α) (lam1 lam2 : Tm) (E : ASig α) (μ : Rat),
    Track g1 (joinBuf st.buf1 sl) lam1 → Track g2 (joinBuf st.buf2 sr) lam2 →
    FinOr (joinBuf st.buf1 sl) (joinBuf st.buf2 sr) → Touch (joinBuf st.buf1 sl) (joinBuf st.buf2 sr) →
    max (hd (joinBuf st.buf1 sl)) (hd (joinBuf st.buf2 sr)) = Tm.fin μ →
    ((st.lastOut = none ∧ E = [] ∧ μ = 0) ∨
      ∃ v, st.lastOut = some (Tm.fin μ, v) ∧ Flat E 0 (lift2 f g1 g2) ∧ E.getLast? = some (Tm.fin μ, v)) →
    ∃ r1 r2 o τ v', upd st sl sr = .ok ({ buf1 := r1, buf2 := r2, lastOut := some (Tm.fin τ, v') }, o) ∧
      Flat (E ++ o) 0 (lift2 f g1 g2) ∧ (E ++ o).getLast? = some (Tm.fin τ, v') ∧ Sorted o ∧ Suf (joinBuf st.buf1 sl) r1 ∧ Suf (joinBuf st.buf2 sr) r2 ∧
      Touch r1 r2 ∧ max (hd r1) (hd r2) = Tm.fin τ

theorem binUpdate_ok (f : α → α → α) : UpdOK f (binUpdate f) where
  empty st sl sr hlo h := by rw [binUpdate_empty f st sl sr h, hlo]
  sem g1 g2 st sl sr lam1 lam2 E μ h1 h2 hfin ht hμ hph := by
    obtain ⟨out, τ, v', r1, r2, hi, hR, hrest⟩ := interOn_sem f g1 g2 _ _ lam1 lam2 μ h1 h2 hfin ht hμ
    have hup := binUpdate_of_inter f st sl sr out (Tm.fin τ) v' r1 r2 hi
    rcases hph with ⟨hlo, rfl, rfl⟩ | ⟨v, hlo, hE, hl⟩
    · rw [hlo, dropFirst_none, newLast_of_last hR.last] at hup
      exact ⟨r1, r2, _, τ, v', hup, hR.flat, hR.last, hR.sorted, hrest⟩
    · -- the first sample of the result is the one `last_output` holds: it is dropped
      obtain ⟨hres, hstep⟩ := hE.append_res hl hR
      obtain ⟨hF, hl'⟩ := hstep _ (Or.inr rfl)
      rw [hlo, hres, dropFirst_same, ← hl, newLast_append, hl'] at hup
      exact ⟨r1, r2, _, τ, v', hup, hF, hl', sorted_tail (hres ▸ hR.sorted), hrest⟩

end sem

theorem joinBuf_nil_left (s : ASig α) : joinBuf [] s = s := by
  unfold joinBuf; simp

theorem joinBuf_nil_right (buf : ASig α) : joinBuf buf [] = buf := by
  unfold joinBuf
  cases buf.getLast? <;> simp

theorem joinBuf_cons {buf : ASig α} {p : Tm × α} (hp : buf.getLast? = some p) (y : Tm × α) (rest : ASig α) :
    joinBuf buf (y :: rest) = if p.1 = y.1 then buf ++ rest else buf ++ y :: rest := by
  unfold joinBuf
  rw [hp]
  obtain ⟨t, x⟩ := p
  obtain ⟨t', x'⟩ := y
  simp only [beq_iff_eq]

theorem joinBuf_append (buf s : ASig α) : ∃ z, joinBuf buf s = buf ++ z := by
  cases s with
  | nil => exact ⟨[], by rw [joinBuf_nil_right, List.append_nil]⟩
  | cons y rest =>
    cases hp : buf.getLast? with
    | none =>
      have : buf = [] := List.getLast?_eq_none_iff.1 hp
      subst this
      exact ⟨y :: rest, by rw [joinBuf_nil_left]; rfl⟩
    | some p =>
      rw [joinBuf_cons hp]
      split_ifs
      · exact ⟨_, rfl⟩
      · exact ⟨_, rfl⟩

theorem hd_append {b : ASig α} (h : b ≠ []) (z : ASig α) : hd (b ++ z) = hd b := by
  cases b with
  | nil => exact absurd rfl h
  | cons a b => obtain ⟨a1, a2⟩ := a; rfl

theorem nxt_le_append {b : ASig α} (h : b ≠ []) (z : ASig α) (hg : Good (b ++ z)) : nxt b ≤ nxt (b ++ z) := by
  cases b with
  | nil => exact absurd rfl h
  | cons a b =>
    obtain ⟨a1, a2⟩ := a
    cases b with
    | nil =>
      have := hd_le_nxt hg
      simpa using this
    | cons c b => obtain ⟨c1, c2⟩ := c; exact le_rfl

theorem valAtA_append_congr {X X' Y : ASig β} {L : Tm} (hX : ∀ x ∈ times X, x ≤ L) (hX' : ∀ x ∈ times X', x ≤ L)
    (hY : Y = [] ∨ L < hd Y) (t : Rat) (h : valAtA X t = valAtA X' t) : valAtA (X ++ Y) t = valAtA (X' ++ Y) t := by
  rcases hY with rfl | hY
  · simpa using h
  · by_cases ht : Tm.fin t < hd Y
    · rw [BasicAux.valAtA_append_none _ _ _ (valAtA_none_of_lt_hd ht),
        BasicAux.valAtA_append_none _ _ _ (valAtA_none_of_lt_hd ht), h]
    · rw [not_lt] at ht
      have hL : L ≤ Tm.fin t := le_trans hY.le ht
      rw [BasicAux.valAtA_append_le _ _ _ fun x hx => le_trans (hX _ (mem_times hx)) hL,
        BasicAux.valAtA_append_le _ _ _ fun x hx => le_trans (hX' _ (mem_times hx)) hL, h]

/-- The buffer of an operand whose batches so far concatenate to `I`. -/
structure BufOK (I buf : ASig α) : Prop where
  sorted : Sorted buf
  fin : ∀ x ∈ buf, x.1 ≠ Tm.inf
  last : buf.getLast? = I.getLast?
  val : ∀ t, hd buf ≤ Tm.fin t → valAtA buf t = valAtA I t
  sub : ∀ x ∈ buf, x ∈ I

theorem BufOK.nil : BufOK ([] : ASig α) [] :=
  ⟨by simp [Sorted, times], by simp, rfl, fun _ _ => rfl, by simp⟩

theorem BufOK.suf {I b r : ASig α} (h : BufOK I b) (hs : Suf b r) (hne : r ≠ []) : BufOK I r := by
  obtain ⟨pre, rfl, hpre⟩ := id hs
  refine ⟨?_, fun x hx => h.fin x (hs.mem hx), (hs.getLast hne).trans h.last, ?_, fun x hx => h.sub x (hs.mem hx)⟩
  · have := (sorted_iff _).1 h.sorted
    rw [times_append, List.pairwise_append] at this
    exact (sorted_iff _).2 this.2.1
  · intro t ht
    rw [hs.val hne t ht]
    exact h.val t (le_trans hs.hd_le ht)

/-- Samples `z` behind the common last sample `p` are appended to the buffer and to the stream; `I'` is `I`, or `I` with
    `p` repeated (`joinBuf` has dropped the repetition). -/
theorem BufOK.append {I I' buf z : ASig α} {p : Tm × α} (h : BufOK I buf) (hp : buf.getLast? = some p)
    (hl : I'.getLast? = some p) (hle : ∀ x ∈ times I', x ≤ p.1) (hv : ∀ t, valAtA I' t = valAtA I t)
    (hsub : ∀ x ∈ I, x ∈ I') (hz : Sorted z) (hf : ∀ x ∈ z, x.1 ≠ Tm.inf) (hlt : ∀ y ∈ z, p.1 < y.1) :
    BufOK (I' ++ z) (buf ++ z) := by
  have hble : ∀ x ∈ buf, x.1 ≤ p.1 := (BasicAux.weak_of_sorted h.sorted).le_last hp
  have hY : z = [] ∨ p.1 < hd z := by
    cases z with
    | nil => exact Or.inl rfl
    | cons y r => exact Or.inr (hlt y List.mem_cons_self)
  refine ⟨(sorted_append _ _).2 ⟨h.sorted, hz, fun a ha b hb => lt_of_le_of_lt (hble a ha) (hlt b hb)⟩, ?_, ?_, ?_, ?_⟩
  · intro x hx
    exact (List.mem_append.1 hx).elim (h.fin x) (hf x)
  · rw [List.getLast?_append, List.getLast?_append, hp, hl]
  · intro t ht
    rw [hd_append (fun e => by rw [e] at hp; cases hp)] at ht
    exact valAtA_append_congr (times_le_of hble) hle hY t ((h.val t ht).trans (hv t).symm)
  · intro x hx
    exact (List.mem_append.1 hx).elim (fun hx => List.mem_append_left _ (hsub x (h.sub x hx))) (List.mem_append_right _)

theorem BufOK.join {I buf new : ASig α} (h : BufOK I buf) (hw : BasicAux.Weak (I ++ new)) (hs : Sorted new)
    (hf : ∀ x ∈ new, x.1 ≠ Tm.inf) : BufOK (I ++ new) (joinBuf buf new) := by
  cases new with
  | nil => rw [joinBuf_nil_right, List.append_nil]; exact h
  | cons y rest =>
  cases hp : buf.getLast? with
  | none =>
    have hb : buf = [] := List.getLast?_eq_none_iff.1 hp
    have hI : I = [] := List.getLast?_eq_none_iff.1 (by rw [← h.last]; exact hp)
    subst hb hI
    rw [joinBuf_nil_left]
    exact ⟨hs, hf, rfl, fun _ _ => rfl, fun x hx => hx⟩
  | some p =>
  have hpI : I.getLast? = some p := by rw [← h.last]; exact hp
  have hwI := hw.sublist (List.sublist_append_left I _)
  have hIle : ∀ x ∈ times I, x ≤ p.1 := times_le_of (hwI.le_last hpI)
  have hsr := (sorted_iff _).1 hs
  rw [times_cons, List.pairwise_cons] at hsr
  have hyrest : ∀ z ∈ rest, y.1 < z.1 := fun z hz => hsr.1 z.1 (mem_times hz)
  rw [joinBuf_cons hp]
  rcases (List.pairwise_append.1 hw).2.2 p (List.mem_of_getLast? hpI) y List.mem_cons_self with hpy | rfl
  · have hlt : p.1 < y.1 := (lt_iff _ _).1 hpy
    rw [if_neg hlt.ne]
    refine h.append hp hpI hIle (fun _ => rfl) (fun _ hx => hx) hs hf fun z hz => ?_
    rcases List.mem_cons.1 hz with rfl | hz
    · exact hlt
    · exact lt_trans hlt (hyrest z hz)
  · rw [if_pos rfl, (by simp : I ++ p :: rest = (I ++ [p]) ++ rest)]
    refine h.append hp List.getLast?_concat ?_ (valAtA_snoc_dup hwI hpI) (fun _ => List.mem_append_left _)
      (sorted_tail hs) (fun x hx => hf x (List.mem_cons_of_mem _ hx)) hyrest
    intro x hx
    rcases mem_times_snoc.1 hx with hx | rfl
    · exact hIle x hx
    · exact le_rfl

theorem track_of_bufOK {g : Rat → Option α} {I Y b : ASig α} (h : BufOK I b) (hne : b ≠ []) (hW : Flat (I ++ Y) 0 g) :
    ∃ p, b.getLast? = some p ∧ Track g b p.1 := by
  cases hp : b.getLast? with
  | none => exact absurd (List.getLast?_eq_none_iff.1 hp) hne
  | some p =>
  refine ⟨p, rfl, good_of_sorted h.sorted, times_le_of ((BasicAux.weak_of_sorted h.sorted).le_last hp), ?_⟩
  intro t ht1 ht2
  have hpI : I.getLast? = some p := by rw [← h.last]; exact hp
  rw [h.val t ht1, ← BasicAux.valAtA_stable Y I p hW.weak hpI t ht2]
  refine hW.val_of_mem (List.mem_append_left _ (List.mem_of_getLast? hpI)) ?_ ht2
  have h0 : Tm.fin 0 ≤ hd b := by
    cases b with
    | nil => exact absurd rfl hne
    | cons a r => exact hW.ge_start a (List.mem_append_left _ (h.sub _ List.mem_cons_self))
  exact (fin_le_fin _ _).1 (le_trans h0 ht1)

theorem join_touch {buf L : ASig α} (hne : buf ≠ []) (hg : Good (joinBuf buf L)) :
    hd (joinBuf buf L) = hd buf ∧ nxt buf ≤ nxt (joinBuf buf L) := by
  obtain ⟨z, hz⟩ := joinBuf_append buf L
  rw [hz] at hg ⊢
  exact ⟨hd_append hne z, nxt_le_append hne z hg⟩

theorem hd_join_zero {g : Rat → Option α} {I buf L Y : ASig α} (h : BufOK I buf) (hW : Flat (I ++ L ++ Y) 0 g)
    (h0 : buf ≠ [] → hd buf = Tm.fin 0) (hne : joinBuf buf L ≠ []) : hd (joinBuf buf L) = Tm.fin 0 := by
  by_cases hb : buf = []
  · have hI : I = [] := List.getLast?_eq_none_iff.1 (by rw [← h.last, hb]; rfl)
    subst hb hI
    rw [joinBuf_nil_left] at hne ⊢
    cases L with
    | nil => exact absurd rfl hne
    | cons a L =>
      obtain ⟨a1, a2⟩ := a
      exact hW.start (a1, a2) rfl
  · obtain ⟨z, hz⟩ := joinBuf_append buf L
    rw [hz, hd_append hb, h0 hb]

section run
variable [Val α] [LawfulVal α]
set_option linter.unusedSectionVars false

/-- Nothing emitted yet (an operand has not started), or the last emitted sample sits at the later of the two heads. -/
def Phase (Gt : Rat → Option α) (st : BinSt α) (E : ASig α) : Prop :=
  (st.lastOut = none ∧ E = [] ∧ (st.buf1 = [] ∨ st.buf2 = []) ∧ (st.buf1 ≠ [] → hd st.buf1 = Tm.fin 0) ∧
      (st.buf2 ≠ [] → hd st.buf2 = Tm.fin 0)) ∨
    (∃ μ v, st.lastOut = some (Tm.fin μ, v) ∧ Flat E 0 Gt ∧ E.getLast? = some (Tm.fin μ, v) ∧ Touch st.buf1 st.buf2 ∧
      max (hd st.buf1) (hd st.buf2) = Tm.fin μ)

theorem phase_init (Gt : Rat → Option α) : Phase Gt ({} : BinSt α) [] :=
  Or.inl ⟨rfl, rfl, Or.inl rfl, fun h => absurd rfl h, fun h => absurd rfl h⟩

theorem phase_flat {Gt : Rat → Option α} {st : BinSt α} {E : ASig α} (h : Phase Gt st E) : Flat E 0 Gt := by
  rcases h with ⟨_, rfl, _⟩ | ⟨μ, v, _, hE, _⟩
  · exact Flat.nil 0 Gt
  · exact hE

theorem phase_buf1_zero {Gt : Rat → Option α} {st : BinSt α} {E : ASig α} (hph : Phase Gt st E) :
    st.lastOut = none → st.buf1 ≠ [] → hd st.buf1 = Tm.fin 0 := by
  intro hlo
  rcases hph with ⟨_, _, _, h01, _⟩ | ⟨μ, v, hlo', _⟩
  · exact h01
  · rw [hlo] at hlo'; cases hlo'

theorem phase_buf2_zero {Gt : Rat → Option α} {st : BinSt α} {E : ASig α} (hph : Phase Gt st E) :
    st.lastOut = none → st.buf2 ≠ [] → hd st.buf2 = Tm.fin 0 := by
  intro hlo
  rcases hph with ⟨_, _, _, _, h02⟩ | ⟨μ, v, hlo', _⟩
  · exact h02
  · rw [hlo] at hlo'; cases hlo'

/-- What an update leaves of the joined buffer `b`: `b` itself while an operand has not started (`UpdOK.empty`), else a
    remainder with a finite head: it is not empty (`BufOK.suf`), and of the constant's `[0, c], [inf, c]` nothing has been
    removed (`CBuf.keep`). -/
def KeepOrSuf (b r : ASig α) : Prop := r = b ∨ (Suf b r ∧ hd r ≠ Tm.inf)

theorem BufOK.keep {I b r : ASig α} (h : BufOK I b) (hk : KeepOrSuf b r) : BufOK I r := by
  rcases hk with rfl | ⟨hs, hne⟩
  · exact h
  · exact h.suf hs (ne_nil_of_hd hne)

theorem joinBuf_ne_nil {buf : ASig α} (h : buf ≠ []) (s : ASig α) : joinBuf buf s ≠ [] := by
  obtain ⟨z, hz⟩ := joinBuf_append buf s
  rw [hz]
  exact fun e => h (List.append_eq_nil_iff.1 e).1

/-- One update under the phase invariant, for operands of either kind (a stream or the constant node's batches). -/
theorem stepG {f : α → α → α} {upd : BinSt α → ASig α → ASig α → Except PyErr (BinSt α × ASig α)} (hu : UpdOK f upd)
    (g1 g2 : Rat → Option α) (st : BinSt α) (L R E : ASig α)
    (hph : Phase (lift2 f g1 g2) st E)
    (hz1 : st.lastOut = none → joinBuf st.buf1 L ≠ [] → hd (joinBuf st.buf1 L) = Tm.fin 0)
    (hz2 : st.lastOut = none → joinBuf st.buf2 R ≠ [] → hd (joinBuf st.buf2 R) = Tm.fin 0)
    (hT1 : joinBuf st.buf1 L ≠ [] → ∃ lam, Track g1 (joinBuf st.buf1 L) lam)
    (hT2 : joinBuf st.buf2 R ≠ [] → ∃ lam, Track g2 (joinBuf st.buf2 R) lam)
    (hfin : FinOr (joinBuf st.buf1 L) (joinBuf st.buf2 R)) :
    ∃ st' o, upd st L R = .ok (st', o) ∧ Sorted o ∧
      Phase (lift2 f g1 g2) st' (E ++ o) ∧ KeepOrSuf (joinBuf st.buf1 L) st'.buf1 ∧
      KeepOrSuf (joinBuf st.buf2 R) st'.buf2 := by
  by_cases hemp : joinBuf st.buf1 L = [] ∨ joinBuf st.buf2 R = []
  · rcases hph with ⟨hlo, hE, _, h01, h02⟩ | ⟨μ, v, _, _, _, _, hμ⟩
    · exact ⟨_, [], hu.empty st L R hlo hemp, by simp [Sorted, times],
        Or.inl ⟨rfl, by simpa using hE, hemp, hz1 hlo, hz2 hlo⟩, Or.inl rfl, Or.inl rfl⟩
    · exfalso
      obtain ⟨hf1, hf2⟩ := ne_inf_of_max hμ
      rcases hemp with h | h
      · exact joinBuf_ne_nil (ne_nil_of_hd hf1) _ h
      · exact joinBuf_ne_nil (ne_nil_of_hd hf2) _ h
  · rw [not_or] at hemp
    obtain ⟨lam1, hT1⟩ := hT1 hemp.1
    obtain ⟨lam2, hT2⟩ := hT2 hemp.2
    have key : ∃ μ, Touch (joinBuf st.buf1 L) (joinBuf st.buf2 R) ∧
        max (hd (joinBuf st.buf1 L)) (hd (joinBuf st.buf2 R)) = Tm.fin μ ∧
        ((st.lastOut = none ∧ E = [] ∧ μ = 0) ∨
          ∃ v, st.lastOut = some (Tm.fin μ, v) ∧ Flat E 0 (lift2 f g1 g2) ∧ E.getLast? = some (Tm.fin μ, v)) := by
      rcases hph with ⟨hlo, hE, _, h01, h02⟩ | ⟨μ, v, hlo, hE, hl, ht, hμ⟩
      · have e1 := hz1 hlo hemp.1
        have e2 := hz2 hlo hemp.2
        refine ⟨0, ⟨?_, ?_⟩, by rw [e1, e2, max_self], Or.inl ⟨hlo, hE, rfl⟩⟩
        · rw [e2, ← e1]; exact hd_le_nxt hT1.good
        · rw [e1, ← e2]; exact hd_le_nxt hT2.good
      · obtain ⟨hf1, hf2⟩ := ne_inf_of_max hμ
        obtain ⟨e1, n1⟩ := join_touch (L := L) (ne_nil_of_hd hf1) hT1.good
        obtain ⟨e2, n2⟩ := join_touch (L := R) (ne_nil_of_hd hf2) hT2.good
        refine ⟨μ, ⟨?_, ?_⟩, by rw [e1, e2, hμ], Or.inr ⟨v, hlo, hE, hl⟩⟩
        · rw [e2]; exact le_trans ht.1 n1
        · rw [e1]; exact le_trans ht.2 n2
    obtain ⟨μ, ht, hμ, hph'⟩ := key
    obtain ⟨r1, r2, o, τ, v', hup, hF, hl', hso, hs1, hs2, ht', hτ⟩ :=
      hu.sem g1 g2 st L R lam1 lam2 E μ hT1 hT2 hfin ht hμ hph'
    obtain ⟨hg1, hg2⟩ := ne_inf_of_max hτ
    exact ⟨_, o, hup, hso, Or.inr ⟨τ, v', rfl, hF, hl', ht', hτ⟩, Or.inr ⟨hs1, hg1⟩, Or.inr ⟨hs2, hg2⟩⟩

end run

section const
variable [Val α] [LawfulVal α]
set_option linter.unusedSectionVars false

/-- The buffer of a constant operand: empty (before the first update), or `[0, c], [inf, c]` (followed by whatever a
    further non-empty batch would add; with `constStream` nothing is added). -/
def CBuf (c : α) (buf : ASig α) : Prop := buf = [] ∨ ∃ junk, buf = (Tm.zero, c) :: (Tm.inf, c) :: junk

theorem CBuf.join {c : α} {buf : ASig α} (h : CBuf c buf) :
    ∃ junk, joinBuf buf [(Tm.zero, c), (Tm.inf, c)] = (Tm.zero, c) :: (Tm.inf, c) :: junk := by
  rcases h with rfl | ⟨junk, rfl⟩
  · exact ⟨[], joinBuf_nil_left _⟩
  · obtain ⟨z, hz⟩ := joinBuf_append ((Tm.zero, c) :: (Tm.inf, c) :: junk) [(Tm.zero, c), (Tm.inf, c)]
    exact ⟨junk ++ z, by rw [hz]; rfl⟩

theorem CBuf.keep {c : α} {b r : ASig α} (h : ∃ junk, b = (Tm.zero, c) :: (Tm.inf, c) :: junk) (hk : KeepOrSuf b r) :
    CBuf c r := by
  obtain ⟨junk, rfl⟩ := h
  rcases hk with rfl | ⟨⟨pre, hpre, hlt⟩, hne⟩
  · exact Or.inr ⟨junk, rfl⟩
  · right
    cases pre with
    | nil => exact ⟨junk, hpre.symm⟩
    | cons a pre =>
      exfalso
      cases pre with
      | nil =>
        simp only [List.cons_append, List.nil_append, List.cons.injEq] at hpre
        rw [← hpre.2] at hne
        exact hne rfl
      | cons b pre =>
        simp only [List.cons_append, List.cons.injEq] at hpre
        have := hlt b (by simp)
        rw [← hpre.2.1] at this
        exact absurd (lt_of_lt_of_le this (le_inf _)) (lt_irrefl _)

/-- A batch of a constant operand: `[0, c], [inf, c]` (first update) or nothing (later updates). -/
def CBatch (c : α) (C : ASig α) : Prop := C = [] ∨ C = [(Tm.zero, c), (Tm.inf, c)]

theorem CBuf.joinBuf {c : α} {buf C : ASig α} (h : CBuf c buf) (hC : CBatch c C) : CBuf c (joinBuf buf C) := by
  rcases hC with rfl | rfl
  · rw [joinBuf_nil_right]; exact h
  · exact Or.inr h.join

theorem CBuf.keepOrSuf {c : α} {b r : ASig α} (h : CBuf c b) (hk : KeepOrSuf b r) : CBuf c r := by
  rcases h with rfl | h
  · rcases hk with rfl | ⟨⟨pre, hpre, _⟩, _⟩
    · exact Or.inl rfl
    · exact Or.inl (List.append_eq_nil_iff.1 hpre.symm).2
  · exact CBuf.keep h hk

theorem CBuf.hd_zero {c : α} {b : ASig α} (h : CBuf c b) (hne : b ≠ []) : hd b = Tm.fin 0 := by
  rcases h with rfl | ⟨junk, rfl⟩
  · exact absurd rfl hne
  · rfl

theorem cbatch_constStream (c : α) : ∀ (n : Nat), ∀ C ∈ constStream c n, CBatch c C
  | 0, C, hC => by simp [constStream] at hC
  | k + 1, C, hC => by
    simp only [constStream, List.mem_cons] at hC
    rcases hC with rfl | hC
    · exact Or.inr rfl
    · exact Or.inl (List.eq_of_mem_replicate hC)

theorem track_const (c : α) (junk : ASig α) :
    Track (fun _ => some c) ((Tm.zero, c) :: (Tm.inf, c) :: junk) Tm.inf := by
  refine ⟨⟨fin_lt_inf 0, Or.inl rfl⟩, fun x _ => le_inf x, ?_⟩
  intro t ht _
  exact valAtA_head _ _ _ _ _ _ ht (fin_lt_inf t)

theorem CBuf.track {c : α} {b : ASig α} (h : CBuf c b) (hne : b ≠ []) : ∃ lam, Track (fun _ => some c) b lam := by
  rcases h with rfl | ⟨junk, rfl⟩
  · exact absurd rfl hne
  · exact ⟨_, track_const c junk⟩

theorem lift2_const_right (f : α → α → α) (g : Rat → Option α) (c : α) (t : Rat) :
    lift2 f g (fun _ => some c) t = (g t).map (fun a => f a c) := by
  unfold lift2; cases g t <;> rfl

theorem lift2_const_left (f : α → α → α) (g : Rat → Option α) (c : α) (t : Rat) :
    lift2 f (fun _ => some c) g t = (g t).map (fun b => f c b) := by
  unfold lift2; cases g t <;> rfl

theorem streamOK_congr {outs : List (ASig α)} {g g' : Rat → Option α} (h : StreamOK outs 0 g) (hg : ∀ t, g t = g' t) :
    StreamOK outs 0 g' := ⟨h.1, fun t ht => (h.2 t ht).trans (hg t)⟩

/-- An operand of a run, with the batches `Bs` still to come and its buffer: a stream that denotes `g`, of which `I` has been
    consumed, or the constant node.  The flag says which; a stream has finite stamps only. -/
inductive Opnd (g : Rat → Option α) : Bool → List (ASig α) → ASig α → Prop
  | stream {I : ASig α} {Bs : List (ASig α)} {buf : ASig α} :
      Flat (I ++ Bs.flatten) 0 g → (∀ B ∈ Bs, Sorted B) → BufOK I buf → Opnd g true Bs buf
  | const {c : α} {Bs : List (ASig α)} {buf : ASig α} :
      g = (fun _ => some c) → (∀ C ∈ Bs, CBatch c C) → CBuf c buf → Opnd g false Bs buf

/-- What `stepG` asks of an operand when its next batch is joined to the buffer, and the operand after the step. -/
theorem Opnd.feed {g : Rat → Option α} {k : Bool} {B : ASig α} {Bs : List (ASig α)} {buf : ASig α} {st : BinSt α}
    (h : Opnd g k (B :: Bs) buf)
    (h0 : st.lastOut = none → buf ≠ [] → hd buf = Tm.fin 0) :
    (st.lastOut = none → joinBuf buf B ≠ [] → hd (joinBuf buf B) = Tm.fin 0) ∧
      (joinBuf buf B ≠ [] → ∃ lam, Track g (joinBuf buf B) lam) ∧
      (k = true → ∀ x ∈ joinBuf buf B, x.1 ≠ Tm.inf) ∧ ∀ r, KeepOrSuf (joinBuf buf B) r → Opnd g k Bs r := by
  cases h with
  | @stream I _ _ hW hs hB =>
    rw [List.flatten_cons, ← List.append_assoc] at hW
    have hJ : BufOK (I ++ B) (joinBuf buf B) :=
      hB.join (hW.weak.sublist (List.sublist_append_left _ _)) (hs B List.mem_cons_self) (fun x hx => hW.fin x (by simp [hx]))
    refine ⟨fun hlo hne => hd_join_zero hB hW (h0 hlo) hne, fun hne => ?_, fun _ => hJ.fin,
      fun r hk => .stream hW (fun B' hB' => hs B' (List.mem_cons_of_mem _ hB')) (hJ.keep hk)⟩
    obtain ⟨p, _, hT⟩ := track_of_bufOK hJ hne hW
    exact ⟨_, hT⟩
  | const hg hCs hC =>
    subst hg
    have hCj := hC.joinBuf (hCs B List.mem_cons_self)
    exact ⟨fun _ hne => hCj.hd_zero hne, fun hne => hCj.track hne, (fun h => nomatch h),
      fun r hk => .const rfl (fun C' hC' => hCs C' (List.mem_cons_of_mem _ hC')) (hCj.keepOrSuf hk)⟩

/-- The run over the batches of two operands, one of them at least a stream. -/
theorem run {f : α → α → α} {upd : BinSt α → ASig α → ASig α → Except PyErr (BinSt α × ASig α)} (hu : UpdOK f upd)
    (g1 g2 : Rat → Option α) {k1 k2 : Bool} (hk : k1 = true ∨ k2 = true) :
    ∀ (Ls Rs : List (ASig α)) (st : BinSt α) (E : ASig α), Opnd g1 k1 Ls st.buf1 → Opnd g2 k2 Rs st.buf2 →
      Phase (lift2 f g1 g2) st E →
      ∃ st' outs, runBin upd st (Ls.zip Rs) = .ok (st', outs) ∧
        (∀ B ∈ outs, Sorted B) ∧ Phase (lift2 f g1 g2) st' (E ++ outs.flatten)
  | [], _, st, E, _, _, hph =>
    ⟨st, [], by rw [List.zip_nil_left]; rfl, (fun _ h => nomatch h), by rw [List.flatten_nil, List.append_nil]; exact hph⟩
  | _ :: _, [], st, E, _, _, hph =>
    ⟨st, [], by rw [List.zip_nil_right]; rfl, (fun _ h => nomatch h), by rw [List.flatten_nil, List.append_nil]; exact hph⟩
  | L :: Ls, R :: Rs, st, E, h1, h2, hph => by
    obtain ⟨hz1, hT1, hf1, hn1⟩ := h1.feed (phase_buf1_zero hph)
    obtain ⟨hz2, hT2, hf2, hn2⟩ := h2.feed (phase_buf2_zero hph)
    obtain ⟨st', o, hup, hso, hph', hk1, hk2⟩ := stepG hu g1 g2 st L R E hph hz1 hz2 hT1 hT2 (hk.imp hf1 hf2)
    obtain ⟨st'', os, hrun, hbs, hfin⟩ := run hu g1 g2 hk Ls Rs st' (E ++ o) (hn1 _ hk1) (hn2 _ hk2) hph'
    exact ⟨st'', o :: os, by rw [List.zip_cons_cons]; exact BasicAux.runBin_cons_iff.2 ⟨_, _, _, hup, hrun, rfl⟩,
      List.forall_mem_cons.2 ⟨hso, hbs⟩, by rw [List.flatten_cons, ← List.append_assoc]; exact hfin⟩

theorem Opnd.ofStream {g : Rat → Option α} {Ls : List (ASig α)} (h : StreamOK Ls 0 g) : Opnd g true Ls [] :=
  .stream (I := []) (streamOK_iff.1 h).2 h.1.batch_sorted BufOK.nil

theorem Opnd.ofConst (c : α) (n : Nat) : Opnd (fun _ => some c) false (constStream c n) [] :=
  .const rfl (cbatch_constStream c n) (Or.inl rfl)

/-- A run from the initial state: no exception, and the returned stream is the point-wise combination. -/
theorem streams_ok {f : α → α → α} {upd : BinSt α → ASig α → ASig α → Except PyErr (BinSt α × ASig α)} (hu : UpdOK f upd)
    {g1 g2 : Rat → Option α} {k1 k2 : Bool} (hk : k1 = true ∨ k2 = true) {Ls Rs : List (ASig α)}
    (h1 : Opnd g1 k1 Ls []) (h2 : Opnd g2 k2 Rs []) :
    ∃ st outs, runBin upd {} (Ls.zip Rs) = .ok (st, outs) ∧ StreamOK outs 0 (lift2 f g1 g2) := by
  obtain ⟨st, outs, hrun, hbs, hph⟩ := run hu g1 g2 hk Ls Rs {} [] h1 h2 (phase_init _)
  exact ⟨st, outs, hrun, streamOK_iff.2 ⟨hbs, phase_flat hph⟩⟩

end const

end BinAux

variable {α : Type} [Val α] [LawfulVal α]
set_option linter.unusedVariables false in
open BinAux in
/-- The binary point-wise operation classes (`binUpdate`: buffers, the online intersection with remainders and the
    pending `last` sample, `last_output`) over two operand streams that start at 0: no exception, and the returned
    stream is the point-wise combination wherever it is defined so far. -/
theorem binStream_ok (f : α → α → α) {Ls Rs : List (ASig α)} (hlen : Ls.length = Rs.length)
    {g1 g2 : Rat → Option α} (h1 : StreamOK Ls 0 g1) (h2 : StreamOK Rs 0 g2) :
    ∃ st outs, runBin (binUpdate f) {} (Ls.zip Rs) = .ok (st, outs) ∧ StreamOK outs 0 (lift2 f g1 g2) :=
  streams_ok (binUpdate_ok f) (Or.inl rfl) (.ofStream h1) (.ofStream h2)

open BinAux in
/-- The right operand is a constant node (its batch `[[0, c], [inf, c]]` arrives at the first update, an empty batch
    afterwards). -/
theorem binStream_const_right (f : α → α → α) (c : α) {Ls : List (ASig α)} {g1 : Rat → Option α} (h1 : StreamOK Ls 0 g1) :
    ∃ st outs, runBin (binUpdate f) {} (Ls.zip (constStream c Ls.length)) = .ok (st, outs) ∧
      StreamOK outs 0 (fun t => (g1 t).map (fun a => f a c)) :=
  let ⟨st, outs, hrun, hs⟩ := streams_ok (binUpdate_ok f) (Or.inl rfl) (.ofStream h1) (.ofConst c _)
  ⟨st, outs, hrun, streamOK_congr hs (lift2_const_right f g1 c)⟩

open BinAux in
/-- The left operand is a constant node. -/
theorem binStream_const_left (f : α → α → α) (c : α) {Rs : List (ASig α)} {g2 : Rat → Option α} (h2 : StreamOK Rs 0 g2) :
    ∃ st outs, runBin (binUpdate f) {} ((constStream c Rs.length).zip Rs) = .ok (st, outs) ∧
      StreamOK outs 0 (fun t => (g2 t).map (fun b => f c b)) :=
  let ⟨st, outs, hrun, hs⟩ := streams_ok (binUpdate_ok f) (Or.inr rfl) (.ofConst c _) (.ofStream h2)
  ⟨st, outs, hrun, streamOK_congr hs (lift2_const_left f g2 c)⟩

end Rtamt.Dense.AlgOn
