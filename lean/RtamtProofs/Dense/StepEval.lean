/-
  The bottom-up evaluator: `sortDedup`, reading back a sampled step function with `valAt`, and
  `opAt` on operand functions that agree with `rhoD` from the operands' domain starts on.
-/
import RtamtProofs.Dense.StepNodes

set_option linter.unusedSectionVars false

namespace Rtamt.Dense
open Rtamt Val

variable {α : Type} [Val α]

theorem mem_insertSorted {t x : Rat} {l : List Rat} : x ∈ insertSorted t l ↔ x = t ∨ x ∈ l := by
  induction l with
  | nil => exact List.mem_singleton.trans (or_iff_left List.not_mem_nil).symm
  | cons y ys ih =>
    rw [insertSorted]
    split_ifs with h1 h2
    · exact List.mem_cons
    · rw [h2, List.mem_cons, or_self_left]
    · rw [List.mem_cons, ih, List.mem_cons, or_left_comm]

theorem pairwise_insertSorted {t : Rat} {l : List Rat} (h : l.Pairwise (· < ·)) :
    (insertSorted t l).Pairwise (· < ·) := by
  induction l with
  | nil => exact List.pairwise_singleton _ _
  | cons y ys ih =>
    rw [List.pairwise_cons] at h
    unfold insertSorted
    split
    · rename_i hlt
      rw [List.pairwise_cons]
      refine ⟨?_, List.pairwise_cons.2 h⟩
      intro z hz
      rcases List.mem_cons.1 hz with rfl | hz
      · exact hlt
      · exact lt_trans hlt (h.1 z hz)
    · split
      · exact List.pairwise_cons.2 h
      · rename_i h1 h2
        rw [List.pairwise_cons]
        refine ⟨?_, ih h.2⟩
        intro z hz
        rcases mem_insertSorted.1 hz with rfl | hz
        · exact lt_of_le_of_ne (not_lt.1 h1) (fun e => h2 e.symm)
        · exact h.1 z hz

theorem mem_foldl_insertSorted {x : Rat} (l acc : List Rat) :
    x ∈ l.foldl (fun acc t => insertSorted t acc) acc ↔ x ∈ acc ∨ x ∈ l := by
  induction l generalizing acc with
  | nil => exact (or_iff_left List.not_mem_nil).symm
  | cons y ys ih =>
    rw [List.foldl_cons, ih, mem_insertSorted, List.mem_cons, or_assoc, or_left_comm]

theorem pairwise_foldl_insertSorted (l acc : List Rat) (h : acc.Pairwise (· < ·)) :
    (l.foldl (fun acc t => insertSorted t acc) acc).Pairwise (· < ·) := by
  induction l generalizing acc with
  | nil => exact h
  | cons y ys ih => exact ih _ (pairwise_insertSorted h)

theorem mem_sortDedup {x : Rat} {l : List Rat} : x ∈ sortDedup l ↔ x ∈ l :=
  (mem_foldl_insertSorted l []).trans (or_iff_right List.not_mem_nil)

theorem pairwise_sortDedup (l : List Rat) : (sortDedup l).Pairwise (· < ·) :=
  pairwise_foldl_insertSorted l [] List.Pairwise.nil

theorem valAt_filterMap_none (at_ : Rat → Option α) (pts : List Rat) (t : Rat)
    (h : ∀ p ∈ pts, t < p) :
    DSig.valAt (pts.filterMap (fun p => (at_ p).map (fun v => (p, v)))) t = none := by
  induction pts with
  | nil => rfl
  | cons p rest ih =>
    have ih' := ih (fun q hq => h q (List.mem_cons_of_mem _ hq))
    cases hp : at_ p with
    | none => rw [List.filterMap_cons_none (by rw [hp]; rfl)]; exact ih'
    | some v =>
      rw [List.filterMap_cons_some (b := (p, v)) (by rw [hp]; rfl), valAt_cons,
        if_pos (h p (List.mem_cons_self ..))]

theorem valAt_filterMap_sorted (at_ : Rat → Option α) (pts : List Rat)
    (hp : pts.Pairwise (· < ·)) (hdef : ∀ p ∈ pts, (at_ p).isSome = true) (τ t : Rat)
    (hτ : τ ∈ pts) (hle : τ ≤ t) (hno : ∀ p ∈ pts, ¬ (τ < p ∧ p ≤ t)) :
    DSig.valAt (pts.filterMap (fun p => (at_ p).map (fun v => (p, v)))) t = at_ τ := by
  induction pts with
  | nil => exact absurd hτ List.not_mem_nil
  | cons p rest ih =>
    rw [List.pairwise_cons] at hp
    obtain ⟨v, hv⟩ := Option.isSome_iff_exists.1 (hdef p (List.mem_cons_self ..))
    rw [List.filterMap_cons_some (b := (p, v)) (by rw [hv]; rfl), valAt_cons]
    rcases List.mem_cons.1 hτ with rfl | hτ'
    · rw [if_neg (not_lt.2 hle), valAt_filterMap_none at_ rest t, hv]
      · rfl
      · intro q hq
        by_contra hn
        exact hno q (List.mem_cons_of_mem _ hq) ⟨hp.1 q hq, not_lt.1 hn⟩
    · have hpτ : p < τ := hp.1 τ hτ'
      rw [if_neg (not_lt.2 (le_trans (le_of_lt hpτ) hle)),
        ih hp.2 (fun q hq => hdef q (List.mem_cons_of_mem _ hq)) hτ'
          (fun q hq => hno q (List.mem_cons_of_mem _ hq))]
      obtain ⟨v', hv'⟩ := Option.isSome_iff_exists.1 (hdef τ (List.mem_cons_of_mem _ hτ'))
      rw [hv']; rfl

theorem mem_samplePts {cfg : DCfg} {w : DEnv α} {φ : F α} {x : Rat} :
    x ∈ sortDedup ((dom w φ :: bps cfg w φ).filter (fun t => decide (dom w φ ≤ t)))
      ↔ (x = dom w φ ∨ x ∈ bps cfg w φ) ∧ dom w φ ≤ x := by
  rw [mem_sortDedup, List.mem_filter, List.mem_cons, decide_eq_true_eq]

/-- Sampling a step function at the candidates `≥ dom` and reading it back with `valAt`
    reproduces it on `[dom, ∞)`. -/
theorem valAt_sample {cfg : DCfg} {w : DEnv α} {φ : F α} {at_ : Rat → Option α}
    (hat : StepOn at_ (bps cfg w φ) (dom w φ) none) (t : Rat) (ht : dom w φ ≤ t) :
    (sample cfg w φ at_).valAt t = at_ t := by
  unfold sample
  obtain ⟨τ, k1, k2, k3, k4⟩ := exists_last_bp
    (sortDedup ((dom w φ :: bps cfg w φ).filter (fun t => decide (dom w φ ≤ t)))) (dom w φ) t ht
  have hτ : τ ∈ sortDedup ((dom w φ :: bps cfg w φ).filter (fun t => decide (dom w φ ≤ t))) := by
    rcases k1 with rfl | k1
    · exact mem_samplePts.2 ⟨Or.inl rfl, le_rfl⟩
    · exact k1.1
  rw [hat.2 τ t k2 k3 trivial
    fun b hb hh => k4 b (mem_samplePts.2 ⟨Or.inr hb, le_trans k2 (le_of_lt hh.1)⟩) hh]
  exact valAt_filterMap_sorted at_ _ (pairwise_sortDedup _)
    (fun p hp => hat.1 p (mem_samplePts.1 hp).2 trivial) τ t hτ k3 k4

theorem valAt_sample_eq_rhoD {cfg : DCfg} {w : DEnv α} {node : F α} {at_ : Rat → Option α}
    (hstep : StepOn (rhoD cfg w node) (bps cfg w node) (dom w node) none)
    (hop : ∀ s, dom w node ≤ s → at_ s = rhoD cfg w node s) (t : Rat) (ht : dom w node ≤ t) :
    (sample cfg w node at_).valAt t = rhoD cfg w node t := by
  rw [valAt_sample (hstep.congr fun s h _ => hop s h) t ht, hop t ht]

theorem foldWin_congr_ge {f : α → α → α} {init : α} {g g' : Rat → Option α} {B : List Rat}
    {d lo : Rat} {hi : Option Rat} (h : ∀ s, d ≤ s → g s = g' s) (hlo : d ≤ lo) :
    foldWin f init g B lo hi = foldWin f init g' B lo hi := by
  rw [foldWin_eq, foldWin_eq]
  apply foldlM_congr_mem
  intro τ hτ
  rcases mem_winPts.1 hτ with rfl | ⟨_, h1, _⟩
  · exact h _ hlo
  · exact h _ (le_trans hlo (le_of_lt h1))

variable {cfg : DCfg} {w : DEnv α} {φ ψ : F α} {g g1 g2 : Rat → Option α} {t : Rat}

theorem opAt_un {op : Un} (hg : ∀ s, dom w φ ≤ s → g s = rhoD cfg w φ s)
    (ht : dom w (.un op φ) ≤ t) : opAt cfg w (.un op φ) [g] t = rhoD cfg w (.un op φ) t :=
  congrArg (Option.map op.app) (hg t ht)

theorem opAt_bin {op : Bin} (h1 : ∀ s, dom w φ ≤ s → g1 s = rhoD cfg w φ s)
    (h2 : ∀ s, dom w ψ ≤ s → g2 s = rhoD cfg w ψ s) (ht : dom w (.bin op φ ψ) ≤ t) :
    opAt cfg w (.bin op φ ψ) [g1, g2] t = rhoD cfg w (.bin op φ ψ) t := by
  rw [dom_bin] at ht
  simp only [opAt, rhoD, h1 t (le_trans (le_max_left _ _) ht), h2 t (le_trans (le_max_right _ _) ht)]

theorem opAt_tmp1 {op : T1} (hg : ∀ s, dom w φ ≤ s → g s = rhoD cfg w φ s)
    (ht : dom w (.tmp1 op φ) ≤ t) : opAt cfg w (.tmp1 op φ) [g] t = rhoD cfg w (.tmp1 op φ) t := by
  have ht : dom w φ ≤ t := ht
  simp only [opAt, rhoD, if_neg (not_lt.2 ht)]
  cases op <;> simp only []
  · exact foldWin_congr_ge hg le_rfl
  · exact foldWin_congr_ge hg le_rfl
  · exact foldWin_congr_ge hg ht
  · exact foldWin_congr_ge hg ht

theorem opAt_tb1 (hs : 0 ≤ cfg.scale) {op : TB1} {a b : Nat}
    (hg : ∀ s, dom w φ ≤ s → g s = rhoD cfg w φ s) (ht : dom w (.tb1 op a b φ) ≤ t) :
    opAt cfg w (.tb1 op a b φ) [g] t = rhoD cfg w (.tb1 op a b φ) t := by
  have ht : dom w φ ≤ t := ht
  have ha : dom w φ ≤ t + (a : Rat) * cfg.scale :=
    le_trans ht (le_add_of_nonneg_right (mul_nonneg (Nat.cast_nonneg a) hs))
  simp only [opAt, rhoD, if_neg (not_lt.2 ht)]
  cases op <;> simp only []
  · split
    · rfl
    · exact foldWin_congr_ge hg (le_max_right _ _)
  · split
    · rfl
    · exact foldWin_congr_ge hg (le_max_right _ _)
  · exact foldWin_congr_ge hg ha
  · exact foldWin_congr_ge hg ha

theorem sinceInner_congr {g1' g2' : Rat → Option α} {d1 d2 : Rat}
    (h1 : ∀ s, d1 ≤ s → g1 s = g1' s) (h2 : ∀ s, d2 ≤ s → g2 s = g2' s) (B1 : List Rat)
    (t s : Rat) (hs : max d1 d2 ≤ s) :
    sinceInner g1 g2 B1 t s = sinceInner g1' g2' B1 t s := by
  simp only [sinceInner, h2 s (le_trans (le_max_right _ _) hs),
    foldWin_congr_ge (f := pmin) h1 (le_trans (le_max_left _ _) hs)]

theorem untilInner_congr {g1' g2' : Rat → Option α} {d1 d2 : Rat}
    (h1 : ∀ s, d1 ≤ s → g1 s = g1' s) (h2 : ∀ s, d2 ≤ s → g2 s = g2' s) (B1 : List Rat)
    (t s : Rat) (ht : max d1 d2 ≤ t) (hs : t ≤ s) :
    untilInner g1 g2 B1 t s = untilInner g1' g2' B1 t s := by
  simp only [untilInner, h2 s (le_trans (le_trans (le_max_right _ _) ht) hs),
    foldWin_congr_ge (f := pmin) h1 (le_trans (le_max_left _ _) ht)]

theorem opAt_tmp2 {op : T2} (h1 : ∀ s, dom w φ ≤ s → g1 s = rhoD cfg w φ s)
    (h2 : ∀ s, dom w ψ ≤ s → g2 s = rhoD cfg w ψ s) (ht : dom w (.tmp2 op φ ψ) ≤ t) :
    opAt cfg w (.tmp2 op φ ψ) [g1, g2] t = rhoD cfg w (.tmp2 op φ ψ) t := by
  rw [dom_tmp2] at ht
  simp only [opAt, rhoD, if_neg (not_lt.2 ht)]
  cases op <;> simp only []
  · exact foldWin_congr_ge (sinceInner_congr h1 h2 _ t) le_rfl
  · exact foldWin_congr_ge (fun s => untilInner_congr h1 h2 _ t s ht) le_rfl

theorem opAt_tb2 (hs : 0 ≤ cfg.scale) {op : TB2} {a b : Nat}
    (h1 : ∀ s, dom w φ ≤ s → g1 s = rhoD cfg w φ s)
    (h2 : ∀ s, dom w ψ ≤ s → g2 s = rhoD cfg w ψ s) (ht : dom w (.tb2 op a b φ ψ) ≤ t) :
    opAt cfg w (.tb2 op a b φ ψ) [g1, g2] t = rhoD cfg w (.tb2 op a b φ ψ) t := by
  rw [dom_tb2] at ht
  simp only [opAt, rhoD, if_neg (not_lt.2 ht)]
  cases op <;> simp only []
  · split
    · rfl
    · exact foldWin_congr_ge (sinceInner_congr h1 h2 _ t) (le_max_right _ _)
  · exact foldWin_congr_ge (fun s => untilInner_congr h1 h2 _ t s ht)
      (le_add_of_nonneg_right (mul_nonneg (Nat.cast_nonneg a) hs))

end Rtamt.Dense
