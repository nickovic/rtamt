/-
  Dense time, online (C05): the stream contract (`StreamOK`) for the variables, the unary point-wise operations and the
  unbounded `once` / `historically` (`scanUpdate` with the running extremum carried across the updates: batch after batch
  it returns the samples of the offline loop over the whole stream, `scanUpdate_snd`, `scanOuts_flatten`, which
  `ScanAux.fwd_char` characterises).

  `BasicAux` starts with general facts about `Covered` / `Shape` and about `runUn` / `runBin`; those about `valAtA` on
  weakly sorted lists (`Weak`) are in `AlgBase`.
-/
import RtamtProofs.Dense.OnDefs
import RtamtProofs.Dense.AlgScan
import RtamtProofs.Lemmas.Exc
import Mathlib.Data.List.Forall2

namespace Rtamt.Dense.AlgOn
open Rtamt Val Rtamt.Dense.Alg

namespace BasicAux
open InterAux
attribute [local instance] InterAux.tmOrder

variable {β γ σ : Type}

theorem forall₂_mem_right {R : β → γ → Prop} {l1 : List β} {l2 : List γ} (h : List.Forall₂ R l1 l2) {b : γ}
    (hb : b ∈ l2) : ∃ a ∈ l1, R a b := by
  induction h with
  | nil => cases hb
  | cons h1 _ ih =>
    rcases List.mem_cons.1 hb with rfl | hb'
    · exact ⟨_, List.mem_cons_self, h1⟩
    · obtain ⟨a, ha, hr⟩ := ih hb'
      exact ⟨a, List.mem_cons_of_mem _ ha, hr⟩

theorem times_flatten_of_forall₂ {Bs : List (ASig β)} {outs : List (ASig γ)}
    (h : List.Forall₂ (fun B o => times o = times B) Bs outs) : times outs.flatten = times Bs.flatten := by
  induction h with
  | nil => rfl
  | cons h1 _ ih => simp only [List.flatten_cons, times_append, h1, ih]

theorem covered_iff (Bs : List (ASig β)) (d t : Rat) :
    Covered Bs d t ↔ ∃ τ, (times Bs.flatten).getLast? = some (Tm.fin τ) ∧ d ≤ t ∧ t ≤ τ := by
  unfold Covered times
  rw [List.getLast?_map]
  constructor
  · rintro ⟨τ, p, h1, h2, h3⟩
    exact ⟨τ, by rw [h1]; simp [h2], h3⟩
  · rintro ⟨τ, h1, h3⟩
    cases hl : Bs.flatten.getLast? with
    | none => rw [hl] at h1; cases h1
    | some p => rw [hl] at h1; exact ⟨τ, p, rfl, by simpa using h1, h3⟩

theorem covered_congr {As : List (ASig γ)} {Bs : List (ASig β)} (h : times As.flatten = times Bs.flatten)
    (d t : Rat) : Covered As d t ↔ Covered Bs d t := by
  rw [covered_iff, covered_iff, h]

theorem covered_mono {Bs : List (ASig β)} {d t s : Rat} (h : Covered Bs d t) (h1 : d ≤ s) (h2 : s ≤ t) :
    Covered Bs d s := by
  obtain ⟨τ, p, a, b, _, e⟩ := h
  exact ⟨τ, p, a, b, h1, le_trans h2 e⟩

theorem shape_weak {Bs : List (ASig β)} {d : Rat} (h : Shape Bs d) : Weak Bs.flatten := h.weak

theorem shape_ge_start {Bs : List (ASig β)} {d : Rat} (h : Shape Bs d) {p : Tm × β} (hp : p ∈ Bs.flatten) :
    Tm.fin d ≤ p.1 := by
  cases hh : Bs.flatten.head? with
  | none =>
    rw [List.head?_eq_none_iff] at hh
    rw [hh] at hp; cases hp
  | some a =>
    rw [← h.start a hh]
    exact (shape_weak h).head_le hh p hp

theorem shape_fin_of_mem {Bs : List (ASig β)} {d : Rat} (h : Shape Bs d) {p : Tm × β} (hp : p ∈ Bs.flatten) :
    ∃ τ, p.1 = Tm.fin τ ∧ d ≤ τ := by
  obtain ⟨B, hB, hpB⟩ := List.mem_flatten.1 hp
  have hf := h.finite B hB p hpB
  have hg := shape_ge_start h hp
  cases hτ : p.1 with
  | inf => exact absurd hτ hf
  | fin τ =>
    rw [hτ, fin_le_fin] at hg
    exact ⟨τ, rfl, hg⟩

theorem shape_covered_stamp {Bs : List (ASig β)} {d : Rat} (h : Shape Bs d) {p : Tm × β} (hp : p ∈ Bs.flatten)
    {τ : Rat} (e : p.1 = Tm.fin τ) : Covered Bs d τ := by
  cases hl : Bs.flatten.getLast? with
  | none =>
    rw [List.getLast?_eq_none_iff] at hl
    rw [hl] at hp; cases hp
  | some z =>
    obtain ⟨τz, ez, _⟩ := shape_fin_of_mem h (List.mem_of_getLast? hl)
    have h1 := (shape_weak h).le_last hl p hp
    have h2 := shape_ge_start h hp
    rw [e, ez, fin_le_fin] at h1
    rw [e, fin_le_fin] at h2
    exact ⟨τz, z, hl, ez, h2, h1⟩

theorem shape_defined {Bs : List (ASig β)} {d t : Rat} (h : Shape Bs d) (hc : Covered Bs d t) :
    valAtA Bs.flatten t ≠ none := by
  obtain ⟨τ, p, hl, _, hd, _⟩ := hc
  rw [valAtA_ne_none_iff]
  cases hh : Bs.flatten.head? with
  | none =>
    rw [List.head?_eq_none_iff] at hh
    rw [hh] at hl; cases hl
  | some a =>
    refine ⟨a, rfl, ?_⟩
    rw [h.start a hh, fin_le_fin]
    exact hd

/-- After a covered time only later samples can follow: the value at a covered time never changes any more. -/
theorem shape_valAtA_stable {Bs : List (ASig β)} {d t : Rat} (B : ASig β) (h : Shape (Bs ++ [B]) d)
    (hc : Covered Bs d t) : valAtA (Bs ++ [B]).flatten t = valAtA Bs.flatten t := by
  obtain ⟨τ, z, hl, ez, -, ht⟩ := hc
  have hw : Weak (Bs.flatten ++ B) := by rw [← List.flatten_concat]; exact shape_weak h
  rw [List.flatten_concat]
  exact valAtA_stable B _ z hw hl t (ez ▸ (fin_le_fin _ _).2 ht)

theorem shape_prefix {Bs : List (ASig β)} {d : Rat} (B : ASig β) (h : Shape (Bs ++ [B]) d) : Shape Bs d := by
  refine ⟨fun X hX => h.batch_sorted X (List.mem_append_left _ hX),
    fun X hX => h.finite X (List.mem_append_left _ hX), ?_, ?_⟩
  · have := h.weak
    rw [List.flatten_concat] at this
    exact List.Pairwise.sublist (List.sublist_append_left _ _) this
  · intro p hp
    apply h.start p
    rw [List.flatten_concat, List.head?_append, hp]; rfl

theorem covered_concat {Bs : List (ASig β)} {d t : Rat} (B : ASig β) (h : Shape (Bs ++ [B]) d)
    (hc : Covered Bs d t) : Covered (Bs ++ [B]) d t := by
  obtain ⟨τ, z, hl, ez, hd, ht⟩ := hc
  have hz : z ∈ (Bs ++ [B]).flatten := by
    rw [List.flatten_concat]; exact List.mem_append_left _ (List.mem_of_getLast? hl)
  exact covered_mono (shape_covered_stamp h hz ez) hd ht

/-- A stream with the stamps of a well-shaped stream, batch by batch, is well shaped if it is weakly sorted. -/
theorem shape_of_times {Bs : List (ASig β)} {outs : List (ASig γ)} {d : Rat} (h : Shape Bs d)
    (hF : List.Forall₂ (fun B o => times o = times B) Bs outs) (hw : Weak outs.flatten) : Shape outs d := by
  have ht := times_flatten_of_forall₂ hF
  refine ⟨?_, ?_, hw, ?_⟩
  · intro o ho
    obtain ⟨B, hB, e⟩ := forall₂_mem_right hF ho
    unfold Sorted; rw [e]; exact h.batch_sorted B hB
  · intro o ho p hp
    obtain ⟨B, hB, e⟩ := forall₂_mem_right hF ho
    have : p.1 ∈ times B := by rw [← e]; exact List.mem_map_of_mem hp
    obtain ⟨q, hq, e2⟩ := List.mem_map.1 this
    rw [← e2]; exact h.finite B hB q hq
  · intro p hp
    have e : (times outs.flatten).head? = some p.1 := by
      unfold times; rw [List.head?_map, hp]; rfl
    rw [ht] at e
    unfold times at e
    rw [List.head?_map] at e
    cases hh : Bs.flatten.head? with
    | none => rw [hh] at e; cases e
    | some a =>
      rw [hh] at e
      have : a.1 = p.1 := by simpa using e
      rw [← this]; exact h.start a hh

section run
variable {α : Type}

theorem runUn_nil_iff {step : σ → ASig α → Except PyErr (σ × ASig α)} {st st2 : σ} {outs : List (ASig α)} :
    runUn step st [] = .ok (st2, outs) ↔ st2 = st ∧ outs = [] := by
  constructor
  · intro h; cases h; exact ⟨rfl, rfl⟩
  · rintro ⟨rfl, rfl⟩; rfl

theorem runUn_cons_iff {step : σ → ASig α → Except PyErr (σ × ASig α)} {st st2 : σ} {B : ASig α}
    {rest outs : List (ASig α)} :
    runUn step st (B :: rest) = .ok (st2, outs) ↔
      ∃ st1 o os, step st B = .ok (st1, o) ∧ runUn step st1 rest = .ok (st2, os) ∧ outs = o :: os := by
  simp only [runUn, Exc.bind_eq_ok, Exc.pure_eq_ok, Prod.exists, Prod.mk.injEq]
  constructor
  · rintro ⟨st1, o, h1, _, os, h2, rfl, rfl⟩; exact ⟨st1, o, os, h1, h2, rfl⟩
  · rintro ⟨st1, o, os, h1, h2, rfl⟩; exact ⟨st1, o, h1, _, os, h2, rfl, rfl⟩

theorem runBin_nil_iff {σ : Type} {step : σ → ASig α → ASig α → Except PyErr (σ × ASig α)} {st st2 : σ}
    {outs : List (ASig α)} :
    runBin step st [] = .ok (st2, outs) ↔ st2 = st ∧ outs = [] := by
  constructor
  · intro h; cases h; exact ⟨rfl, rfl⟩
  · rintro ⟨rfl, rfl⟩; rfl

theorem runBin_cons_iff {σ : Type} {step : σ → ASig α → ASig α → Except PyErr (σ × ASig α)} {st st2 : σ}
    {L R : ASig α} {rest : List (ASig α × ASig α)} {outs : List (ASig α)} :
    runBin step st ((L, R) :: rest) = .ok (st2, outs) ↔
      ∃ st1 o os, step st L R = .ok (st1, o) ∧ runBin step st1 rest = .ok (st2, os) ∧ outs = o :: os := by
  simp only [runBin, Exc.bind_eq_ok, Exc.pure_eq_ok, Prod.exists, Prod.mk.injEq]
  constructor
  · rintro ⟨st1, o, h1, _, os, h2, rfl, rfl⟩; exact ⟨st1, o, os, h1, h2, rfl⟩
  · rintro ⟨st1, o, os, h1, h2, rfl⟩; exact ⟨st1, o, h1, _, os, h2, rfl, rfl⟩

theorem runUn_length {step : σ → ASig α → Except PyErr (σ × ASig α)} :
    ∀ {Bs : List (ASig α)} {st st2 : σ} {outs : List (ASig α)}, runUn step st Bs = .ok (st2, outs) →
      outs.length = Bs.length
  | [], _, _, _, h => by rw [(runUn_nil_iff.1 h).2]
  | _ :: _, _, _, _, h => by
    obtain ⟨_, _, _, _, h2, rfl⟩ := runUn_cons_iff.1 h
    rw [List.length_cons, List.length_cons, runUn_length h2]

theorem runBin_length {σ : Type} {step : σ → ASig α → ASig α → Except PyErr (σ × ASig α)} :
    ∀ {Zs : List (ASig α × ASig α)} {st st2 : σ} {outs : List (ASig α)}, runBin step st Zs = .ok (st2, outs) →
      outs.length = Zs.length
  | [], _, _, _, h => by rw [(runBin_nil_iff.1 h).2]; rfl
  | (_, _) :: _, _, _, _, h => by
    obtain ⟨_, _, _, _, h2, rfl⟩ := runBin_cons_iff.1 h
    rw [List.length_cons, List.length_cons, runBin_length h2]

theorem runUn_forall₂ (step : σ → ASig α → Except PyErr (σ × ASig α)) :
    ∀ (Bs : List (ASig α)) (st st' : σ) (outs : List (ASig α)), runUn step st Bs = .ok (st', outs) →
      List.Forall₂ (fun B o => ∃ s s', step s B = .ok (s', o)) Bs outs
  | [], st, st', outs, h => by
    obtain ⟨rfl, rfl⟩ := runUn_nil_iff.1 h
    exact List.Forall₂.nil
  | B :: rest, st, st', outs, h => by
    obtain ⟨st1, o, os, h1, h2, rfl⟩ := runUn_cons_iff.1 h
    exact List.Forall₂.cons ⟨st, st1, h1⟩ (runUn_forall₂ step rest st1 st' os h2)

end run

section scan
variable {α : Type}

/-- The running value `scanUpdate` hands to the next update. -/
def scanAcc (comb : α → α → α) (p : α) (s : ASig α) : α := (scanUpdate comb p s).1

theorem scanUpdate_snd (comb : α → α → α) : ∀ (p : α) (s : ASig α), (scanUpdate comb p s).2 = fwdScan.go comb p s
  | _, [] => rfl
  | p, (t, v) :: rest => congrArg ((t, comb v p) :: ·) (scanUpdate_snd comb (comb v p) rest)

theorem scanUpdate_eq (comb : α → α → α) (p : α) (s : ASig α) :
    scanUpdate comb p s = (scanAcc comb p s, fwdScan.go comb p s) :=
  Prod.ext rfl (scanUpdate_snd comb p s)

theorem scanAcc_nil (comb : α → α → α) (p : α) : scanAcc comb p [] = p := rfl
theorem scanAcc_cons (comb : α → α → α) (p : α) (t : Tm) (v : α) (rest : ASig α) :
    scanAcc comb p ((t, v) :: rest) = scanAcc comb (comb v p) rest := rfl

theorem go_append (comb : α → α → α) (p : α) (s r : ASig α) :
    fwdScan.go comb p (s ++ r) = fwdScan.go comb p s ++ fwdScan.go comb (scanAcc comb p s) r := by
  induction s generalizing p with
  | nil => rfl
  | cons a s ih =>
    obtain ⟨t, v⟩ := a
    rw [List.cons_append, ScanAux.go_cons, ScanAux.go_cons, scanAcc_cons, ih, List.cons_append]

theorem scanAcc_append (comb : α → α → α) (p : α) (s r : ASig α) :
    scanAcc comb p (s ++ r) = scanAcc comb (scanAcc comb p s) r := by
  induction s generalizing p with
  | nil => rfl
  | cons a s ih =>
    obtain ⟨t, v⟩ := a
    rw [List.cons_append, scanAcc_cons, scanAcc_cons, ih]

theorem scanUpdate_append (comb : α → α → α) (p : α) (s r : ASig α) :
    scanUpdate comb p (s ++ r) =
      ((scanUpdate comb (scanUpdate comb p s).1 r).1,
        (scanUpdate comb p s).2 ++ (scanUpdate comb (scanUpdate comb p s).1 r).2) := by
  rw [scanUpdate_eq, go_append, scanAcc_append, scanUpdate_snd, scanUpdate_snd]; rfl

theorem mem_go_stamp {comb : α → α → α} {p : α} {s : ASig α} {o : Tm × α} (h : o ∈ fwdScan.go comb p s) :
    ∃ q ∈ s, q.1 = o.1 := by
  have : o.1 ∈ times s := by rw [← ScanAux.times_go comb p s]; exact List.mem_map_of_mem h
  exact List.mem_map.1 this

/-- The batches returned when the running value is threaded through the batches. -/
def scanOuts (comb : α → α → α) : α → List (ASig α) → List (ASig α)
  | _, [] => []
  | p, B :: rest => fwdScan.go comb p B :: scanOuts comb (scanAcc comb p B) rest

theorem runUn_scan (comb : α → α → α) : ∀ (Bs : List (ASig α)) (p : α),
    runUn (fun (p : α) B => .ok (scanUpdate comb p B)) p Bs = .ok (scanAcc comb p Bs.flatten, scanOuts comb p Bs)
  | [], p => rfl
  | B :: rest, p => by
    rw [List.flatten_cons, scanAcc_append]
    exact runUn_cons_iff.2 ⟨_, _, _, congrArg Except.ok (scanUpdate_eq comb p B), runUn_scan comb rest _, rfl⟩

theorem scanOuts_flatten (comb : α → α → α) : ∀ (Bs : List (ASig α)) (p : α),
    (scanOuts comb p Bs).flatten = fwdScan.go comb p Bs.flatten
  | [], p => rfl
  | B :: rest, p => by
    rw [scanOuts, List.flatten_cons, List.flatten_cons, go_append, scanOuts_flatten comb rest]

theorem scanOuts_forall₂ (comb : α → α → α) : ∀ (Bs : List (ASig α)) (p : α),
    List.Forall₂ (fun B o => times o = times B) Bs (scanOuts comb p Bs)
  | [], _ => List.Forall₂.nil
  | B :: rest, p => List.Forall₂.cons (ScanAux.times_go comb p B) (scanOuts_forall₂ comb rest _)

theorem go_weak_aux (comb : α → α → α) (a : Tm × α) : ∀ (s : ASig α) (acc : α),
    (∀ r ∈ s, a.1 < r.1 ∨ a = r) → s.Pairwise (fun p q => p.1 ≤ q.1) → comb a.2 acc = acc →
      ∀ o ∈ fwdScan.go comb acc s, a.1 < o.1 ∨ (a.1, acc) = o
  | [], _, _, _, _, o, ho => by cases ho
  | (t, v) :: rest, acc, h1, hm, hc, o, ho => by
    rcases h1 (t, v) List.mem_cons_self with h2 | h2
    · left
      obtain ⟨q, hq, e⟩ := mem_go_stamp ho
      rw [← e]
      rcases List.mem_cons.1 hq with rfl | hq'
      · exact h2
      · exact lt_of_lt_of_le h2 ((List.pairwise_cons.1 hm).1 q hq')
    · subst h2
      rw [ScanAux.go_cons, hc] at ho
      rcases List.mem_cons.1 ho with rfl | ho'
      · exact Or.inr rfl
      · exact go_weak_aux comb _ rest acc (fun r hr => h1 r (List.mem_cons_of_mem _ hr))
          (List.pairwise_cons.1 hm).2 hc o ho'

/-- A repeated sample does not change the running extremum: the output is weakly sorted as well. -/
theorem go_weak (comb : α → α → α) (hidem : ∀ a b, comb a (comb a b) = comb a b) :
    ∀ (s : ASig α) (acc : α), Weak s → Weak (fwdScan.go comb acc s)
  | [], _, _ => List.Pairwise.nil
  | (t, v) :: rest, acc, hw => by
    obtain ⟨h1, h2⟩ := weak_cons.1 hw
    rw [ScanAux.go_cons, weak_cons]
    exact ⟨go_weak_aux comb (t, v) rest (comb v acc) h1 h2.mono (hidem v acc),
      go_weak comb hidem rest _ h2⟩

/-- `OnceOperation` / `HistoricallyOperation`, generically. -/
theorem scanStream_gen (R : α → α → Prop) (comb : α → α → α) (init : α)
    (hcomb : ∀ c a b, R c (comb a b) ↔ R c a ∧ R c b) (hidem : ∀ a b, comb a (comb a b) = comb a b)
    {Bs : List (ASig α)} {d : Rat} {g : Rat → Option α} (h : StreamOK Bs d g) :
    ∃ st outs, runUn (fun (p : α) B => .ok (scanUpdate comb p B)) init Bs = .ok (st, outs) ∧ Shape outs d ∧
      ∀ t, Covered outs d t → ∃ v, valAtA outs.flatten t = some v ∧
        ∀ c, R c v ↔ R c init ∧ ∀ y ∈ valuesOn g d t, R c y := by
  refine ⟨_, _, runUn_scan comb Bs init, ?_, ?_⟩
  · apply shape_of_times h.1 (scanOuts_forall₂ comb Bs init)
    rw [scanOuts_flatten]
    exact go_weak comb hidem _ _ (shape_weak h.1)
  · intro t hc
    have hc' : Covered Bs d t :=
      (covered_congr (times_flatten_of_forall₂ (scanOuts_forall₂ comb Bs init)) d t).1 hc
    obtain ⟨v, hv, hch⟩ := ScanAux.fwd_char R comb hcomb t Bs.flatten (shape_weak h.1).mono (shape_defined h.1 hc') init
    refine ⟨v, by rw [scanOuts_flatten]; exact hv, fun c => ?_⟩
    rw [hch c, valuesOn_iff_mem (shape_weak h.1) (fun p hp => shape_ge_start h.1 hp)
      (fun s h1 h2 => (h.2 s (covered_mono hc' h1 h2)).symm) (fun y => R c y)]

end scan

section mapun

theorem weak_map (k : β → γ) {s : ASig β} (h : Weak s) : Weak (s.map (fun p => (p.1, k p.2))) := by
  unfold Weak
  rw [List.pairwise_map]
  refine List.Pairwise.imp ?_ h
  rintro p q (h | rfl)
  · exact Or.inl h
  · exact Or.inr rfl

theorem mapStream_ok (k : β → γ) {Bs : List (ASig β)} {d : Rat} {g : Rat → Option β} (h : StreamOK Bs d g) :
    StreamOK (Bs.map (List.map (fun p => (p.1, k p.2)))) d (fun t => (g t).map k) := by
  have hF : List.Forall₂ (fun (B : ASig β) (o : ASig γ) => times o = times B) Bs
      (Bs.map (List.map (fun p => (p.1, k p.2)))) := by
    rw [List.forall₂_map_right_iff]
    exact List.forall₂_same.2 (fun B _ => times_map k B)
  have hfl : (Bs.map (List.map (fun p : Tm × β => (p.1, k p.2)))).flatten
      = Bs.flatten.map (fun p => (p.1, k p.2)) := List.map_flatten.symm
  refine ⟨shape_of_times h.1 hF (by rw [hfl]; exact weak_map k (shape_weak h.1)), fun t hc => ?_⟩
  have hc' : Covered Bs d t := (covered_congr (times_flatten_of_forall₂ hF) d t).1 hc
  rw [hfl, valAtA_map, h.2 t hc']

end mapun

end BasicAux

open BasicAux InterAux
attribute [local instance] InterAux.tmOrder

variable {α : Type} [Val α] [LawfulVal α]
set_option linter.unusedSectionVars false

set_option linter.unusedVariables false in
/-- The chunks of one variable: consecutive pieces of (a prefix of) its sample list. -/
theorem varStream_ok (s : DSig α) (hne : s ≠ []) (hs : s.times.Pairwise (· < ·)) (h0 : s.times.head? = some 0)
    (Bs : List (ASig α)) (rest : ASig α) (hch : Bs.flatten ++ rest = ofDSig s) :
    StreamOK Bs 0 (DSig.valAt s) := by
  obtain ⟨⟨hsorted, hstart, _⟩, _⟩ := InterAux.ofDSig_denotes s hs h0
  have hfin : ∀ p ∈ ofDSig s, p.1 ≠ Tm.inf := by
    intro p hp
    simp only [ofDSig, List.mem_map] at hp
    obtain ⟨q, _, rfl⟩ := hp
    simp
  rw [← hch] at hsorted hstart hfin
  have hsub : Bs.flatten.Sublist (Bs.flatten ++ rest) := List.sublist_append_left _ _
  have hsF : Sorted Bs.flatten := List.Pairwise.sublist (hsub.map _) hsorted
  refine ⟨⟨?_, ?_, weak_of_sorted hsF, ?_⟩, ?_⟩
  · intro B hB
    exact List.Pairwise.sublist ((List.sublist_flatten_of_mem hB).map _) hsF
  · intro B hB p hp
    exact hfin p (List.mem_append_left _ (List.mem_flatten.2 ⟨B, hB, hp⟩))
  · intro p hp
    have : (times (Bs.flatten ++ rest)).head? = some p.1 := by
      unfold times
      rw [List.head?_map, List.head?_append, hp]; rfl
    rw [this] at hstart
    exact Option.some.inj hstart
  · intro t hc
    obtain ⟨τ, z, hl, ez, _, ht⟩ := hc
    have hz : z ∈ Bs.flatten := List.mem_of_getLast? hl
    rw [← InterAux.valAtA_ofDSig, ← hch]
    symm
    apply valAtA_append_gt
    intro p hp
    have hp' : p.1 ∈ times rest := List.mem_map_of_mem hp
    have hz' : z.1 ∈ times Bs.flatten := List.mem_map_of_mem hz
    rw [sorted_iff, times_append] at hsorted
    have := (List.pairwise_append.1 hsorted).2.2 z.1 hz' p.1 hp'
    rw [ez] at this
    exact lt_of_le_of_lt ((fin_le_fin _ _).2 ht) this

omit [LawfulVal α] in
theorem BasicAux.unStream_outs (op : Un) : ∀ {Bs : List (ASig α)} {st : Unit} {outs : List (ASig α)},
    runUn (fun (_ : Unit) B => (mapUn op B).map (fun o => ((), o))) () Bs = .ok (st, outs) →
      outs = Bs.map (List.map (fun p => (p.1, op.app p.2)))
  | [], st, outs, he => by
    obtain ⟨rfl, rfl⟩ := runUn_nil_iff.1 he
    rfl
  | B :: rest, st, outs, he => by
    obtain ⟨st1, o, os, h1, h2, rfl⟩ := runUn_cons_iff.1 he
    cases hm : mapUn op B with
    | error e => rw [hm] at h1; cases h1
    | ok o' =>
      rw [hm] at h1
      have : ((), o') = (st1, o) := Exc.ok_inj h1
      cases this
      rw [mapUn_eq_map op hm, unStream_outs op h2]
      rfl

/-- Unary point-wise operations (`mapUn` batch by batch). -/
theorem unStream_ok (op : Un) {Bs : List (ASig α)} {g : Rat → Option α} (h : StreamOK Bs 0 g)
    {st : Unit} {outs : List (ASig α)}
    (he : runUn (fun (_ : Unit) B => (mapUn op B).map (fun o => ((), o))) () Bs = .ok (st, outs)) :
    StreamOK outs 0 (fun t => (g t).map op.app) := by
  rw [unStream_outs op he]
  exact mapStream_ok op.app h

theorem unStream_total (op : Un) (hop : op ≠ .sqrt ∧ op ≠ .ln) (Bs : List (ASig α)) :
    ∃ outs, runUn (fun (_ : Unit) B => (mapUn op B).map (fun o => ((), o))) () Bs = .ok ((), outs) := by
  induction Bs with
  | nil => exact ⟨[], rfl⟩
  | cons B rest ih =>
    obtain ⟨os, hos⟩ := ih
    obtain ⟨o, ho⟩ := mapUn_ok op hop B
    exact ⟨o :: os, runUn_cons_iff.2 ⟨_, _, _, by rw [ho]; rfl, hos, rfl⟩⟩

/-- `OnceOperation`: the running maximum carried across updates is the supremum over `[0, t]`. -/
theorem scanStream_max {Bs : List (ASig α)} {g : Rat → Option α} (h : StreamOK Bs 0 g) :
    ∃ st outs, runUn (fun (p : α) B => .ok (scanUpdate pmax p B)) Val.ninf Bs = .ok (st, outs) ∧ Shape outs 0 ∧
      ∀ t, Covered outs 0 t → ∃ v, valAtA outs.flatten t = some v ∧ IsLUB (valuesOn g 0 t) v := by
  obtain ⟨st, outs, hr, hsh, hv⟩ := scanStream_gen (fun c y => y ≤ c) pmax (Val.ninf : α) ScanAux.pmax_le
    ScanAux.pmax_idem h
  exact ⟨st, outs, hr, hsh, fun t hc => (hv t hc).imp fun _ hc => ⟨hc.1, ScanAux.isLUB_of_char hc.2⟩⟩

/-- `HistoricallyOperation`. -/
theorem scanStream_min {Bs : List (ASig α)} {g : Rat → Option α} (h : StreamOK Bs 0 g) :
    ∃ st outs, runUn (fun (p : α) B => .ok (scanUpdate pmin p B)) Val.pinf Bs = .ok (st, outs) ∧ Shape outs 0 ∧
      InfFn (fun t => valuesOn g 0 t) (Covered outs 0) (valAtA outs.flatten) :=
  scanStream_max (α := αᵒᵈ) h

end Rtamt.Dense.AlgOn
