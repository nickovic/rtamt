/-
  Dense time, online (C06): the output loop of the interface-aware `PredicateOperation` (robustness semantics) on a
  stream.  Every batch of differences is thinned by `dedupGoK` on the robustness value (`cmpOfDiff`): a sample is
  dropped only when its robustness equals the one of the sample before it IN THE SAME BATCH (the first and the last of
  a batch always stay), so by `hkey` its `±inf` value equals the value of its predecessor and the step function read off
  the concatenation is the same as the one of the stream mapped sample by sample (`mapStream_ok`).
-/
import RtamtProofs.Dense.OnOut

namespace Rtamt.Dense.AlgOn
open Rtamt Val Rtamt.Dense.Alg

namespace IAAux
open InterAux BasicAux
attribute [local instance] InterAux.tmOrder

variable {α : Type} [Val α]

/-- The value the interface-aware predicate returns for a difference. -/
def satV (c : Cmp) (d : α) : α := if satOfDiff c d then (Val.pinf : α) else Val.ninf

/-- A sample of differences mapped to the returned sample. -/
def satSample (c : Cmp) (p : Tm × α) : Tm × α := (p.1, satV c p.2)

theorem satSample_eq (c : Cmp) (p : Tm × α) : satSample c p = (p.1, satV c p.2) := rfl

/-- One batch through the output loop (`prev`: the robustness of the previous sample of the batch). -/
def iaB (c : Cmp) (prev : Option α) (d : ASig α) : ASig α :=
  (dedupGoK (fun (x : α × Bool) => x.1) prev (d.map (fun p => (p.1, (cmpOfDiff c p.2, satOfDiff c p.2))))).map
    (fun p => (p.1, if p.2.2 then (Val.pinf : α) else Val.ninf))

theorem iaB_nil (c : Cmp) (prev : Option α) : iaB c prev [] = [] := by
  simp [iaB, dedupGoK]

theorem iaB_one (c : Cmp) (prev : Option α) (p : Tm × α) : iaB c prev [p] = [satSample c p] := by
  simp [iaB, dedupGoK, satSample, satV]

theorem iaB_cons2 (c : Cmp) (prev : Option α) (p q : Tm × α) (rest : ASig α) :
    iaB c prev (p :: q :: rest) =
      (if (match prev with | none => true | some x => vne (cmpOfDiff c p.2) x) then [satSample c p] else []) ++
        iaB c (some (cmpOfDiff c p.2)) (q :: rest) := by
  cases prev with
  | none => simp [iaB, dedupGoK, satSample, satV]
  | some x =>
    simp only [iaB, List.map_cons, dedupGoK, List.map_append]
    by_cases hk : vne (cmpOfDiff c p.2) x = true
    · rw [if_pos hk, if_pos hk]; rfl
    · rw [if_neg hk, if_neg hk]; rfl

theorem iaB_none_cons (c : Cmp) (p : Tm × α) (rest : ASig α) :
    iaB c none (p :: rest) = satSample c p :: iaB c (some (cmpOfDiff c p.2)) rest := by
  cases rest with
  | nil => rw [iaB_one, iaB_nil]
  | cons q rest => rw [iaB_cons2]; rfl

theorem iaB_ne_nil (c : Cmp) (prev : Option α) (a : Tm × α) (l : ASig α) : iaB c prev (a :: l) ≠ [] :=
  fun h => Alg.IAAux.dedupGoK_ne_nil _ prev _ _ (List.map_eq_nil_iff.1 h)

theorem iaB_sublist (c : Cmp) (prev : Option α) (d : ASig α) : (iaB c prev d).Sublist (d.map (satSample c)) := by
  have := (Alg.IAAux.dedupGoK_sublist (fun (x : α × Bool) => x.1) prev
    (d.map (fun p => (p.1, (cmpOfDiff c p.2, satOfDiff c p.2))))).map (fun p => (p.1, if p.2.2 then (Val.pinf : α) else Val.ninf))
  rwa [List.map_map] at this

theorem iaB_getLast (c : Cmp) (prev : Option α) (d : ASig α) :
    (iaB c prev d).getLast? = (d.map (satSample c)).getLast? := by
  induction d generalizing prev with
  | nil => rw [iaB_nil]; rfl
  | cons a l ih =>
    cases l with
    | nil => rw [iaB_one]; rfl
    | cons b l =>
      rw [iaB_cons2, List.map_cons, List.getLast?_append, ih]
      have hne : ((b :: l).map (satSample c)).getLast? ≠ none := by
        rw [Ne, List.getLast?_eq_none_iff]; simp
      cases hl : ((b :: l).map (satSample c)).getLast? with
      | none => exact absurd hl hne
      | some z =>
        rw [List.map_cons] at hl
        rw [List.map_cons, List.getLast?_cons_cons, hl]
        rfl

theorem iaB_mem (c : Cmp) (prev : Option α) (d : ASig α) {o : Tm × α} (ho : o ∈ iaB c prev d) :
    ∃ p ∈ d, o = satSample c p := by
  have := (iaB_sublist c prev d).subset ho
  obtain ⟨p, hp, e⟩ := List.mem_map.1 this
  exact ⟨p, hp, e.symm⟩

variable [LawfulVal α]

/-- The thinned batch behind a sample `a` carrying the previous robustness reads like the mapped batch, whatever
    follows. -/
theorem iaB_val (c : Cmp) (hkey : ∀ d d' : α, cmpOfDiff c d = cmpOfDiff c d' → satOfDiff c d = satOfDiff c d')
    (t : Rat) : ∀ (d : ASig α) (a : Tm × α) (r : ASig α), (∀ p ∈ d, a.1 ≤ p.1) →
      d.Pairwise (fun p q => p.1 ≤ q.1) →
      valAtA (satSample c a :: (iaB c (some (cmpOfDiff c a.2)) d ++ r)) t =
        valAtA (satSample c a :: (d.map (satSample c) ++ r)) t
  | [], a, r, _, _ => by rw [iaB_nil]; rfl
  | [p], a, r, _, _ => by rw [iaB_one]; rfl
  | p :: q :: rest, a, r, h1, hm => by
    obtain ⟨hm1, hm2⟩ := List.pairwise_cons.1 hm
    have ih := iaB_val c hkey t (q :: rest) p r hm1 hm2
    rw [iaB_cons2]
    by_cases hk : vne (cmpOfDiff c p.2) (cmpOfDiff c a.2) = true
    · rw [if_pos hk]
      show valAtA (satSample c a :: (satSample c p :: (iaB c (some (cmpOfDiff c p.2)) (q :: rest) ++ r))) t
        = valAtA (satSample c a :: (satSample c p :: ((q :: rest).map (satSample c) ++ r))) t
      rw [satSample_eq c a, valAtA_cons a.1, valAtA_cons a.1, ih]
    · have hk' : cmpOfDiff c p.2 = cmpOfDiff c a.2 := (vne_eq_false_iff _ _).1 (by simpa using hk)
      have e : satV c p.2 = satV c a.2 := by unfold satV; rw [hkey _ _ hk']
      rw [if_neg hk]
      show valAtA (satSample c a :: (iaB c (some (cmpOfDiff c p.2)) (q :: rest) ++ r)) t
        = valAtA (satSample c a :: (satSample c p :: ((q :: rest).map (satSample c) ++ r))) t
      rw [satSample_eq c a, valAtA_cons a.1, valAtA_cons a.1, ← ih]
      by_cases ha : Tm.fin t < a.1
      · rw [if_pos ha, if_pos ha]
      · rw [if_neg ha, if_neg ha, satSample_eq c p, valAtA_cons p.1]
        by_cases hp : Tm.fin t < p.1
        · rw [if_pos hp]
          have hn : valAtA (iaB c (some (cmpOfDiff c p.2)) (q :: rest) ++ r) t = none := by
            rw [valAtA_eq_none_iff]
            intro o ho
            cases hX : iaB c (some (cmpOfDiff c p.2)) (q :: rest) with
            | nil => exact absurd hX (iaB_ne_nil _ _ _ _)
            | cons x X =>
              rw [hX, List.cons_append, List.head?_cons] at ho
              obtain rfl : x = o := Option.some.inj ho
              have hx : x ∈ iaB c (some (cmpOfDiff c p.2)) (q :: rest) := by rw [hX]; exact List.mem_cons_self
              obtain ⟨p', hp', rfl⟩ := iaB_mem c _ _ hx
              exact lt_of_lt_of_le hp (hm1 p' hp')
          rw [hn]
        · rw [if_neg hp, e]; rfl

theorem iaS_val (c : Cmp) (hkey : ∀ d d' : α, cmpOfDiff c d = cmpOfDiff c d' → satOfDiff c d = satOfDiff c d')
    (t : Rat) : ∀ (Bs : List (ASig α)), (∀ B ∈ Bs, B.Pairwise (fun p q => p.1 ≤ q.1)) →
      valAtA (Bs.map (iaB c none)).flatten t = valAtA (Bs.map (List.map (satSample c))).flatten t
  | [], _ => rfl
  | B :: rest, h => by
    have ih := iaS_val c hkey t rest (fun X hX => h X (List.mem_cons_of_mem _ hX))
    rw [List.map_cons, List.map_cons, List.flatten_cons, List.flatten_cons]
    cases B with
    | nil => rw [iaB_nil]; exact ih
    | cons p B' =>
      have hB := h (p :: B') List.mem_cons_self
      obtain ⟨hB1, hB2⟩ := List.pairwise_cons.1 hB
      rw [iaB_none_cons, List.cons_append, iaB_val c hkey t B' p _ hB1 hB2, List.map_cons, List.cons_append]
      exact valAtA_append_right_congr (satSample c p :: B'.map (satSample c)) _ _ t ih

omit [LawfulVal α] in
theorem iaS_sublist (c : Cmp) : ∀ (Bs : List (ASig α)),
    ((Bs.map (iaB c none)).flatten).Sublist (Bs.map (List.map (satSample c))).flatten
  | [] => List.Sublist.slnil
  | B :: rest => by
    rw [List.map_cons, List.map_cons, List.flatten_cons, List.flatten_cons]
    exact List.Sublist.append (iaB_sublist c none B) (iaS_sublist c rest)

omit [LawfulVal α] in
theorem iaS_getLast (c : Cmp) : ∀ (Bs : List (ASig α)),
    ((Bs.map (iaB c none)).flatten).getLast? = ((Bs.map (List.map (satSample c))).flatten).getLast?
  | [] => rfl
  | B :: rest => by
    rw [List.map_cons, List.map_cons, List.flatten_cons, List.flatten_cons, List.getLast?_append,
      List.getLast?_append, iaS_getLast c rest, iaB_getLast]

omit [LawfulVal α] in
theorem iaS_head (c : Cmp) : ∀ (Bs : List (ASig α)),
    ((Bs.map (iaB c none)).flatten).head? = ((Bs.map (List.map (satSample c))).flatten).head?
  | [] => rfl
  | B :: rest => by
    rw [List.map_cons, List.map_cons, List.flatten_cons, List.flatten_cons]
    cases B with
    | nil => rw [iaB_nil]; exact iaS_head c rest
    | cons p B' => rw [iaB_none_cons]; rfl

omit [LawfulVal α] in
/-- The thinned stream is a thinning of the mapped one (the first and the last sample of every batch stay): it is a stream of
    whatever it reads as at the times the mapped stream covers. -/
theorem iaS_ok (c : Cmp) {Bs : List (ASig α)} {d : Rat} (h : Shape Bs d) {g' : Rat → Option α}
    (hval : ∀ t, Covered (Bs.map (List.map (satSample c))) d t → valAtA (Bs.map (iaB c none)).flatten t = g' t) :
    StreamOK (Bs.map (iaB c none)) d g' := by
  have hM := (streamOK_iff.1 (mapStream_ok (satV c) (⟨h, fun _ _ => rfl⟩ : StreamOK Bs d (valAtA Bs.flatten)))).2
  refine streamOK_iff.2 ⟨fun o ho => ?_, hM.thin (iaS_sublist c Bs) (iaS_head c Bs) fun t τ p hp e h1 h2 =>
    hval t ⟨τ, p, iaS_getLast c Bs ▸ hp, e, h1, h2⟩⟩
  obtain ⟨B, hB, rfl⟩ := List.mem_map.1 ho
  have hs : Sorted (B.map (satSample c)) := by
    unfold Sorted
    rw [show times (B.map (satSample c)) = times B from times_map (satV c) B]
    exact h.batch_sorted B hB
  exact List.Pairwise.sublist ((iaB_sublist c none B).map _) hs

end IAAux

open BasicAux InterAux IAAux
attribute [local instance] InterAux.tmOrder

variable {α : Type} [Val α] [LawfulVal α]

/-- The output loop of the interface-aware predicate (`dedupGoK` on the robustness value, then `±inf` by satisfaction) applied
    to every batch of a stream of differences: the returned stream is the satisfaction signal.  `hkey`: equal robustness
    values have equal satisfaction. -/
theorem iaStream_ok (c : Cmp) (hkey : ∀ d d' : α, cmpOfDiff c d = cmpOfDiff c d' → satOfDiff c d = satOfDiff c d')
    {Bs : List (ASig α)} {g : Rat → Option α} (h : StreamOK Bs 0 g) :
    StreamOK (Bs.map (fun d => (dedupGoK (fun (x : α × Bool) => x.1) none
        (d.map (fun p => (p.1, (cmpOfDiff c p.2, satOfDiff c p.2))))).map
          (fun p => (p.1, if p.2.2 then (Val.pinf : α) else Val.ninf)))) 0
      (fun t => (g t).map (fun d => if satOfDiff c d then (Val.pinf : α) else Val.ninf)) := by
  have hM : StreamOK (Bs.map (List.map (satSample c))) 0 (fun t => (g t).map (satV c)) := mapStream_ok (satV c) h
  exact iaS_ok c h.1 fun t hc =>
    (iaS_val c hkey t Bs fun B hB => (weak_of_sorted (h.1.batch_sorted B hB)).mono).trans (hM.2 t hc)

omit [LawfulVal α] in
/-- … its shape needs nothing about the values (no `hkey`). -/
theorem iaStream_shape (c : Cmp) {Bs : List (ASig α)} (h : Shape Bs 0) :
    Shape (Bs.map (fun d => (dedupGoK (fun (x : α × Bool) => x.1) none
        (d.map (fun p => (p.1, (cmpOfDiff c p.2, satOfDiff c p.2))))).map
          (fun p => (p.1, if p.2.2 then (Val.pinf : α) else Val.ninf)))) 0 :=
  (iaS_ok c h fun _ _ => rfl).1

end Rtamt.Dense.AlgOn
