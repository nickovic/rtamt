/-
  Dense time: what the proofs about sample lists (`ASig`) share.

  The order on `Tm` that `Tm.lt` / `Tm.le` decide (`InterAux.tmOrder`; `FwdAux.tmOrder` of `AlgStack` is the same order);
  `valAtA`, `Sorted`, `InfOK` on sample lists, sorted or only weakly sorted (`AlgOn.BasicAux.Weak`: the batches of a stream
  put together); windows of values (`valuesOn`).
-/
import RtamtProofs.Dense.AlgDefs
import RtamtProofs.Dense.KeepSel
import Mathlib.Tactic.Linarith
import Mathlib.Order.WithBot
import Mathlib.Order.Bounds.Basic

namespace Rtamt.Dense.Alg
open Rtamt Val

namespace ScanAux

variable {β : Type}

theorem valAtA_nil (t : Rat) : valAtA ([] : ASig β) t = none := rfl

end ScanAux

namespace InterAux

def key : Tm → WithTop Rat
  | .fin q => (q : WithTop Rat)
  | .inf => ⊤

theorem key_injective : Function.Injective key := by
  intro a b h
  cases a <;> cases b <;> simp [key] at h ⊢
  exact h

@[reducible] def tmOrder : LinearOrder Tm := LinearOrder.lift' key key_injective

attribute [local instance] tmOrder

theorem lt_iff (a b : Tm) : Tm.lt a b = true ↔ a < b := by
  show _ ↔ key a < key b
  cases a <;> cases b <;> simp [Tm.lt, key]

theorem fin_lt_fin (a b : Rat) : Tm.fin a < Tm.fin b ↔ a < b := by
  rw [← lt_iff]; simp [Tm.lt]

theorem fin_le_fin (a b : Rat) : Tm.fin a ≤ Tm.fin b ↔ a ≤ b := by
  rw [← not_lt, fin_lt_fin, not_lt]

theorem fin_lt_inf (a : Rat) : Tm.fin a < Tm.inf := by
  rw [← lt_iff]; simp [Tm.lt]

theorem le_inf (a : Tm) : a ≤ Tm.inf := by
  rw [← not_lt, ← lt_iff]; simp [Tm.lt]

theorem exists_fin_of_le_fin {x : Tm} {t : Rat} (h : x ≤ Tm.fin t) : ∃ q, x = Tm.fin q := by
  cases x with
  | fin q => exact ⟨q, rfl⟩
  | inf => exact absurd (fin_lt_inf t) (not_lt.2 h)

theorem max_fin (a b : Rat) : max (Tm.fin a) (Tm.fin b) = Tm.fin (max a b) := by
  rcases le_total a b with h | h
  · rw [max_eq_right h, max_eq_right ((fin_le_fin _ _).2 h)]
  · rw [max_eq_left h, max_eq_left ((fin_le_fin _ _).2 h)]

variable {β : Type}

theorem times_append (a b : ASig β) : times (a ++ b) = times a ++ times b := List.map_append

theorem times_cons (p : Tm × β) (a : ASig β) : times (p :: a) = p.1 :: times a := rfl

theorem mem_times {l : ASig β} {x : Tm × β} (h : x ∈ l) : x.1 ∈ times l := List.mem_map_of_mem h

theorem times_le_of {l : ASig β} {L : Tm} (h : ∀ x ∈ l, x.1 ≤ L) : ∀ x ∈ times l, x ≤ L :=
  List.forall_mem_map.2 h

theorem eq_cons_of_head {s : ASig β} {τ : Tm} (h : (times s).head? = some τ) : ∃ v r, s = (τ, v) :: r := by
  cases s with
  | nil => cases h
  | cons a r =>
    obtain ⟨a1, a2⟩ := a
    obtain rfl : a1 = τ := Option.some.inj h
    exact ⟨a2, r, rfl⟩

theorem valAtA_cons (τ : Tm) (v : β) (rest : ASig β) (t : Rat) :
    valAtA ((τ, v) :: rest) t = if Tm.fin t < τ then none else some ((valAtA rest t).getD v) := by
  rw [valAtA]
  by_cases h : Tm.fin t < τ
  · rw [if_pos ((lt_iff _ _).2 h), if_pos h]
  · rw [if_neg (fun h' => h ((lt_iff _ _).1 h')), if_neg h]
    cases valAtA rest t <;> rfl

theorem valAtA_none_of_lt (s : ASig β) (t : Rat) (h : ∀ p ∈ s, Tm.fin t < p.1) : valAtA s t = none := by
  cases s with
  | nil => rfl
  | cons a l => rw [valAtA_cons, if_pos (h a List.mem_cons_self)]

theorem valAtA_cons_none (τ : Tm) (v : β) (rest : ASig β) (t : Rat) :
    valAtA ((τ, v) :: rest) t = none ↔ Tm.fin t < τ := by
  rw [valAtA_cons]; split <;> simp [*]

theorem le_of_some {τ : Tm} {v : β} {rest : ASig β} {t : Rat} (h : valAtA ((τ, v) :: rest) t ≠ none) : τ ≤ Tm.fin t :=
  not_lt.1 fun hh => h ((valAtA_cons_none τ v rest t).2 hh)

theorem valAtA_cons_of_le {τ : Tm} {v : β} {rest : ASig β} {t : Rat} (h : τ ≤ Tm.fin t) :
    valAtA ((τ, v) :: rest) t = some ((valAtA rest t).getD v) := by
  rw [valAtA_cons, if_neg (not_lt.2 h)]

theorem valAtA_cons_some (τ : Tm) (v : β) (rest : ASig β) (t : Rat) (y : β) :
    valAtA ((τ, v) :: rest) t = some y ↔
      τ ≤ Tm.fin t ∧ (valAtA rest t = some y ∨ (valAtA rest t = none ∧ v = y)) := by
  by_cases h : τ ≤ Tm.fin t
  · rw [valAtA_cons_of_le h]
    cases valAtA rest t <;> simp [h]
  · rw [(valAtA_cons_none τ v rest t).2 (not_le.1 h)]
    simp [h]

theorem valAtA_tail (p : Tm) (v : β) (c : Tm) (w : β) (r : ASig β) (t : Rat) (hpc : p < c) (hc : c ≤ Tm.fin t) :
    valAtA ((p, v) :: (c, w) :: r) t = valAtA ((c, w) :: r) t := by
  rw [valAtA_cons p, if_neg (not_lt.2 (le_trans (le_of_lt hpc) hc))]
  rw [valAtA_cons c, if_neg (not_lt.2 hc)]
  rfl

theorem valAtA_head (p : Tm) (v : β) (c : Tm) (w : β) (r : ASig β) (t : Rat) (hp : p ≤ Tm.fin t) (hc : Tm.fin t < c) :
    valAtA ((p, v) :: (c, w) :: r) t = some v := by
  rw [valAtA_cons p, if_neg (not_lt.2 hp), valAtA_cons c, if_pos hc]
  rfl

theorem sorted_iff (s : ASig β) : Sorted s ↔ (times s).Pairwise (fun a b => a < b) := by
  unfold Sorted; simp only [lt_iff]

theorem sorted_snoc {out : ASig β} {m : Tm} (hs : Sorted out) (hb : ∀ τ ∈ times out, τ < m) (v : β) :
    Sorted (out ++ [(m, v)]) := by
  rw [sorted_iff, times_append, List.pairwise_append]
  refine ⟨(sorted_iff _).1 hs, List.pairwise_singleton _ _, fun a ha b hb' => ?_⟩
  rw [List.mem_singleton.1 hb']
  exact hb a ha

theorem sorted_append (X Y : ASig β) :
    Sorted (X ++ Y) ↔ Sorted X ∧ Sorted Y ∧ ∀ p ∈ X, ∀ q ∈ Y, p.1 < q.1 := by
  simp only [Sorted, times, List.map_append, List.pairwise_append, List.forall_mem_map, lt_iff]

theorem mem_times_snoc {out : ASig β} {m τ : Tm} {v : β} : τ ∈ times (out ++ [(m, v)]) ↔ τ ∈ times out ∨ τ = m := by
  rw [times_append, List.mem_append]
  exact or_congr_right List.mem_singleton

variable {α : Type}

theorem sorted_tail {p : Tm × α} {r : ASig α} (h : Sorted (p :: r)) : Sorted r :=
  (List.pairwise_cons.1 h).2

theorem sorted_lt_of_mem {p : Tm × α} {r : ASig α} (h : Sorted (p :: r)) : ∀ q ∈ r, p.1 < q.1 :=
  fun q hq => (lt_iff _ _).1 ((List.pairwise_cons.1 h).1 q.1 (mem_times hq))

theorem sorted_head_lt {p v c w} {r : ASig α} (h : Sorted ((p, v) :: (c, w) :: r)) : p < c :=
  sorted_lt_of_mem h _ List.mem_cons_self

theorem sorted_inf_nil {v : α} {l : ASig α} (h : Sorted ((Tm.inf, v) :: l)) : l = [] := by
  cases l with
  | nil => rfl
  | cons p _ => exact absurd (sorted_head_lt (p := Tm.inf) (c := p.1) (w := p.2) h) (not_lt.2 (le_inf _))

theorem infOK_tail {p : Tm × β} {l : ASig β} (h : InfOK (p :: l)) : InfOK l :=
  fun q a v e => h (p :: q) a v (by rw [e]; rfl)

theorem infOK_of_fin {l : ASig β} (h : ∀ p ∈ l, p.1 ≠ Tm.inf) : InfOK l := by
  intro pre a v e
  exact absurd rfl (h (Tm.inf, v) (by rw [e]; simp))

theorem infOK_nil : InfOK ([] : ASig β) := infOK_of_fin (List.forall_mem_nil _)

theorem infOK_single (a : Tm × β) : InfOK [a] := by
  intro pre a' v heq
  have := congrArg List.length heq
  simp at this

theorem infOK_pair (a b : Tm × β) : InfOK [a, b] ↔ (b.1 = Tm.inf → a.2 = b.2) := by
  constructor
  · intro h hb
    exact h [] a b.2 (by obtain ⟨b1, b2⟩ := b; simp at hb; simp [hb])
  · intro h pre a' v heq
    cases pre with
    | nil =>
      simp only [List.nil_append, List.cons.injEq, and_true] at heq
      obtain ⟨rfl, rfl⟩ := heq
      exact h rfl
    | cons a0 pre' =>
      have hl := congrArg List.length heq
      simp at hl

theorem infOK_cons3 (a b c : Tm × β) (r : ASig β) : InfOK (a :: b :: c :: r) ↔ InfOK (b :: c :: r) := by
  constructor
  · intro h pre a' v heq
    exact h (a :: pre) a' v (by rw [heq]; rfl)
  · intro h pre a' v heq
    cases pre with
    | nil =>
      have hl := congrArg List.length heq
      simp at hl
    | cons a0 pre' =>
      simp only [List.cons_append, List.cons.injEq] at heq
      exact h pre' a' v heq.2

theorem infOK_head_congr (τ τ' : Tm) (x : β) (l : ASig β) : InfOK ((τ, x) :: l) ↔ InfOK ((τ', x) :: l) := by
  cases l with
  | nil => simp [infOK_single]
  | cons b l =>
    cases l with
    | nil => simp [infOK_pair]
    | cons c r => rw [infOK_cons3, infOK_cons3]

/-- Recursive form of `InfOK`; the two agree on sorted lists. -/
def InfOKr : ASig β → Prop
  | a :: b :: rest => (b.1 = Tm.inf → a.2 = b.2) ∧ InfOKr (b :: rest)
  | _ => True

theorem infOKr_tail {a : Tm × β} {rest : ASig β} (h : InfOKr (a :: rest)) : InfOKr rest := by
  cases rest with
  | nil => trivial
  | cons b r => exact h.2

theorem infOK_of_infOKr : ∀ {l : ASig β}, InfOKr l → InfOK l := by
  intro l h pre
  induction pre generalizing l with
  | nil => intro a v e; subst e; exact h.1 rfl
  | cons x pre ih =>
    intro a v e
    subst e
    exact ih (infOKr_tail h) a v rfl

theorem infOKr_of_infOK : ∀ {l : ASig β}, Sorted l → InfOK l → InfOKr l
  | [], _, _ => trivial
  | [_], _, _ => trivial
  | (τ, q) :: (τ', v) :: rest, hs, h => by
    refine ⟨fun e => ?_, infOKr_of_infOK (l := (τ', v) :: rest) (sorted_tail hs)
      (fun pre a w e => h ((τ, q) :: pre) a w (by rw [e]; rfl))⟩
    simp only at e
    subst e
    have hr := sorted_inf_nil (sorted_tail hs)
    subst hr
    exact h [] (τ, q) v rfl

end InterAux

end Rtamt.Dense.Alg

namespace Rtamt.Dense.AlgOn
open Rtamt Val Rtamt.Dense.Alg

namespace BasicAux
open InterAux
attribute [local instance] InterAux.tmOrder

variable {β γ σ : Type}

/-- "Weakly sorted": a later sample has a later stamp or is identical to the earlier one. -/
def Weak (s : ASig β) : Prop := s.Pairwise (fun p q => Tm.lt p.1 q.1 = true ∨ p = q)

theorem weak_iff (s : ASig β) : Weak s ↔ s.Pairwise (fun p q => p.1 < q.1 ∨ p = q) := by
  unfold Weak; simp only [lt_iff]

theorem Weak.mono {s : ASig β} (h : Weak s) : s.Pairwise (fun p q => p.1 ≤ q.1) := by
  refine ((weak_iff s).1 h).imp ?_
  rintro p q (h | rfl)
  · exact le_of_lt h
  · exact le_rfl

theorem weak_cons {a : Tm × β} {s : ASig β} :
    Weak (a :: s) ↔ (∀ q ∈ s, a.1 < q.1 ∨ a = q) ∧ Weak s := by
  rw [weak_iff, weak_iff, List.pairwise_cons]

theorem Weak.tail {a : Tm × β} {s : ASig β} (h : Weak (a :: s)) : Weak s := (weak_cons.1 h).2

theorem weak_of_sorted {s : ASig β} (h : Sorted s) : Weak s := by
  unfold Sorted times at h
  rw [List.pairwise_map] at h
  exact h.imp (fun h => Or.inl h)

theorem Weak.sublist {s r : ASig β} (h : Weak s) (hr : r.Sublist s) : Weak r := List.Pairwise.sublist hr h

theorem valAtA_eq_none_iff (s : ASig β) (t : Rat) :
    valAtA s t = none ↔ ∀ p, s.head? = some p → Tm.fin t < p.1 := by
  cases s with
  | nil => simp [ScanAux.valAtA_nil]
  | cons a s =>
    obtain ⟨τ, v⟩ := a
    rw [valAtA_cons]
    by_cases h : Tm.fin t < τ
    · simp [h]
    · simp [h]

theorem valAtA_ne_none_iff (s : ASig β) (t : Rat) :
    valAtA s t ≠ none ↔ ∃ p, s.head? = some p ∧ p.1 ≤ Tm.fin t := by
  rw [Ne, valAtA_eq_none_iff]
  constructor
  · intro h
    by_contra hh
    apply h
    intro p hp
    by_contra h2
    exact hh ⟨p, hp, not_lt.1 h2⟩
  · rintro ⟨p, hp, hle⟩ h
    exact absurd (h p hp) (not_lt.2 hle)

theorem valAtA_none_congr {s : ASig β} {r : ASig γ} (h : times r = times s) (t : Rat) :
    valAtA r t = none ↔ valAtA s t = none := by
  cases r with
  | nil =>
    cases s with
    | nil => exact iff_of_true rfl rfl
    | cons b s => cases h
  | cons a r =>
    cases s with
    | nil => cases h
    | cons b s =>
      obtain ⟨τ, v⟩ := a
      obtain ⟨τ', v'⟩ := b
      obtain rfl : τ = τ' := (List.cons.inj h).1
      rw [valAtA_cons_none, valAtA_cons_none]

/-- What follows `s` matters at `t` only through its own value at `t`. -/
theorem valAtA_append_right_congr (s r r' : ASig β) (t : Rat) (h : valAtA r t = valAtA r' t) :
    valAtA (s ++ r) t = valAtA (s ++ r') t := by
  induction s with
  | nil => exact h
  | cons a s ih =>
    obtain ⟨τ, v⟩ := a
    simp only [List.cons_append, valAtA_cons, ih]

theorem valAtA_append_none (s r : ASig β) (t : Rat) (h : valAtA r t = none) : valAtA (s ++ r) t = valAtA s t := by
  rw [valAtA_append_right_congr s r [] t h, List.append_nil]

theorem valAtA_append_gt (s r : ASig β) (t : Rat) (h : ∀ p ∈ r, Tm.fin t < p.1) :
    valAtA (s ++ r) t = valAtA s t :=
  valAtA_append_none s r t (valAtA_none_of_lt r t h)

theorem valAtA_append_after (out : ASig β) (τ : Tm) (v : β) (t : Rat) (h : Tm.fin t < τ) :
    valAtA (out ++ [(τ, v)]) t = valAtA out t :=
  valAtA_append_gt out _ t (List.forall_mem_singleton.2 h)

theorem valAtA_append_le (s r : ASig β) (t : Rat) (h : ∀ p ∈ s, p.1 ≤ Tm.fin t) :
    valAtA (s ++ r) t = (valAtA r t).or (valAtA s t) := by
  induction s with
  | nil => rw [List.nil_append, ScanAux.valAtA_nil]; cases valAtA r t <;> rfl
  | cons a s ih =>
    obtain ⟨τ, v⟩ := a
    have h0 : ¬ Tm.fin t < τ := not_lt.2 (h (τ, v) (List.mem_cons_self))
    have ih' := ih (fun p hp => h p (List.mem_cons_of_mem _ hp))
    simp only [List.cons_append, valAtA_cons, ih', if_neg h0]
    cases valAtA r t <;> rfl

theorem valAtA_append_at (out : ASig β) (τ : Tm) (v : β) (t : Rat) (h : τ ≤ Tm.fin t)
    (hout : ∀ τ' ∈ times out, τ' ≤ Tm.fin t) : valAtA (out ++ [(τ, v)]) t = some v := by
  rw [valAtA_append_le out _ t fun p hp => hout p.1 (mem_times hp), valAtA_cons_of_le h]
  rfl

theorem valAtA_last (out : ASig β) (p : Tm × β) (t : Rat) (hl : out.getLast? = some p)
    (hout : ∀ τ' ∈ times out, τ' ≤ Tm.fin t) : valAtA out t = some p.2 := by
  rcases List.eq_nil_or_concat out with rfl | ⟨init, q, rfl⟩
  · simp at hl
  · rw [List.concat_eq_append] at hl hout ⊢
    rw [List.getLast?_concat] at hl
    obtain rfl : q = p := Option.some.inj hl
    obtain ⟨τ, v⟩ := q
    rw [times_append] at hout
    exact valAtA_append_at _ _ _ _ (hout τ (List.mem_append_right _ List.mem_cons_self))
      fun τ' hτ' => hout τ' (List.mem_append_left _ hτ')

theorem valAtA_none_iff_late {s : ASig β} (hm : s.Pairwise (fun p q => p.1 ≤ q.1)) (t : Rat) :
    valAtA s t = none ↔ ∀ p ∈ s, Tm.fin t < p.1 := by
  refine ⟨fun h p hp => ?_, valAtA_none_of_lt s t⟩
  cases s with
  | nil => cases hp
  | cons a s =>
    rw [valAtA_cons_none] at h
    rcases List.mem_cons.1 hp with rfl | hp'
    · exact h
    · exact lt_of_lt_of_le h ((List.pairwise_cons.1 hm).1 p hp')

theorem valAtA_mem_le {s : ASig β} {t : Rat} {y : β} (h : valAtA s t = some y) :
    ∃ p ∈ s, p.2 = y ∧ p.1 ≤ Tm.fin t := by
  induction s with
  | nil => cases h
  | cons a s ih =>
    obtain ⟨τ, v⟩ := a
    rw [valAtA_cons] at h
    by_cases h0 : Tm.fin t < τ
    · rw [if_pos h0] at h; cases h
    · rw [if_neg h0] at h
      cases hr : valAtA s t with
      | none =>
        rw [hr] at h
        exact ⟨(τ, v), List.mem_cons_self, Option.some.inj h, not_lt.1 h0⟩
      | some y' =>
        rw [hr] at h
        obtain rfl : y' = y := Option.some.inj h
        obtain ⟨p, hp, e, hle⟩ := ih hr
        exact ⟨p, List.mem_cons_of_mem _ hp, e, hle⟩

theorem valAtA_weak_max {s : ASig β} (hw : Weak s) {p : Tm × β} {t : Rat} (hp : p ∈ s) (hle : p.1 ≤ Tm.fin t)
    (hmax : ∀ q ∈ s, q.1 ≤ Tm.fin t → q.1 ≤ p.1) : valAtA s t = some p.2 := by
  induction s with
  | nil => cases hp
  | cons a s ih =>
    obtain ⟨h1, h2⟩ := weak_cons.1 hw
    obtain ⟨τ, v⟩ := a
    by_cases hps : p ∈ s
    · have ha : τ ≤ p.1 := by
        rcases h1 p hps with h3 | h3
        · exact le_of_lt h3
        · rw [← h3]
      rw [valAtA_cons, if_neg (not_lt.2 (le_trans ha hle)),
        ih h2 hps (fun q hq => hmax q (List.mem_cons_of_mem _ hq))]
      rfl
    · have hpa : p = (τ, v) := by
        rcases List.mem_cons.1 hp with h3 | h3
        · exact h3
        · exact absurd h3 hps
      subst hpa
      have hn : valAtA s t = none := by
        refine valAtA_none_of_lt s t fun q hqs => ?_
        rcases h1 q hqs with h3 | h3
        · by_contra h4
          exact absurd (hmax q (List.mem_cons_of_mem _ hqs) (not_lt.1 h4)) (not_le.2 h3)
        · rw [← h3] at hqs; exact absurd hqs hps
      rw [valAtA_cons, if_neg (not_lt.2 hle), hn]
      rfl

theorem valAtA_weak_at {s : ASig β} (hw : Weak s) {p : Tm × β} {τ : Rat} (hp : p ∈ s) (e : p.1 = Tm.fin τ) :
    valAtA s τ = some p.2 :=
  valAtA_weak_max hw hp (le_of_eq e) (fun q _ hq => by rw [e]; exact hq)

/-- Up to the last stamp of `X`, what follows `X` in a weakly sorted list does not change the value. -/
theorem valAtA_stable (Y X : ASig β) (p : Tm × β) (h : Weak (X ++ Y)) (hp : X.getLast? = some p) (t : Rat)
    (ht : Tm.fin t ≤ p.1) : valAtA (X ++ Y) t = valAtA X t := by
  have hpX : p ∈ X := List.mem_of_getLast? hp
  rcases lt_or_eq_of_le ht with hlt | heq
  · exact valAtA_append_gt X Y t fun q hq =>
      lt_of_lt_of_le hlt ((List.pairwise_append.1 h.mono).2.2 p hpX q hq)
  · rw [valAtA_weak_at (h.sublist (List.sublist_append_left X Y)) hpX heq.symm]
    exact valAtA_weak_max h (List.mem_append_left _ hpX) heq.ge fun q _ hq => heq ▸ hq

/-- Converse of `valAtA_weak_max` (non-decreasing stamps suffice). -/
theorem valAtA_mem_max {s : ASig β} (hm : s.Pairwise (fun p q => p.1 ≤ q.1)) {t : Rat} {y : β}
    (h : valAtA s t = some y) :
    ∃ p ∈ s, p.2 = y ∧ p.1 ≤ Tm.fin t ∧ ∀ q ∈ s, q.1 ≤ Tm.fin t → q.1 ≤ p.1 := by
  induction s with
  | nil => cases h
  | cons a s ih =>
    obtain ⟨h1, h2⟩ := List.pairwise_cons.1 hm
    obtain ⟨τ, v⟩ := a
    rw [valAtA_cons] at h
    by_cases h0 : Tm.fin t < τ
    · rw [if_pos h0] at h; cases h
    · rw [if_neg h0] at h
      cases hr : valAtA s t with
      | none =>
        rw [hr] at h
        refine ⟨(τ, v), List.mem_cons_self, Option.some.inj h, not_lt.1 h0, ?_⟩
        intro q hq hqt
        rcases List.mem_cons.1 hq with rfl | hq'
        · exact le_rfl
        · exact absurd hqt (not_le.2 ((valAtA_none_iff_late h2 t).1 hr q hq'))
      | some y' =>
        rw [hr] at h
        obtain rfl : y' = y := Option.some.inj h
        obtain ⟨p, hp, e, hle, hmax⟩ := ih h2 hr
        refine ⟨p, List.mem_cons_of_mem _ hp, e, hle, ?_⟩
        · intro q hq hqt
          rcases List.mem_cons.1 hq with rfl | hq'
          · exact h1 p hp
          · exact hmax q hq' hqt

theorem valAtA_weak_iff {s : ASig β} (hw : Weak s) (t : Rat) (y : β) :
    valAtA s t = some y ↔ ∃ p ∈ s, p.2 = y ∧ p.1 ≤ Tm.fin t ∧ ∀ q ∈ s, q.1 ≤ Tm.fin t → q.1 ≤ p.1 := by
  constructor
  · exact valAtA_mem_max hw.mono
  · rintro ⟨p, hp, rfl, hle, hmax⟩
    exact valAtA_weak_max hw hp hle hmax

theorem Weak.le_last {s : ASig β} (h : Weak s) {z : Tm × β} (hz : s.getLast? = some z) : ∀ p ∈ s, p.1 ≤ z.1 := by
  intro p hp
  have hm := h.mono
  rcases List.eq_nil_or_concat s with rfl | ⟨init, q, rfl⟩
  · cases hp
  · rw [List.concat_eq_append] at hm hp hz
    rw [List.getLast?_concat] at hz
    obtain rfl : q = z := Option.some.inj hz
    rcases List.mem_append.1 hp with h | h
    · exact (List.pairwise_append.1 hm).2.2 p h q (by simp)
    · have : p = q := by simpa using h
      rw [this]

theorem Weak.head_le {s : ASig β} (h : Weak s) {a : Tm × β} (ha : s.head? = some a) : ∀ p ∈ s, a.1 ≤ p.1 := by
  intro p hp
  have hm := h.mono
  cases s with
  | nil => cases hp
  | cons b s =>
    obtain rfl : b = a := by simpa using ha
    rcases List.mem_cons.1 hp with rfl | h
    · exact le_rfl
    · exact (List.pairwise_cons.1 hm).1 p h

/-- Where `g` is read off a weakly sorted list that starts at `d`, the values of `g` on `[d, t]` are the values of the samples
    at or before `t`. -/
theorem valuesOn_iff_mem {l : ASig β} (hw : Weak l) {d t : Rat} {g : Rat → Option β} (hd : ∀ p ∈ l, Tm.fin d ≤ p.1)
    (hg : ∀ s, d ≤ s → s ≤ t → g s = valAtA l s) (P : β → Prop) :
    (∀ y ∈ valuesOn g d t, P y) ↔ ∀ p ∈ l, p.1 ≤ Tm.fin t → P p.2 := by
  constructor
  · intro hh p hp hle
    obtain ⟨τ, e⟩ := exists_fin_of_le_fin hle
    have hdτ : d ≤ τ := (fin_le_fin _ _).1 (e ▸ hd p hp)
    have hτt : τ ≤ t := (fin_le_fin _ _).1 (e ▸ hle)
    exact hh p.2 ⟨τ, hdτ, hτt, by rw [hg τ hdτ hτt]; exact valAtA_weak_at hw hp e⟩
  · rintro hh y ⟨s, hds, hst, hy⟩
    rw [hg s hds hst] at hy
    obtain ⟨p, hp, rfl, hle⟩ := valAtA_mem_le hy
    exact hh p hp (le_trans hle ((fin_le_fin _ _).2 hst))

theorem wfa_ge_start {l : ASig β} {d : Rat} (h : WFA l d) : ∀ p ∈ l, Tm.fin d ≤ p.1 := by
  obtain ⟨v, r, rfl⟩ := eq_cons_of_head h.start
  exact (weak_of_sorted h.sorted).head_le rfl

end BasicAux

end Rtamt.Dense.AlgOn
