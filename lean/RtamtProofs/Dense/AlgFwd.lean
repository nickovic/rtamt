/-
  Dense time, M-alg = M-spec: the bounded past operations `once[a,b]` / `historically[a,b]` (`once_timed_operation` /
  `historically_timed_operation`, mirror `fwdTimed`).

  Each sample `(τ, v)` becomes the segment `[τ + a, τ' + b)` (`fwdSegs`); the segments containing `t` carry the values of
  the window `[t - b, t - a]` (`segs_window`), so their maximum is the supremum over the window clipped to the domain
  (`ideal_isLUB`, for any `a ≤ b`: the bounded future operations are the case `(-b, -a)`, `backSegs_eq`).  The stack of
  `AlgStack` folds the segments (`fold_good`, the induction over the sorted samples that the online `OnTimedCore` uses
  too; `fold_spec` adds the last segment), and the sample list read off the final stack (`pre`) takes that maximum
  (`onceTimed_sup`, one `SupFn` clause; `onceTimed_spec` reads the two cases off it).  `historically` is `once` for the
  dual order.
-/
import RtamtProofs.Dense.AlgStack
import RtamtProofs.Dense.AlgInter

namespace Rtamt.Dense.Alg
open Rtamt Val

namespace FwdAux

section core
variable {α : Type}

/-- The sample list read off the stack (before `dedup`). -/
def pre (stk : List (Seg α)) : ASig α := stk.reverse.map (fun g => (g.lo, g.v))

/-- Consecutive non-degenerate segments starting at 0 (top first). -/
def Chain : List (Seg α) → Prop
  | [] => False
  | [x] => x.lo = Tm.fin 0 ∧ x.lo < x.hi
  | x :: y :: r => y.hi = x.lo ∧ x.lo < x.hi ∧ Chain (y :: r)

theorem chain_iff : ∀ {l : List (Seg α)}, Chain l ↔ AlgOn.TimedAux.ChainC (Tm.fin 0) l
  | [] => Iff.rfl
  | [_] => Iff.rfl
  | _ :: y :: r => and_congr Iff.rfl (and_congr Iff.rfl (chain_iff (l := y :: r)))

theorem Chain.zero_le {x : Seg α} {r : List (Seg α)} (h : Chain (x :: r)) : Tm.fin 0 ≤ x.lo :=
  (chain_iff.1 h).base_le

theorem Chain.replace {x : Seg α} {r : List (Seg α)} (h : Chain (x :: r)) {z : Seg α} (hlo : z.lo = x.lo)
    (hz : z.lo < z.hi) : Chain (z :: r) :=
  chain_iff.2 ((chain_iff.1 h).replace hlo hz)

open AlgOn.TimedAux

theorem pre_cons (x : Seg α) (r : List (Seg α)) : pre (x :: r) = pre r ++ [(x.lo, x.v)] := by
  simp [pre]

theorem mem_pre {p : Tm × α} {stk : List (Seg α)} (h : p ∈ pre stk) : ∃ y ∈ stk, y.lo = p.1 := by
  simp only [pre, List.mem_map, List.mem_reverse] at h
  obtain ⟨y, hy, rfl⟩ := h
  exact ⟨y, hy, rfl⟩

theorem infOK_snoc {β : Type} (l : ASig β) (a : Tm × β) (τ : Tm) : InfOK (l ++ [a, (τ, a.2)]) := by
  intro p a' v e
  have := (List.append_inj' e (by simp)).2
  simp only [List.cons.injEq, and_true, Prod.mk.injEq] at this
  rw [← this.1, this.2.2]

theorem wfa_snoc {β : Type} {l : ASig β} {τ : Tm} {v : β} {d : ℚ} (h : WFA l d) (hl : ∀ p ∈ l, p.1 < τ)
    (hi : InfOK (l ++ [(τ, v)])) : WFA (l ++ [(τ, v)]) d := by
  refine ⟨InterAux.sorted_snoc h.sorted (List.forall_mem_map.2 hl) v, ?_, hi⟩
  have := h.start
  unfold times at *
  cases l with
  | nil => simp at this
  | cons p l => simpa using this

theorem pre_lt {c : Tm} {x : Seg α} {r : List (Seg α)} (h : ChainC c (x :: r)) : ∀ p ∈ pre (x :: r), p.1 < x.hi := by
  intro p hp
  obtain ⟨z, hz, hzp⟩ := mem_pre hp
  rw [← hzp]
  rcases List.mem_cons.1 hz with rfl | hz
  · exact h.top_lt
  · exact lt_trans (h.lo_lt z hz) h.top_lt

theorem wfa_pre {d : ℚ} {x : Seg α} {r : List (Seg α)} (h : ChainC (Tm.fin d) (x :: r)) :
    WFA (pre (x :: r)) d := by
  have hfin : ∀ p ∈ pre (x :: r), p.1 ≠ Tm.inf := fun p hp => (lt_of_lt_of_le (pre_lt h p hp) (le_inf _)).ne
  induction r generalizing x with
  | nil => exact ⟨by simp [Sorted, times, pre], by simp [times, pre, h.1], InterAux.infOK_of_fin hfin⟩
  | cons y r ih =>
    rw [pre_cons] at hfin ⊢
    exact wfa_snoc (ih h.2.2 fun p hp => hfin p (List.mem_append_left _ hp)) (fun p hp => h.1 ▸ pre_lt h.2.2 p hp)
      (InterAux.infOK_of_fin hfin)

theorem sorted_cons_iff {β : Type} (τ : Tm) (v : β) (l : ASig β) :
    Sorted ((τ, v) :: l) ↔ (∀ p ∈ l, τ < p.1) ∧ Sorted l := by
  simp only [Sorted, times, List.map_cons, List.pairwise_cons, List.forall_mem_map, lt_iff]

theorem sorted_cons {β : Type} {p : Tm × β} {l : ASig β} (h : Sorted (p :: l)) :
    (∀ p' ∈ l, p.1 < p'.1) ∧ Sorted l :=
  (sorted_cons_iff p.1 p.2 l).1 h

theorem wfa_some_ge {β : Type} {l : ASig β} {d : ℚ} (h : WFA l d) {u : ℚ} {y : β} (hu : valAtA l u = some y) :
    d ≤ u := by
  by_contra hc
  rw [valAtA_none_before h u (not_le.1 hc)] at hu
  cases hu

theorem fwdSegs_cons2 (a b : ℚ) (τ τ' : Tm) (v v' : α) (l : ASig α) :
    fwdSegs a b ((τ, v) :: (τ', v') :: l) = ⟨τ.add a, τ'.add b, v⟩ :: fwdSegs a b ((τ', v') :: l) := rfl

theorem fwdSegs_one (a b : ℚ) (τ : Tm) (v : α) : fwdSegs a b [(τ, v)] = [⟨τ.add a, Tm.inf, v⟩] := rfl

theorem add_le_fin (τ : Tm) (q t : ℚ) : τ.add q ≤ Tm.fin t ↔ τ ≤ Tm.fin (t - q) := by
  cases τ with
  | fin p => simp only [add_fin, fin_le_fin]; constructor <;> intro h <;> linarith
  | inf => exact iff_of_false (not_inf_le_fin _) (not_inf_le_fin _)

theorem fin_lt_add (τ : Tm) (q t : ℚ) : Tm.fin t < τ.add q ↔ Tm.fin (t - q) < τ := by
  rw [← not_le, ← not_le, add_le_fin]

/-- The segment `[τ + a, τ' + b)` of a piece `[τ, τ')` contains `t` exactly if the window `[t - b, t - a]` meets the
    piece. -/
theorem has_seg_iff {a b : ℚ} (hab : a ≤ b) {τ τ' : Tm} (hτ : ∀ q, τ = Tm.fin q → Tm.fin q < τ') (v : α) (t : ℚ) :
    Has ⟨τ.add a, τ'.add b, v⟩ t ↔ ∃ u, t - b ≤ u ∧ u ≤ t - a ∧ τ ≤ Tm.fin u ∧ Tm.fin u < τ' := by
  refine (and_congr (add_le_fin τ a t) (fin_lt_add τ' b t)).trans ⟨?_, ?_⟩
  · rintro ⟨h1, h2⟩
    obtain ⟨q, rfl⟩ := exists_fin_of_le_fin h1
    have hq : q ≤ t - a := (fin_le_fin _ _).1 h1
    refine ⟨max (t - b) q, le_max_left _ _, max_le (by linarith) hq, (fin_le_fin _ _).2 (le_max_right _ _), ?_⟩
    rcases le_total (t - b) q with h3 | h3
    · rw [max_eq_right h3]; exact hτ q rfl
    · rw [max_eq_left h3]; exact h2
  · rintro ⟨u, u1, u2, u3, u4⟩
    exact ⟨le_trans u3 ((fin_le_fin _ _).2 u2), lt_of_le_of_lt ((fin_le_fin _ _).2 u1) u4⟩

/-- The stamp of the next sample; `inf` behind the last one. -/
def nextStamp : ASig α → Tm
  | [] => Tm.inf
  | p :: _ => p.1

theorem fwdSegs_cons (a b : ℚ) (τ : Tm) (v : α) (rest : ASig α) :
    fwdSegs a b ((τ, v) :: rest) = ⟨τ.add a, (nextStamp rest).add b, v⟩ :: fwdSegs a b rest := by
  cases rest with
  | nil => rfl
  | cons p r => rfl

theorem valAtA_none_iff_next (rest : ASig α) (u : ℚ) : valAtA rest u = none ↔ Tm.fin u < nextStamp rest := by
  cases rest with
  | nil => exact iff_of_true rfl (fin_lt_inf u)
  | cons p r => exact InterAux.valAtA_cons_none p.1 p.2 r u

/-- The segments `[τ + a, τ' + b)` that contain `t` carry exactly the values of the list on `[t - b, t - a]`: the list has
    the value `v` of a sample on the piece `[τ, τ')` up to the next stamp. -/
theorem segs_window {a b : ℚ} (hab : a ≤ b) : ∀ {s : ASig α}, Sorted s → ∀ (t : ℚ) (v : α),
    (∃ c ∈ fwdSegs a b s, Has c t ∧ c.v = v) ↔ ∃ u, t - b ≤ u ∧ u ≤ t - a ∧ valAtA s u = some v
  | [], _, t, v => by simp [fwdSegs, valAtA]
  | (τ, v0) :: rest, hs, t, v => by
    obtain ⟨hs1, hs2⟩ := sorted_cons hs
    have hτ : ∀ q, τ = Tm.fin q → Tm.fin q < nextStamp rest := by
      rintro q rfl
      cases rest with
      | nil => exact fin_lt_inf q
      | cons p r => exact hs1 p List.mem_cons_self
    rw [fwdSegs_cons, List.exists_mem_cons_iff, segs_window hab hs2 t v, has_seg_iff hab hτ]
    simp only [InterAux.valAtA_cons_some τ, valAtA_none_iff_next]
    constructor
    · rintro (⟨⟨u, u1, u2, u3, u4⟩, rfl⟩ | ⟨u, u1, u2, u3⟩)
      · exact ⟨u, u1, u2, u3, Or.inr ⟨u4, rfl⟩⟩
      · obtain ⟨p, hp, _, hle⟩ := AlgOn.BasicAux.valAtA_mem_le u3
        exact ⟨u, u1, u2, le_trans (le_of_lt (hs1 p hp)) hle, Or.inl u3⟩
    · rintro ⟨u, u1, u2, u3, u4 | ⟨u4, rfl⟩⟩
      · exact Or.inr ⟨u, u1, u2, u4⟩
      · exact Or.inl ⟨⟨u, u1, u2, u3, u4⟩, rfl⟩

/-- For a list that denotes `g` from 0 on these are the values of `g` on the window clipped to the domain. -/
theorem segs_values {a b : ℚ} (hab : a ≤ b) {s : ASig α} {g : ℚ → Option α} (h : Denotes s 0 g) (t : ℚ) (v : α) :
    (∃ c ∈ fwdSegs a b s, Has c t ∧ c.v = v) ↔ v ∈ valuesOn g (max (t - b) 0) (t - a) := by
  rw [segs_window hab h.1.sorted]
  constructor
  · rintro ⟨u, u1, u2, u3⟩
    have u0 := wfa_some_ge h.1 u3
    exact ⟨u, max_le u1 u0, u2, by rw [← h.2 u u0]; exact u3⟩
  · rintro ⟨u, u1, u2, u3⟩
    have u0 := le_trans (le_max_right _ _) u1
    exact ⟨u, le_trans (le_max_left _ _) u1, u2, by rw [h.2 u u0]; exact u3⟩

theorem sub_eq_add (τ : Tm) (q : ℚ) : τ.sub q = τ.add (-q) := by
  cases τ <;> simp [Tm.sub, Tm.add, sub_eq_add_neg]

/-- The segments of the bounded future operations are those of the bounded past operations for the shift `(-b, -a)`. -/
theorem backSegs_eq (a b : ℚ) : ∀ s : ASig α, backSegs a b s = fwdSegs (-b) (-a) s
  | [] => rfl
  | [(τ, v)] => by rw [backSegs, fwdSegs, sub_eq_add]
  | (τ, v) :: (τ', v') :: rest => by
    rw [backSegs, fwdSegs, backSegs_eq a b ((τ', v') :: rest), sub_eq_add, sub_eq_add]

variable [LinearOrder α] [OrderBot α]

theorem valAtA_pre {c : Tm} {x : Seg α} {r : List (Seg α)} (h : ChainC c (x :: r)) {t : ℚ} (h0 : c ≤ Tm.fin t)
    (ht : Tm.fin t < x.hi) : valAtA (pre (x :: r)) t = some (segval (x :: r) t) := by
  induction r generalizing x with
  | nil =>
    have hx : Has x t := ⟨by rw [h.1]; exact h0, ht⟩
    rw [pre_cons, segval_cons_has _ hx]
    exact AlgOn.BasicAux.valAtA_append_at _ _ _ _ hx.1 (by simp [pre, times])
  | cons y r ih =>
    rw [pre_cons]
    by_cases hx : x.lo ≤ Tm.fin t
    · rw [segval_cons_has _ ⟨hx, ht⟩]
      refine AlgOn.BasicAux.valAtA_append_at _ _ _ _ hx (List.forall_mem_map.2 fun p hp => ?_)
      obtain ⟨z, hz, hzp⟩ := mem_pre hp
      rw [← hzp]
      exact le_trans (le_of_lt (h.lo_lt z hz)) hx
    · have hx' : Tm.fin t < x.lo := not_le.1 hx
      rw [AlgOn.BasicAux.valAtA_append_after _ _ _ _ hx', segval_cons_of_lt _ _ hx']
      exact ih h.2.2 (by rw [h.1]; exact hx')

variable (worse : α → α → Bool) (hw : ∀ x y, worse x y = true ↔ x < y)
include hw

omit [OrderBot α] in
/-- The final degenerate segment of an input whose last stamp is `inf`; it repeats the value on top. -/
theorem push_inf (x : Seg α) (r : List (Seg α)) (hx : x.hi = Tm.inf) :
    ∃ stk', pushSeg worse (x :: r) ⟨Tm.inf, Tm.inf, x.v⟩ = .ok stk' ∧ pre stk' = pre (x :: r) ++ [(Tm.inf, x.v)] := by
  have e1 : popWhile worse ⟨Tm.inf, Tm.inf, x.v⟩ (x :: r) = .ok (x :: r) := by
    have : Tm.lt Tm.inf x.lo = false := (lt_false_iff _ _).2 (le_inf _)
    rw [popWhile, this]; simp
  have hint : intersects x.lo x.hi Tm.inf Tm.inf = true := by
    simp only [intersects, Bool.and_eq_true, le_iff, hx]
    exact ⟨le_inf _, le_refl _⟩
  have c' : worse x.v x.v = false := Bool.eq_false_iff.2 fun h => lt_irrefl _ ((hw _ _).1 h)
  rw [pushSeg_eq worse x r _ x r e1, hint]
  simp only [c', Bool.not_true, Bool.not_false, Bool.false_eq_true, if_false, if_true]
  exact ⟨_, rfl, by simp [pre, hx]⟩

/-- The segments `f s` of a sorted sample list (`f` is `fwdSegs a b` or `onSegs a b`: all but the last segment are the
    same) pushed one after the other on a stack that fits, down to the last sample with a finite stamp: each push is
    `push_fit`, and the stack left fits the segment of that sample.  A sample stamped `inf` behind it repeats its value. -/
theorem fold_good {a b : ℚ} (hab : a ≤ b) {c : Tm} (rest : ASig α) : ∀ (q : ℚ) (v : α) (stk : List (Seg α)),
    Sorted ((Tm.fin q, v) :: rest) → InfOK ((Tm.fin q, v) :: rest) → Fit stk c (Tm.fin (q + a)) (Tm.fin (q + b)) →
    ∃ τ vn tl stk1, (tl = [] ∧ ((Tm.fin q, v) :: rest).getLast? = some (Tm.fin τ, vn) ∨
        tl = [(Tm.inf, vn)] ∧ (Tm.inf, vn) ∈ rest) ∧
      Fit stk1 c (Tm.fin (τ + a)) (Tm.fin (τ + b)) ∧
      (∀ f : ASig α → List (Seg α),
        (∀ σ σ' w w' l, f ((σ, w) :: (σ', w') :: l) = ⟨σ.add a, σ'.add b, w⟩ :: f ((σ', w') :: l)) →
        (f ((Tm.fin q, v) :: rest)).foldlM (pushSeg worse) stk =
          (f ((Tm.fin τ, vn) :: tl)).foldlM (pushSeg worse) stk1) ∧
      ∀ t, (fwdSegs a b ((Tm.fin q, v) :: rest)).foldl (stepF t) (segval stk t) =
        (fwdSegs a b ((Tm.fin τ, vn) :: tl)).foldl (stepF t) (segval stk1 t) := by
  induction rest with
  | nil => exact fun q v stk _ _ hF => ⟨q, v, [], stk, Or.inl ⟨rfl, rfl⟩, hF, fun _ _ => rfl, fun _ => rfl⟩
  | cons p rest ih =>
    intro q v stk hs hi hF
    obtain ⟨τ', v'⟩ := p
    obtain ⟨hs1, hs2⟩ := sorted_cons hs
    cases τ' with
    | inf =>
      obtain rfl := InterAux.sorted_inf_nil hs2
      obtain rfl : v = v' := hi [] (Tm.fin q, v) v' rfl
      exact ⟨q, v, _, stk, Or.inr ⟨rfl, List.mem_cons_self ..⟩, hF, fun _ _ => rfl, fun _ => rfl⟩
    | fin q' =>
      have hqq : q < q' := (fin_lt_fin _ _).1 (hs1 _ (List.mem_cons_self ..))
      obtain ⟨stk', p1, p2, p3, -, p4⟩ := push_fit worse hw (b := ⟨Tm.fin (q + a), Tm.fin (q' + b), v⟩) hF
        ((fin_lt_fin _ _).2 (by linarith)) ((fin_lt_fin _ _).2 (by linarith))
      obtain ⟨τ, vn, tl, stk1, i1, i2, i3, i4⟩ := ih q' v' stk' hs2 (InterAux.infOK_tail hi)
        (Or.inr ⟨_, _, p2, p3, (fin_le_fin _ _).2 (by linarith), (fin_le_fin _ _).2 (by linarith), le_refl _⟩)
      refine ⟨τ, vn, tl, stk1, i1.imp (And.imp_right fun h => by rw [List.getLast?_cons_cons]; exact h)
        (And.imp_right (List.mem_cons_of_mem _)), i2, fun f hf => ?_, fun t => ?_⟩
      · rw [hf, List.foldlM_cons, add_fin, add_fin, p1]; exact i3 f hf
      · rw [← i4 t, p4 t]; rfl

/-- The stack loop of the offline segments from a stack that fits: no exception, and the samples read off the final stack
    take the ideal value `(fwdSegs a b s).foldl (stepF t) (segval stk t)`. -/
theorem fold_spec {a b : ℚ} (hab : a ≤ b) {q : ℚ} {v : α} {rest : ASig α} (hs : Sorted ((Tm.fin q, v) :: rest))
    (hi : InfOK ((Tm.fin q, v) :: rest)) {stk : List (Seg α)}
    (hF : Fit stk (Tm.fin 0) (Tm.fin (q + a)) (Tm.fin (q + b))) :
    ∃ stk', (fwdSegs a b ((Tm.fin q, v) :: rest)).foldlM (pushSeg worse) stk = .ok stk' ∧ WFA (pre stk') 0 ∧
      ∀ t, 0 ≤ t → valAtA (pre stk') t =
        some ((fwdSegs a b ((Tm.fin q, v) :: rest)).foldl (stepF t) (segval stk t)) := by
  obtain ⟨τ, vn, tl, stk1, htl, hF1, e, hv⟩ := fold_good worse hw hab rest q v stk hs hi hF
  obtain ⟨stk2, e2, hI, -, ⟨x, r, rfl, rfl⟩, hv2⟩ := push_fit worse hw (b := ⟨Tm.fin (τ + a), Tm.inf, vn⟩) hF1
    (fin_lt_inf _) (fin_lt_inf _)
  have hxi : x.hi = Tm.inf := by obtain ⟨_, _, e', h⟩ := hI.top; cases e'; exact h
  have hval : ∀ t, 0 ≤ t → valAtA (pre (x :: r)) t =
      some (stepF t (segval stk1 t) ⟨Tm.fin (τ + a), Tm.inf, x.v⟩) := fun t h0 => by
    rw [← hv2 t]; exact valAtA_pre hI.chain ((fin_le_fin _ _).2 h0) (by rw [hxi]; exact fin_lt_inf t)
  rw [e _ (fwdSegs_cons2 a b)]
  simp only [hv]
  rcases htl with ⟨rfl, -⟩ | ⟨rfl, -⟩
  · refine ⟨x :: r, ?_, wfa_pre hI.chain, hval⟩
    rw [fwdSegs_one, List.foldlM_cons, add_fin, e2]; rfl
  · obtain ⟨stk3, e3, e4⟩ := push_inf worse hw x r hxi
    refine ⟨stk3, ?_, ?_, fun t h0 => ?_⟩
    · rw [fwdSegs_cons2, fwdSegs_one, List.foldlM_cons, add_fin, add_inf, e2]
      show pushSeg worse (x :: r) _ >>= _ = _
      rw [add_inf, e3]; rfl
    · rw [e4]
      exact wfa_snoc (wfa_pre hI.chain) (fun p hp => lt_of_lt_of_le (pre_lt hI.chain p hp) (le_inf _))
        (by rw [pre_cons, List.append_assoc]; exact infOK_snoc (pre r) (x.lo, x.v) Tm.inf)
    · have hnb : ¬ Has (⟨Tm.inf, Tm.inf, x.v⟩ : Seg α) t := fun hh => not_inf_le_fin t hh.1
      rw [e4, AlgOn.BasicAux.valAtA_append_after _ _ _ _ (fin_lt_inf t), hval t h0]
      exact congrArg some (if_neg hnb).symm

omit [OrderBot α] hw in
theorem foldl_stepF_le_iff (t : ℚ) (bs : List (Seg α)) (acc z : α) :
    bs.foldl (stepF t) acc ≤ z ↔ acc ≤ z ∧ ∀ b ∈ bs, Has b t → b.v ≤ z := by
  induction bs generalizing acc with
  | nil => simp
  | cons b bs ih =>
    rw [List.foldl_cons, ih, List.forall_mem_cons]
    unfold stepF
    by_cases hb : Has b t
    · rw [if_pos hb, max_le_iff, and_assoc, imp_iff_right hb]
    · rw [if_neg hb, iff_true_intro (fun h : Has b t => absurd h hb), true_and]

omit hw in
/-- The ideal value is the supremum over the window clipped to the domain (no sign condition on `a`, `b`; the clipped
    window is empty, and the value `⊥`, while `t - a < 0`). -/
theorem ideal_isLUB {s : ASig α} {g : ℚ → Option α} (h : Denotes s 0 g) {a b : ℚ} (hab : a ≤ b) (t : ℚ) :
    IsLUB (valuesOn g (max (t - b) 0) (t - a)) ((fwdSegs a b s).foldl (stepF t) ⊥) := by
  rw [isLUB_iff_le_iff]
  intro z
  rw [foldl_stepF_le_iff]
  constructor
  · rintro ⟨_, hz⟩ v hv
    obtain ⟨c, hc, ht, rfl⟩ := (segs_values hab h t v).2 hv
    exact hz c hc ht
  · exact fun hz => ⟨bot_le, fun c hc ht => hz ((segs_values hab h t c.v).1 ⟨c, hc, ht, rfl⟩)⟩

/-- The stack loop of `fwdTimed` on a well-formed input: no exception, and the sample list read off the stack is
    well formed and takes the ideal value everywhere. -/
theorem fwd_core {s : ASig α} (hs : WFA s 0) {a b : ℚ} (ha : 0 ≤ a) (hab : a ≤ b) :
    ∃ t0 v0 rest, s = (t0, v0) :: rest ∧ ∃ stk,
      (fwdSegs a b s).foldlM (pushSeg worse)
        (if decide (0 < a) = true then [(⟨Tm.zero, t0.add a, ⊥⟩ : Seg α)] else []) = .ok stk ∧
      WFA (pre stk) 0 ∧ ∀ t, 0 ≤ t → valAtA (pre stk) t = some ((fwdSegs a b s).foldl (stepF t) ⊥) := by
  obtain ⟨v0, rest, rfl⟩ := InterAux.eq_cons_of_head hs.start
  refine ⟨Tm.fin 0, v0, rest, rfl, ?_⟩
  by_cases h0 : 0 < a
  · rw [decide_eq_true h0, if_pos rfl]
    obtain ⟨stk, e, w, hv⟩ := fold_spec worse hw hab hs.sorted hs.infok (fit_init h0 hab)
    exact ⟨stk, e, w, fun t ht => by rw [hv t ht, segval_init]⟩
  · rw [decide_eq_false h0]
    exact fold_spec worse hw hab hs.sorted hs.infok (Or.inl ⟨rfl, by rw [le_antisymm (not_lt.1 h0) ha, add_zero]⟩)

end core

end FwdAux

open FwdAux

variable {α : Type} [Val α] [LawfulVal α]

namespace FwdAux

/-- From the stack loop to `fwdTimed`: the output loop is `dedup`. -/
theorem fwdTimed_assemble (worse : α → α → Bool) (neutral : α) (s : ASig α) (a b : ℚ) (W : ℚ → α)
    (hcore : ∃ t0 v0 rest, s = (t0, v0) :: rest ∧ ∃ stk,
      (fwdSegs a b s).foldlM (pushSeg worse)
        (if decide (0 < a) = true then [(⟨Tm.zero, t0.add a, neutral⟩ : Seg α)] else []) = .ok stk ∧
      WFA (pre stk) 0 ∧ ∀ t, 0 ≤ t → valAtA (pre stk) t = some (W t)) :
    ∃ out, fwdTimed worse neutral s a b = .ok out ∧ WFA out 0 ∧ ∀ t, 0 ≤ t → valAtA out t = some (W t) := by
  obtain ⟨t0, v0, rest, rfl, stk, e, w, hv⟩ := hcore
  have hd := dedup_spec (s := pre stk) (d := 0) (g := valAtA (pre stk)) ⟨w, fun _ _ => rfl⟩
  refine ⟨dedup (pre stk), ?_, hd.1, fun t ht => by rw [hd.2 t ht]; exact hv t ht⟩
  unfold fwdTimed
  simp only [e]
  rfl

end FwdAux

/-- `once_timed_operation` on an operand that starts at time 0: the supremum over the window `[t-b, t-a]` clipped to the
    domain, which is empty while `t - a < 0`. -/
theorem onceTimed_sup {s : ASig α} {g : Rat → Option α} (h : Denotes s 0 g) (a b : Rat) (ha : 0 ≤ a) (hab : a ≤ b) :
    ∃ out, onceTimed s a b = .ok out ∧ WFA out 0 ∧
      SupFn (fun t => valuesOn g (max (t - b) 0) (t - a)) (0 ≤ ·) (valAtA out) := by
  have hc := fwd_core (ltW (α := α)) (fun x y => LawfulVal.lt_iff x y) h.1 ha hab
  rw [← LawfulVal.ninf_bot] at hc
  obtain ⟨out, e, w, hv⟩ := fwdTimed_assemble ltW Val.ninf s a b _ hc
  exact ⟨out, e, w, fun t ht => ⟨_, hv t ht, LawfulVal.ninf_bot (α := α) ▸ ideal_isLUB h hab t⟩⟩

/-- `historically_timed_operation`. -/
theorem histTimed_sup {s : ASig α} {g : Rat → Option α} (h : Denotes s 0 g) (a b : Rat) (ha : 0 ≤ a) (hab : a ≤ b) :
    ∃ out, histTimed s a b = .ok out ∧ WFA out 0 ∧
      InfFn (fun t => valuesOn g (max (t - b) 0) (t - a)) (0 ≤ ·) (valAtA out) := by
  have hc := fwd_core (α := αᵒᵈ) (gtW (α := α))
    (fun x y => LawfulVal.lt_iff (OrderDual.ofDual y) (OrderDual.ofDual x)) (s := s) h.1 ha hab
  have hbot : (⊥ : αᵒᵈ) = OrderDual.toDual (Val.pinf : α) :=
    congrArg OrderDual.toDual (LawfulVal.pinf_top (α := α)).symm
  rw [hbot] at hc
  obtain ⟨out, e, w, hv⟩ := fwdTimed_assemble gtW Val.pinf s a b _ hc
  exact ⟨out, e, w, fun t ht => ⟨_, hv t ht, hbot ▸ ideal_isLUB (α := αᵒᵈ) (s := s) (g := g) h hab t⟩⟩

/-- `once_timed_operation` on an operand that starts at time 0: `-inf` while the window `[t-b, t-a]` lies before the
    start, otherwise the supremum over the window clipped to the domain. -/
theorem onceTimed_spec {s : ASig α} {g : Rat → Option α} (h : Denotes s 0 g) (a b : Rat) (ha : 0 ≤ a) (hab : a ≤ b) :
    ∃ out, onceTimed s a b = .ok out ∧ WFA out 0 ∧
      ∀ t, 0 ≤ t →
        (t - a < 0 → valAtA out t = some Val.ninf) ∧
        (0 ≤ t - a → ∃ v, valAtA out t = some v ∧ IsLUB (valuesOn g (max (t - b) 0) (t - a)) v) := by
  obtain ⟨out, e, w, hv⟩ := onceTimed_sup h a b ha hab
  exact ⟨out, e, w, hv.cases⟩

/-- `historically_timed_operation`. -/
theorem histTimed_spec {s : ASig α} {g : Rat → Option α} (h : Denotes s 0 g) (a b : Rat) (ha : 0 ≤ a) (hab : a ≤ b) :
    ∃ out, histTimed s a b = .ok out ∧ WFA out 0 ∧
      ∀ t, 0 ≤ t →
        (t - a < 0 → valAtA out t = some Val.pinf) ∧
        (0 ≤ t - a → ∃ v, valAtA out t = some v ∧ IsGLB (valuesOn g (max (t - b) 0) (t - a)) v) := by
  obtain ⟨out, e, w, hv⟩ := histTimed_sup h a b ha hab
  exact ⟨out, e, w, hv.cases⟩

end Rtamt.Dense.Alg
