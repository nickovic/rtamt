/-
  C04, M-alg = M-spec for dense time: the mirror of the dense-time offline visitor (`evalAlg`, Rtamt/Dense/Alg.lean —
  the 13-case merge, the running-extremum loops, the segment stacks of the bounded operators, the decomposition of
  bounded since / until) returns, for every supported formula over well-formed signals that start at time 0, a sample
  list with strictly increasing time stamps that starts at 0 and, read as a right-continuous step function, equals
  `rhoD` at every `t ≥ 0`.

  The visitor is a fold over the formula with two tables, `alg1` and `alg2`: what `visitX` of a node with one operand /
  two operands does with the lists computed for the operands.  The specification of every list operation speaks of an
  operand that denotes ANY function `g`, so the tables are specified that way too (`alg1_spec`, `alg2_spec`, each an
  `Exc.Claim`): the list returned is well formed whatever `g` is, and has the values of `rhoD` of the node when `g` is
  `rhoD` of the operand, because then the operation's specification and the clause of `rhoD` for the node
  (`RtamtProofs/C04.lean`) are the same `SupFn` / `InfFn` (`sup_eq`).  ONE induction (`evalAlg_claim`: the two leaves and
  one case per arity) uses each table twice, at the step function of the operand list itself and at `rhoD`, and gives
  well-formedness, the values and that nothing is raised; the plain and the interface-aware statement (`Dense/AlgIA.lean`)
  are read off it.

  `_partial`: the hypothesis "every variable starts at time 0" is forced by the code (known finding F37: the bounded
  operators take 0, not the first time stamp, as the start of the domain); `hsub` (`-(l - r) = r - l`, what
  `visitPredicate` computes for `<=` / `<` against the README's `r - l`) holds for reals and for doubles whenever
  `l - r` is not NaN.
-/
import RtamtProofs.Dense.AlgTimed2
import RtamtProofs.Dense.AlgPredicateIA
import RtamtProofs.Lemmas.Exc
import RtamtProofs.Lemmas.Node

namespace Rtamt.Dense.Alg
open Rtamt Val
open Rtamt.Exc (bind_ok bind_ok_eq ok_inj)
open InterAux (ofDSig_denotes)
variable {α : Type} [Val α] [LawfulVal α]

/-- No interface-aware predicate forms (they are produced by the IA override only). -/
def noIA : F α → Bool
  | .var _ => true
  | .const _ => true
  | .un _ φ => noIA φ
  | .bin op φ ψ => (match op with | .predSat _ | .predZero => false | _ => true) && noIA φ && noIA ψ
  | .tmp1 _ φ => noIA φ
  | .tmp2 _ φ ψ => noIA φ && noIA ψ
  | .tb1 _ _ _ φ => noIA φ
  | .tb2 _ _ _ φ ψ => noIA φ && noIA ψ

/-- No `sqrt` / `ln` (which raise on negative samples). -/
def noPartialOps : F α → Bool
  | .var _ => true
  | .const _ => true
  | .un op φ => (match op with | .sqrt | .ln => false | _ => true) && noPartialOps φ
  | .bin _ φ ψ => noPartialOps φ && noPartialOps ψ
  | .tmp1 _ φ => noPartialOps φ
  | .tmp2 _ φ ψ => noPartialOps φ && noPartialOps ψ
  | .tb1 _ _ _ φ => noPartialOps φ
  | .tb2 _ _ _ φ ψ => noPartialOps φ && noPartialOps ψ

def StartsAt0 (w : DEnv α) (xs : List String) : Prop :=
  ∀ x ∈ xs, (w.sig x).times.head? = some 0

/-- What `visitX` of a node with one operand does with the list computed for the operand. -/
def alg1 (cfg : DCfg) : F α → ASig α → Except PyErr (ASig α)
  | .un op _, s => mapUn op s
  | .tmp1 op _, s =>
      match op with
      | .once => pure (fwdScan pmax Val.ninf s)
      | .hist => pure (fwdScan pmin Val.pinf s)
      | .ev => pure (backScan pmax Val.ninf s)
      | .alw => pure (backScan pmin Val.pinf s)
      | _ => .error .rtamt
  | .tb1 op a b _, s =>
      let a' : Rat := a * cfg.scale
      let b' : Rat := b * cfg.scale
      match op with
      | .once => onceTimed s a' b'
      | .hist => histTimed s a' b'
      | .ev => evTimed s a' b'
      | .alw => alwTimed s a' b'
  | _, _ => .error .other

/-- What `visitX` of a node with two operands does with the lists computed for the operands. -/
def alg2 (cfg : DCfg) : F α → ASig α → ASig α → Except PyErr (ASig α)
  | .bin op _ _, l, r =>
      match op with
      | .pred c => predicate c l r
      | .predSat c => predicateIA c (fun b => if b then Val.pinf else Val.ninf) l r
      | .predZero => .error .other
      | _ => inter (binMethod op) vne l r
  | .tmp2 op _ _, l, r =>
      match op with
      | .since => sinceOp l r
      | .until => untilOp l r
  | .tb2 op a b _ _, l, r =>
      let a' : Rat := a * cfg.scale
      let b' : Rat := b * cfg.scale
      match op with
      | .since => sinceTimed l r a' b'
      | .until => untilTimed l r a' b'
      | .precedes => .error .rtamt
  | _, _, _ => .error .other

end Rtamt.Dense.Alg

namespace Rtamt.Dense.C09Dense
open Rtamt Dense.Alg
variable {α : Type} {χ φ ψ : F α}

theorem Node1.supported (hn : Node1 χ φ) (h : supported χ = true) : supported φ = true := by
  cases hn
  · exact h
  · exact (Bool.and_eq_true_iff.1 h).2
  · exact (supported_tb1 h).2

theorem Node2.supported (hn : Node2 χ φ ψ) (h : supported χ = true) : supported φ = true ∧ supported ψ = true := by
  cases hn
  · exact supported_bin h
  · exact supported_tmp2 h
  · exact (supported_tb2 h).2.2

theorem Node1.noIA (hn : Node1 χ φ) (h : noIA χ = true) : noIA φ = true := by cases hn <;> exact h

theorem Node2.noIA (hn : Node2 χ φ ψ) (h : noIA χ = true) : noIA φ = true ∧ noIA ψ = true := by
  cases hn
  · exact ⟨(Bool.and_eq_true_iff.1 (Bool.and_eq_true_iff.1 h).1).2, (Bool.and_eq_true_iff.1 h).2⟩
  · exact Bool.and_eq_true_iff.1 h
  · exact Bool.and_eq_true_iff.1 h

theorem Node1.noPartialOps (hn : Node1 χ φ) (h : noPartialOps χ = true) : noPartialOps φ = true := by
  cases hn
  · exact (Bool.and_eq_true_iff.1 h).2
  · exact h
  · exact h

theorem Node2.noPartialOps (hn : Node2 χ φ ψ) (h : noPartialOps χ = true) :
    noPartialOps φ = true ∧ noPartialOps ψ = true := by
  cases hn <;> exact Bool.and_eq_true_iff.1 h

theorem Node1.evalAlg [Val α] (hn : Node1 χ φ) (cfg : DCfg) (w : DEnv α) :
    evalAlg cfg w χ = evalAlg cfg w φ >>= alg1 cfg χ := by cases hn <;> rfl

theorem Node2.evalAlg [Val α] (hn : Node2 χ φ ψ) (cfg : DCfg) (w : DEnv α) :
    evalAlg cfg w χ = evalAlg cfg w φ >>= fun l => evalAlg cfg w ψ >>= fun r => alg2 cfg χ l r := by
  cases hn <;> rfl

end Rtamt.Dense.C09Dense

namespace Rtamt.Dense.Alg
open Rtamt Val
open Rtamt.Exc (bind_ok bind_ok_eq ok_inj)
open InterAux (ofDSig_denotes)
variable {α : Type} [Val α] [LawfulVal α]

namespace MainAux
open C09Dense (Node1 Node2 nodeInduction)

omit [Val α] [LawfulVal α] in
theorem foldl_max_zero (l : List Rat) (h : ∀ x ∈ l, x = 0) : l.foldl max 0 = 0 := by
  induction l with
  | nil => rfl
  | cons x l ih =>
    have hx : x = 0 := h x (List.mem_cons_self)
    subst hx
    simp only [List.foldl_cons, max_self]
    exact ih (fun y hy => h y (List.mem_cons_of_mem _ hy))

omit [Val α] [LawfulVal α] in
theorem dom_zero (w : DEnv α) (φ : F α) (h0 : StartsAt0 w φ.vars) : dom w φ = 0 := by
  unfold dom
  apply foldl_max_zero
  intro y hy
  obtain ⟨x, hx, rfl⟩ := List.mem_map.1 hy
  rw [h0 x hx]; rfl

omit [Val α] [LawfulVal α] in
theorem startsAt0_left {w : DEnv α} {xs ys : List String} (h : StartsAt0 w (xs ++ ys)) : StartsAt0 w xs :=
  fun x hx => h x (List.mem_append_left _ hx)

omit [Val α] [LawfulVal α] in
theorem startsAt0_right {w : DEnv α} {xs ys : List String} (h : StartsAt0 w (xs ++ ys)) : StartsAt0 w ys :=
  fun x hx => h x (List.mem_append_right _ hx)

omit [Val α] [LawfulVal α] in
theorem noIA_bin {op : Bin} {φ ψ : F α} (h : noIA (.bin op φ ψ) = true) :
    (∀ c, op ≠ .predSat c) ∧ op ≠ .predZero ∧ noIA φ = true ∧ noIA ψ = true := by
  simp only [noIA, Bool.and_eq_true] at h
  refine ⟨fun c e => ?_, fun e => ?_, h.1.2, h.2⟩
  · subst e; exact Bool.false_ne_true h.1.1
  · subst e; exact Bool.false_ne_true h.1.1

omit [Val α] [LawfulVal α] in
theorem noPartialOps_un {op : Un} {φ : F α} (h : noPartialOps (.un op φ) = true) : op ≠ .sqrt ∧ op ≠ .ln := by
  have := (Bool.and_eq_true_iff.1 h).1
  cases op <;> simp at this ⊢

omit [Val α] [LawfulVal α] in
theorem const_denotes (c : α) : Denotes [(Tm.zero, c), (Tm.inf, c)] 0 (fun _ => some c) := by
  refine ⟨⟨?_, rfl, ?_⟩, fun t ht => ?_⟩
  · simp [Sorted, times, Tm.zero, Tm.lt]
  · intro pre a v h
    have hl := congrArg List.length h
    simp only [List.length_cons, List.length_nil, List.length_append] at hl
    have hp : pre = [] := List.eq_nil_of_length_eq_zero (by omega)
    subst hp
    simp only [List.nil_append, List.cons.injEq, Prod.mk.injEq, and_true] at h
    rw [← h.1, ← h.2.2]
  · have : ¬ t < 0 := not_lt.2 ht
    simp [valAtA, Tm.zero, Tm.lt, this]

theorem untilSet_none (g1 g2 : Rat → Option α) (lo t : Rat) :
    untilSet g1 g2 lo none t =
      {y | ∃ t' l r, lo ≤ t' ∧ g2 t' = some r ∧ IsGLB (valuesOn g1 t t') l ∧ y = min l r} := by
  ext y; simp only [untilSet, Set.mem_ofPred_eq, true_and]

omit [LawfulVal α] in
theorem cmpOfDiff_sub (hsub : ∀ a b : α, Val.neg (Val.sub a b) = Val.sub b a) (c : Cmp) (a b : α) :
    cmpOfDiff c (Val.sub a b) = (Bin.pred c).app a b := by
  cases c <;> simp only [cmpOfDiff, Bin.app, Cmp.app, hsub]

omit [LawfulVal α] in
theorem binMethod_eq (op : Bin) (h : ∀ c, op ≠ .pred c) : (binMethod op : α → α → α) = op.app := by
  cases op <;> first | rfl | exact absurd rfl (h _)

section nodes
variable (cfg : DCfg) (hs : 0 ≤ cfg.scale) (w : DEnv α)

omit [LawfulVal α] in
theorem lift2_bin (op : Bin) (φ ψ : F α) :
    lift2 op.app (rhoD cfg w φ) (rhoD cfg w ψ) = rhoD cfg w (.bin op φ ψ) := by
  funext t
  simp only [lift2, rhoD]
  cases rhoD cfg w φ t <;> cases rhoD cfg w ψ t <;> rfl

omit [LawfulVal α] in
theorem alg2_bin {op : Bin} (hop : ∀ c, op ≠ .pred c) (hop2 : ∀ c, op ≠ .predSat c) (hz : op ≠ .predZero)
    (φ ψ : F α) (l r : ASig α) : alg2 cfg (.bin op φ ψ) l r = inter (binMethod op) vne l r := by
  cases op <;> first | rfl | exact absurd rfl (hop _) | exact absurd rfl (hop2 _) | exact absurd rfl hz

omit [LawfulVal α] in
theorem var_denotes {x : String} (hw : w.WF [x]) (h0 : StartsAt0 w [x]) :
    ∃ s, w.lookup x = some s ∧ Denotes (ofDSig s) 0 (rhoD cfg w (.var x)) := by
  obtain ⟨hne, hp⟩ := hw x List.mem_cons_self
  have h0x := h0 x List.mem_cons_self
  cases hl : w.lookup x with
  | none => exact absurd (by simp [DEnv.sig, hl]) hne
  | some s =>
    have e : w.sig x = s := by simp [DEnv.sig, hl]
    rw [e] at hp h0x
    have e2 : rhoD cfg w (.var x) = DSig.valAt s := by
      funext t; simp only [rhoD, e]
    exact ⟨s, rfl, e2 ▸ ofDSig_denotes s hp h0x⟩

/-- The specification of an operation says of its result what the clause of `rhoD` says of `f`: the two agree. -/
theorem sup_eq {S : Rat → Set α} {out : ASig α} {d : Rat} {f : Rat → Option α}
    (h : SupFn S (d ≤ ·) (valAtA out)) (h' : SupFn S (d ≤ ·) f) : ∀ t, d ≤ t → valAtA out t = f t :=
  fun _ ht => h.agree h' ht ht

theorem inf_eq {S : Rat → Set α} {out : ASig α} {d : Rat} {f : Rat → Option α}
    (h : InfFn S (d ≤ ·) (valAtA out)) (h' : InfFn S (d ≤ ·) f) : ∀ t, d ≤ t → valAtA out t = f t :=
  fun _ ht => h.agree h' ht ht

/-- What is shown of the list `out` computed at a node `χ`: well formed whatever the operands denote; the values of `rhoD`
    under `E` (the operands denote `rhoD` of the operand formulas, and what the values need of the value type). -/
abbrev Res (E : Prop) (χ : F α) (out : ASig α) : Prop := WFA out 0 ∧ (E → ∀ t, 0 ≤ t → valAtA out t = rhoD cfg w χ t)

include hs in
/-- The table `alg1`, for an operand that denotes any function `g`. -/
theorem alg1_spec {χ φ : F α} (hn : Node1 χ φ) (hsup : supported χ = true) (hw : w.WF φ.vars) (hd : dom w φ = 0)
    {s : ASig α} {g : Rat → Option α} (h1 : Denotes s 0 g) :
    Exc.Claim (alg1 cfg χ s) (noPartialOps χ = true) (Res cfg w (g = rhoD cfg w φ) χ) := by
  have hφ := hn.supported hsup
  cases hn with
  | un op φ =>
    exact ⟨fun out ho => ⟨(mapUn_spec op h1 ho).1, fun e => (e ▸ mapUn_spec op h1 ho).2⟩,
      fun hnp => mapUn_ok op (noPartialOps_un hnp) s⟩
  | tmp1 op φ =>
    cases op <;> first | exact absurd (Bool.and_eq_true_iff.1 hsup).1 Bool.false_ne_true | skip
    · exact .of_eq rfl ⟨(fwdScan_max_spec h1).1, fun e =>
        sup_eq (fwdScan_max_spec h1).2 (e ▸ hd ▸ rhoD_once_sup cfg hs w φ hφ hw)⟩
    · exact .of_eq rfl ⟨(fwdScan_min_spec h1).1, fun e =>
        inf_eq (fwdScan_min_spec h1).2 (e ▸ hd ▸ rhoD_hist_inf cfg hs w φ hφ hw)⟩
    · exact .of_eq rfl ⟨(backScan_max_spec h1).1, fun e =>
        sup_eq (backScan_max_spec h1).2 (e ▸ hd ▸ rhoD_ev_sup cfg hs w φ hφ hw)⟩
    · exact .of_eq rfl ⟨(backScan_min_spec h1).1, fun e =>
        inf_eq (backScan_min_spec h1).2 (e ▸ hd ▸ rhoD_alw_inf cfg hs w φ hφ hw)⟩
  | tb1 op a b φ =>
    have hab := (supported_tb1 hsup).1
    obtain ⟨ha', hab'⟩ := scale_bounds cfg hs hab
    cases op
    · exact .of_ex <| (onceTimed_sup h1 _ _ ha' hab').imp fun _ k => ⟨k.1, k.2.1, fun e =>
        sup_eq k.2.2 (e ▸ hd ▸ rhoD_onceB_sup cfg hs w φ hφ hw a b hab)⟩
    · exact .of_ex <| (histTimed_sup h1 _ _ ha' hab').imp fun _ k => ⟨k.1, k.2.1, fun e =>
        inf_eq k.2.2 (e ▸ hd ▸ rhoD_histB_inf cfg hs w φ hφ hw a b hab)⟩
    · exact .of_ex <| (evTimed_spec h1 _ _ ha' hab').imp fun _ k => ⟨k.1, k.2.1, fun e =>
        sup_eq k.2.2 (e ▸ hd ▸ rhoD_evB_sup cfg hs w φ hφ hw a b hab)⟩
    · exact .of_ex <| (alwTimed_spec h1 _ _ ha' hab').imp fun _ k => ⟨k.1, k.2.1, fun e =>
        inf_eq k.2.2 (e ▸ hd ▸ rhoD_alwB_inf cfg hs w φ hφ hw a b hab)⟩

include hs in
/-- The table `alg2`, for operands that denote any `g1`, `g2`.  An interface-aware predicate node is absent (`noIA`) or
    `hcmp` holds: `predicateIA` needs it already for a well-formed result (`predicateIA_spec`), so it is no part of `H`.  On
    a `predZero` node the visitor raises. -/
theorem alg2_spec {χ φ ψ : F α} (hn : Node2 χ φ ψ) (hsup : supported χ = true) (hw : w.WF (φ.vars ++ ψ.vars))
    (hdφ : dom w φ = 0) (hdψ : dom w ψ = 0) {H : Prop} (hsub : H → ∀ a b : α, Val.neg (Val.sub a b) = Val.sub b a)
    (hsat : noIA χ = true ∨ ∀ (c : Cmp) (a b : α), satOfDiff c (Val.sub a b) = c.holds a b)
    {l r : ASig α} {g1 g2 : Rat → Option α} (h1 : Denotes l 0 g1) (h2 : Denotes r 0 g2) :
    Exc.Claim (alg2 cfg χ l r) (noIA χ = true) (Res cfg w (g1 = rhoD cfg w φ ∧ g2 = rhoD cfg w ψ ∧ H) χ) := by
  obtain ⟨hsφ, hsψ⟩ := hn.supported hsup
  have z : max (0 : Rat) 0 = 0 := max_self 0
  cases hn with
  | bin op φ ψ =>
    -- a point-wise operation `k`: the list denotes `lift2 k g1 g2`, and `k` is `op.app` (`e`, for a predicate under `H`)
    have pw : ∀ {k : α → α → α}, (∃ out, alg2 cfg (.bin op φ ψ) l r = .ok out ∧ Denotes out (max 0 0) (lift2 k g1 g2)) →
        (H → k = op.app) → Exc.Claim (alg2 cfg (.bin op φ ψ) l r) (noIA (F.bin op φ ψ) = true)
          (Res cfg w (g1 = rhoD cfg w φ ∧ g2 = rhoD cfg w ψ ∧ H) (.bin op φ ψ)) :=
      fun hD e => .of_ex <| hD.imp fun _ k => ⟨k.1, z ▸ k.2.1, fun ⟨e1, e2, hH⟩ t ht =>
        ((z ▸ k.2.2) t ht).trans (by rw [e hH, e1, e2, lift2_bin])⟩
    by_cases hp : ∃ c, op = .pred c
    · obtain ⟨c, rfl⟩ := hp
      exact pw (predicate_spec c h1 h2) fun hH => funext fun a => funext fun b => cmpOfDiff_sub (hsub hH) c a b
    by_cases hp2 : ∃ c, op = .predSat c
    · obtain ⟨c, rfl⟩ := hp2
      have hcmp := hsat.resolve_left fun hia => (noIA_bin hia).1 c rfl
      exact pw (predicateIA_spec c (IAAux.hkey_of_hcmp hcmp c) h1 h2) fun _ =>
        funext fun a => funext fun b => by simp only [Bin.app, hcmp]
    by_cases hz : op = .predZero
    · subst hz
      exact ⟨fun _ ho => (nomatch ho), fun hia => absurd rfl (noIA_bin hia).2.1⟩
    · have hop : ∀ c, op ≠ .pred c := fun c h => hp ⟨c, h⟩
      exact pw (alg2_bin cfg hop (fun c h => hp2 ⟨c, h⟩) hz φ ψ l r ▸
        inter_denotes (binMethod op) vne (fun a b h => (vne_eq_false_iff a b).1 h) h1 h2) fun _ => binMethod_eq op hop
  | tmp2 op φ ψ =>
    have S := rhoD_since_sup cfg hs w φ ψ hsφ hsψ hw
    have U := rhoD_until_sup cfg hs w φ ψ hsφ hsψ hw
    rw [hdφ, hdψ, z] at S U
    cases op
    · obtain ⟨out, e, k⟩ := sinceOp_spec h1 h2
      rw [z] at k
      exact .of_eq e ⟨k.1, fun ⟨e1, e2, _⟩ => sup_eq k.2 (e1 ▸ e2 ▸ S)⟩
    · obtain ⟨out, e, k⟩ := untilOp_spec h1 h2
      simp only [z, untilSet_none] at k
      exact .of_eq e ⟨k.1, fun ⟨e1, e2, _⟩ => sup_eq k.2 (e1 ▸ e2 ▸ U)⟩
  | tb2 op a b φ ψ =>
    obtain ⟨hop, hab, -, -⟩ := supported_tb2 hsup
    obtain ⟨ha', hab'⟩ := scale_bounds cfg hs hab
    have S := rhoD_sinceB_sup cfg hs w φ ψ hsφ hsψ hw a b hab
    have U := rhoD_untilB_sup cfg hs w φ ψ hsφ hsψ hw a b hab
    rw [hdφ, hdψ, z] at S U
    cases op
    · obtain ⟨out, e, k⟩ := sinceTimed_sup h1 h2 _ _ ha' hab'
      exact .of_eq e ⟨k.1, fun ⟨e1, e2, _⟩ => sup_eq k.2 (e1 ▸ e2 ▸ S)⟩
    · obtain ⟨out, e, k⟩ := untilTimed_spec h1 h2 _ _ ha' hab'
      exact .of_eq e ⟨k.1, fun ⟨e1, e2, _⟩ => sup_eq k.2 (e1 ▸ e2 ▸ U)⟩
    · exact absurd rfl hop

end nodes

end MainAux

open MainAux in
/-- The induction over the formula: the visitor returns a list that is well formed whatever the values and, under `H` (which
    gives `hsub`), has the values of `rhoD`; without interface-aware predicates and `sqrt` / `ln` it raises nothing.  Where
    the formula has interface-aware predicates (`predSat`), `hcmp` is assumed. -/
theorem evalAlg_claim (cfg : DCfg) (hs : 0 ≤ cfg.scale) (w : DEnv α) {H : Prop}
    (hsub : H → ∀ a b : α, Val.neg (Val.sub a b) = Val.sub b a) (φ : F α)
    (hsup : supported φ = true) (hw : w.WF φ.vars) (h0 : StartsAt0 w φ.vars)
    (hsat : noIA φ = true ∨ ∀ (c : Cmp) (a b : α), satOfDiff c (Val.sub a b) = c.holds a b) :
    Exc.Claim (evalAlg cfg w φ) (noIA φ = true ∧ noPartialOps φ = true) (Res cfg w H φ) := by
  induction φ using C09Dense.nodeInduction with
  | var x =>
    obtain ⟨s, hl, hD⟩ := var_denotes cfg w hw h0
    exact .of_eq (by simp only [evalAlg, hl]) ⟨hD.1, fun _ => hD.2⟩
  | const c => exact .of_eq rfl ⟨(const_denotes c).1, fun _ => (const_denotes c).2⟩
  | n1 hn ih =>
    rw [hn.vars] at hw h0
    rw [hn.evalAlg]
    refine ((ih (hn.supported hsup) hw h0 (hsat.imp_left hn.noIA)).bind fun s q => ?_).weaken fun k =>
      ⟨⟨hn.noIA k.1, hn.noPartialOps k.2⟩, k.2⟩
    -- the table at the step function of the operand list itself (well-formedness, totality) and, under `H`, at `rhoD`
    have A := fun {g} => alg1_spec cfg hs w hn hsup hw (dom_zero w _ h0) (s := s) (g := g)
    exact ⟨fun out e => ⟨((A (denotes_self q.1)).sound out e).1, fun hH => ((A ⟨q.1, q.2 hH⟩).sound out e).2 rfl⟩,
      (A (denotes_self q.1)).total⟩
  | n2 hn ih1 ih2 =>
    rw [hn.vars] at hw h0
    rw [hn.evalAlg]
    refine ((ih1 (hn.supported hsup).1 hw.left (startsAt0_left h0) (hsat.imp_left fun h => (hn.noIA h).1)).bind
      fun l q1 => (ih2 (hn.supported hsup).2 hw.right (startsAt0_right h0) (hsat.imp_left fun h => (hn.noIA h).2)).bind
      fun r q2 => ?_).weaken fun k =>
        ⟨⟨(hn.noIA k.1).1, (hn.noPartialOps k.2).1⟩, ⟨(hn.noIA k.1).2, (hn.noPartialOps k.2).2⟩, k.1⟩
    have A := fun {g1 g2} => alg2_spec cfg hs w hn hsup hw (dom_zero w _ (startsAt0_left h0))
      (dom_zero w _ (startsAt0_right h0)) hsub hsat (l := l) (r := r) (g1 := g1) (g2 := g2)
    exact ⟨fun out e => ⟨((A (denotes_self q1.1) (denotes_self q2.1)).sound out e).1, fun hH =>
        ((A ⟨q1.1, q1.2 hH⟩ ⟨q2.1, q2.2 hH⟩).sound out e).2 ⟨rfl, rfl, hH⟩⟩,
      (A (denotes_self q1.1) (denotes_self q2.1)).total⟩

/-- The result of the mirror of the dense offline visitor denotes `rhoD`. -/
theorem evalAlg_denotes_partial (cfg : DCfg) (hs : 0 ≤ cfg.scale) (w : DEnv α) (φ : F α)
    (hsup : supported φ = true) (hia : noIA φ = true) (hw : w.WF φ.vars) (h0 : StartsAt0 w φ.vars)
    (hsub : ∀ a b : α, Val.neg (Val.sub a b) = Val.sub b a)
    {s : ASig α} (he : evalAlg cfg w φ = .ok s) : Denotes s 0 (rhoD cfg w φ) :=
  ((evalAlg_claim cfg hs w (H := True) (fun _ => hsub) φ hsup hw h0 (.inl hia)).sound s he).imp_right (· trivial)

/-- It raises nothing (without `sqrt` / `ln`). -/
theorem evalAlg_ok_partial (cfg : DCfg) (hs : 0 ≤ cfg.scale) (w : DEnv α) (φ : F α)
    (hsup : supported φ = true) (hia : noIA φ = true) (hnp : noPartialOps φ = true)
    (hw : w.WF φ.vars) (h0 : StartsAt0 w φ.vars) :
    ∃ s, evalAlg cfg w φ = .ok s :=
  (evalAlg_claim cfg hs w (H := False) False.elim φ hsup hw h0 (.inl hia)).total ⟨hia, hnp⟩

/-- C04 on the mirror of the list algorithms: non-decreasing (indeed strictly increasing) time stamps, starts at the
    beginning of the common input domain, equals the dense semantics at every time of the domain. -/
theorem C04_alg_eq_rhoD_partial (cfg : DCfg) (hs : 0 ≤ cfg.scale) (w : DEnv α) (φ : F α)
    (hsup : supported φ = true) (hia : noIA φ = true) (hnp : noPartialOps φ = true)
    (hw : w.WF φ.vars) (h0 : StartsAt0 w φ.vars)
    (hsub : ∀ a b : α, Val.neg (Val.sub a b) = Val.sub b a) :
    ∃ s, evalAlg cfg w φ = .ok s ∧ Sorted s ∧ (times s).head? = some (Tm.fin (dom w φ)) ∧
      ∀ t, dom w φ ≤ t → valAtA s t = rhoD cfg w φ t := by
  obtain ⟨s, he⟩ := evalAlg_ok_partial cfg hs w φ hsup hia hnp hw h0
  obtain ⟨hwf, hv⟩ := evalAlg_denotes_partial cfg hs w φ hsup hia hw h0 hsub he
  rw [MainAux.dom_zero w φ h0]
  exact ⟨s, he, hwf.sorted, hwf.start, hv⟩

omit [Val α] [LawfulVal α] in
/-- The signal `x = [(0, c1), (1, c2)]`, for a formula whose only variable is `x`. -/
theorem witness_x (c1 c2 : α) {w : DEnv α} (e : w = [("x", [(0, c1), (1, c2)])]) {xs : List String}
    (hx : ∀ x ∈ xs, x = "x") : w.WF xs ∧ StartsAt0 w xs := by
  subst e
  refine ⟨fun x h => ?_, fun x h => ?_⟩
  · rw [hx x h]
    exact ⟨List.cons_ne_nil _ _, List.pairwise_pair.2 (zero_lt_one : (0 : Rat) < 1)⟩
  · rw [hx x h]
    rfl

/-- Non-vacuity: the hypotheses of the three theorems hold for a concrete environment and formula
    (`once[0,1] x` over the two-sample signal `x = [(0, c1), (1, c2)]`), for every value type. -/
example (c1 c2 : α) :
    let w : DEnv α := [("x", [(0, c1), (1, c2)])]
    let φ : F α := .tb1 .once 0 1 (.var "x")
    supported φ = true ∧ noIA φ = true ∧ noPartialOps φ = true ∧ w.WF φ.vars ∧ StartsAt0 w φ.vars := by
  intro w φ
  exact ⟨rfl, rfl, rfl, witness_x c1 c2 rfl fun x hx => List.mem_singleton.1 hx⟩

/-- … so the conclusion of `C04_alg_eq_rhoD_partial` holds for it (given `hsub`). -/
example (c1 c2 : α) (hsub : ∀ a b : α, Val.neg (Val.sub a b) = Val.sub b a) :
    let w : DEnv α := [("x", [(0, c1), (1, c2)])]
    let φ : F α := .tb1 .once 0 1 (.var "x")
    ∃ s, evalAlg {} w φ = .ok s ∧ Sorted s ∧ (times s).head? = some (Tm.fin (dom w φ)) ∧
      ∀ t, dom w φ ≤ t → valAtA s t = rhoD {} w φ t := by
  intro w φ
  obtain ⟨hw, h0⟩ := witness_x c1 c2 (w := w) rfl (xs := φ.vars) fun x hx => List.mem_singleton.1 hx
  exact C04_alg_eq_rhoD_partial {} (by decide) w φ rfl rfl rfl hw h0 hsub

end Rtamt.Dense.Alg
