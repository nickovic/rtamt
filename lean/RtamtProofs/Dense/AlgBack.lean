/-
  Dense time, M-alg: the bounded future operators `eventually[a,b]` / `always[a,b]`
  (`eventually_timed_operation` / `always_timed_operation`, mirror `backTimed`).

  The mirror image of the stack of `AlgStack`: the list of segments grows at the front.  It is a partition of `[lo, ∞)`
  into consecutive half-open segments, the last one unbounded (`Chain`).  Read as a function of time (`segval`) it is
  monotone before the end `H` of the last segment pushed (`InvB`), and pushing a segment `b` that fits (`GoodB`) changes
  it to `stepF · b`: the maximum with `b.v` on `[b.lo, b.hi)` (`pushSegB_spec`).  So the loop computes the maximum over
  the pushed segments that contain `t` (`foldB_spec`), which the final filter reads off from time 0 on (`filt_spec`) and
  `FwdAux.ideal_isLUB` identifies.

  The only degenerate segment is a last `[inf, inf)` (operand whose last stamp is `inf`, see `InfOK`); it becomes the
  output sample stamped `inf`.  No time lies in it, so that it repeats the value of the segment before it (`InfTail`)
  is kept beside the value function; it comes from the shape of the pushed segments (`SegsOKB`).

  `popWhileB` never raises (the last segment is unbounded and is never removed), and the non-intersecting branch of
  `pushSegB` is unreachable for `a ≤ b`.
-/
import RtamtProofs.Dense.AlgFwd

namespace Rtamt.Dense.Alg.BackAux
open Rtamt Val Rtamt.Dense Rtamt.Dense.Alg

/-- The linear order decided by `Tm.le` / `Tm.lt` (local to this file). -/
@[instance_reducible] def tmLO : LinearOrder Tm where
  le x y := Tm.le x y = true
  lt x y := Tm.lt x y = true
  le_refl x := by cases x <;> simp [Tm.le, Tm.lt]
  le_trans x y z := by
    cases x <;> cases y <;> cases z <;> simp [Tm.le, Tm.lt]
    intros; linarith
  lt_iff_le_not_ge x y := by
    cases x <;> cases y <;> simp [Tm.le, Tm.lt]
    exact le_of_lt
  le_antisymm x y := by
    cases x <;> cases y <;> simp [Tm.le, Tm.lt]
    intro h1 h2; exact le_antisymm h1 h2
  le_total x y := by
    cases x <;> cases y <;> simp [Tm.le, Tm.lt]
    exact le_total _ _
  toDecidableLE := fun x y => inferInstanceAs (Decidable (Tm.le x y = true))
  toDecidableLT := fun x y => inferInstanceAs (Decidable (Tm.lt x y = true))
  toDecidableEq := inferInstance

section decided
attribute [local instance] tmLO

theorem lt_false_iff (x y : Tm) : Tm.lt x y = false ↔ y ≤ x := by
  show _ ↔ Tm.le y x = true
  simp [Tm.le]
theorem le_false_iff (x y : Tm) : Tm.le x y = false ↔ y < x := by
  show _ ↔ Tm.lt y x = true
  simp [Tm.le]

end decided

open FwdAux

theorem sub_lt_sub {τ τ' : Tm} (h : τ < τ') (q : Rat) : τ.sub q < τ'.sub q := by
  cases τ with
  | fin p =>
    cases τ' with
    | fin p' => rw [fin_lt_fin] at h; simp only [Tm.sub, fin_lt_fin]; linarith
    | inf => exact fin_lt_inf _
  | inf => exact absurd h (not_inf_lt _)

theorem sub_le_sub (τ : Tm) {q q' : Rat} (h : q ≤ q') : τ.sub q' ≤ τ.sub q := by
  cases τ with
  | fin p => simp only [Tm.sub, fin_le_fin]; linarith
  | inf => exact le_refl _

section core
variable {α : Type}

def hdlo : List (Seg α) → Tm
  | [] => Tm.inf
  | c :: _ => c.lo

def hdhi : List (Seg α) → Tm
  | [] => Tm.inf
  | c :: _ => c.hi

/-- Consecutive non-empty half-open segments, the last one unbounded (and possibly `[inf, inf)`). -/
def Chain : List (Seg α) → Prop
  | [] => False
  | [c] => c.hi = Tm.inf
  | c :: d :: rest => c.hi = d.lo ∧ c.lo < c.hi ∧ Chain (d :: rest)

/-- The next segment fits in front of the list `(L, H)`; it is unbounded only in front of `[inf, inf)`. -/
def GoodB (L H : Tm) (b : Seg α) : Prop := b.lo < L ∧ L ≤ b.hi ∧ b.hi ≤ H ∧ (b.hi = Tm.inf → L = Tm.inf)

/-- Shape of the pushed segments `b_i, …, b_n` (in the order of the samples): each fits in front of the next one, the last
    one is unbounded, and a final `[inf, inf)` repeats the value before it. -/
def SegsOKB : List (Seg α) → Prop
  | [] => False
  | [b] => b.hi = Tm.inf
  | b :: b' :: rest => GoodB b'.lo b'.hi b ∧ (b'.lo = Tm.inf → b.v = b'.v) ∧ SegsOKB (b' :: rest)

def stamps (out : List (Seg α)) : ASig α := out.map (fun c => (c.lo, c.v))

/-- A last segment `[inf, inf)` (it becomes an output sample stamped `inf`) repeats the value before it. -/
def InfTail (out : List (Seg α)) : Prop := InterAux.InfOKr (stamps out)

theorem infTail_tail {c : Seg α} {tl : List (Seg α)} (h : InfTail (c :: tl)) : InfTail tl :=
  InterAux.infOKr_tail h

theorem infTail_head {c c' : Seg α} : ∀ {tl : List (Seg α)}, InfTail (c :: tl) → c'.v = c.v → InfTail (c' :: tl)
  | [], _, _ => trivial
  | _ :: _, h, hv => ⟨fun hd => hv.trans (h.1 hd), h.2⟩

theorem chain_ne_nil {out : List (Seg α)} (h : Chain out) : out ≠ [] := by
  rintro rfl; exact h

theorem chain_hi {c : Seg α} : ∀ {tl : List (Seg α)}, Chain (c :: tl) → c.hi = hdlo tl
  | [], h => h
  | _ :: _, h => h.1

/-- Only the last segment is unbounded. -/
theorem chain_next {c : Seg α} : ∀ {tl : List (Seg α)}, Chain (c :: tl) → c.hi ≠ Tm.inf → c.lo < c.hi ∧ Chain tl
  | [], h, hc => absurd h hc
  | _ :: _, h, _ => h.2

theorem chain_lo_le_hi {c : Seg α} : ∀ {tl : List (Seg α)}, Chain (c :: tl) → c.lo ≤ c.hi
  | [], h => le_of_le_of_eq (le_inf _) h.symm
  | _ :: _, h => le_of_lt h.2.1

theorem chain_head {c c' : Seg α} {tl : List (Seg α)} (h : Chain (c :: tl)) (hhi : c'.hi = c.hi) (hlt : c'.lo < c'.hi) :
    Chain (c' :: tl) := by
  cases tl with
  | nil => exact hhi.trans h
  | cons d r => exact ⟨hhi.trans h.1, hlt, h.2.2⟩

theorem pushSegB_eq (worse : α → α → Bool) (x : Seg α) (r : List (Seg α)) (b a : Seg α) (rest : List (Seg α))
    (e : popWhileB worse b (x :: r) = .ok (a :: rest)) :
    pushSegB worse (x :: r) b =
      if !intersects a.lo a.hi b.lo b.hi then .ok (b :: a :: rest)
      else if !worse a.v b.v then .ok (⟨b.lo, a.lo, b.v⟩ :: a :: rest)
      else .ok (⟨b.lo, b.hi, b.v⟩ :: (if Tm.lt b.hi a.hi then ⟨b.hi, a.hi, a.v⟩ :: rest else rest)) := by
  simp only [pushSegB, e]
  rfl

section stack
variable [LinearOrder α] [OrderBot α]

theorem segval_below : ∀ {out : List (Seg α)}, Chain out → ∀ {t : ℚ}, Tm.fin t < hdlo out → segval out t = ⊥
  | [], h, _, _ => h.elim
  | [c], _, _, ht => by rw [segval_cons_of_lt c [] ht]; rfl
  | c :: d :: r, h, _, ht => by
    rw [segval_cons_of_lt c _ ht]
    exact segval_below h.2.2 (lt_trans ht (lt_of_lt_of_eq h.2.1 h.1))

theorem segval_cutB (x : Seg α) (r : List (Seg α)) {e : Tm} {t : ℚ} (he : x.lo ≤ e) (ht : e ≤ Tm.fin t) :
    segval (⟨e, x.hi, x.v⟩ :: r) t = segval (x :: r) t := by
  by_cases hx : Tm.fin t < x.hi
  · rw [segval_cons_has r (show Has x t from ⟨le_trans he ht, hx⟩),
      segval_cons_has r (show Has (⟨e, x.hi, x.v⟩ : Seg α) t from ⟨ht, hx⟩)]
  · rw [segval_cons_of_le x r (not_lt.1 hx), segval_cons_of_le (⟨e, x.hi, x.v⟩ : Seg α) r (not_lt.1 hx)]

/-- The invariant of the list, the mirror image of `TimedAux.InvC`: a chain from `L` whose value function is monotone
    before `H`; what a segment `[inf, inf)` carries does not show in the value function and is kept beside it. -/
structure InvB (out : List (Seg α)) (L H : Tm) : Prop where
  chain : Chain out
  lo : hdlo out = L
  mono : ∀ t t', t ≤ t' → Tm.fin t' < H → segval out t ≤ segval out t'
  tail : InfTail out

theorem mono_step {F F' : ℚ → α} {b : Seg α} {H : Tm} (hF' : ∀ t, F' t = stepF t (F t) b)
    (hF : ∀ t t', t ≤ t' → Tm.fin t' < H → F t ≤ F t') (hH : b.hi ≤ H)
    (hbot : ∀ t, Tm.fin t < b.lo → F t = ⊥) :
    ∀ t t', t ≤ t' → Tm.fin t' < b.hi → F' t ≤ F' t' := by
  intro t t' h1 h2
  have h3 : Tm.fin t ≤ Tm.fin t' := (fin_le_fin _ _).2 h1
  rw [hF', hF']
  unfold stepF
  by_cases hb : Has b t
  · rw [if_pos hb, if_pos (show Has b t' from ⟨le_trans hb.1 h3, h2⟩)]
    exact max_le_max (hF t t' h1 (lt_of_lt_of_le h2 hH)) (le_refl _)
  · rw [if_neg hb, hbot t (not_le.1 fun hle => hb ⟨hle, lt_of_le_of_lt h3 h2⟩)]
    exact bot_le

/-- A list whose front segment is `b` cut down to `[b.lo, hi)` computes `stepF · b` of `F` if `F` is `⊥` before `b.lo`,
    at most `b.v` on the front segment, at least `b.v` on `[hi, b.hi)`, and what the rest reads as from `hi` on. -/
theorem segval_pushB {F : ℚ → α} {b : Seg α} {hi : Tm} {rest : List (Seg α)}
    (hch : Chain (⟨b.lo, hi, b.v⟩ :: rest)) (hhi : hi ≤ b.hi)
    (hbot : ∀ t, Tm.fin t < b.lo → F t = ⊥)
    (htop : ∀ t, b.lo ≤ Tm.fin t → Tm.fin t < hi → F t ≤ b.v)
    (hmid : ∀ t, hi ≤ Tm.fin t → Tm.fin t < b.hi → b.v ≤ F t)
    (hup : ∀ t, hi ≤ Tm.fin t → segval rest t = F t) (t : ℚ) :
    segval (⟨b.lo, hi, b.v⟩ :: rest) t = stepF t (F t) b := by
  unfold stepF
  by_cases h1 : hi ≤ Tm.fin t
  · rw [segval_cons_of_le _ rest h1, hup t h1]
    split
    · exact (max_eq_left (hmid t h1 ‹Has b t›.2)).symm
    · rfl
  · by_cases h2 : b.lo ≤ Tm.fin t
    · rw [segval_cons_has rest (show Has (⟨b.lo, hi, b.v⟩ : Seg α) t from ⟨h2, not_le.1 h1⟩),
        if_pos (show Has b t from ⟨h2, lt_of_lt_of_le (not_le.1 h1) hhi⟩), max_eq_right (htop t h2 (not_le.1 h1))]
    · rw [segval_below hch (not_le.1 h2), if_neg (fun hb : Has b t => h2 hb.1), hbot t (not_le.1 h2)]

variable (worse : α → α → Bool) (hw : ∀ x y, worse x y = true ↔ x < y)
include hw

/-- `popWhileB` on a chain: it stops at some segment `a`; from `a.lo` on nothing has changed, everything removed was at
    most `b.v` and ended before `b.hi`, so `a` starts before `b.hi` unless it is the head. -/
theorem popWhileB_spec (b : Seg α) (out : List (Seg α)) (h : Chain out) (hb : hdlo out ≤ b.hi) :
    ∃ a rest, popWhileB worse b out = .ok (a :: rest) ∧ Chain (a :: rest) ∧
      (a.v < b.v → b.hi ≤ a.hi) ∧
      (∀ t, a.lo ≤ Tm.fin t → segval out t = segval (a :: rest) t) ∧
      (∀ t, Tm.fin t < a.lo → segval out t ≤ b.v) ∧
      (out = a :: rest ∨ a.lo < b.hi) ∧ hdlo out ≤ a.lo ∧ (InfTail out → InfTail (a :: rest)) := by
  induction out with
  | nil => exact h.elim
  | cons c tl ih =>
    by_cases hc : c.v < b.v ∧ c.hi < b.hi
    · obtain ⟨h2, h3⟩ := chain_next h fun e => not_inf_lt b.hi (e ▸ hc.2)
      have h1 : c.hi = hdlo tl := chain_hi h
      obtain ⟨a, rest, e1, e2, e3, e4, e5, e6, e7, e8⟩ := ih h3 (le_of_eq_of_le h1.symm (le_of_lt hc.2))
      have e7' : c.hi ≤ a.lo := le_of_eq_of_le h1 e7
      refine ⟨a, rest, ?_, e2, e3, fun t ht => ?_, fun t ht => ?_, Or.inr ?_, le_trans (le_of_lt h2) e7',
        fun hT => e8 (infTail_tail hT)⟩
      · rw [popWhileB, (hw _ _).2 hc.1, (lt_iff _ _).2 hc.2]; exact e1
      · rw [segval_cons_of_le c tl (le_trans e7' ht)]; exact e4 t ht
      · rw [segval]
        split
        · exact le_of_lt hc.1
        · exact e5 t ht
      · rcases e6 with e | e
        · rw [e] at h1
          exact lt_of_eq_of_lt h1.symm hc.2
        · exact e
    · refine ⟨c, tl, ?_, h, fun hv => not_lt.1 fun hlt => hc ⟨hv, hlt⟩, fun t _ => rfl, fun t ht => ?_, Or.inl rfl,
        le_refl _, id⟩
      · have : (worse c.v b.v && Tm.lt c.hi b.hi) = false := by
          rw [Bool.and_eq_false_iff]
          by_cases c' : c.v < b.v
          · exact Or.inr ((FwdAux.lt_false_iff _ _).2 (not_lt.1 fun hlt => hc ⟨c', hlt⟩))
          · exact Or.inl (Bool.eq_false_iff.2 fun c'' => c' ((hw _ _).1 c''))
        rw [popWhileB, this]; rfl
      · rw [segval_below h ht]; exact bot_le

/-- Pushing a segment that fits: the invariant is kept and the value function becomes `stepF · b` of the one before.
    `hone` is what a front segment `[inf, inf)` asks for: the segment pushed next to it carries its value. -/
theorem pushSegB_spec {out : List (Seg α)} {L H : Tm} (hI : InvB out L H) {b : Seg α} (hg : GoodB L H b)
    (hone : L = Tm.inf → ∀ c ∈ out.head?, b.v = c.v) :
    ∃ out', pushSegB worse out b = .ok out' ∧ InvB out' b.lo b.hi ∧
      ∀ t, segval out' t = stepF t (segval out t) b := by
  obtain ⟨g1, g2, g3, g4⟩ := hg
  have hch := hI.chain
  obtain ⟨x, r, rfl⟩ := List.exists_cons_of_ne_nil (chain_ne_nil hch)
  have hlo : x.lo = L := hI.lo
  obtain ⟨a, rest, e1, e2, e3, e4, e5, e6, e7, e8⟩ := popWhileB_spec worse hw b _ hch (le_of_eq_of_le hlo g2)
  have hLa : L ≤ a.lo := le_of_eq_of_le hlo.symm e7
  have hba : b.lo < a.lo := lt_of_lt_of_le g1 hLa
  have hbb : b.lo < b.hi := lt_of_lt_of_le g1 g2
  have hab : a.lo ≤ b.hi := by
    rcases e6 with e | e
    · rw [← (List.cons.inj e).1, hlo]; exact g2
    · exact le_of_lt e
  have hbot : ∀ t, Tm.fin t < b.lo → segval (x :: r) t = ⊥ :=
    fun t ht => segval_below hch (lt_trans ht (lt_of_lt_of_eq g1 hlo.symm))
  have hint : intersects a.lo a.hi b.lo b.hi = true := by
    simp only [intersects, Bool.and_eq_true, le_iff]
    exact ⟨hab, le_trans (le_of_lt hba) (chain_lo_le_hi e2)⟩
  have hT := e8 hI.tail
  suffices hs : ∃ hi rest', pushSegB worse (x :: r) b = .ok (⟨b.lo, hi, b.v⟩ :: rest') ∧
      Chain (⟨b.lo, hi, b.v⟩ :: rest') ∧ InfTail (⟨b.lo, hi, b.v⟩ :: rest') ∧
      ∀ t, segval (⟨b.lo, hi, b.v⟩ :: rest') t = stepF t (segval (x :: r) t) b by
    obtain ⟨hi, rest', p1, p2, p3, p4⟩ := hs
    exact ⟨_, p1, ⟨p2, rfl, mono_step p4 hI.mono g3 hbot, p3⟩, p4⟩
  rw [pushSegB_eq worse x r b a rest e1, hint]
  by_cases hwv : a.v < b.v
  · -- `a` is worse: `b` takes over up to `b.hi`, and what is left of `a` starts there
    have hbv : ∀ t, b.lo ≤ Tm.fin t → Tm.fin t < b.hi → segval (x :: r) t ≤ b.v := by
      intro t _ hb
      by_cases h1 : a.lo ≤ Tm.fin t
      · rw [e4 t h1, segval_cons_has _ ⟨h1, lt_of_lt_of_le hb (e3 hwv)⟩]; exact le_of_lt hwv
      · exact e5 t (not_le.1 h1)
    simp only [(hw _ _).2 hwv, Bool.not_true, Bool.false_eq_true, if_false]
    by_cases hlt : b.hi < a.hi
    · have hch' : Chain (⟨b.lo, b.hi, b.v⟩ :: ⟨b.hi, a.hi, a.v⟩ :: rest) := ⟨rfl, hbb, chain_head e2 rfl hlt⟩
      simp only [(lt_iff _ _).2 hlt, if_true]
      exact ⟨_, _, rfl, hch',
        ⟨fun hinf => absurd (lt_of_eq_of_lt (Eq.symm hinf) hlt) (not_inf_lt _), infTail_head hT rfl⟩,
        segval_pushB hch' (le_refl _) hbot hbv (fun t h h' => absurd h' (not_lt.2 h))
          fun t ht => by rw [segval_cutB a rest hab ht, e4 t (le_trans hab ht)]⟩
    · have heq : a.hi = b.hi := le_antisymm (not_lt.1 hlt) (e3 hwv)
      have hch' : Chain (⟨b.lo, b.hi, b.v⟩ :: rest) := chain_head e2 heq.symm hbb
      simp only [(FwdAux.lt_false_iff _ _).2 (not_lt.1 hlt), Bool.false_eq_true, if_false]
      refine ⟨_, _, rfl, hch', ?_, segval_pushB hch' (le_refl _) hbot hbv (fun t h h' => absurd h' (not_lt.2 h))
        fun t ht => by rw [e4 t (le_trans hab ht), segval_cons_of_le a rest (le_of_eq_of_le heq ht)]⟩
      -- a segment `[inf, inf)` right after `a` would give `b.hi = a.hi = inf`, hence `inf = L ≤ a.lo < a.hi`
      cases rest with
      | nil => trivial
      | cons d r' =>
        refine ⟨fun hd => ?_, hT.2⟩
        have hL : L = Tm.inf := g4 (heq.symm.trans (e2.1.trans hd))
        exact absurd (lt_of_le_of_lt (le_of_eq_of_le hL.symm hLa) e2.2.1) (not_inf_lt _)
  · -- `a` is not worse: only `[b.lo, a.lo)` is added; between `a.hi` and `b.hi` the values are at least `a.v`, because
    -- the value function is monotone before `H ≥ b.hi`
    have hva : b.v ≤ a.v := not_lt.1 hwv
    have c1 : worse a.v b.v = false := Bool.eq_false_iff.2 fun c' => hwv ((hw _ _).1 c')
    have hch' : Chain (⟨b.lo, a.lo, b.v⟩ :: a :: rest) := ⟨rfl, hba, e2⟩
    simp only [c1, Bool.not_false, if_true]
    refine ⟨_, _, rfl, hch', ⟨fun hainf => ?_, hT⟩,
      segval_pushB hch' hab hbot (fun t _ h => e5 t h) (fun t h1 hb => ?_) fun t ht => (e4 t ht).symm⟩
    · -- `a.lo = inf`: nothing was removed (what is removed ends before `b.hi`), so `a` is the head and `L = inf`
      rcases e6 with e | e
      · obtain ⟨rfl, _⟩ := List.cons.inj e
        exact hone (hlo.symm.trans hainf) _ rfl
      · exact absurd (lt_of_eq_of_lt (Eq.symm hainf) e) (not_inf_lt _)
    · rw [e4 t h1]
      by_cases ha : Tm.fin t < a.hi
      · rw [segval_cons_has _ ⟨h1, ha⟩]; exact hva
      · obtain ⟨q, hq⟩ := exists_fin_of_le_fin h1
        have hqa : Has a q :=
          ⟨le_of_eq hq, hq ▸ (chain_next e2 fun e => not_inf_le_fin t (e ▸ not_lt.1 ha)).1⟩
        have := hI.mono q t ((fin_le_fin _ _).1 (hq ▸ h1)) (lt_of_lt_of_le hb g3)
        rw [e4 q hqa.1, e4 t h1, segval_cons_has _ hqa] at this
        exact le_trans hva this

/-- The `while i >= 0` loop pushes the segments from the last to the first.  A `B` that starts at `inf` is the single
    segment `[inf, inf)` (the `lo` increase strictly), which the loop returns as it is: this gives `pushSegB_spec` its
    `hone`. -/
theorem foldB_spec (B : List (Seg α)) (h : SegsOKB B) :
    ∃ out, B.reverse.foldlM (pushSegB worse) [] = .ok out ∧ InvB out (hdlo B) (hdhi B) ∧
      (hdlo B = Tm.inf → out = B) ∧ ∀ t, segval out t = B.reverse.foldl (stepF t) ⊥ := by
  induction B with
  | nil => exact h.elim
  | cons b B ih =>
    cases B with
    | nil =>
      exact ⟨[b], rfl, ⟨h, rfl, mono_step (b := b) (F := fun _ => ⊥) (fun t => segval_single b t)
        (fun _ _ _ _ => le_refl _) (le_refl _) (fun _ _ => rfl), trivial⟩, fun _ => rfl, segval_single b⟩
    | cons b' B' =>
      obtain ⟨hg, hv, hB⟩ := h
      obtain ⟨out, ho, hI, hone, hs⟩ := ih hB
      obtain ⟨out', ho', hI', hs'⟩ := pushSegB_spec worse hw hI hg fun hL c hc => by
        rw [hone hL] at hc
        cases hc
        exact hv hL
      refine ⟨out', ?_, hI', fun hb => absurd (lt_of_eq_of_lt (Eq.symm hb) hg.1) (not_inf_lt _), fun t => ?_⟩
      · rw [List.reverse_cons, List.foldlM_append, ho]
        show [b].foldlM (pushSegB worse) out = _
        rw [List.foldlM_cons, ho']
        rfl
      · rw [List.reverse_cons, List.foldl_append, ← hs t, hs' t]
        rfl

end stack

theorem valAtA_stamps_none : ∀ (out : List (Seg α)) (t : Rat), Tm.fin t < hdlo out → valAtA (stamps out) t = none
  | [], _, _ => rfl
  | c :: tl, t, h => (InterAux.valAtA_cons_none c.lo c.v (stamps tl) t).2 h

theorem stamps_sorted : ∀ {out : List (Seg α)}, Chain out → Sorted (stamps out)
  | [], h => h.elim
  | [_], _ => by simp [Sorted, times, stamps]
  | c :: d :: r, h => by
    have ih : Sorted ((d.lo, d.v) :: stamps r) := stamps_sorted h.2.2
    have hcd : c.lo < d.lo := lt_of_lt_of_eq h.2.1 h.1
    exact (sorted_cons_iff c.lo c.v _).2
      ⟨List.forall_mem_cons.2 ⟨hcd, fun p hp => lt_trans hcd ((sorted_cons ih).1 p hp)⟩, ih⟩

/-- The function of the final `for` loop of `eventually_timed_operation`. -/
def outF (g : Seg α) : Option (Tm × α) :=
  if Tm.le g.lo Tm.zero && Tm.lt Tm.zero g.hi then some (Tm.zero, g.v)
  else if Tm.lt Tm.zero g.lo then some (g.lo, g.v)
  else none

theorem outF_zero {c : Seg α} (h1 : c.lo ≤ Tm.fin 0) (h2 : Tm.fin 0 < c.hi) : outF c = some (Tm.fin 0, c.v) := by
  simp only [outF, Tm.zero, (le_iff _ _).2 h1, (lt_iff _ _).2 h2, Bool.and_self, if_true]

theorem outF_pos {c : Seg α} (h1 : Tm.fin 0 < c.lo) : outF c = some (c.lo, c.v) := by
  simp only [outF, Tm.zero, (FwdAux.le_false_iff _ _).2 h1, (lt_iff _ _).2 h1, Bool.false_and, Bool.false_eq_true, if_false,
    if_true]

theorem outF_neg {c : Seg α} (h1 : c.lo ≤ Tm.fin 0) (h2 : c.hi ≤ Tm.fin 0) : outF c = none := by
  simp only [outF, Tm.zero, (FwdAux.lt_false_iff _ _).2 h1, (FwdAux.lt_false_iff _ _).2 h2, Bool.and_false, Bool.false_eq_true,
    if_false]

theorem filt_pos {c : Seg α} : ∀ {tl : List (Seg α)}, Chain (c :: tl) → Tm.fin 0 < c.hi →
    tl.filterMap outF = stamps tl
  | [], _, _ => rfl
  | d :: r, h, h0 => by
    have hd : Tm.fin 0 < d.lo := lt_of_lt_of_eq h0 h.1
    rw [List.filterMap_cons, outF_pos hd, filt_pos h.2.2 (lt_of_lt_of_le hd (chain_lo_le_hi h.2.2))]
    rfl

variable [LinearOrder α] [OrderBot α]

theorem stamps_val {out : List (Seg α)} (h : Chain out) {t : ℚ} (ht : hdlo out ≤ Tm.fin t) :
    valAtA (stamps out) t = some (segval out t) := by
  induction out with
  | nil => exact h.elim
  | cons c tl ih =>
    show valAtA ((c.lo, c.v) :: stamps tl) t = _
    rw [InterAux.valAtA_cons_of_le (τ := c.lo) ht]
    by_cases hc : Tm.fin t < c.hi
    · rw [valAtA_stamps_none tl t (lt_of_lt_of_eq hc (chain_hi h)), segval_cons_has tl ⟨ht, hc⟩]
      rfl
    · have hle : c.hi ≤ Tm.fin t := not_lt.1 hc
      rw [ih (chain_next h fun e => not_inf_le_fin t (e ▸ hle)).2 (le_of_eq_of_le (chain_hi h).symm hle),
        segval_cons_of_le c tl hle]
      rfl

/-- The final filter: the segment containing 0 is stamped 0, those before it are dropped. -/
theorem filt_spec {out : List (Seg α)} (h : Chain out) (hT : InfTail out) (h0 : hdlo out ≤ Tm.fin 0) :
    WFA (out.filterMap outF) 0 ∧ ∀ t, 0 ≤ t → valAtA (out.filterMap outF) t = some (segval out t) := by
  induction out with
  | nil => exact h.elim
  | cons c tl ih =>
    by_cases hpos : Tm.fin 0 < c.hi
    · have hM : Chain ((⟨Tm.fin 0, c.hi, c.v⟩ : Seg α) :: tl) := chain_head h rfl hpos
      have e : (c :: tl).filterMap outF = stamps ((⟨Tm.fin 0, c.hi, c.v⟩ : Seg α) :: tl) := by
        rw [List.filterMap_cons, outF_zero h0 hpos, filt_pos h hpos]
        rfl
      rw [e]
      refine ⟨⟨stamps_sorted hM, rfl, InterAux.infOK_of_infOKr (infTail_head hT rfl)⟩, fun t ht => ?_⟩
      have ht' : Tm.fin 0 ≤ Tm.fin t := (fin_le_fin _ _).2 ht
      rw [stamps_val hM ht', segval_cutB c tl h0 ht']
    · have hle : c.hi ≤ Tm.fin 0 := not_lt.1 hpos
      obtain ⟨w, hv⟩ := ih (chain_next h fun e => not_inf_le_fin 0 (e ▸ hle)).2 (infTail_tail hT)
        (le_of_eq_of_le (chain_hi h).symm hle)
      rw [List.filterMap_cons, outF_neg h0 hle]
      refine ⟨w, fun t ht => ?_⟩
      rw [hv t ht, segval_cons_of_le c tl (le_trans hle ((fin_le_fin _ _).2 ht))]

omit [OrderBot α] in
theorem foldl_stepF_reverse (t : ℚ) (B : List (Seg α)) (acc : α) :
    B.reverse.foldl (stepF t) acc = B.foldl (stepF t) acc :=
  eq_of_forall_ge_iff fun z => by rw [foldl_stepF_le_iff, foldl_stepF_le_iff]; simp only [List.mem_reverse]

end core

section segs
variable {α : Type}

theorem sub_eq_inf (τ : Tm) (q : Rat) : τ.sub q = Tm.inf ↔ τ = Tm.inf := by
  cases τ <;> simp [Tm.sub]

theorem hdlo_backSegs (a b : Rat) (τ : Tm) (v : α) (tl : ASig α) :
    hdlo (backSegs a b ((τ, v) :: tl)) = τ.sub b := by
  cases tl <;> rfl

theorem segsOKB_backSegs (a b : Rat) (hab : a ≤ b) : ∀ s : ASig α, s ≠ [] → Sorted s → InfOK s →
    SegsOKB (backSegs a b s) := by
  intro s
  induction s with
  | nil => intro h; exact absurd rfl h
  | cons p tl ih =>
    intro _ hs hio
    obtain ⟨τ, v⟩ := p
    cases tl with
    | nil => exact rfl
    | cons p' tl' =>
      obtain ⟨τ', v'⟩ := p'
      have hlt : τ < τ' := InterAux.sorted_head_lt hs
      have hs' := InterAux.sorted_tail hs
      have ih' := ih (by simp) hs' (InterAux.infOK_tail hio)
      have f1 : τ.sub b < τ'.sub b := sub_lt_sub hlt b
      have f2 : τ'.sub b ≤ τ'.sub a := sub_le_sub τ' hab
      have f4 : τ'.sub a = Tm.inf → τ'.sub b = Tm.inf := fun h => (sub_eq_inf _ _).2 ((sub_eq_inf _ _).1 h)
      have f5 : τ'.sub b = Tm.inf → v = v' := by
        intro h
        have hτ' : τ' = Tm.inf := (sub_eq_inf _ _).1 h
        subst hτ'
        cases tl' with
        | nil => exact hio [] (τ, v) v' rfl
        | cons p'' tl'' =>
          obtain ⟨τ'', v''⟩ := p''
          exact absurd (InterAux.sorted_head_lt hs') (not_inf_lt _)
      cases tl' with
      | nil => exact ⟨⟨f1, f2, le_inf _, f4⟩, f5, ih'⟩
      | cons p'' tl'' =>
        obtain ⟨τ'', v''⟩ := p''
        exact ⟨⟨f1, f2, le_of_lt (sub_lt_sub (InterAux.sorted_head_lt hs') a), f4⟩, f5, ih'⟩

end segs

section fold
variable {α : Type} [LinearOrder α] [OrderBot α] (worse : α → α → Bool) (hw : ∀ x y, worse x y = true ↔ x < y)
include hw

/-- The loops of `backTimed` on a well-formed input: no exception, and the result is well formed and takes the maximum over
    the segments containing `t` (the statement of `FwdAux.fwd_core` with `FwdAux.fwdTimed_assemble`, for the shift
    `(-b, -a)`). -/
theorem backTimed_fold {s : ASig α} (h : WFA s 0) (a b : ℚ) (ha : 0 ≤ a) (hab : a ≤ b) :
    ∃ out, backTimed worse s a b = .ok out ∧ WFA out 0 ∧
      ∀ t, 0 ≤ t → valAtA out t = some ((fwdSegs (-b) (-a) s).foldl (stepF t) ⊥) := by
  obtain ⟨v0, tl, rfl⟩ := InterAux.eq_cons_of_head h.start
  obtain ⟨out, ho, hI, _, hs⟩ := foldB_spec worse hw _ (segsOKB_backSegs a b hab _ (by simp) h.sorted h.infok)
  have hlo0 : hdlo out ≤ Tm.fin 0 := by
    rw [hI.lo, hdlo_backSegs]
    exact (fin_le_fin _ _).2 (by linarith)
  obtain ⟨hwf, hval⟩ := filt_spec hI.chain hI.tail hlo0
  refine ⟨_, by unfold backTimed; rw [ho]; rfl, hwf, fun t ht => ?_⟩
  rw [hval t ht, hs t, foldl_stepF_reverse, backSegs_eq]

end fold

end Rtamt.Dense.Alg.BackAux

namespace Rtamt.Dense.Alg
open Rtamt Val BackAux
variable {α : Type} [Val α] [LawfulVal α]

/-- `eventually_timed_operation` on an operand that starts at time 0: supremum over `[t+a, t+b]`. -/
theorem evTimed_spec {s : ASig α} {g : Rat → Option α} (h : Denotes s 0 g) (a b : Rat) (ha : 0 ≤ a) (hab : a ≤ b) :
    ∃ out, evTimed s a b = .ok out ∧ WFA out 0 ∧
      ∀ t, 0 ≤ t → ∃ v, valAtA out t = some v ∧ IsLUB (valuesOn g (t + a) (t + b)) v := by
  obtain ⟨out, ho, hwf, hv⟩ := backTimed_fold (ltW (α := α)) LawfulVal.lt_iff h.1 a b ha hab
  refine ⟨out, ho, hwf, fun t ht => ⟨_, hv t ht, ?_⟩⟩
  have := FwdAux.ideal_isLUB h (neg_le_neg hab) t
  rwa [sub_neg_eq_add, sub_neg_eq_add, max_eq_left (add_nonneg ht ha)] at this

/-- `always_timed_operation`: the same for the dual order. -/
theorem alwTimed_spec {s : ASig α} {g : Rat → Option α} (h : Denotes s 0 g) (a b : Rat) (ha : 0 ≤ a) (hab : a ≤ b) :
    ∃ out, alwTimed s a b = .ok out ∧ WFA out 0 ∧
      ∀ t, 0 ≤ t → ∃ v, valAtA out t = some v ∧ IsGLB (valuesOn g (t + a) (t + b)) v := by
  obtain ⟨out, ho, hwf, hv⟩ := backTimed_fold (α := αᵒᵈ) (gtW (α := α))
    (fun x y => LawfulVal.lt_iff (OrderDual.ofDual y) (OrderDual.ofDual x)) (s := s) h.1 a b ha hab
  refine ⟨out, ho, hwf, fun t ht => ⟨_, hv t ht, ?_⟩⟩
  have := FwdAux.ideal_isLUB (α := αᵒᵈ) (s := s) (g := g) h (neg_le_neg hab) t
  rwa [sub_neg_eq_add, sub_neg_eq_add, max_eq_left (add_nonneg ht ha)] at this

end Rtamt.Dense.Alg

