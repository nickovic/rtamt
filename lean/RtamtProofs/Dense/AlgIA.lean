/-
  C06 on the dense offline algorithm: the interface-aware (IA) robustness semantics.  The IA visitors override
  `visitPredicate`: an insensitive predicate evaluates to `+inf` / `-inf` by the satisfaction of the comparison
  (`predicateIA`, specified in `Dense/AlgPredicateIA.lean`; an entry of the table `alg2`).  On the formula with the
  insensitive predicates replaced (`iaT`, `Bin.predSat`) the mirror of the dense offline visitor returns the dense semantics
  of that formula: `evalAlg_claim` (`Dense/AlgMain.lean`) under `hcmp`.

  `hcmp` relates the satisfaction computed from the difference to the comparison of the operands (`Cmp.holds`): true of
  reals and of doubles unless `l - r` is NaN.
-/
import RtamtProofs.Dense.AlgMain
import Rtamt.Discrete.IA

namespace Rtamt.Dense.Alg
open Rtamt Val Rtamt.Dense
variable {α : Type} [Val α] [LawfulVal α]

/-- No vacuity form (`predZero`: its positions depend on the comparison operator, which the constructor does not carry). -/
def noVac : F α → Bool
  | .var _ => true
  | .const _ => true
  | .un _ φ => noVac φ
  | .bin op φ ψ => (match op with | .predZero => false | _ => true) && noVac φ && noVac ψ
  | .tmp1 _ φ => noVac φ
  | .tmp2 _ φ ψ => noVac φ && noVac ψ
  | .tb1 _ _ _ φ => noVac φ
  | .tb2 _ _ _ φ ψ => noVac φ && noVac ψ

namespace IAAux

omit [Val α] [LawfulVal α] in
theorem noVac_iaT (sem : Sem) (inputs : List String) (hsem : sem = .outRob ∨ sem = .inRob ∨ sem = .standard)
    (φ : F α) (hv : noVac φ = true) : noVac (iaT sem inputs φ) = true := by
  induction φ with
  | var x => rfl
  | const c => rfl
  | un op φ ih => simp only [noVac] at hv; simpa only [iaT, noVac] using ih hv
  | bin op φ ψ ih1 ih2 =>
    simp only [noVac, Bool.and_eq_true] at hv
    have i1 := ih1 hv.1.2
    have i2 := ih2 hv.2
    cases op with
    | pred c =>
      simp only [iaT]
      split_ifs with hins
      · rcases hsem with rfl | rfl | rfl
        · simp only [noVac, i1, i2, Bool.and_self]
        · simp only [noVac, i1, i2, Bool.and_self]
        · simp [insensitive] at hins
      · simp only [noVac, i1, i2, Bool.and_self]
    | predZero => exact absurd hv.1.1 (by simp)
    | _ => simp only [iaT, noVac, i1, i2, Bool.and_self]
  | tmp1 op φ ih => simp only [noVac] at hv; simpa only [iaT, noVac] using ih hv
  | tmp2 op φ ψ ih1 ih2 =>
    simp only [noVac, Bool.and_eq_true] at hv
    simp only [iaT, noVac, ih1 hv.1, ih2 hv.2, Bool.and_self]
  | tb1 op a b φ ih => simp only [noVac] at hv; simpa only [iaT, noVac] using ih hv
  | tb2 op a b φ ψ ih1 ih2 =>
    simp only [noVac, Bool.and_eq_true] at hv
    simp only [iaT, noVac, ih1 hv.1, ih2 hv.2, Bool.and_self]

end IAAux

set_option linter.unusedVariables false in  -- `hv` is not needed: `evalAlg` fails on `predZero`
/-- `evalAlg_denotes_partial` with insensitive predicates (`predSat`) allowed. -/
theorem evalAlg_denotes_ia_partial (cfg : DCfg) (hs : 0 ≤ cfg.scale) (w : DEnv α) (φ : F α)
    (hsup : supported φ = true) (hv : noVac φ = true) (hw : w.WF φ.vars) (h0 : StartsAt0 w φ.vars)
    (hsub : ∀ a b : α, Val.neg (Val.sub a b) = Val.sub b a)
    (hcmp : ∀ (c : Cmp) (a b : α), satOfDiff c (Val.sub a b) = c.holds a b)
    {s : ASig α} (he : evalAlg cfg w φ = .ok s) : Denotes s 0 (rhoD cfg w φ) :=
  ((evalAlg_claim cfg hs w (H := True) (fun _ => hsub) φ hsup hw h0 (.inr hcmp)).sound s he).imp_right (· trivial)

/-- C06, dense offline, robustness semantics: the algorithm on the transformed formula returns its dense semantics. -/
theorem C06_alg_dense_offline_partial (cfg : DCfg) (hs : 0 ≤ cfg.scale) (w : DEnv α) (sem : Sem) (inputs : List String)
    (φ : F α) (hsem : sem = .outRob ∨ sem = .inRob ∨ sem = .standard)
    (hsup : supported (iaT sem inputs φ) = true) (hv : noVac φ = true)
    (hw : w.WF (iaT sem inputs φ).vars) (h0 : StartsAt0 w (iaT sem inputs φ).vars)
    (hsub : ∀ a b : α, Val.neg (Val.sub a b) = Val.sub b a)
    (hcmp : ∀ (c : Cmp) (a b : α), satOfDiff c (Val.sub a b) = c.holds a b)
    {s : ASig α} (he : evalAlg cfg w (iaT sem inputs φ) = .ok s) :
    Denotes s 0 (rhoD cfg w (iaT sem inputs φ)) :=
  evalAlg_denotes_ia_partial cfg hs w (iaT sem inputs φ) hsup (IAAux.noVac_iaT sem inputs hsem φ hv)
    hw h0 hsub hcmp he

end Rtamt.Dense.Alg
