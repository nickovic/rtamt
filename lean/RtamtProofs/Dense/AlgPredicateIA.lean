/-
  The interface-aware `visitPredicate` on lists (`predicateIA`, `Rtamt/Dense/Alg.lean`): an insensitive predicate
  evaluates to `+inf` / `-inf` by the satisfaction of the comparison, computed from the difference `left - right`
  (`satOfDiff`), at the positions where the ROBUSTNESS value changes.  The list returned is the merge of the operands
  under subtraction with the output loop keyed by the robustness (`dedupGoK`; its lemmas are in `Dense/AlgInter.lean`)
  run over it; every value of the merged list is a difference (`mem_values_of_denotes`), and on differences equal
  robustness means equal satisfaction (`hkey`), so the loop drops only samples that repeat the satisfaction before them.

  `hcmp` relates the satisfaction computed from the difference to the comparison of the operands (`Cmp.holds`): true of
  reals and of doubles unless `l - r` is NaN; it gives `hkey` (`hkey_of_hcmp`).
-/
import RtamtProofs.Dense.AlgInter

namespace Rtamt.Dense.Alg
open Rtamt Val Rtamt.Dense
variable {α : Type} [Val α] [LawfulVal α]

namespace IAAux
open InterAux
attribute [local instance] InterAux.tmOrder
set_option linter.unusedSectionVars false

variable {β : Type}

omit [Val α] [LawfulVal α] in
theorem mem_values_of_denotes {s : ASig β} {d : Rat} {g : Rat → Option β} (h : Denotes s d g) (p : Tm × β)
    (hp : p ∈ s) : ∃ t, g t = some p.2 := by
  obtain ⟨⟨hs, hst, hi⟩, hval⟩ := h
  have fin_case : ∀ (τ : Rat) (v : β), (Tm.fin τ, v) ∈ s → ∃ t, g t = some v := by
    intro τ v hm
    have hd : d ≤ τ := (fin_le_fin _ _).1 (AlgOn.BasicAux.wfa_ge_start ⟨hs, hst, hi⟩ _ hm)
    exact ⟨τ, by rw [← hval τ hd]; exact AlgOn.BasicAux.valAtA_weak_at (AlgOn.BasicAux.weak_of_sorted hs) hm rfl⟩
  obtain ⟨τp, v⟩ := p
  cases τp with
  | fin τ => exact fin_case τ v hp
  | inf =>
    -- the sample stamped `inf` is the last one, and not the first: it repeats the sample before it
    obtain ⟨l1, l2, rfl⟩ := List.append_of_mem hp
    have hp' := (sorted_iff _).1 hs
    rw [times_append, times_cons, List.pairwise_append, List.pairwise_cons] at hp'
    have hl2 : l2 = [] := by
      cases l2 with
      | nil => rfl
      | cons b l2 => exact absurd (hp'.2.1.1 b.1 List.mem_cons_self) (not_lt.2 (le_inf _))
    subst hl2
    rcases List.eq_nil_or_concat l1 with rfl | ⟨init, a, rfl⟩
    · cases hst
    · obtain ⟨τa, va⟩ := a
      rw [List.concat_eq_append] at hi hp' fin_case
      cases hi init (τa, va) v (List.append_assoc _ _ _)
      cases τa with
      | fin τ => exact fin_case τ va (List.mem_append_left _ (List.mem_append_right _ List.mem_cons_self))
      | inf =>
        exact absurd (hp'.2.2 Tm.inf (List.mem_map_of_mem (List.mem_append_right _ List.mem_cons_self))
          Tm.inf List.mem_cons_self) (lt_irrefl _)

omit [LawfulVal α] in
theorem satOfDiff_eq_of_hcmp (hcmp : ∀ (c : Cmp) (a b : α), satOfDiff c (Val.sub a b) = c.holds a b) (a b : α) :
    satOfDiff .eq (Val.sub a b) = !Val.lt Val.zero (Val.abs (Val.sub a b)) := by
  have h1 := hcmp .eq a b
  have h2 := hcmp .ne a b
  simp only [Cmp.holds] at h1 h2
  have h3 : satOfDiff .ne (Val.sub a b) = Val.lt Val.zero (Val.abs (Val.sub a b)) := rfl
  rw [h1, ← h3, h2, Bool.not_or]

/-- `hcmp` gives: on differences, the robustness value determines the satisfaction. -/
theorem hkey_of_hcmp (hcmp : ∀ (c : Cmp) (a b : α), satOfDiff c (Val.sub a b) = c.holds a b) (c : Cmp)
    (a b a' b' : α) (h : cmpOfDiff c (Val.sub a b) = cmpOfDiff c (Val.sub a' b')) :
    satOfDiff c (Val.sub a b) = satOfDiff c (Val.sub a' b') := by
  have hneg : ∀ x y : α, Val.neg x = Val.neg y → x = y := by
    intro x y hxy
    rw [← LawfulVal.neg_neg x, hxy, LawfulVal.neg_neg]
  cases c with
  | eq =>
    simp only [cmpOfDiff] at h
    rw [satOfDiff_eq_of_hcmp hcmp, satOfDiff_eq_of_hcmp hcmp, hneg _ _ h]
  | ne =>
    simp only [cmpOfDiff] at h
    simp only [satOfDiff, h]
  | le => simp only [cmpOfDiff] at h; rw [hneg _ _ h]
  | lt => simp only [cmpOfDiff] at h; rw [hneg _ _ h]
  | ge => simp only [cmpOfDiff] at h; rw [h]
  | gt => simp only [cmpOfDiff] at h; rw [h]

end IAAux

section
open InterAux
attribute [local instance] InterAux.tmOrder

/-- The interface-aware `visitPredicate` for an insensitive predicate (robustness semantics).  `hkey`: on differences
    `l - r`, equal robustness values have equal satisfaction (the output loop is keyed by the robustness); it follows from
    `hcmp` (`IAAux.hkey_of_hcmp`), and is needed for `==` only (an arbitrary `Val.abs` may identify `0` with another
    difference). -/
theorem predicateIA_spec (c : Cmp) {l r : ASig α} {d1 d2 : Rat} {g1 g2 : Rat → Option α}
    (hkey : ∀ a b a' b' : α, cmpOfDiff c (Val.sub a b) = cmpOfDiff c (Val.sub a' b') →
      satOfDiff c (Val.sub a b) = satOfDiff c (Val.sub a' b'))
    (h1 : Denotes l d1 g1) (h2 : Denotes r d2 g2) :
    ∃ out, predicateIA c (fun b => if b then Val.pinf else Val.ninf) l r = .ok out ∧
      Denotes out (max d1 d2)
        (lift2 (fun a b => if satOfDiff c (Val.sub a b) then (Val.pinf : α) else Val.ninf) g1 g2) := by
  obtain ⟨dd, hd, hden⟩ := inter_denotes (fun a b : α => Val.sub a b) vne
    (fun a b => (vne_eq_false_iff a b).1) h1 h2
  let o : α → α := fun v => if satOfDiff c v then (Val.pinf : α) else Val.ninf
  let P : α → Prop := fun v => ∃ a b, v = Val.sub a b
  have hko : ∀ x y, P x → P y → cmpOfDiff c x = cmpOfDiff c y → o x = o y := by
    rintro x y ⟨a, b, rfl⟩ ⟨a', b', rfl⟩ hxy
    show (if _ then _ else _) = (if _ then _ else _)
    rw [hkey a b a' b' hxy]
  have hP : ∀ p ∈ dd, P p.2 := by
    intro p hp
    obtain ⟨t, ht⟩ := IAAux.mem_values_of_denotes hden p hp
    unfold lift2 at ht
    cases e1 : g1 t with
    | none => simp [e1] at ht
    | some a =>
      cases e2 : g2 t with
      | none => simp [e1, e2] at ht
      | some b =>
        simp only [e1, e2, Option.some.injEq] at ht
        exact ⟨a, b, ht.symm⟩
  have eout : predicateIA c (fun b => if b then Val.pinf else Val.ninf) l r =
      .ok ((dedupGoK (cmpOfDiff c) none dd).map (fun p => (p.1, o p.2))) := by
    unfold predicateIA
    rw [hd]
    show Except.ok _ = Except.ok _
    congr 1
    rw [IAAux.dedupGoK_map (fun x : α × Bool => x.1) (fun v => (cmpOfDiff c v, satOfDiff c v)), List.map_map]
    rfl
  refine ⟨_, eout, ?_⟩
  have hfull : Denotes (dd.map (fun p => (p.1, o p.2))) (max d1 d2)
      (lift2 (fun a b => if satOfDiff c (Val.sub a b) then (Val.pinf : α) else Val.ninf) g1 g2) := by
    refine denotes_congr (map_spec o hden) ?_
    intro t _
    unfold lift2
    cases g1 t <;> cases g2 t <;> rfl
  obtain ⟨⟨hs, hst, hi⟩, hval⟩ := hfull
  obtain ⟨⟨hsd, _, _⟩, _⟩ := hden
  cases dd with
  | nil => exact ⟨⟨hs, hst, hi⟩, hval⟩
  | cons a l' =>
    cases l' with
    | nil => exact ⟨⟨hs, hst, hi⟩, hval⟩
    | cons b l' =>
      obtain ⟨τ, v⟩ := a
      have hv : P v := hP (τ, v) (by simp)
      have hP' : ∀ p ∈ b :: l', P p.2 := fun p hp => hP p (List.mem_cons_of_mem _ hp)
      have e : dedupGoK (cmpOfDiff c) none ((τ, v) :: b :: l') =
          (τ, v) :: dedupGoK (cmpOfDiff c) (some (cmpOfDiff c v)) (b :: l') := by
        rw [IAAux.dedupGoK_cons2]; rfl
      rw [e]
      refine ⟨⟨?_, ?_, IAAux.dedupGoK_infOK (cmpOfDiff c) o P hko τ v hv _ hP' hi⟩, ?_⟩
      · have : (((τ, v) :: dedupGoK (cmpOfDiff c) (some (cmpOfDiff c v)) (b :: l')).map
            (fun p => (p.1, o p.2))).Sublist (((τ, v) :: b :: l').map (fun p => (p.1, o p.2))) :=
          ((IAAux.dedupGoK_sublist _ _ _).cons_cons _).map _
        exact List.Pairwise.sublist (this.map _) hs
      · exact hst
      · intro t ht
        have e1 : ∀ L : ASig α, valAtA (((τ, v) :: L).map (fun p => (p.1, o p.2))) t =
            if Tm.fin t < τ then none else some (o ((valAtA L t).getD v)) := by
          intro L
          rw [List.map_cons, valAtA_cons, valAtA_map, Option.getD_map]
        rw [← hval t ht, e1, e1, IAAux.dedupGoK_val (cmpOfDiff c) o P hko v hv _ (sorted_tail hsd) hP' t]

end

end Rtamt.Dense.Alg
