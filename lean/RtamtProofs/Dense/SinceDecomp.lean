/-
  Dense time: the decomposition the online monitor uses for bounded since, proved on the semantics `rhoD`:
  `φ since[a,b] ψ = once[a,b] ψ and historically[0,a] (φ since ψ)` at every time of the domain (signals starting at 0).

  The lattice identity is `Timed2Aux.since_core`; what is added here is the attainment of infima of a step function
  over a bounded window (`DecompAux.attain_step`: finitely many values) and the instantiation with the declarative
  clauses of `RtamtProofs/C04.lean`.
-/
import RtamtProofs.Dense.AlgMain

namespace Rtamt.Dense.Alg
open Rtamt Val Rtamt.Dense
variable {α : Type} [Val α] [LawfulVal α]

namespace DecompAux

/-- The values of a step function over a bounded window have a least element (there are finitely many of them:
    the value at the left end and the values at the break-points inside the window). -/
theorem attain_step {g : Rat → Option α} {B : List Rat} {lo hi : Rat}
    (hg : StepOn g B lo (some hi)) (hl : lo ≤ hi) : ∃ m, IsLeast (valuesOn g lo hi) m := by
  refine ScanAux.exists_least_of_subset_list ((winPts B lo (some hi)).filterMap g) _
    (fun y hy => winSet_subset_read hg hy) ?_
  obtain ⟨v, hv⟩ := Option.isSome_iff_exists.1 (hg.1 lo le_rfl hl)
  exact ⟨v, lo, le_rfl, hl, hv⟩

theorem attain_rhoD (cfg : DCfg) (hs : 0 ≤ cfg.scale) (w : DEnv α) (φ : F α) (hsup : supported φ = true)
    (hw : w.WF φ.vars) (hd : dom w φ = 0) (lo hi : Rat) (h0 : 0 ≤ lo) (hl : lo ≤ hi) :
    ∃ m, IsLeast (valuesOn (rhoD cfg w φ) lo hi) m :=
  attain_step ((rhoD_stepOn cfg hs w φ hsup hw).restrict (by rw [hd]; exact h0) (some hi)) hl

end DecompAux

open DecompAux

theorem rhoD_since_bounded_decomp (cfg : DCfg) (hs : 0 ≤ cfg.scale) (w : DEnv α) (φ ψ : F α) (a b : Nat) (hab : a ≤ b)
    (hsφ : supported φ = true) (hsψ : supported ψ = true)
    (hw : w.WF (φ.vars ++ ψ.vars)) (h0 : StartsAt0 w (φ.vars ++ ψ.vars)) (t : Rat) (ht : 0 ≤ t) :
    rhoD cfg w (.tb2 .since a b φ ψ) t =
      rhoD cfg w (.bin .and (.tb1 .once a b ψ) (.tb1 .hist 0 a (.tmp2 .since φ ψ))) t := by
  have hdφ : dom w φ = 0 := MainAux.dom_zero w φ (MainAux.startsAt0_left h0)
  have hdψ : dom w ψ = 0 := MainAux.dom_zero w ψ (MainAux.startsAt0_right h0)
  have hsS : supported (F.tmp2 T2.since φ ψ) = true := by
    simp only [supported, hsφ, hsψ, Bool.and_self]
  have hdS : dom w (F.tmp2 T2.since φ ψ) = 0 := MainAux.dom_zero w _ h0
  -- the clauses of the four nodes, over signals that start at 0
  have S := rhoD_since_sup cfg hs w φ ψ hsφ hsψ hw
  have SB := rhoD_sinceB_sup cfg hs w φ ψ hsφ hsψ hw a b hab
  rw [hdφ, hdψ, max_self] at S SB
  obtain ⟨v, ev, hv⟩ := SB t ht
  obtain ⟨O, eO, hO⟩ := rhoD_onceB_sup cfg hs w ψ hsψ hw.right a b hab t (hdψ.trans_le ht)
  obtain ⟨H, eH, hH⟩ := rhoD_histB_inf cfg hs w _ hsS hw 0 a (Nat.zero_le a) t (hdS.trans_le ht)
  rw [hdψ] at hO
  simp only [hdS, Nat.cast_zero, zero_mul, sub_zero] at hH
  rw [rhoD_bin, ev, eO, eH]
  show some v = some (pmin O H)
  rw [pmin_eq]
  exact congrArg some (hv.unique (Timed2Aux.since_core _ _ _ (attain_rhoD cfg hs w φ hsφ hw.left hdφ) S
    t _ _ (scale_bounds cfg hs hab).1 O H hO hH))

end Rtamt.Dense.Alg
