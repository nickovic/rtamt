/-
  Dense time: the executable semantics `rhoD` (Rtamt/Dense/Ref.lean) computes, for
  step-function inputs, the supremum / infimum semantics over closed windows.

  * `IsStep g B d`: `g` is undefined before `d`, defined from `d` on, and constant on every
    interval that contains no point of `B` in its interior-right part (right-continuous step
    function with break-points among `B`).
  * `foldWin_*`: on such a function the finite fold of `foldWin` over `{lo} ∪ (B ∩ (lo, hi])`
    is the least upper bound (greatest lower bound) of the values on the closed window.
  * `rhoD_stepOn`: from the start `dom` of its domain on, the robustness signal of every supported
    formula is again such a step function with break-points among `bps` — i.e. `bps` really is a
    superset of the break-points, which is what the bottom-up evaluator `sigOf` relies on.
    Before `dom` it need not be undefined (`rhoD_isStep_false_const`, `rhoD_isStep_false_var`);
    `rhoD_isStep_restricted` and `rhoD_isStep_partial` are the forms of `IsStep` that hold.
  * `evalAt_eq_rhoD_restricted`: the bottom-up evaluator is the point-wise definition
    restricted to `[dom, ∞)`.
-/
import RtamtProofs.Dense.StepEval

namespace Rtamt.Dense
open Rtamt Val

variable {α : Type} [Val α]

/-- `g` is a right-continuous step function on `[d, ∞)` with break-points among `B`. -/
def IsStep (g : Rat → Option α) (B : List Rat) (d : Rat) : Prop :=
  (∀ t, t < d → g t = none) ∧ (∀ t, d ≤ t → (g t).isSome = true) ∧
  (∀ t t', d ≤ t → t ≤ t' → (∀ b ∈ B, ¬ (t < b ∧ b ≤ t')) → g t' = g t)

/-- Dense-time operators only (no prev/next/rise/fall, no precedes), intervals well formed. -/
def supported : F α → Bool
  | .var _ => true
  | .const _ => true
  | .un _ φ => supported φ
  | .bin _ φ ψ => supported φ && supported ψ
  | .tmp1 op φ => (match op with | .once | .hist | .ev | .alw => true | _ => false) && supported φ
  | .tmp2 _ φ ψ => supported φ && supported ψ
  | .tb1 _ a b φ => decide (a ≤ b) && supported φ
  | .tb2 op a b φ ψ => (match op with | .precedes => false | _ => true) && decide (a ≤ b) && supported φ && supported ψ

def DEnv.WF (w : DEnv α) (xs : List String) : Prop :=
  ∀ x ∈ xs, w.sig x ≠ [] ∧ (w.sig x).times.Pairwise (· < ·)

omit [Val α] in
theorem DEnv.WF.left {w : DEnv α} {xs ys : List String} (h : w.WF (xs ++ ys)) : w.WF xs :=
  fun x hx => h x (List.mem_append_left _ hx)

omit [Val α] in
theorem DEnv.WF.right {w : DEnv α} {xs ys : List String} (h : w.WF (xs ++ ys)) : w.WF ys :=
  fun x hx => h x (List.mem_append_right _ hx)

omit [Val α] in
theorem supported_bin {op : Bin} {φ ψ : F α} (h : supported (.bin op φ ψ) = true) :
    supported φ = true ∧ supported ψ = true := Bool.and_eq_true_iff.1 h

omit [Val α] in
theorem supported_tmp2 {op : T2} {φ ψ : F α} (h : supported (.tmp2 op φ ψ) = true) :
    supported φ = true ∧ supported ψ = true := Bool.and_eq_true_iff.1 h

omit [Val α] in
theorem supported_tb1 {op : TB1} {a b : Nat} {φ : F α} (h : supported (.tb1 op a b φ) = true) :
    a ≤ b ∧ supported φ = true :=
  ⟨of_decide_eq_true (Bool.and_eq_true_iff.1 h).1, (Bool.and_eq_true_iff.1 h).2⟩

omit [Val α] in
theorem supported_tb2 {op : TB2} {a b : Nat} {φ ψ : F α} (h : supported (.tb2 op a b φ ψ) = true) :
    op ≠ .precedes ∧ a ≤ b ∧ supported φ = true ∧ supported ψ = true := by
  obtain ⟨h3, hψ⟩ := Bool.and_eq_true_iff.1 h
  obtain ⟨h2, hφ⟩ := Bool.and_eq_true_iff.1 h3
  obtain ⟨hop, hab⟩ := Bool.and_eq_true_iff.1 h2
  exact ⟨fun e => by subst e; exact Bool.false_ne_true hop, of_decide_eq_true hab, hφ, hψ⟩

/-! Every temporal node is `none` before the start of its domain; from there on it is a `foldWin`
of the operand (for `since`/`until`, of `sinceInner`/`untilInner`). -/

theorem rhoD_un (cfg : DCfg) (w : DEnv α) (op : Un) (p : F α) (t : Rat) :
    rhoD cfg w (.un op p) t = (rhoD cfg w p t).map op.app := rfl

theorem rhoD_not (cfg : DCfg) (w : DEnv α) (p : F α) :
    rhoD cfg w (.un .not p) = fun t => (rhoD cfg w p t).map Val.neg := rfl

theorem rhoD_bin (cfg : DCfg) (w : DEnv α) (op : Bin) (p q : F α) (t : Rat) :
    rhoD cfg w (.bin op p q) t = (do
      let l ← rhoD cfg w p t
      let r ← rhoD cfg w q t
      pure (op.app l r)) := rfl

theorem rhoD_tmp1_once (cfg : DCfg) (w : DEnv α) (p : F α) (t : Rat) :
    rhoD cfg w (.tmp1 .once p) t = if t < dom w p then none else
      foldWin pmax ninf (rhoD cfg w p) (bps cfg w p) (dom w p) (some t) := rfl

theorem rhoD_tmp1_hist (cfg : DCfg) (w : DEnv α) (p : F α) (t : Rat) :
    rhoD cfg w (.tmp1 .hist p) t = if t < dom w p then none else
      foldWin pmin pinf (rhoD cfg w p) (bps cfg w p) (dom w p) (some t) := rfl

theorem rhoD_tmp1_ev (cfg : DCfg) (w : DEnv α) (p : F α) (t : Rat) :
    rhoD cfg w (.tmp1 .ev p) t = if t < dom w p then none else
      foldWin pmax ninf (rhoD cfg w p) (bps cfg w p) t none := rfl

theorem rhoD_tmp1_alw (cfg : DCfg) (w : DEnv α) (p : F α) (t : Rat) :
    rhoD cfg w (.tmp1 .alw p) t = if t < dom w p then none else
      foldWin pmin pinf (rhoD cfg w p) (bps cfg w p) t none := rfl

theorem rhoD_tb1_once (cfg : DCfg) (w : DEnv α) (a b : Nat) (p : F α) (t : Rat) :
    rhoD cfg w (.tb1 .once a b p) t = if t < dom w p then none else
      if t - (a : Rat) * cfg.scale < dom w p then some ninf else
      foldWin pmax ninf (rhoD cfg w p) (bps cfg w p) (max (t - (b : Rat) * cfg.scale) (dom w p))
        (some (t - (a : Rat) * cfg.scale)) := rfl

theorem rhoD_tb1_hist (cfg : DCfg) (w : DEnv α) (a b : Nat) (p : F α) (t : Rat) :
    rhoD cfg w (.tb1 .hist a b p) t = if t < dom w p then none else
      if t - (a : Rat) * cfg.scale < dom w p then some pinf else
      foldWin pmin pinf (rhoD cfg w p) (bps cfg w p) (max (t - (b : Rat) * cfg.scale) (dom w p))
        (some (t - (a : Rat) * cfg.scale)) := rfl

theorem rhoD_tb1_ev (cfg : DCfg) (w : DEnv α) (a b : Nat) (p : F α) (t : Rat) :
    rhoD cfg w (.tb1 .ev a b p) t = if t < dom w p then none else
      foldWin pmax ninf (rhoD cfg w p) (bps cfg w p) (t + (a : Rat) * cfg.scale)
        (some (t + (b : Rat) * cfg.scale)) := rfl

theorem rhoD_tb1_alw (cfg : DCfg) (w : DEnv α) (a b : Nat) (p : F α) (t : Rat) :
    rhoD cfg w (.tb1 .alw a b p) t = if t < dom w p then none else
      foldWin pmin pinf (rhoD cfg w p) (bps cfg w p) (t + (a : Rat) * cfg.scale)
        (some (t + (b : Rat) * cfg.scale)) := rfl

theorem rhoD_since (cfg : DCfg) (w : DEnv α) (p q : F α) (t : Rat) :
    rhoD cfg w (.tmp2 .since p q) t = if t < max (dom w p) (dom w q) then none else
      foldWin pmax ninf (sinceInner (rhoD cfg w p) (rhoD cfg w q) (bps cfg w p) t)
        (bps cfg w p ++ bps cfg w q) (max (dom w p) (dom w q)) (some t) := rfl

theorem rhoD_until (cfg : DCfg) (w : DEnv α) (p q : F α) (t : Rat) :
    rhoD cfg w (.tmp2 .until p q) t = if t < max (dom w p) (dom w q) then none else
      foldWin pmax ninf (untilInner (rhoD cfg w p) (rhoD cfg w q) (bps cfg w p) t)
        (bps cfg w p ++ bps cfg w q) t none := rfl

theorem rhoD_tb2_since (cfg : DCfg) (w : DEnv α) (a b : Nat) (p q : F α) (t : Rat) :
    rhoD cfg w (.tb2 .since a b p q) t = if t < max (dom w p) (dom w q) then none else
      if t - (a : Rat) * cfg.scale < max (dom w p) (dom w q) then some ninf else
      foldWin pmax ninf (sinceInner (rhoD cfg w p) (rhoD cfg w q) (bps cfg w p) t)
        (bps cfg w p ++ bps cfg w q)
        (max (t - (b : Rat) * cfg.scale) (max (dom w p) (dom w q)))
        (some (t - (a : Rat) * cfg.scale)) := rfl

theorem rhoD_tb2_until (cfg : DCfg) (w : DEnv α) (a b : Nat) (p q : F α) (t : Rat) :
    rhoD cfg w (.tb2 .until a b p q) t = if t < max (dom w p) (dom w q) then none else
      foldWin pmax ninf (untilInner (rhoD cfg w p) (rhoD cfg w q) (bps cfg w p) t)
        (bps cfg w p ++ bps cfg w q) (t + (a : Rat) * cfg.scale)
        (some (t + (b : Rat) * cfg.scale)) := rfl

omit [Val α] in
theorem bps_un (cfg : DCfg) (w : DEnv α) (op : Un) (p : F α) :
    bps cfg w (.un op p) = bps cfg w p := rfl

omit [Val α] in
theorem IsStep.stepOn {g : Rat → Option α} {B : List Rat} {d : Rat} (h : IsStep g B d) :
    StepOn g B d none :=
  ⟨fun t h1 _ => h.2.1 t h1, fun t t' h1 h2 _ h4 => h.2.2 t t' h1 h2 h4⟩

omit [Val α] in
theorem StepOn.isStep {g : Rat → Option α} {B : List Rat} {d : Rat} (h : StepOn g B d none)
    (h0 : ∀ t, t < d → g t = none) : IsStep g B d :=
  ⟨h0, fun t h1 => h.1 t h1 trivial, fun t t' h1 h2 h4 => h.2 t t' h1 h2 trivial h4⟩

omit [Val α] in
theorem winSet_none_eq (g : Rat → Option α) (lo : Rat) :
    winSet g lo none = {y | ∃ t, lo ≤ t ∧ g t = some y} := by
  ext y; simp [winSet, leHi]

variable [LawfulVal α]

set_option linter.unusedSectionVars false in
set_option linter.unusedVariables false in  -- `hs` is not needed by the proof
theorem valAt_isStep (s : DSig α) (hne : s ≠ []) (hs : s.times.Pairwise (· < ·)) :
    IsStep s.valAt s.times (s.times.head?.getD 0) :=
  (valAt_step s hne).isStep fun _ => valAt_none_of_lt_head s

/-- Closed bounded window: the fold is the least upper bound of the values on `[lo, hi]`
    (`foldWin_max_spec` for an `IsStep` function, with the window set written out). -/
theorem foldWin_max_isLUB (g : Rat → Option α) (B : List Rat) (d lo hi : Rat)
    (hg : IsStep g B d) (hlo : d ≤ lo) (hle : lo ≤ hi) :
    ∃ v, foldWin pmax ninf g B lo (some hi) = some v ∧
      IsLUB {y | ∃ t, lo ≤ t ∧ t ≤ hi ∧ g t = some y} v :=
  foldWin_max_spec (hg.stepOn.restrict hlo (some hi)) hle

theorem foldWin_min_isGLB (g : Rat → Option α) (B : List Rat) (d lo hi : Rat)
    (hg : IsStep g B d) (hlo : d ≤ lo) (hle : lo ≤ hi) :
    ∃ v, foldWin pmin pinf g B lo (some hi) = some v ∧
      IsGLB {y | ∃ t, lo ≤ t ∧ t ≤ hi ∧ g t = some y} v :=
  foldWin_min_spec (hg.stepOn.restrict hlo (some hi)) hle

/-- Unbounded window `[lo, ∞)` (last value held). -/
theorem foldWin_max_isLUB_unbounded (g : Rat → Option α) (B : List Rat) (d lo : Rat)
    (hg : IsStep g B d) (hlo : d ≤ lo) :
    ∃ v, foldWin pmax ninf g B lo none = some v ∧
      IsLUB {y | ∃ t, lo ≤ t ∧ g t = some y} v := by
  rw [← winSet_none_eq]
  exact foldWin_max_spec (hg.stepOn.mono_lo hlo) trivial

theorem foldWin_min_isGLB_unbounded (g : Rat → Option α) (B : List Rat) (d lo : Rat)
    (hg : IsStep g B d) (hlo : d ≤ lo) :
    ∃ v, foldWin pmin pinf g B lo none = some v ∧
      IsGLB {y | ∃ t, lo ≤ t ∧ g t = some y} v := by
  rw [← winSet_none_eq]
  exact foldWin_min_spec (hg.stepOn.mono_lo hlo) trivial

omit [Val α] [LawfulVal α] in
theorem scale_bounds (cfg : DCfg) (hs : 0 ≤ cfg.scale) {a b : Nat} (hab : a ≤ b) :
    (0 : Rat) ≤ (a : Rat) * cfg.scale ∧ (a : Rat) * cfg.scale ≤ (b : Rat) * cfg.scale :=
  ⟨mul_nonneg (Nat.cast_nonneg a) hs, mul_le_mul_of_nonneg_right (Nat.cast_le.2 hab) hs⟩

/-- The part of `IsStep (rhoD cfg w φ) (bps cfg w φ) (dom w φ)` that holds for every supported
    formula: `rhoD φ` is defined on `[dom, ∞)` and is constant between consecutive candidates of
    `bps` there. -/
theorem rhoD_stepOn (cfg : DCfg) (hs : 0 ≤ cfg.scale) (w : DEnv α) (φ : F α)
    (hsup : supported φ = true) (hw : w.WF φ.vars) :
    StepOn (rhoD cfg w φ) (bps cfg w φ) (dom w φ) none := by
  induction φ with
  | var x =>
    obtain ⟨hne, _⟩ := hw x (List.mem_singleton_self x)
    exact (valAt_step (w.sig x) hne).mono_lo (by rw [dom_var]; exact le_max_right _ _)
  | const c => exact ⟨fun _ _ _ => rfl, fun _ _ _ _ _ _ => rfl⟩
  | un op φ ih => exact stepOn_un op.app (ih hsup hw)
  | bin op φ ψ ihφ ihψ =>
    obtain ⟨hφ, hψ⟩ := supported_bin hsup
    rw [dom_bin]
    exact stepOn_bin op.app (ihφ hφ hw.left) (ihψ hψ hw.right)
  | tmp1 op φ ih =>
    have hφ : supported φ = true := (Bool.and_eq_true_iff.1 hsup).2
    cases op
    case once => exact stepOn_past winOp_max (ih hφ hw)
    case hist => exact stepOn_past winOp_min (ih hφ hw)
    case ev => exact stepOn_future winOp_max (ih hφ hw)
    case alw => exact stepOn_future winOp_min (ih hφ hw)
    all_goals exact absurd (Bool.and_eq_true_iff.1 hsup).1 Bool.false_ne_true
  | tmp2 op φ ψ ihφ ihψ =>
    obtain ⟨hφ, hψ⟩ := supported_tmp2 hsup
    rw [dom_tmp2]
    cases op
    · exact stepOn_since (ihφ hφ hw.left) (ihψ hψ hw.right)
    · exact stepOn_until (ihφ hφ hw.left) (ihψ hψ hw.right)
  | tb1 op a b φ ih =>
    obtain ⟨hab, hφ⟩ := supported_tb1 hsup
    obtain ⟨ha', hab'⟩ := scale_bounds cfg hs hab
    have hg := ih hφ hw
    cases op
    · exact stepOn_tb_past winOp_max hg ha' hab' (List.subset_append_left _ _)
    · exact stepOn_tb_past winOp_min hg ha' hab' (List.subset_append_left _ _)
    · exact stepOn_tb_future winOp_max hg ha' hab' (List.subset_append_left _ _)
    · exact stepOn_tb_future winOp_min hg ha' hab' (List.subset_append_left _ _)
  | tb2 op a b φ ψ ihφ ihψ =>
    obtain ⟨hop, hab, hφ, hψ⟩ := supported_tb2 hsup
    obtain ⟨ha', hab'⟩ := scale_bounds cfg hs hab
    rw [dom_tb2]
    cases op
    · exact stepOn_tb_since (ihφ hφ hw.left) (ihψ hψ hw.right) ha' hab' (List.Subset.refl _)
    · exact stepOn_tb_until (ihφ hφ hw.left) (ihψ hψ hw.right) ha' hab' (List.Subset.refl _)
    · exact absurd rfl hop

theorem rhoD_isStep_restricted (cfg : DCfg) (hs : 0 ≤ cfg.scale) (w : DEnv α) (φ : F α)
    (hsup : supported φ = true) (hw : w.WF φ.vars) :
    IsStep (fun t => if t < dom w φ then none else rhoD cfg w φ t) (bps cfg w φ) (dom w φ) := by
  refine StepOn.isStep ?_ (fun t ht => if_pos ht)
  exact (rhoD_stepOn cfg hs w φ hsup hw).congr (fun s h _ => if_neg (not_lt.2 h))

/-! #### The first clause of `IsStep` (`rhoD φ t = none` for `t < dom w φ`)

It fails for formulas that are point-wise combinations of constants only (`rhoD (.const c)` is
defined everywhere, `dom = 0`) and for variables whose first time stamp is negative
(`dom = max 0 τ0`).  It holds for `guarded` formulas over signals starting at `τ0 ≥ 0`. -/

/-- Not a point-wise combination of constants only. -/
def guarded : F α → Bool
  | .var _ => true
  | .const _ => false
  | .un _ φ => guarded φ
  | .bin _ φ ψ => guarded φ || guarded ψ
  | .tmp1 _ _ => true
  | .tmp2 _ _ _ => true
  | .tb1 _ _ _ _ => true
  | .tb2 _ _ _ _ _ => true

def DEnv.NonnegStart (w : DEnv α) (xs : List String) : Prop :=
  ∀ x ∈ xs, 0 ≤ ((w.sig x).times.head?).getD 0

omit [Val α] [LawfulVal α] in
theorem dom_of_not_guarded (w : DEnv α) {φ : F α} (h : guarded φ = false) : dom w φ = 0 := by
  induction φ with
  | const c => exact dom_of_vars_nil w rfl
  | un op φ ih => exact ih h
  | bin op φ ψ ihφ ihψ =>
    obtain ⟨hφ, hψ⟩ := Bool.or_eq_false_iff.1 h
    rw [dom_bin, ihφ hφ, ihψ hψ, max_self]
  | _ => exact Bool.noConfusion h

omit [LawfulVal α] in
theorem rhoD_none_before (cfg : DCfg) (w : DEnv α) (φ : F α) (hpos : w.NonnegStart φ.vars)
    (hg : guarded φ = true) {t : Rat} (ht : t < dom w φ) : rhoD cfg w φ t = none := by
  induction φ with
  | var x =>
    rw [dom_var, max_eq_right (hpos x (List.mem_singleton_self x))] at ht
    exact valAt_none_of_lt_head _ ht
  | const c => exact Bool.noConfusion hg
  | un op φ ih => rw [rhoD_un, ih hpos hg ht]; rfl
  | bin op φ ψ ihφ ihψ =>
    rw [dom_bin] at ht
    have hφ := ihφ fun x hx => hpos x (List.mem_append_left _ hx)
    have hψ := ihψ fun x hx => hpos x (List.mem_append_right _ hx)
    -- an operand that is not guarded has `dom = 0`, which is at most the `dom` of the other one
    have hn : rhoD cfg w φ t = none ∨ rhoD cfg w ψ t = none := by
      cases hgφ : guarded φ <;> cases hgψ : guarded ψ
      · exact absurd (show (guarded φ || guarded ψ) = true from hg)
          (by rw [hgφ, hgψ]; exact Bool.false_ne_true)
      · rw [dom_of_not_guarded w hgφ, max_eq_right (dom_nonneg w ψ)] at ht
        exact Or.inr (hψ hgψ ht)
      · rw [dom_of_not_guarded w hgψ, max_eq_left (dom_nonneg w φ)] at ht
        exact Or.inl (hφ hgφ ht)
      · exact (lt_max_iff.1 ht).imp (hφ hgφ) (hψ hgψ)
    rw [rhoD_bin]
    rcases hn with e | e
    · rw [e]; rfl
    · rw [e]; cases rhoD cfg w φ t <;> rfl
  | tmp1 op φ _ => exact if_pos (c := t < dom w φ) ht
  | tmp2 op φ ψ _ _ => rw [dom_tmp2] at ht; exact if_pos ht
  | tb1 op a b φ _ => exact if_pos (c := t < dom w φ) ht
  | tb2 op a b φ ψ _ _ => rw [dom_tb2] at ht; exact if_pos ht

/-- `IsStep` of `rhoD φ` itself, under the two extra hypotheses that make its first clause true:
    the formula is not a constant expression, and no input signal starts before time 0. -/
theorem rhoD_isStep_partial (cfg : DCfg) (hs : 0 ≤ cfg.scale) (w : DEnv α) (φ : F α)
    (hsup : supported φ = true) (hw : w.WF φ.vars)
    (hguard : guarded φ = true) (hpos : w.NonnegStart φ.vars) :
    IsStep (rhoD cfg w φ) (bps cfg w φ) (dom w φ) :=
  (rhoD_stepOn cfg hs w φ hsup hw).isStep fun _ => rhoD_none_before cfg w φ hpos hguard

omit [LawfulVal α] in
/-- Without `guarded`, `IsStep (rhoD …)` fails: a constant (`supported`, `WF` vacuous) is defined
    before `dom = 0`. -/
theorem rhoD_isStep_false_const (cfg : DCfg) (w : DEnv α) (c : α) :
    supported (F.const c) = true ∧ w.WF (F.const c).vars ∧
      ¬ IsStep (rhoD cfg w (.const c)) (bps cfg w (.const c)) (dom w (.const c)) := by
  refine ⟨rfl, fun x hx => by simp [F.vars] at hx, fun h => ?_⟩
  have h1 := h.1 (-1) (by rw [dom_of_vars_nil w (φ := F.const c) rfl]; norm_num)
  simp [rhoD] at h1

omit [LawfulVal α] in
/-- Without `NonnegStart`, `IsStep (rhoD …)` fails: a variable whose signal starts at `-2` has
    `dom = max 0 (-2) = 0` but is defined at `-1`. -/
theorem rhoD_isStep_false_var (cfg : DCfg) (v : α) :
    (DEnv.WF [("x", [((-2 : Rat), v)])] (F.var "x" : F α).vars) ∧
      ¬ IsStep (rhoD cfg [("x", [((-2 : Rat), v)])] (F.var "x" : F α))
        (bps cfg [("x", [((-2 : Rat), v)])] (F.var "x" : F α))
        (dom [("x", [((-2 : Rat), v)])] (F.var "x" : F α)) := by
  have hsig : DEnv.sig [("x", [((-2 : Rat), v)])] "x" = [((-2 : Rat), v)] := by
    simp [DEnv.sig, List.lookup]
  refine ⟨fun x hx => ?_, fun h => ?_⟩
  · simp only [F.vars, List.mem_singleton] at hx
    subst hx
    rw [hsig]
    exact ⟨by simp, by simp [DSig.times]⟩
  · have hd : dom [("x", [((-2 : Rat), v)])] (F.var "x" : F α) = 0 := by
      rw [dom_var, hsig]
      simp [DSig.times]
    have h1 := h.1 (-1) (by rw [hd]; norm_num)
    simp only [rhoD, hsig, valAt_cons] at h1
    rw [if_neg (by norm_num)] at h1
    simp at h1

theorem asFun_sigOf_eq_rhoD (cfg : DCfg) (hs : 0 ≤ cfg.scale) (w : DEnv α) (φ : F α)
    (hsup : supported φ = true) (hw : w.WF φ.vars) :
    ∀ t, dom w φ ≤ t → asFun φ (sigOf cfg w φ) t = rhoD cfg w φ t := by
  induction φ with
  | var x => intro t _; rfl
  | const c => intro t _; rfl
  | un op φ ih =>
    exact valAt_sample_eq_rhoD (rhoD_stepOn cfg hs w _ hsup hw) fun _ => opAt_un (ih hsup hw)
  | bin op φ ψ ihφ ihψ =>
    obtain ⟨hφ, hψ⟩ := supported_bin hsup
    exact valAt_sample_eq_rhoD (rhoD_stepOn cfg hs w _ hsup hw) fun _ =>
      opAt_bin (ihφ hφ hw.left) (ihψ hψ hw.right)
  | tmp1 op φ ih =>
    exact valAt_sample_eq_rhoD (rhoD_stepOn cfg hs w _ hsup hw) fun _ =>
      opAt_tmp1 (ih (Bool.and_eq_true_iff.1 hsup).2 hw)
  | tmp2 op φ ψ ihφ ihψ =>
    obtain ⟨hφ, hψ⟩ := supported_tmp2 hsup
    exact valAt_sample_eq_rhoD (rhoD_stepOn cfg hs w _ hsup hw) fun _ =>
      opAt_tmp2 (ihφ hφ hw.left) (ihψ hψ hw.right)
  | tb1 op a b φ ih =>
    exact valAt_sample_eq_rhoD (rhoD_stepOn cfg hs w _ hsup hw) fun _ =>
      opAt_tb1 hs (ih (supported_tb1 hsup).2 hw)
  | tb2 op a b φ ψ ihφ ihψ =>
    obtain ⟨_, _, hφ, hψ⟩ := supported_tb2 hsup
    exact valAt_sample_eq_rhoD (rhoD_stepOn cfg hs w _ hsup hw) fun _ =>
      opAt_tb2 hs (ihφ hφ hw.left) (ihψ hψ hw.right)

theorem evalAt_eq_rhoD_partial (cfg : DCfg) (hs : 0 ≤ cfg.scale) (w : DEnv α) (φ : F α)
    (hsup : supported φ = true) (hw : w.WF φ.vars) (t : Rat) (ht : dom w φ ≤ t) :
    evalAt cfg w φ t = rhoD cfg w φ t := by
  unfold evalAt
  rw [if_neg (not_lt.2 ht)]
  exact asFun_sigOf_eq_rhoD cfg hs w φ hsup hw t ht

theorem evalAt_eq_rhoD_restricted (cfg : DCfg) (hs : 0 ≤ cfg.scale) (w : DEnv α) (φ : F α)
    (hsup : supported φ = true) (hw : w.WF φ.vars) (t : Rat) :
    evalAt cfg w φ t = if t < dom w φ then none else rhoD cfg w φ t := by
  by_cases ht : t < dom w φ
  · unfold evalAt; rw [if_pos ht, if_pos ht]
  · rw [if_neg ht]; exact evalAt_eq_rhoD_partial cfg hs w φ hsup hw t (not_lt.1 ht)

/-- `evalAt = rhoD` at every time, for guarded formulas over signals that start at `≥ 0`. -/
theorem evalAt_eq_rhoD_partial' (cfg : DCfg) (hs : 0 ≤ cfg.scale) (w : DEnv α) (φ : F α)
    (hsup : supported φ = true) (hw : w.WF φ.vars)
    (hguard : guarded φ = true) (hpos : w.NonnegStart φ.vars) (t : Rat) :
    evalAt cfg w φ t = rhoD cfg w φ t := by
  rw [evalAt_eq_rhoD_restricted cfg hs w φ hsup hw t]
  split
  · rename_i ht; exact (rhoD_none_before cfg w φ hpos hguard ht).symm
  · rfl

omit [LawfulVal α] in
/-- Outside the domain `evalAt` and `rhoD` differ: a constant at a negative time. -/
theorem evalAt_ne_rhoD_const (cfg : DCfg) (w : DEnv α) (c : α) :
    evalAt cfg w (.const c) (-1) ≠ rhoD cfg w (.const c) (-1) := by
  have hd : dom w (F.const c) = 0 := dom_of_vars_nil w rfl
  unfold evalAt
  rw [hd, if_pos (by norm_num)]
  simp [rhoD]

end Rtamt.Dense
