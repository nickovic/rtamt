/-
  The run of the dense-time online monitor (`runOn`, `Rtamt/Dense/AlgOn.lean`) by the shape of the formula.  A leaf returns
  its batches as they come (`runOn_var`) or the signal of the constant once (`runOn_const`).  At an operator node the own
  state is an operation with a state type of its own (`σ`, `step`) sitting in `NSt` through an embedding on which
  `nodeStepOn` is `step`; the run of the tree of the node is then the runs of the operand trees followed by `runUn step` /
  `runBin step` over what they return (`go_op1`, `go_op2`).  What is claimed of the run of a formula (`ClaimQ`, an
  `Exc.Claim`: the lists it returns have `Q`, and without partial operations it raises nothing) therefore passes from the
  operands to the node as soon as the run of the operation alone satisfies the corresponding `Claim` (`claim_node1`,
  `claim_node2`).
-/
import RtamtProofs.Dense.OnTree
import RtamtProofs.Dense.OnBasic
import RtamtProofs.Dense.AlgMain

namespace Rtamt.Dense.AlgOn.MainAux
open Rtamt Val Rtamt.Dense.Alg Rtamt.Dense.ProgramOn Rtamt.Dense.C09Dense BasicAux
open Rtamt.Exc (bind_eq_ok pure_eq_ok Claim)

variable {α : Type}

variable [Val α] (cfg : DCfg)

theorem runOn_var (x : String) (bs : List (String → ASig α)) :
    runOn cfg (.var x) bs = .ok (bs.map fun b => b x) := by
  have go : ∀ bs : List (String → ASig α), runOn.go cfg (.var x) .leaf bs = .ok (bs.map fun b => b x) := by
    intro bs
    induction bs with
    | nil => rfl
    | cons b bs ih => simp only [runOn.go, stepOn, ih, Exc.ok_bind]; rfl
  exact (runOn_iff cfg _ bs _).2 ⟨.leaf, rfl, go bs⟩

/-- A constant node hands its signal over at the first update only. -/
theorem runOn_const (c : α) (bs : List (String → ASig α)) :
    runOn cfg (.const c) bs = .ok (constStream c bs.length) := by
  have sent : ∀ bs : List (String → ASig α),
      runOn.go cfg (.const c) (.cst true) bs = .ok (List.replicate bs.length []) := by
    intro bs
    induction bs with
    | nil => rfl
    | cons b bs ih => simp only [runOn.go, stepOn, ih, Exc.ok_bind, if_true]; rfl
  refine (runOn_iff cfg _ bs _).2 ⟨.cst false, rfl, ?_⟩
  cases bs with
  | nil => rfl
  | cons b bs => simp only [runOn.go, stepOn, sent, Exc.ok_bind]; rfl

section node1
variable {χ φ : F α} (hn : Node1 χ φ) {σ : Type} (emb : σ → NSt α) (step : σ → ASig α → Except PyErr (σ × ASig α))
  (hstep : ∀ s B, nodeStepOn cfg χ (emb s) [B] = (step s B).map fun p => (emb p.1, p.2))
include hn hstep

/-- The run of the tree of a one-operand node: the run of the operand tree, then the node's operation over what it
    returned. -/
theorem go_op1 : ∀ (bs : List (String → ASig α)) (s : σ) (c : OnSt α) (outs : List (ASig α)),
    runOn.go cfg χ (build1 (emb s) c) bs = .ok outs ↔
      ∃ cs s', runOn.go cfg φ c bs = .ok cs ∧ runUn step s cs = .ok (s', outs)
  | [], s, c, outs => by
    simp only [runOn.go, pure_eq_ok]
    constructor
    · rintro rfl; exact ⟨[], s, rfl, rfl⟩
    · rintro ⟨cs, s', rfl, h⟩; cases h; rfl
  | b :: bs, s, c, outs => by
    rw [go_cons_iff]
    constructor
    · rintro ⟨t1, o, os, h1, h2, rfl⟩
      obtain ⟨c', v, s1, hc, hs, rfl⟩ := (stepOn_op1 cfg hn emb step hstep b s c t1 o).1 h1
      obtain ⟨cs, s', h3, h4⟩ := (go_op1 bs s1 c' os).1 h2
      exact ⟨v :: cs, s', (go_cons_iff cfg φ c b bs _).2 ⟨c', v, cs, hc, h3, rfl⟩,
        runUn_cons_iff.2 ⟨s1, o, os, hs, h4, rfl⟩⟩
    · rintro ⟨cs, s', h1, h2⟩
      obtain ⟨c', v, cs', hc, h3, rfl⟩ := (go_cons_iff cfg φ c b bs _).1 h1
      obtain ⟨s1, o, os, hs, h4, rfl⟩ := runUn_cons_iff.1 h2
      exact ⟨_, o, os, (stepOn_op1 cfg hn emb step hstep b s c _ o).2 ⟨c', v, s1, hc, hs, rfl⟩,
        (go_op1 bs s1 c' os).2 ⟨cs', s', h3, h4⟩, rfl⟩

end node1

section node2
variable {χ φ ψ : F α} (hn : Node2 χ φ ψ) {σ : Type} (emb : σ → NSt α)
  (step : σ → ASig α → ASig α → Except PyErr (σ × ASig α))
  (hstep : ∀ s L R, nodeStepOn cfg χ (emb s) [L, R] = (step s L R).map fun p => (emb p.1, p.2))
include hn hstep

theorem go_op2 : ∀ (bs : List (String → ASig α)) (s : σ) (l r : OnSt α) (outs : List (ASig α)),
    runOn.go cfg χ (build2 (emb s) l r) bs = .ok outs ↔
      ∃ ls rs s', runOn.go cfg φ l bs = .ok ls ∧ runOn.go cfg ψ r bs = .ok rs ∧
        runBin step s (ls.zip rs) = .ok (s', outs)
  | [], s, l, r, outs => by
    simp only [runOn.go, pure_eq_ok]
    constructor
    · rintro rfl; exact ⟨[], [], s, rfl, rfl, rfl⟩
    · rintro ⟨ls, rs, s', rfl, rfl, h⟩; cases h; rfl
  | b :: bs, s, l, r, outs => by
    rw [go_cons_iff]
    constructor
    · rintro ⟨t1, o, os, h1, h2, rfl⟩
      obtain ⟨l', v1, r', v2, s1, hl, hr, hs, rfl⟩ := (stepOn_op2 cfg hn emb step hstep b s l r t1 o).1 h1
      obtain ⟨ls, rs, s', h3, h4, h5⟩ := (go_op2 bs s1 l' r' os).1 h2
      exact ⟨v1 :: ls, v2 :: rs, s', (go_cons_iff cfg φ l b bs _).2 ⟨l', v1, ls, hl, h3, rfl⟩,
        (go_cons_iff cfg ψ r b bs _).2 ⟨r', v2, rs, hr, h4, rfl⟩,
        runBin_cons_iff.2 ⟨s1, o, os, hs, h5, rfl⟩⟩
    · rintro ⟨ls, rs, s', h1, h2, h3⟩
      obtain ⟨l', v1, ls', hl, h4, rfl⟩ := (go_cons_iff cfg φ l b bs _).1 h1
      obtain ⟨r', v2, rs', hr, h5, rfl⟩ := (go_cons_iff cfg ψ r b bs _).1 h2
      obtain ⟨s1, o, os, hs, h6, rfl⟩ := runBin_cons_iff.1 h3
      exact ⟨_, o, os, (stepOn_op2 cfg hn emb step hstep b s l r _ o).2 ⟨l', v1, r', v2, s1, hl, hr, hs, rfl⟩,
        (go_op2 bs s1 l' r' os).2 ⟨ls', rs', s', h4, h5, h6⟩, rfl⟩

end node2

/-- What is claimed of the run of `φ` over the batches `bs`: the lists it returns have `Q`, and it raises nothing when `φ` has
    no partial operation. -/
abbrev ClaimQ (bs : List (String → ASig α)) (φ : F α) (Q : List (ASig α) → Prop) : Prop :=
  Claim (runOn cfg φ bs) (noPartialOps φ = true) Q

variable {cfg} {bs : List (String → ASig α)}

/-- A one-operand node whose operation, run alone over operand lists with `Q`, returns lists with `P` (`hop`). -/
theorem claim_node1 {χ φ : F α} (hn : Node1 χ φ) {σ : Type} (emb : σ → NSt α)
    (step : σ → ASig α → Except PyErr (σ × ASig α)) (s0 : σ) (hinit : initNodeOn χ = .ok (emb s0))
    (hstep : ∀ s B, nodeStepOn cfg χ (emb s) [B] = (step s B).map fun p => (emb p.1, p.2))
    {Q P : List (ASig α) → Prop}
    (hop : ∀ cs, cs.length = bs.length → Q cs → Claim (runUn step s0 cs) (noPartialOps χ = true) fun p => P p.2)
    (ih : ClaimQ cfg bs φ Q) : ClaimQ cfg bs χ P := by
  have sub := fun {c cs} (hc : initOn φ = .ok c) (h1 : runOn.go cfg φ c bs = .ok cs) =>
    hop cs (go_length cfg φ bs c cs h1) (ih.sound cs ((runOn_iff cfg φ bs cs).2 ⟨c, hc, h1⟩))
  constructor
  · intro outs h
    obtain ⟨t0, hi, hg⟩ := (runOn_iff cfg χ bs outs).1 h
    obtain ⟨c, s00, hc, h0, rfl⟩ := (initOn_node1 hn t0).1 hi
    cases hinit.symm.trans h0
    obtain ⟨cs, st, h1, h2⟩ := (go_op1 cfg hn emb step hstep bs s0 c outs).1 hg
    exact (sub hc h1).sound (st, outs) h2
  · intro hχ
    obtain ⟨cs, hcs⟩ := ih.total (hn.noPartialOps hχ)
    obtain ⟨c, hc, h1⟩ := (runOn_iff cfg φ bs cs).1 hcs
    obtain ⟨⟨st, outs⟩, h2⟩ := (sub hc h1).total hχ
    exact ⟨outs, (runOn_iff cfg χ bs outs).2 ⟨_, (initOn_node1 hn _).2 ⟨c, _, hc, hinit, rfl⟩,
      (go_op1 cfg hn emb step hstep bs s0 c outs).2 ⟨cs, st, h1, h2⟩⟩⟩

theorem claim_node2 {χ φ ψ : F α} (hn : Node2 χ φ ψ) {σ : Type} (emb : σ → NSt α)
    (step : σ → ASig α → ASig α → Except PyErr (σ × ASig α)) (s0 : σ) (hinit : initNodeOn χ = .ok (emb s0))
    (hstep : ∀ s L R, nodeStepOn cfg χ (emb s) [L, R] = (step s L R).map fun p => (emb p.1, p.2))
    {Q1 Q2 P : List (ASig α) → Prop}
    (hop : ∀ ls rs, ls.length = bs.length → rs.length = bs.length → Q1 ls → Q2 rs →
      Claim (runBin step s0 (ls.zip rs)) (noPartialOps χ = true) fun p => P p.2)
    (ih1 : ClaimQ cfg bs φ Q1) (ih2 : ClaimQ cfg bs ψ Q2) : ClaimQ cfg bs χ P := by
  have sub := fun {l r ls rs} (hl : initOn φ = .ok l) (hr : initOn ψ = .ok r) (h1 : runOn.go cfg φ l bs = .ok ls)
      (h2 : runOn.go cfg ψ r bs = .ok rs) =>
    hop ls rs (go_length cfg φ bs l ls h1) (go_length cfg ψ bs r rs h2)
      (ih1.sound ls ((runOn_iff cfg φ bs ls).2 ⟨l, hl, h1⟩)) (ih2.sound rs ((runOn_iff cfg ψ bs rs).2 ⟨r, hr, h2⟩))
  constructor
  · intro outs h
    obtain ⟨t0, hi, hg⟩ := (runOn_iff cfg χ bs outs).1 h
    obtain ⟨l, r, s00, hl, hr, h0, rfl⟩ := (initOn_node2 hn t0).1 hi
    cases hinit.symm.trans h0
    obtain ⟨ls, rs, st, h1, h2, h3⟩ := (go_op2 cfg hn emb step hstep bs s0 l r outs).1 hg
    exact (sub hl hr h1 h2).sound (st, outs) h3
  · intro hχ
    obtain ⟨ls, hls⟩ := ih1.total (hn.noPartialOps hχ).1
    obtain ⟨rs, hrs⟩ := ih2.total (hn.noPartialOps hχ).2
    obtain ⟨l, hl, h1⟩ := (runOn_iff cfg φ bs ls).1 hls
    obtain ⟨r, hr, h2⟩ := (runOn_iff cfg ψ bs rs).1 hrs
    obtain ⟨⟨st, outs⟩, h3⟩ := (sub hl hr h1 h2).total hχ
    exact ⟨outs, (runOn_iff cfg χ bs outs).2 ⟨_, (initOn_node2 hn _).2 ⟨l, r, _, hl, hr, hinit, rfl⟩,
      (go_op2 cfg hn emb step hstep bs s0 l r outs).2 ⟨ls, rs, st, h1, h2, h3⟩⟩⟩

end Rtamt.Dense.AlgOn.MainAux
