/-
  Dense time: the stack of segments of the bounded past operations (`popWhile`, `pushSeg`), offline and online.

  The stack (top first) is a chain of consecutive non-degenerate segments from a base `c` (`ChainC`): `0` offline, the
  first stamp plus `a`, or the last stamp after a cut, online.  Read as a function of time (`segval`) it is antitone
  from the start `L` of the last segment pushed (`InvC`), and pushing a segment `b` that fits (`Good`) changes it to
  `stepF · b`: the maximum with `b.v` on `[b.lo, b.hi)` (`pushSeg_spec`; `push_fit` also from the empty stack, `Fit`).

  The order on `Tm` and `segval` are in `Alg.FwdAux`; what speaks of a base `c` is in `AlgOn.TimedAux`, which the offline
  `AlgFwd` opens for the base `0`.
-/
import RtamtProofs.Dense.AlgBase

namespace Rtamt.Dense.Alg
open Rtamt Val

namespace FwdAux

def toW : Tm → WithTop ℚ
  | .fin q => (q : WithTop ℚ)
  | .inf => ⊤

theorem toW_inj : Function.Injective toW := by
  intro x y h
  cases x <;> cases y <;> simp [toW] at h <;> simp [h]

scoped instance tmOrder : LinearOrder Tm := LinearOrder.lift' toW toW_inj

/-- `toW` is `InterAux.key` and this order is `InterAux.tmOrder`, by unfolding: a lemma about one applies to the other in
    term mode, while `rw` and `simp` match `<` and `≤` up to reducible unfolding only.  Hence these lemmas for both. -/
example : tmOrder = InterAux.tmOrder := rfl

@[simp] theorem fin_le_fin (p q : ℚ) : Tm.fin p ≤ Tm.fin q ↔ p ≤ q := InterAux.fin_le_fin p q
@[simp] theorem fin_lt_fin (p q : ℚ) : Tm.fin p < Tm.fin q ↔ p < q := InterAux.fin_lt_fin p q
@[simp] theorem le_inf (x : Tm) : x ≤ Tm.inf := InterAux.le_inf x
@[simp] theorem fin_lt_inf (p : ℚ) : Tm.fin p < Tm.inf := InterAux.fin_lt_inf p
@[simp] theorem not_inf_lt (x : Tm) : ¬ Tm.inf < x := not_lt.2 (le_inf x)
@[simp] theorem not_inf_le_fin (p : ℚ) : ¬ Tm.inf ≤ Tm.fin p := not_le.2 (fin_lt_inf p)

theorem lt_iff (x y : Tm) : Tm.lt x y = true ↔ x < y := InterAux.lt_iff x y
theorem lt_false_iff (x y : Tm) : Tm.lt x y = false ↔ y ≤ x := by
  cases x <;> cases y <;> simp [Tm.lt]
theorem le_iff (x y : Tm) : Tm.le x y = true ↔ x ≤ y := by
  simp [Tm.le, lt_false_iff]
theorem le_false_iff (x y : Tm) : Tm.le x y = false ↔ y < x := by
  rw [← not_le, ← le_iff, Bool.not_eq_true]

theorem exists_fin_of_lt {x y : Tm} (h : x < y) : ∃ q, x = Tm.fin q := by
  cases x with
  | fin q => exact ⟨q, rfl⟩
  | inf => exact absurd h (not_inf_lt y)

theorem exists_fin_of_le_fin {x : Tm} {t : ℚ} (h : x ≤ Tm.fin t) : ∃ q, x = Tm.fin q :=
  InterAux.exists_fin_of_le_fin h

@[simp] theorem add_fin (p q : ℚ) : Tm.add (Tm.fin p) q = Tm.fin (p + q) := rfl
@[simp] theorem add_inf (q : ℚ) : Tm.add Tm.inf q = Tm.inf := rfl
@[simp] theorem zero_eq : Tm.zero = Tm.fin 0 := rfl

section core
variable {α : Type}

/-- `t ∈ [lo, hi)`. -/
def Has (x : Seg α) (t : ℚ) : Prop := x.lo ≤ Tm.fin t ∧ Tm.fin t < x.hi

variable [LinearOrder α] [OrderBot α]

open Classical in
/-- The value of the (topmost) segment containing `t`; `⊥` if there is none. -/
noncomputable def segval : List (Seg α) → ℚ → α
  | [], _ => ⊥
  | x :: r, t => if Has x t then x.v else segval r t

theorem segval_cons_has {x : Seg α} (r : List (Seg α)) {t : ℚ} (h : Has x t) : segval (x :: r) t = x.v := by
  rw [segval, if_pos h]

theorem segval_cons_not {x : Seg α} (r : List (Seg α)) {t : ℚ} (h : ¬ Has x t) :
    segval (x :: r) t = segval r t := by
  rw [segval, if_neg h]

theorem segval_cons_of_lt (x : Seg α) (r : List (Seg α)) {t : ℚ} (ht : Tm.fin t < x.lo) :
    segval (x :: r) t = segval r t :=
  segval_cons_not r fun hh => absurd hh.1 (not_le.2 ht)

theorem segval_cons_of_le (x : Seg α) (r : List (Seg α)) {t : ℚ} (ht : x.hi ≤ Tm.fin t) :
    segval (x :: r) t = segval r t :=
  segval_cons_not r fun hh => absurd hh.2 (not_lt.2 ht)

theorem segval_cut (x : Seg α) (r : List (Seg α)) {e : Tm} {t : ℚ} (ht : Tm.fin t < e) (he : e ≤ x.hi) :
    segval (⟨x.lo, e, x.v⟩ :: r) t = segval (x :: r) t := by
  by_cases hx : x.lo ≤ Tm.fin t
  · rw [segval_cons_has r (show Has x t from ⟨hx, lt_of_lt_of_le ht he⟩),
      segval_cons_has r (show Has (⟨x.lo, e, x.v⟩ : Seg α) t from ⟨hx, ht⟩)]
  · rw [segval_cons_of_lt x r (not_le.1 hx), segval_cons_of_lt (⟨x.lo, e, x.v⟩ : Seg α) r (not_le.1 hx)]

/-- The next segment fits the stack `(L, H)`. -/
def Good (L H : Tm) (b : Seg α) : Prop := L ≤ b.lo ∧ b.lo ≤ H ∧ H < b.hi ∧ b.lo < b.hi

open Classical in
/-- The effect of a segment on the ideal value at `t`. -/
noncomputable def stepF (t : ℚ) (acc : α) (b : Seg α) : α := if Has b t then max acc b.v else acc

theorem anti_step {F F' : ℚ → α} {b : Seg α} {L : Tm} (hF' : ∀ t, F' t = stepF t (F t) b)
    (hF : ∀ t t', L ≤ Tm.fin t → t ≤ t' → F t' ≤ F t) (hL : L ≤ b.lo)
    (hbot : ∀ t, b.hi ≤ Tm.fin t → F t = ⊥) :
    ∀ t t', b.lo ≤ Tm.fin t → t ≤ t' → F' t' ≤ F' t := by
  intro t t' h1 h2
  have h3 : Tm.fin t ≤ Tm.fin t' := (fin_le_fin _ _).2 h2
  rw [hF', hF']
  unfold stepF
  by_cases hb' : Has b t'
  · have hb : Has b t := ⟨h1, lt_of_le_of_lt h3 hb'.2⟩
    rw [if_pos hb', if_pos hb]
    exact max_le_max (hF t t' (le_trans hL h1) h2) (le_refl _)
  · rw [if_neg hb', hbot t' (not_lt.1 fun hlt => hb' ⟨le_trans h1 h3, hlt⟩)]
    exact bot_le

theorem segval_single (b0 : Seg α) (t : ℚ) : segval [b0] t = stepF t ⊥ b0 := by
  unfold stepF
  by_cases hb : Has b0 t
  · rw [segval_cons_has _ hb, if_pos hb, max_eq_right bot_le]
  · rw [segval_cons_not _ hb, if_neg hb]; rfl

theorem segval_init (lo hi : Tm) (t : ℚ) : segval [(⟨lo, hi, ⊥⟩ : Seg α)] t = ⊥ := by
  rw [segval]
  split <;> rfl

omit [LinearOrder α] [OrderBot α] in
theorem pushSeg_eq (worse : α → α → Bool) (x : Seg α) (r : List (Seg α)) (b a : Seg α) (rest : List (Seg α))
    (e : popWhile worse b (x :: r) = .ok (a :: rest)) :
    pushSeg worse (x :: r) b =
      if !intersects a.lo a.hi b.lo b.hi then .ok (b :: a :: rest)
      else if !worse a.v b.v then .ok (⟨a.hi, b.hi, b.v⟩ :: a :: rest)
      else .ok (⟨b.lo, b.hi, b.v⟩ :: (if Tm.lt a.lo b.lo then ⟨a.lo, b.lo, a.v⟩ :: rest else rest)) := by
  simp only [pushSeg, e]
  rfl

end core

end FwdAux

end Rtamt.Dense.Alg

namespace Rtamt.Dense.AlgOn
open Rtamt Val Rtamt.Dense.Alg
open Rtamt.Dense.Alg.FwdAux

namespace TimedAux

section core
variable {α : Type}

/-- Consecutive non-degenerate segments starting at `c` (top first). -/
def ChainC (c : Tm) : List (Seg α) → Prop
  | [] => False
  | [x] => x.lo = c ∧ x.lo < x.hi
  | x :: y :: r => y.hi = x.lo ∧ x.lo < x.hi ∧ ChainC c (y :: r)

theorem ChainC.top_lt {c : Tm} {x : Seg α} {r : List (Seg α)} (h : ChainC c (x :: r)) : x.lo < x.hi := by
  cases r with
  | nil => exact h.2
  | cons y r => exact h.2.1

theorem ChainC.base_le {c : Tm} {x : Seg α} {r : List (Seg α)} (h : ChainC c (x :: r)) : c ≤ x.lo := by
  induction r generalizing x with
  | nil => exact le_of_eq h.1.symm
  | cons y r ih => exact le_trans (ih h.2.2) (le_of_lt (h.1 ▸ h.2.2.top_lt))

theorem ChainC.cut {c : Tm} {x : Seg α} {r : List (Seg α)} (h : ChainC c (x :: r)) {e : Tm} (hc : x.lo < e) :
    ChainC c (⟨x.lo, e, x.v⟩ :: r) := by
  cases r with
  | nil => exact ⟨h.1, hc⟩
  | cons y r => exact ⟨h.1, hc, h.2.2⟩

theorem ChainC.replace {c : Tm} {x : Seg α} {r : List (Seg α)} (h : ChainC c (x :: r)) {z : Seg α}
    (hlo : z.lo = x.lo) (hz : z.lo < z.hi) : ChainC c (z :: r) := by
  cases r with
  | nil => exact ⟨hlo.trans h.1, hz⟩
  | cons y r => exact ⟨h.1.trans hlo.symm, hz, h.2.2⟩

theorem ChainC.below {c : Tm} {x : Seg α} {r : List (Seg α)} (h : ChainC c (x :: r)) :
    ∀ y ∈ r, y.lo < y.hi ∧ y.hi ≤ x.lo := by
  induction r generalizing x with
  | nil => intro y hy; cases hy
  | cons z r ih =>
    intro y hy
    rcases List.mem_cons.1 hy with rfl | hy
    · exact ⟨h.2.2.top_lt, le_of_eq h.1⟩
    · exact ⟨(ih h.2.2 y hy).1, le_trans (ih h.2.2 y hy).2 (le_of_lt (h.1 ▸ h.2.2.top_lt))⟩

theorem ChainC.hi_le {c : Tm} {x : Seg α} {r : List (Seg α)} (h : ChainC c (x :: r)) : ∀ y ∈ r, y.hi ≤ x.lo :=
  fun y hy => (h.below y hy).2

theorem ChainC.lo_lt {c : Tm} {x : Seg α} {r : List (Seg α)} (h : ChainC c (x :: r)) : ∀ y ∈ r, y.lo < x.lo :=
  fun y hy => lt_of_lt_of_le (h.below y hy).1 (h.below y hy).2

variable [LinearOrder α] [OrderBot α]

theorem ChainC.segval_bot {c : Tm} {x : Seg α} {r : List (Seg α)} (h : ChainC c (x :: r)) {t : ℚ}
    (ht : x.hi ≤ Tm.fin t) : segval (x :: r) t = ⊥ := by
  induction r generalizing x with
  | nil => rw [segval_cons_of_le x [] ht]; rfl
  | cons y r ih => rw [segval_cons_of_le x _ ht, ih h.2.2 (le_trans (le_of_lt (h.1.trans_lt h.2.1)) ht)]

theorem segval_bot_tail {c : Tm} {x : Seg α} {r : List (Seg α)} (h : ChainC c (x :: r)) {t : ℚ}
    (ht : x.lo ≤ Tm.fin t) : segval r t = ⊥ := by
  cases r with
  | nil => rfl
  | cons y r => exact h.2.2.segval_bot (le_trans (le_of_eq h.1) ht)

theorem ChainC.segval_below {c : Tm} {x : Seg α} {r : List (Seg α)} (h : ChainC c (x :: r)) {t : ℚ}
    (ht : Tm.fin t < c) : segval (x :: r) t = ⊥ := by
  induction r generalizing x with
  | nil => rw [segval_cons_of_lt x [] (lt_of_lt_of_le ht h.base_le)]; rfl
  | cons y r ih => rw [segval_cons_of_lt x _ (lt_of_lt_of_le ht h.base_le), ih h.2.2]

/-- The stack invariant: a chain from `c` with top end `H` whose value function is antitone from `L` on. -/
structure InvC (stk : List (Seg α)) (c L H : Tm) : Prop where
  chain : ChainC c stk
  top : ∃ x r, stk = x :: r ∧ x.hi = H
  anti : ∀ t t', L ≤ Tm.fin t → t ≤ t' → segval stk t' ≤ segval stk t

theorem inv_single (b0 : Seg α) (h : b0.lo < b0.hi) : InvC [b0] b0.lo b0.lo b0.hi :=
  ⟨⟨rfl, h⟩, ⟨_, _, rfl, rfl⟩,
    anti_step (b := b0) (F := fun _ => ⊥) (fun t => segval_single b0 t) (fun _ _ _ _ => le_refl _) (le_refl _)
      (fun _ _ => rfl)⟩

/-- A stack whose top segment is `b` cut down to `[lo, b.hi)` computes `stepF · b` of `F` if `F` is `⊥` from `b.hi`
    on, at most `b.v` on the top segment, at least `b.v` on `[b.lo, lo)`, and what the rest reads as before `lo`. -/
theorem segval_push {c : Tm} {F : ℚ → α} {b : Seg α} {lo : Tm} {rest : List (Seg α)}
    (hch : ChainC c (⟨lo, b.hi, b.v⟩ :: rest)) (hlo : b.lo ≤ lo)
    (hbot : ∀ t, b.hi ≤ Tm.fin t → F t = ⊥)
    (htop : ∀ t, lo ≤ Tm.fin t → Tm.fin t < b.hi → F t ≤ b.v)
    (hmid : ∀ t, b.lo ≤ Tm.fin t → Tm.fin t < lo → b.v ≤ F t)
    (hlow : ∀ t, Tm.fin t < lo → segval rest t = F t) (t : ℚ) :
    segval (⟨lo, b.hi, b.v⟩ :: rest) t = stepF t (F t) b := by
  unfold stepF
  by_cases h1 : Tm.fin t < lo
  · rw [segval_cons_of_lt _ rest h1, hlow t h1]
    split
    · exact (max_eq_left (hmid t ‹Has b t›.1 h1)).symm
    · rfl
  · by_cases h2 : Tm.fin t < b.hi
    · rw [segval_cons_has rest (show Has (⟨lo, b.hi, b.v⟩ : Seg α) t from ⟨not_lt.1 h1, h2⟩),
        if_pos (show Has b t from ⟨le_trans hlo (not_lt.1 h1), h2⟩), max_eq_right (htop t (not_lt.1 h1) h2)]
    · rw [hch.segval_bot (not_lt.1 h2), if_neg (fun hb : Has b t => h2 hb.2), hbot t (not_lt.1 h2)]

variable (worse : α → α → Bool) (hw : ∀ x y, worse x y = true ↔ x < y)
include hw

/-- `popWhile` stops at the top segment when that is not worse than `b` or does not start after `b`. -/
theorem popWhile_stop {c : Tm} (b x : Seg α) (r : List (Seg α)) (h : ChainC c (x :: r)) (hbx : b.lo ≤ x.hi)
    (hx : x.v < b.v → x.lo ≤ b.lo) :
    ∃ a rest, popWhile worse b (x :: r) = .ok (a :: rest) ∧ ChainC c (a :: rest) ∧
      (a.v < b.v → a.lo ≤ b.lo) ∧
      (∀ t, Tm.fin t < a.hi → segval (x :: r) t = segval (a :: rest) t) ∧
      (∀ t, a.hi ≤ Tm.fin t → segval (x :: r) t ≤ b.v) ∧
      b.lo ≤ a.hi ∧ a.hi ≤ x.hi := by
  refine ⟨x, r, ?_, h, hx, fun t _ => rfl, fun t ht => ?_, hbx, le_refl _⟩
  · have : (worse x.v b.v && Tm.lt b.lo x.lo) = false := by
      rw [Bool.and_eq_false_iff]
      by_cases c' : x.v < b.v
      · exact Or.inr ((lt_false_iff _ _).2 (hx c'))
      · exact Or.inl (Bool.eq_false_iff.2 fun c'' => c' ((hw _ _).1 c''))
    rw [popWhile, this]; rfl
  · rw [h.segval_bot ht]; exact bot_le

/-- `popWhile` on a chain: it stops at some segment `a`; below `a.hi` nothing has changed, everything removed
    was at most `b.v`. -/
theorem popWhile_spec {c : Tm} (b : Seg α) (hb : c ≤ b.lo) (x : Seg α) (r : List (Seg α))
    (h : ChainC c (x :: r)) (hbx : b.lo ≤ x.hi) :
    ∃ a rest, popWhile worse b (x :: r) = .ok (a :: rest) ∧ ChainC c (a :: rest) ∧
      (a.v < b.v → a.lo ≤ b.lo) ∧
      (∀ t, Tm.fin t < a.hi → segval (x :: r) t = segval (a :: rest) t) ∧
      (∀ t, a.hi ≤ Tm.fin t → segval (x :: r) t ≤ b.v) ∧
      b.lo ≤ a.hi ∧ a.hi ≤ x.hi := by
  induction r generalizing x with
  | nil => exact popWhile_stop worse hw b x [] h hbx fun _ => le_trans (le_of_eq h.1) hb
  | cons y r ih =>
    by_cases hc : x.v < b.v ∧ b.lo < x.lo
    · have hyx : y.hi = x.lo := h.1
      obtain ⟨a, rest, e1, e2, e3, e4, e5, e6, e7⟩ := ih y h.2.2 (le_of_lt (hyx ▸ hc.2))
      have e7' : a.hi ≤ x.lo := hyx ▸ e7
      refine ⟨a, rest, ?_, e2, e3, fun t ht => ?_, fun t ht => ?_, e6, le_trans e7' (le_of_lt h.2.1)⟩
      · rw [popWhile, (hw _ _).2 hc.1, (lt_iff _ _).2 hc.2]; exact e1
      · rw [segval_cons_of_lt x (y :: r) (lt_of_lt_of_le ht e7')]; exact e4 t ht
      · rw [segval]
        split
        · exact le_of_lt hc.1
        · exact e5 t ht
    · exact popWhile_stop worse hw b x (y :: r) h hbx fun hv => not_lt.1 fun hlt => hc ⟨hv, hlt⟩

/-- Pushing a segment that fits: the stack invariant is kept, the top segment carries the value of `b`, and the value
    function becomes `stepF · b` of the old one. -/
theorem pushSeg_spec {stk : List (Seg α)} {c L H : Tm} (hI : InvC stk c L H) (hL : c ≤ L) {b : Seg α}
    (hg : Good L H b) :
    ∃ stk', pushSeg worse stk b = .ok stk' ∧ InvC stk' c b.lo b.hi ∧ (∃ y r', stk' = y :: r' ∧ y.v = b.v) ∧
      ∀ t, segval stk' t = stepF t (segval stk t) b := by
  obtain ⟨x, r, rfl, hxH⟩ := hI.top
  obtain ⟨g1, g2, g3, g4⟩ := hg
  subst hxH
  have hch := hI.chain
  obtain ⟨a, rest, e1, e2, e3, e4, e5, e6, e7⟩ := popWhile_spec worse hw b (le_trans hL g1) x r hch g2
  have hbot : ∀ t, b.hi ≤ Tm.fin t → segval (x :: r) t = ⊥ :=
    fun t ht => hch.segval_bot (le_trans (le_of_lt g3) ht)
  have hab : a.hi < b.hi := lt_of_le_of_lt e7 g3
  have hint : intersects a.lo a.hi b.lo b.hi = true := by
    simp only [intersects, Bool.and_eq_true, le_iff]
    exact ⟨le_of_lt (lt_trans e2.top_lt hab), e6⟩
  suffices hs : ∃ lo rest', pushSeg worse (x :: r) b = .ok (⟨lo, b.hi, b.v⟩ :: rest') ∧
      ChainC c (⟨lo, b.hi, b.v⟩ :: rest') ∧
      ∀ t, segval (⟨lo, b.hi, b.v⟩ :: rest') t = stepF t (segval (x :: r) t) b by
    obtain ⟨lo, rest', p1, p2, p4⟩ := hs
    exact ⟨_, p1, ⟨p2, ⟨_, _, rfl, rfl⟩, anti_step p4 hI.anti g1 hbot⟩, ⟨_, _, rfl, rfl⟩, p4⟩
  rw [pushSeg_eq worse x r b a rest e1, hint]
  by_cases hwv : a.v < b.v
  · -- `a` is worse: `b` takes over from `b.lo`, and what is left of `a` ends there
    have hbv : ∀ t, b.lo ≤ Tm.fin t → Tm.fin t < b.hi → segval (x :: r) t ≤ b.v := by
      intro t hb _
      by_cases h1 : Tm.fin t < a.hi
      · rw [e4 t h1, segval_cons_has _ ⟨le_trans (e3 hwv) hb, h1⟩]; exact le_of_lt hwv
      · exact e5 t (not_lt.1 h1)
    simp only [(hw _ _).2 hwv, Bool.not_true, Bool.false_eq_true, if_false]
    by_cases hlt : a.lo < b.lo
    · have hch' : ChainC c (⟨b.lo, b.hi, b.v⟩ :: ⟨a.lo, b.lo, a.v⟩ :: rest) := ⟨rfl, g4, e2.cut hlt⟩
      simp only [(lt_iff _ _).2 hlt, if_true]
      exact ⟨_, _, rfl, hch', segval_push hch' (le_refl _) hbot hbv (fun t h h' => absurd h (not_le.2 h'))
        fun t ht => by rw [segval_cut a rest ht e6, e4 t (lt_of_lt_of_le ht e6)]⟩
    · have heq : a.lo = b.lo := le_antisymm (e3 hwv) (not_lt.1 hlt)
      have hch' : ChainC c (⟨b.lo, b.hi, b.v⟩ :: rest) := e2.replace (z := ⟨b.lo, b.hi, b.v⟩) heq.symm g4
      simp only [(lt_false_iff _ _).2 (not_lt.1 hlt), Bool.false_eq_true, if_false]
      exact ⟨_, _, rfl, hch', segval_push hch' (le_refl _) hbot hbv (fun t h h' => absurd h (not_le.2 h'))
        fun t ht => by rw [e4 t (lt_of_lt_of_le ht e6), segval_cons_of_lt a rest (heq ▸ ht)]⟩
  · -- `a` is not worse: `b` continues the stack from `a.hi`; between `b.lo` and `a.hi` the old values are at
    -- least `a.v`, because the value function is antitone from `L ≤ b.lo` on
    have hva : b.v ≤ a.v := not_lt.1 hwv
    have c1 : worse a.v b.v = false := Bool.eq_false_iff.2 fun c' => hwv ((hw _ _).1 c')
    have hch' : ChainC c (⟨a.hi, b.hi, b.v⟩ :: a :: rest) := ⟨rfl, hab, e2⟩
    simp only [c1, Bool.not_false, if_true]
    refine ⟨_, _, rfl, hch', segval_push hch' e6 hbot (fun t h _ => e5 t h) (fun t hb h1 => ?_)
      fun t ht => (e4 t ht).symm⟩
    rw [e4 t h1]
    by_cases ha : a.lo ≤ Tm.fin t
    · rw [segval_cons_has _ ⟨ha, h1⟩]; exact hva
    · obtain ⟨q, hq⟩ := exists_fin_of_lt e2.top_lt
      have hqa : Has a q := ⟨le_of_eq hq, hq ▸ e2.top_lt⟩
      have hqt : Tm.fin t < Tm.fin q := hq ▸ not_le.1 ha
      have := hI.anti t q (le_trans g1 hb) (le_of_lt ((fin_lt_fin _ _).1 hqt))
      rw [e4 q hqa.2, e4 t h1, segval_cons_has _ hqa] at this
      exact le_trans hva this

/-- What a segment from `l` that ends after `h` is pushed on: the empty stack, `l` becoming the base, or a stack with
    `InvC` for which it is `Good`. -/
def Fit (stk : List (Seg α)) (c l h : Tm) : Prop :=
  (stk = [] ∧ c = l) ∨ ∃ L H, InvC stk c L H ∧ c ≤ L ∧ L ≤ l ∧ l ≤ H ∧ H ≤ h

omit hw in
/-- The stack under the first segment when `0 < a`. -/
theorem fit_init {a b : ℚ} (ha : 0 < a) (hab : a ≤ b) :
    Fit [(⟨Tm.zero, Tm.fin (0 + a), ⊥⟩ : Seg α)] (Tm.fin 0) (Tm.fin (0 + a)) (Tm.fin (0 + b)) :=
  have h : (0 : ℚ) < 0 + a := lt_of_lt_of_eq ha (zero_add a).symm
  Or.inr ⟨_, _, inv_single _ ((fin_lt_fin _ _).2 h), le_refl _, (fin_le_fin _ _).2 h.le, le_refl _,
    (fin_le_fin _ _).2 (add_le_add_right hab 0)⟩

/-- `pushSeg_spec` from a stack that `Fit`s. -/
theorem push_fit {stk : List (Seg α)} {c h : Tm} {b : Seg α} (hF : Fit stk c b.lo h) (hh : h < b.hi)
    (hb : b.lo < b.hi) :
    ∃ stk', pushSeg worse stk b = .ok stk' ∧ InvC stk' c b.lo b.hi ∧ c ≤ b.lo ∧
      (∃ y r', stk' = y :: r' ∧ y.v = b.v) ∧ ∀ t, segval stk' t = stepF t (segval stk t) b := by
  rcases hF with ⟨rfl, rfl⟩ | ⟨L, H, hI, hL, h1, h2, h3⟩
  · exact ⟨[b], rfl, inv_single b hb, le_refl _, ⟨_, _, rfl, rfl⟩, segval_single b⟩
  · obtain ⟨stk', p⟩ := pushSeg_spec worse hw hI hL ⟨h1, h2, lt_of_le_of_lt h3 hh, hb⟩
    exact ⟨stk', p.1, p.2.1, le_trans hL h1, p.2.2⟩

omit [LinearOrder α] [OrderBot α] hw in
theorem popWhile_congr (b b' : Seg α) (hlo : b.lo = b'.lo) (hv : b.v = b'.v) (l : List (Seg α)) :
    popWhile worse b l = popWhile worse b' l := by
  induction l with
  | nil => rfl
  | cons x r ih => rw [popWhile, popWhile, ih, hlo, hv]

/-- Pushing a segment that ends exactly at the top end `H` (the own segment of the last sample of a batch) gives the
    stack that pushing the same segment with any later end gives, up to the end of the top segment. -/
theorem pushSeg_reend {stk : List (Seg α)} {c L H : Tm} (hI : InvC stk c L H) (hL : c ≤ L) {b : Seg α}
    (h1 : L ≤ b.lo) (h2 : b.lo ≤ H) (h3 : H ≤ b.hi) (e : Tm) (he : H < e) :
    ∃ x r', pushSeg worse stk b = .ok (x :: r') ∧ x.hi = b.hi ∧ b.lo ≤ x.lo ∧ x.lo ≤ x.hi ∧
      pushSeg worse stk ⟨b.lo, e, b.v⟩ = .ok (⟨x.lo, e, x.v⟩ :: r') := by
  obtain ⟨x0, r0, rfl, hxH⟩ := hI.top
  subst hxH
  obtain ⟨a, rest, e1, e2, e3, e4, e5, e6, e7⟩ := popWhile_spec worse hw b (le_trans hL h1) x0 r0 hI.chain h2
  have e1' : popWhile worse ⟨b.lo, e, b.v⟩ (x0 :: r0) = .ok (a :: rest) := by
    rw [← popWhile_congr worse b ⟨b.lo, e, b.v⟩ rfl rfl]; exact e1
  have hab : a.hi ≤ b.hi := le_trans e7 h3
  have halo : a.lo ≤ b.hi := le_trans (le_of_lt e2.top_lt) hab
  have hint : intersects a.lo a.hi b.lo b.hi = true := by
    simp only [intersects, Bool.and_eq_true, le_iff]
    exact ⟨halo, e6⟩
  have hint' : intersects a.lo a.hi b.lo e = true := by
    simp only [intersects, Bool.and_eq_true, le_iff]
    exact ⟨le_of_lt (lt_trans (lt_of_lt_of_le e2.top_lt e7) he), e6⟩
  rw [pushSeg_eq worse x0 r0 b a rest e1, pushSeg_eq worse x0 r0 _ a rest e1', hint, hint']
  by_cases c1 : worse a.v b.v = true
  · simp only [c1, Bool.not_true, Bool.false_eq_true, if_false]
    exact ⟨_, _, rfl, rfl, le_refl _, le_trans e6 hab, rfl⟩
  · have c1' : worse a.v b.v = false := by simpa using c1
    simp only [c1', Bool.not_true, Bool.not_false, Bool.false_eq_true, if_false, if_true]
    exact ⟨_, _, rfl, rfl, e6, hab, rfl⟩

end core

end TimedAux

end Rtamt.Dense.AlgOn
