/-
  Dense time, M-alg = M-spec: the bounded operations with two operands, `since[a,b]` / `until[a,b]`
  (`since_timed_operation`, `until_timed_operation`).

  The code decomposes `φ since[a,b] ψ` into `once[a,b] ψ and historically[0,a] (φ since ψ)` (without the
  `historically` for `a = 0`), and symmetrically for `until`.  The stages are the black boxes `onceTimed_sup`,
  `sinceOp_spec`, `histTimed_sup`, `inter_denotes` (resp. `evTimed_spec`, `untilOp_spec`, `alwTimed_spec`); what is
  proved here is the lattice identity that recombines them (`Timed2Aux.since_core`, `Timed2Aux.until_core`), which
  needs that infima of the left operand over bounded windows are attained (`ScanAux.least_valuesOn`: a sample list
  has finitely many values).
-/
import RtamtProofs.Dense.AlgScan
import RtamtProofs.Dense.AlgFwd
import RtamtProofs.Dense.AlgBack

namespace Rtamt.Dense.Alg
open Rtamt Val
variable {α : Type} [Val α] [LawfulVal α]

namespace Timed2Aux

theorem isGLB_valuesOn_point (h : Rat → Option α) (t : Rat) (v : α) (e : h t = some v) :
    IsGLB (valuesOn h t t) v := by
  constructor
  · rintro z ⟨u, hu1, hu2, hu3⟩
    have : u = t := le_antisymm hu2 hu1
    subst this
    rw [e] at hu3
    cases hu3
    exact le_rfl
  · intro c hc
    exact hc ⟨t, le_rfl, le_rfl, e⟩

/-- `once[a,b] ψ ∧ historically[0,a] (φ since ψ) = φ since[a,b] ψ`, all windows clipped at 0.  While `t - a < 0` no
    witness is in reach: `O` is the supremum of nothing, and so is the right side. -/
theorem since_core (g1 g2 h : Rat → Option α)
    (hatt : ∀ lo hi, 0 ≤ lo → lo ≤ hi → ∃ m, IsLeast (valuesOn g1 lo hi) m)
    (hS : SupFn (fun u => sinceSet g1 g2 0 u u) (0 ≤ ·) h)
    (t a b : Rat) (ha : 0 ≤ a)
    (O H : α) (hO : IsLUB (valuesOn g2 (max (t - b) 0) (t - a)) O)
    (hH : IsGLB (valuesOn h (max (t - a) 0) t) H) :
    IsLUB (sinceSet g1 g2 (max (t - b) 0) (t - a) t) (min O H) := by
  rcases lt_or_ge (t - a) 0 with hlt | hta
  · have hlt' := hlt.trans_le (le_max_right (t - b) 0)
    rw [hO.unique (isLUB_valuesOn_empty g2 hlt'), LawfulVal.ninf_bot, min_bot_left, ← LawfulVal.ninf_bot]
    exact isLUB_since_empty g1 g2 t hlt'
  rw [max_eq_left hta] at hH
  constructor
  · rintro y ⟨t', l, r, h1, h2, h3, h4, rfl⟩
    have ht'0 : 0 ≤ t' := le_trans (le_max_right _ _) h1
    apply le_min
    · exact le_trans (min_le_right _ _) (hO.1 ⟨t', h1, h2, h3⟩)
    · apply (le_isGLB_iff hH).2
      rintro z ⟨u, hu1, hu2, hu3⟩
      obtain ⟨v, hv, hlub⟩ := hS u (hta.trans hu1)
      rw [hu3] at hv
      cases hv
      obtain ⟨m, hm, hmin⟩ := hatt t' u ht'0 (h2.trans hu1)
      have hmem : min m r ∈ sinceSet g1 g2 0 u u :=
        ⟨t', m, r, ht'0, h2.trans hu1, h3, IsLeast.isGLB ⟨hm, hmin⟩, rfl⟩
      have hlm : l ≤ m := by
        obtain ⟨x, hx1, hx2, hx3⟩ := hm
        exact h4.1 ⟨x, hx1, hx2.trans hu2, hx3⟩
      exact le_trans (min_le_min_right r hlm) (hlub.1 hmem)
  · intro c hc
    by_contra hlt
    obtain ⟨hcO, hcH⟩ := lt_min_iff.1 (not_le.1 hlt)
    have key : ∀ u, t - a ≤ u → u ≤ t → ∃ t' r, 0 ≤ t' ∧ t' ≤ u ∧ g2 t' = some r ∧ c < r ∧
        ∀ x, t' ≤ x → x ≤ u → ∀ v, g1 x = some v → c < v := by
      intro u hu1 hu2
      obtain ⟨v, hv, hlub⟩ := hS u (hta.trans hu1)
      have hcv : c < v := lt_of_lt_of_le hcH (hH.1 ⟨u, hu1, hu2, hv⟩)
      obtain ⟨y, ⟨t', l, r, q1, q2, q3, q4, rfl⟩, hy⟩ := (lt_isLUB_iff hlub).1 hcv
      exact ⟨t', r, q1, q2, q3, (lt_min_iff.1 hy).2, fun x hx1 hx2 w hw =>
        lt_of_lt_of_le (lt_min_iff.1 hy).1 (q4.1 ⟨x, hx1, hx2, hw⟩)⟩
    obtain ⟨t2, r2, p1, p2, p3, p4, p5⟩ := key (t - a) le_rfl (sub_le_self t ha)
    have good : ∀ x, t2 ≤ x → x ≤ t → ∀ v, g1 x = some v → c < v := by
      intro x hx1 hx2 v hv
      by_cases hxa : x ≤ t - a
      · exact p5 x hx1 hxa v hv
      · obtain ⟨t', r, _, q2, _, _, q5⟩ := key x (not_le.1 hxa).le hx2
        exact q5 x q2 le_rfl v hv
    have fin : ∀ t' r, max (t - b) 0 ≤ t' → t' ≤ t - a → g2 t' = some r → c < r →
        (∀ x, t' ≤ x → x ≤ t → ∀ v, g1 x = some v → c < v) → False := by
      intro t' r w1 w2 w3 w4 w5
      obtain ⟨m, hm, hmin⟩ := hatt t' t (le_trans (le_max_right _ _) w1) (w2.trans (sub_le_self t ha))
      have hcm : c < m := by
        obtain ⟨x, hx1, hx2, hx3⟩ := hm
        exact w5 x hx1 hx2 m hx3
      have hle := hc ⟨t', m, r, w1, w2, w3, IsLeast.isGLB ⟨hm, hmin⟩, rfl⟩
      exact absurd hle (not_le.2 (lt_min hcm w4))
    by_cases hcase : max (t - b) 0 ≤ t2
    · exact fin t2 r2 hcase p2 p3 p4 good
    · obtain ⟨r3, ⟨t3, s1, s2, s3⟩, hr3⟩ := (lt_isLUB_iff hO).1 hcO
      exact fin t3 r3 s1 s2 s3 hr3 (fun x hx1 hx2 => good x ((not_le.1 hcase).le.trans (s1.trans hx1)) hx2)

/-- `eventually[a,b] ψ ∧ always[0,a] (φ until ψ) = φ until[a,b] ψ`. -/
theorem until_core (g1 g2 h : Rat → Option α)
    (hatt : ∀ lo hi, 0 ≤ lo → lo ≤ hi → ∃ m, IsLeast (valuesOn g1 lo hi) m)
    (hS : SupFn (fun u => untilSet g1 g2 u none u) (0 ≤ ·) h)
    (t a b : Rat) (ht : 0 ≤ t) (ha : 0 ≤ a)
    (O H : α) (hO : IsLUB (valuesOn g2 (t + a) (t + b)) O)
    (hH : IsGLB (valuesOn h t (t + a)) H) :
    IsLUB (untilSet g1 g2 (t + a) (some (t + b)) t) (min O H) := by
  constructor
  · rintro y ⟨t', l, r, h1, h2, h3, h4, rfl⟩
    apply le_min
    · exact le_trans (min_le_right _ _) (hO.1 ⟨t', h1, h2, h3⟩)
    · apply (le_isGLB_iff hH).2
      rintro z ⟨u, hu1, hu2, hu3⟩
      obtain ⟨v, hv, hlub⟩ := hS u (ht.trans hu1)
      rw [hu3] at hv
      cases hv
      obtain ⟨m, hm, hmin⟩ := hatt u t' (ht.trans hu1) (hu2.trans h1)
      have hmem : min m r ∈ untilSet g1 g2 u none u :=
        ⟨t', m, r, hu2.trans h1, trivial, h3, IsLeast.isGLB ⟨hm, hmin⟩, rfl⟩
      have hlm : l ≤ m := by
        obtain ⟨x, hx1, hx2, hx3⟩ := hm
        exact h4.1 ⟨x, hu1.trans hx1, hx2, hx3⟩
      exact le_trans (min_le_min_right r hlm) (hlub.1 hmem)
  · intro c hc
    by_contra hlt
    obtain ⟨hcO, hcH⟩ := lt_min_iff.1 (not_le.1 hlt)
    have key : ∀ u, t ≤ u → u ≤ t + a → ∃ t' r, u ≤ t' ∧ g2 t' = some r ∧ c < r ∧
        ∀ x, u ≤ x → x ≤ t' → ∀ v, g1 x = some v → c < v := by
      intro u hu1 hu2
      obtain ⟨v, hv, hlub⟩ := hS u (ht.trans hu1)
      have hcv : c < v := lt_of_lt_of_le hcH (hH.1 ⟨u, hu1, hu2, hv⟩)
      obtain ⟨y, ⟨t', l, r, q1, _, q3, q4, rfl⟩, hy⟩ := (lt_isLUB_iff hlub).1 hcv
      exact ⟨t', r, q1, q3, (lt_min_iff.1 hy).2, fun x hx1 hx2 w hw =>
        lt_of_lt_of_le (lt_min_iff.1 hy).1 (q4.1 ⟨x, hx1, hx2, hw⟩)⟩
    obtain ⟨t2, r2, p2, p3, p4, p5⟩ := key (t + a) (le_add_of_nonneg_right ha) le_rfl
    have good : ∀ x, t ≤ x → x ≤ t2 → ∀ v, g1 x = some v → c < v := by
      intro x hx1 hx2 v hv
      by_cases hxa : t + a ≤ x
      · exact p5 x hxa hx2 v hv
      · obtain ⟨t', r, q2, _, _, q5⟩ := key x hx1 (not_le.1 hxa).le
        exact q5 x le_rfl q2 v hv
    have fin : ∀ t' r, t + a ≤ t' → t' ≤ t + b → g2 t' = some r → c < r →
        (∀ x, t ≤ x → x ≤ t' → ∀ v, g1 x = some v → c < v) → False := by
      intro t' r w1 w2 w3 w4 w5
      obtain ⟨m, hm, hmin⟩ := hatt t t' ht ((le_add_of_nonneg_right ha).trans w1)
      have hcm : c < m := by
        obtain ⟨x, hx1, hx2, hx3⟩ := hm
        exact w5 x hx1 hx2 m hx3
      have hle := hc ⟨t', m, r, w1, w2, w3, IsLeast.isGLB ⟨hm, hmin⟩, rfl⟩
      exact absurd hle (not_le.2 (lt_min hcm w4))
    by_cases hcase : t2 ≤ t + b
    · exact fin t2 r2 p2 hcase p3 p4 good
    · obtain ⟨r3, ⟨t3, s1, s2, s3⟩, hr3⟩ := (lt_isLUB_iff hO).1 hcO
      exact fin t3 r3 s1 s2 s3 hr3 (fun x hx1 hx2 => good x hx1 (hx2.trans (s2.trans (not_le.1 hcase).le)))

/-- The last stage of both operators: the point-wise `pmin` of two lists that start at 0. -/
theorem pmin_stage {o1 o2 : ASig α} (w1 : WFA o1 0) (w2 : WFA o2 0) :
    ∃ out, inter (fun a b : α => pmin a b) vne o1 o2 = .ok out ∧ WFA out 0 ∧
      ∀ t, 0 ≤ t → ∀ O H, valAtA o1 t = some O → valAtA o2 t = some H → valAtA out t = some (min O H) := by
  obtain ⟨out, e, d⟩ := inter_denotes (fun a b : α => pmin a b) vne (fun a b => (vne_eq_false_iff a b).1)
    (denotes_self w1) (denotes_self w2)
  rw [max_self] at d
  exact ⟨out, e, d.1, fun t ht O H eO eH => by rw [d.2 t ht]; simp only [lift2, eO, eH, pmin_eq]⟩

end Timed2Aux

open Timed2Aux

/-- `since_timed_operation` on operands that start at time 0 (the code computes `once[a,b] ψ and (φ since ψ)` for `a = 0`
    and `once[a,b] ψ and historically[0,a] (φ since ψ)` for `a > 0`). -/
theorem sinceTimed_sup {l r : ASig α} {g1 g2 : Rat → Option α} (h1 : Denotes l 0 g1) (h2 : Denotes r 0 g2)
    (a b : Rat) (ha : 0 ≤ a) (hab : a ≤ b) :
    ∃ out, sinceTimed l r a b = .ok out ∧ WFA out 0 ∧
      SupFn (fun t => sinceSet g1 g2 (max (t - b) 0) (t - a) t) (0 ≤ ·) (valAtA out) := by
  obtain ⟨out1, e1, w1, s1⟩ := onceTimed_sup h2 a b ha hab
  obtain ⟨out2, e2, w2, s2⟩ := sinceOp_spec h1 h2
  simp only [max_self] at w2 s2
  -- the list that is met with `once[a,b] ψ`: it carries the infimum of `φ since ψ` over `[t - a, t]`
  obtain ⟨outH, ecode, wH, sH⟩ : ∃ outH, sinceTimed l r a b = andOp out1 outH ∧ WFA outH 0 ∧
      InfFn (fun t => valuesOn (valAtA out2) (max (t - a) 0) t) (0 ≤ ·) (valAtA outH) := by
    by_cases hpos : 0 < a
    · obtain ⟨out3, e3, w3, s3⟩ := histTimed_sup (denotes_self w2) 0 a le_rfl ha
      refine ⟨out3, ?_, w3, fun t ht => by simpa only [sub_zero] using s3 t ht⟩
      unfold sinceTimed
      rw [e1, e2]
      simp only [hpos, decide_true, if_true, bind, Except.bind, e3]
    · have ha0 : a = 0 := le_antisymm (not_lt.1 hpos) ha
      refine ⟨out2, ?_, w2, fun t ht => ?_⟩
      · unfold sinceTimed
        rw [e1, e2]
        simp only [hpos, decide_false, bind, Except.bind]
        rfl
      · obtain ⟨H, eH, _⟩ := s2 t ht
        exact ⟨H, eH, by simpa only [ha0, sub_zero, max_eq_left ht] using isGLB_valuesOn_point _ t H eH⟩
  obtain ⟨out, e4, w4, s4⟩ := pmin_stage w1 wH
  refine ⟨out, ecode.trans e4, w4, fun t ht => ?_⟩
  obtain ⟨O, eO, hO⟩ := s1 t ht
  obtain ⟨H, eH, hH⟩ := sH t ht
  exact ⟨min O H, s4 t ht O H eO eH,
    since_core g1 g2 (valAtA out2) (fun _ _ => ScanAux.least_valuesOn h1) s2 t a b ha O H hO hH⟩

/-- The same in two cases: before `a` the window is empty. -/
theorem sinceTimed_spec {l r : ASig α} {g1 g2 : Rat → Option α} (h1 : Denotes l 0 g1) (h2 : Denotes r 0 g2)
    (a b : Rat) (ha : 0 ≤ a) (hab : a ≤ b) :
    ∃ out, sinceTimed l r a b = .ok out ∧ WFA out 0 ∧
      ∀ t, 0 ≤ t →
        (t - a < 0 → valAtA out t = some Val.ninf) ∧
        (0 ≤ t - a → ∃ v, valAtA out t = some v ∧ IsLUB (sinceSet g1 g2 (max (t - b) 0) (t - a) t) v) := by
  obtain ⟨out, e, w, hv⟩ := sinceTimed_sup h1 h2 a b ha hab
  exact ⟨out, e, w, fun t ht => ⟨fun hlt =>
    hv.eq_some ht (isLUB_since_empty g1 g2 t (hlt.trans_le (le_max_right _ _))), fun _ => hv t ht⟩⟩

/-- `until_timed_operation`. -/
theorem untilTimed_spec {l r : ASig α} {g1 g2 : Rat → Option α} (h1 : Denotes l 0 g1) (h2 : Denotes r 0 g2)
    (a b : Rat) (ha : 0 ≤ a) (hab : a ≤ b) :
    ∃ out, untilTimed l r a b = .ok out ∧ WFA out 0 ∧
      ∀ t, 0 ≤ t → ∃ v, valAtA out t = some v ∧ IsLUB (untilSet g1 g2 (t + a) (some (t + b)) t) v := by
  obtain ⟨out1, e1, w1, s1⟩ := evTimed_spec h2 a b ha hab
  obtain ⟨out2, e2, w2, s2⟩ := untilOp_spec h1 h2
  simp only [max_self] at w2 s2
  -- the list that is met with `eventually[a,b] ψ`: it carries the infimum of `φ until ψ` over `[t, t + a]`
  obtain ⟨outH, ecode, wH, sH⟩ : ∃ outH, untilTimed l r a b = andOp out1 outH ∧ WFA outH 0 ∧
      ∀ t, 0 ≤ t → ∃ H, valAtA outH t = some H ∧ IsGLB (valuesOn (valAtA out2) t (t + a)) H := by
    by_cases hpos : 0 < a
    · obtain ⟨out3, e3, w3, s3⟩ := alwTimed_spec (denotes_self w2) 0 a le_rfl ha
      refine ⟨out3, ?_, w3, fun t ht => ?_⟩
      · unfold untilTimed
        rw [e1, e2]
        simp only [hpos, decide_true, if_true, bind, Except.bind, e3]
      · obtain ⟨H, eH, hH⟩ := s3 t ht
        exact ⟨H, eH, by rw [add_zero] at hH; exact hH⟩
    · have ha0 : a = 0 := le_antisymm (not_lt.1 hpos) ha
      refine ⟨out2, ?_, w2, fun t ht => ?_⟩
      · unfold untilTimed
        rw [e1, e2]
        simp only [hpos, decide_false, bind, Except.bind]
        rfl
      · obtain ⟨H, eH, _⟩ := s2 t ht
        exact ⟨H, eH, by rw [ha0, add_zero]; exact isGLB_valuesOn_point _ t H eH⟩
  obtain ⟨out, e4, w4, s4⟩ := pmin_stage w1 wH
  refine ⟨out, ecode.trans e4, w4, fun t ht => ?_⟩
  obtain ⟨O, eO, hO⟩ := s1 t ht
  obtain ⟨H, eH, hH⟩ := sH t ht
  exact ⟨min O H, s4 t ht O H eO eH,
    until_core g1 g2 (valAtA out2) (fun _ _ => ScanAux.least_valuesOn h1) s2 t a b ht ha O H hO hH⟩

end Rtamt.Dense.Alg
