/-
  The state tree of the dense-time online monitor at an operator node (`Rtamt/Dense/AlgOn.lean`, `stepOn`, `initOn`, `runOn`):
  the tree of a node is the node's own state over the trees of its operands (`build1`, `build2`, `rootSt`), a tree step is the
  steps of the operand trees followed by `nodeStepOn` (`Rtamt/Dense/ProgramOn.lean`) on the node's own state
  (`stepOn_build1/2`; `stepOn_op1/2` when the own state is given as an operation on a state type of its own), construction
  likewise (`Node1.init`, `Node2.init`).  Stated once per arity (`Node1`, `Node2`); used by
  the refinement of the name-keyed interpreter (`C09Dense.lean`) and by the proofs about `runOn` (`Dense/OnRun.lean`).
-/
import Rtamt.Dense.ProgramOn
import RtamtProofs.Lemmas.Node
import RtamtProofs.Lemmas.Exc

namespace Rtamt.Dense
open Rtamt Val Rtamt.Dense.Alg Rtamt.Dense.AlgOn Rtamt.Dense.ProgramOn
open Rtamt.Exc (bind_eq_ok pure_eq_ok)

variable {α : Type} [Val α] [DecidableEq α]

namespace C09Dense

/-- The node's own part of a state tree. -/
def rootSt : OnSt α → NSt α
  | .leaf => .unit
  | .cst _ => .unit
  | .un _ => .unit
  | .scan p _ => .scan p
  | .bin st _ _ => .bin st
  | .since st _ _ => .since st
  | .timed st _ => .timed st
  | .sinceT o s h a _ _ => .sinceT o s h a

def build1 : NSt α → OnSt α → OnSt α
  | .unit, c => .un c
  | .scan p, c => .scan p c
  | .timed st, c => .timed st c
  | _, _ => .leaf

def build2 : NSt α → OnSt α → OnSt α → OnSt α
  | .bin st, l, r => .bin st l r
  | .since st, l, r => .since st l r
  | .sinceT o s h a, l, r => .sinceT o s h a l r
  | _, _, _ => .leaf

omit [DecidableEq α] in
/-- `nodeStepOn` returns a state of the class it was given. -/
theorem nodeStepOn_root1 (cfg : DCfg) {χ φ : F α} (hn : Node1 χ φ) {s s' : NSt α} {v w : ASig α}
    (h : nodeStepOn cfg χ s [v] = .ok (s', w)) (c' : OnSt α) : rootSt (build1 s' c') = s' := by
  cases hn with
  | un op φ =>
    cases s with
    | unit =>
      obtain ⟨o, -, h⟩ := bind_eq_ok.1 h
      cases h; rfl
    | _ => cases h
  | tmp1 op φ =>
    cases s with
    | scan p => cases h; rfl
    | _ => cases h
  | tb1 op a b φ =>
    cases s with
    | timed st =>
      cases op
      all_goals
        obtain ⟨q, -, h⟩ := bind_eq_ok.1 h
        cases h; rfl
    | _ => cases h

/-- Neither side succeeds. -/
theorem iff_of_error1 {ε β γ δ : Type} {a : Except ε γ} {x : Except ε β} {e e' : ε}
    {n : β → Except ε δ} {k : β → δ → Except ε γ} {c : γ} (ha : a = .error e) (hn : ∀ p, n p = .error e') :
    a = .ok c ↔ (x >>= fun p => n p >>= k p) = .ok c := by
  subst ha
  refine ⟨fun h => (nomatch h), fun h => (Exc.bind_ne_ok (fun p => ?_) h).elim⟩
  show (n p >>= k p) ≠ _
  rw [hn]
  exact fun h => nomatch h

theorem iff_of_error2 {ε β β' γ δ : Type} {a : Except ε γ} {x : Except ε β} {y : Except ε β'} {e e' : ε}
    {n : β → β' → Except ε δ} {k : β → β' → δ → Except ε γ} {c : γ}
    (ha : a = .error e) (hn : ∀ p1 p2, n p1 p2 = .error e') :
    a = .ok c ↔ (x >>= fun p1 => y >>= fun p2 => n p1 p2 >>= k p1 p2) = .ok c := by
  subst ha
  refine ⟨fun h => (nomatch h), fun h => (Exc.bind_ne_ok (fun p1 => Exc.bind_ne_ok fun p2 => ?_) h).elim⟩
  show (n p1 p2 >>= k p1 p2) ≠ _
  rw [hn]
  exact fun h => nomatch h

omit [DecidableEq α] in
/-- The tree step of a one-operand node, as a computation: the operand tree, then `nodeStepOn` on the node's own state.
    With a state of another class than the node's both sides raise, the right one with the exception of the operand if
    that raises: hence an equivalence of the successful outcomes and no equation. -/
theorem stepOn_build1 (cfg : DCfg) (inp : String → ASig α) {χ φ : F α} (hn : Node1 χ φ)
    (s : NSt α) (c : OnSt α) (r : OnSt α × ASig α) :
    stepOn cfg inp χ (build1 s c) = .ok r ↔
      (do let p ← stepOn cfg inp φ c
          let q ← nodeStepOn cfg χ s [p.2]
          pure (build1 q.1 p.1, q.2)) = .ok r := by
  cases hn with
  | un op φ =>
    cases s with
    | unit =>
      refine iff_of_eq (congrArg (· = _) ?_)
      show stepOn cfg inp (.un op φ) (.un c) = _
      rw [stepOn]
      refine bind_congr fun ⟨c', v⟩ => ?_
      simp only [nodeStepOn, bind_assoc]
      rfl
    | _ => exact iff_of_error1 rfl fun _ => rfl
  | tmp1 op φ =>
    cases s with
    | scan prev =>
      refine iff_of_eq (congrArg (· = _) ?_)
      show stepOn cfg inp (.tmp1 op φ) (.scan prev c) = _
      cases op <;> rfl
    | _ => exact iff_of_error1 rfl fun _ => rfl
  | tb1 op a b φ =>
    cases s with
    | timed st =>
      refine iff_of_eq (congrArg (· = _) ?_)
      show stepOn cfg inp (.tb1 op a b φ) (.timed st c) = _
      rw [stepOn]
      refine bind_congr fun ⟨c', v⟩ => ?_
      cases op <;> simp only [nodeStepOn, bind_assoc] <;> rfl
    | _ => exact iff_of_error1 rfl fun _ => rfl

omit [DecidableEq α] in
theorem stepOn_build2 (cfg : DCfg) (inp : String → ASig α) {χ φ ψ : F α} (hn : Node2 χ φ ψ)
    (s : NSt α) (l r : OnSt α) (c : OnSt α × ASig α) :
    stepOn cfg inp χ (build2 s l r) = .ok c ↔
      (do let p1 ← stepOn cfg inp φ l
          let p2 ← stepOn cfg inp ψ r
          let q ← nodeStepOn cfg χ s [p1.2, p2.2]
          pure (build2 q.1 p1.1 p2.1, q.2)) = .ok c := by
  cases hn with
  | bin op φ ψ =>
    cases s with
    | bin st =>
      refine iff_of_eq (congrArg (· = _) ?_)
      show stepOn cfg inp (.bin op φ ψ) (.bin st l r) = _
      rw [stepOn]
      refine bind_congr fun ⟨l', sl⟩ => bind_congr fun ⟨r', sr⟩ => ?_
      cases op <;> simp only [nodeStepOn, bind_assoc] <;> rfl
    | _ => exact iff_of_error2 rfl fun _ _ => rfl
  | tmp2 op φ ψ =>
    cases s with
    | since st =>
      refine iff_of_eq (congrArg (· = _) ?_)
      show stepOn cfg inp (.tmp2 op φ ψ) (.since st l r) = _
      rw [stepOn]
      rfl
    | _ => exact iff_of_error2 rfl fun _ _ => rfl
  | tb2 op a b φ ψ =>
    cases s with
    | sinceT o s h an =>
      refine iff_of_eq (congrArg (· = _) ?_)
      show stepOn cfg inp (.tb2 op a b φ ψ) (.sinceT o s h an l r) = _
      rw [stepOn]
      refine bind_congr fun ⟨l', sl⟩ => bind_congr fun ⟨r', sr⟩ => ?_
      simp only [nodeStepOn, bind_assoc]
      rfl
    | _ => exact iff_of_error2 rfl fun _ _ => rfl

omit [DecidableEq α] in
theorem stepOn_node1 (cfg : DCfg) (inp : String → ASig α) {χ φ : F α} (hn : Node1 χ φ)
    (s : NSt α) (c t : OnSt α) (w : ASig α) :
    stepOn cfg inp χ (build1 s c) = .ok (t, w) ↔
      ∃ c' v s', stepOn cfg inp φ c = .ok (c', v) ∧ nodeStepOn cfg χ s [v] = .ok (s', w) ∧
        t = build1 s' c' ∧ rootSt t = s' := by
  rw [stepOn_build1 cfg inp hn]
  simp only [bind_eq_ok, pure_eq_ok, Prod.exists, Prod.mk.injEq]
  constructor
  · rintro ⟨c', v, h1, s', w', h2, rfl, rfl⟩
    exact ⟨c', v, s', h1, h2, rfl, nodeStepOn_root1 cfg hn h2 c'⟩
  · rintro ⟨c', v, s', h1, h2, rfl, -⟩
    exact ⟨c', v, h1, s', w, h2, rfl, rfl⟩

section Op
omit [DecidableEq α]
variable (cfg : DCfg) {σ : Type}

/-- The tree step of a node whose own state is an operation with a state type of its own (`σ`, `step`), sitting in `NSt`
    through `emb`: the steps of the operand trees, then `step`. -/
theorem stepOn_op1 {χ φ : F α} (hn : Node1 χ φ) (emb : σ → NSt α) (step : σ → ASig α → Except PyErr (σ × ASig α))
    (hstep : ∀ s B, nodeStepOn cfg χ (emb s) [B] = (step s B).map fun p => (emb p.1, p.2))
    (inp : String → ASig α) (s : σ) (c t : OnSt α) (w : ASig α) :
    stepOn cfg inp χ (build1 (emb s) c) = .ok (t, w) ↔
      ∃ c' v s', stepOn cfg inp φ c = .ok (c', v) ∧ step s v = .ok (s', w) ∧ t = build1 (emb s') c' := by
  rw [stepOn_build1 cfg inp hn]
  simp only [hstep, bind_eq_ok, pure_eq_ok, Exc.map_eq_ok, Prod.exists, Prod.mk.injEq]
  constructor
  · rintro ⟨c', v, h1, _, _, ⟨s', _, h2, rfl, rfl⟩, rfl, rfl⟩
    exact ⟨c', v, s', h1, h2, rfl⟩
  · rintro ⟨c', v, s', h1, h2, rfl⟩
    exact ⟨c', v, h1, _, _, ⟨s', w, h2, rfl, rfl⟩, rfl, rfl⟩

theorem stepOn_op2 {χ φ ψ : F α} (hn : Node2 χ φ ψ) (emb : σ → NSt α)
    (step : σ → ASig α → ASig α → Except PyErr (σ × ASig α))
    (hstep : ∀ s L R, nodeStepOn cfg χ (emb s) [L, R] = (step s L R).map fun p => (emb p.1, p.2))
    (inp : String → ASig α) (s : σ) (l r t : OnSt α) (w : ASig α) :
    stepOn cfg inp χ (build2 (emb s) l r) = .ok (t, w) ↔
      ∃ l' v1 r' v2 s', stepOn cfg inp φ l = .ok (l', v1) ∧ stepOn cfg inp ψ r = .ok (r', v2) ∧
        step s v1 v2 = .ok (s', w) ∧ t = build2 (emb s') l' r' := by
  rw [stepOn_build2 cfg inp hn]
  simp only [hstep, bind_eq_ok, pure_eq_ok, Exc.map_eq_ok, Prod.exists, Prod.mk.injEq]
  constructor
  · rintro ⟨l', v1, h1, r', v2, h2, _, _, ⟨s', _, h3, rfl, rfl⟩, rfl, rfl⟩
    exact ⟨l', v1, r', v2, s', h1, h2, h3, rfl⟩
  · rintro ⟨l', v1, r', v2, s', h1, h2, h3, rfl⟩
    exact ⟨l', v1, h1, r', v2, h2, _, _, ⟨s', w, h3, rfl, rfl⟩, rfl, rfl⟩

end Op

omit [DecidableEq α] in
theorem go_cons_iff (cfg : DCfg) (φ : F α) (t : OnSt α) (b : String → ASig α) (bs : List (String → ASig α))
    (os : List (ASig α)) :
    runOn.go cfg φ t (b :: bs) = .ok os ↔
      ∃ t1 w os', stepOn cfg b φ t = .ok (t1, w) ∧ runOn.go cfg φ t1 bs = .ok os' ∧ os = w :: os' := by
  simp only [runOn.go, bind_eq_ok, pure_eq_ok, Prod.exists]
  constructor
  · rintro ⟨t1, w, h1, os', h2, rfl⟩; exact ⟨t1, w, os', h1, h2, rfl⟩
  · rintro ⟨t1, w, os', h1, h2, rfl⟩; exact ⟨t1, w, h1, os', h2, rfl⟩

omit [DecidableEq α] in
theorem go_length (cfg : DCfg) (φ : F α) : ∀ (bs : List (String → ASig α)) (t : OnSt α) (os : List (ASig α)),
    runOn.go cfg φ t bs = .ok os → os.length = bs.length := by
  intro bs
  induction bs with
  | nil =>
    intro t os h
    simp only [runOn.go, pure_eq_ok] at h
    subst h; rfl
  | cons b bs ih =>
    intro t os h
    obtain ⟨t1, w, os', _, hr, rfl⟩ := (go_cons_iff cfg φ t b bs os).1 h
    simp [ih t1 os' hr]

/-- The state the construction visitor registers for a node (a default where it raises). -/
def initR (ψ : F α) : NSt α :=
  match initNodeOn ψ with
  | .ok s => s
  | .error _ => .unit

section InitNode
omit [DecidableEq α]

/-- Construction of the tree of an operator node: the class of the node decides first (an operator without an online
    implementation raises before the operands are looked at), then the operand trees are built. -/
theorem Node1.init {χ φ : F α} (hn : Node1 χ φ) :
    initOn χ = (do
      let s0 ← initNodeOn χ
      let c ← initOn φ
      pure (build1 s0 c)) := by
  cases hn with
  | un op φ => rfl
  | tmp1 op φ => cases op <;> rfl
  | tb1 op a b φ => cases op <;> rfl

theorem Node2.init {χ φ ψ : F α} (hn : Node2 χ φ ψ) :
    initOn χ = (do
      let s0 ← initNodeOn χ
      let l ← initOn φ
      let r ← initOn ψ
      pure (build2 s0 l r)) := by
  cases hn with
  | bin op φ ψ => cases op <;> rfl
  | tmp2 op φ ψ => cases op <;> rfl
  | tb2 op a b φ ψ => cases op <;> rfl

theorem initOn_node1 {χ φ : F α} (hn : Node1 χ φ) (t : OnSt α) :
    initOn χ = .ok t ↔ ∃ c s0, initOn φ = .ok c ∧ initNodeOn χ = .ok s0 ∧ t = build1 s0 c := by
  rw [hn.init]
  simp only [bind_eq_ok, pure_eq_ok]
  constructor
  · rintro ⟨s0, h0, c, h, rfl⟩; exact ⟨c, s0, h, h0, rfl⟩
  · rintro ⟨c, s0, h, h0, rfl⟩; exact ⟨s0, h0, c, h, rfl⟩

theorem initOn_node2 {χ φ ψ : F α} (hn : Node2 χ φ ψ) (t : OnSt α) :
    initOn χ = .ok t ↔
      ∃ l r s0, initOn φ = .ok l ∧ initOn ψ = .ok r ∧ initNodeOn χ = .ok s0 ∧ t = build2 s0 l r := by
  rw [hn.init]
  simp only [bind_eq_ok, pure_eq_ok]
  constructor
  · rintro ⟨s0, h0, l, h1, r, h2, rfl⟩; exact ⟨l, r, s0, h1, h2, h0, rfl⟩
  · rintro ⟨l, r, s0, h1, h2, h0, rfl⟩; exact ⟨s0, h0, l, h1, r, h2, rfl⟩

end InitNode

omit [DecidableEq α] in
theorem runOn_iff (cfg : DCfg) (φ : F α) (bs : List (String → ASig α)) (os : List (ASig α)) :
    runOn cfg φ bs = .ok os ↔ ∃ t0, initOn φ = .ok t0 ∧ runOn.go cfg φ t0 bs = .ok os := by
  simp only [runOn, bind_eq_ok]

end C09Dense

end Rtamt.Dense
