/-
  C05 on the mirror of the dense-time online monitor (`Rtamt/Dense/AlgOn.lean`, `runOn`): for every specification of the
  fragment `onFrag`, every set of well-formed signals that start at 0 and EVERY way of cutting them into successive
  `update()` calls (per variable: consecutive, possibly empty pieces of a prefix of the signal), the lists returned,
  concatenated, have non-decreasing time stamps (`Shape`: a later sample has a later stamp or repeats an earlier sample) and,
  read as a step function, equal the dense-time semantics `rhoD` at every time they cover.  In particular two chunkings
  never disagree at an instant both cover (`C05_chunkings_agree_partial`).

  `_partial`: the fragment leaves out a specification that is a constant, binary operations on two constants and
  `since` / `since[a,b]` with a constant operand; signals start at 0 (F37); `hsub` as in C04.  A constant node hands its
  signal `[[0, c], [inf, c]]` over in the first update only (`constStream`).  `since[a,b]` is monitored as
  `once[a,b] ψ and historically[0,a] (φ since ψ)` (`sinceTStep`, `runBin_sinceT`); on the semantics this decomposition is
  `rhoD_since_bounded_decomp`.

  C06 (`C06_online_ia_partial`, `C06_online_ia_total_partial`): the same for the fragment `onFragIA`, which also has the
  interface-aware predicate `.bin (.predSat c) φ ψ` (robustness semantics): its node is the subtraction run over the operand
  streams followed by the IA output loop on every returned batch (`binStep`, `runBin_post`, `iaStream_ok`), under `hkey`
  (equal robustness values have equal satisfaction) and `hcmp` (the satisfaction read off the difference is the comparison).

  The four statements are read off one claim about the run of every formula of the fragment `onFragG` (`Mirrors`, a `ClaimQ`
  of `Dense/OnRun.lean`), proved by the induction `onFragG_induction` over the fragment (`claim_all`): every operator node
  is an instance of `claim_node1` / `claim_node2`, with the theorem about the run of its operation alone as the contract;
  for a temporal node the stream the operation returns and `rhoD` of the node satisfy the same clause of
  `RtamtProofs/C04.lean`, hence agree (`streamOK_of_sup`).
-/
import RtamtProofs.Dense.OnRun
import RtamtProofs.Dense.OnBin
import RtamtProofs.Dense.OnBinNL
import RtamtProofs.Dense.OnSince
import RtamtProofs.Dense.SinceDecomp
import RtamtProofs.Dense.OnTimed
import RtamtProofs.Dense.OnIA
import Mathlib.Order.Fin.Basic

namespace Rtamt.Dense.AlgOn
open Rtamt Val Rtamt.Dense.Alg

variable {α : Type} [Val α] [LawfulVal α]

def isConst : F α → Bool
  | .const _ => true
  | _ => false

/-- The fragment of the theorem: variables; unary point-wise operations; binary point-wise operations (no IA forms) with
    at most one operand that is a constant node, the other operands in the fragment; unbounded and bounded once /
    historically (`a ≤ b`); since and since[a,b] (`a ≤ b`) with both operands in the fragment. -/
def onFrag : F α → Bool
  | .var _ => true
  | .const _ => false
  | .un _ φ => onFrag φ
  | .bin op φ ψ =>
      (match op with | .predSat _ | .predZero => false | _ => true) &&
      ((onFrag φ && onFrag ψ) || (isConst φ && onFrag ψ) || (onFrag φ && isConst ψ))
  | .tmp1 op φ => (match op with | .once | .hist => true | _ => false) && onFrag φ
  | .tmp2 op φ ψ => (match op with | .since => true | _ => false) && onFrag φ && onFrag ψ
  | .tb1 op a b φ => (match op with | .once | .hist => true | _ => false) && decide (a ≤ b) && onFrag φ
  | .tb2 op a b φ ψ => (match op with | .since => true | _ => false) && decide (a ≤ b) && onFrag φ && onFrag ψ

/-- The fragment of C06 (interface-aware robustness semantics): as `onFrag`, and the interface-aware predicate
    `.bin (.predSat c) φ ψ` is allowed under the same operand conditions as the other binary operations. -/
def onFragIA : F α → Bool
  | .var _ => true
  | .const _ => false
  | .un _ φ => onFragIA φ
  | .bin op φ ψ =>
      (match op with | .predZero => false | _ => true) &&
      ((onFragIA φ && onFragIA ψ) || (isConst φ && onFragIA ψ) || (onFragIA φ && isConst ψ))
  | .tmp1 op φ => (match op with | .once | .hist => true | _ => false) && onFragIA φ
  | .tmp2 op φ ψ => (match op with | .since => true | _ => false) && onFragIA φ && onFragIA ψ
  | .tb1 op a b φ => (match op with | .once | .hist => true | _ => false) && decide (a ≤ b) && onFragIA φ
  | .tb2 op a b φ ψ => (match op with | .since => true | _ => false) && decide (a ≤ b) && onFragIA φ && onFragIA ψ

/-- The batches of every variable of `xs` are consecutive pieces of a prefix of its signal. -/
def ValidChunks (w : DEnv α) (xs : List String) (batches : List (String → ASig α)) : Prop :=
  ∀ x ∈ xs, ∃ rest, (batches.map (fun b => b x)).flatten ++ rest = ofDSig (w.sig x)

namespace MainAux
open Rtamt.Dense.Alg.MainAux
open Rtamt.Exc (bind_ok bind_ok_eq ok_inj)

/-- Both fragments at once: `ia = false` is `onFrag`, `ia = true` is `onFragIA`. -/
def onFragG (ia : Bool) : F α → Bool
  | .var _ => true
  | .const _ => false
  | .un _ φ => onFragG ia φ
  | .bin op φ ψ =>
      (match op with | .predSat _ => ia | .predZero => false | _ => true) &&
      ((onFragG ia φ && onFragG ia ψ) || (isConst φ && onFragG ia ψ) || (onFragG ia φ && isConst ψ))
  | .tmp1 op φ => (match op with | .once | .hist => true | _ => false) && onFragG ia φ
  | .tmp2 op φ ψ => (match op with | .since => true | _ => false) && onFragG ia φ && onFragG ia ψ
  | .tb1 op a b φ => (match op with | .once | .hist => true | _ => false) && decide (a ≤ b) && onFragG ia φ
  | .tb2 op a b φ ψ => (match op with | .since => true | _ => false) && decide (a ≤ b) && onFragG ia φ && onFragG ia ψ

/-- The operation of a binary node: `binUpdate`, for predicates on the difference followed by the comparison (for the
    interface-aware predicate by its output loop `IAAux.iaB`); for the multiplication `binUpdateNL` (`last_output` cleared at
    every update). -/
def binStep (op : Bin) (st : BinSt α) (sl sr : ASig α) : Except PyErr (BinSt α × ASig α) :=
  match op with
  | .pred c => do
      let (st', d) ← binUpdate (fun a b => Val.sub a b) st sl sr
      pure (st', d.map (fun p => (p.1, cmpOfDiff c p.2)))
  | .predSat c => do
      let (st', d) ← binUpdate (fun a b => Val.sub a b) st sl sr
      pure (st', IAAux.iaB c none d)
  | .predZero => .error .other
  | .mul => binUpdateNL op.app st sl sr
  | _ => binUpdate op.app st sl sr

/-- The four operation objects of a bounded since node (`once[a,b]` on the right operand, the unbounded since,
    `historically[0,a]` on its output, `and` of the two) as one operation with two operands. -/
def sinceTStep (a' b' : Rat) (st : TimedSt α × SinceSt α × TimedSt α × BinSt α) (sl sr : ASig α) :
    Except PyErr ((TimedSt α × SinceSt α × TimedSt α × BinSt α) × ASig α) := do
  let (o', out1) ← timedUpdate ltW Val.ninf a' b' st.1 sr
  let (h', out3) ← timedUpdate gtW Val.pinf 0 a' st.2.2.1 (sinceUpdate st.2.1 sl sr).2
  let (an', out) ← binUpdate (fun x y => pmin x y) st.2.2.2 out1 out3
  pure ((o', (sinceUpdate st.2.1 sl sr).1, h', an'), out)

omit [LawfulVal α] in
theorem sinceTStep_ok (a' b' : Rat) (o : TimedSt α) (s : SinceSt α) (h : TimedSt α) (an : BinSt α) (sl sr : ASig α)
    (st' : TimedSt α × SinceSt α × TimedSt α × BinSt α) (out : ASig α) :
    sinceTStep a' b' (o, s, h, an) sl sr = .ok (st', out) ↔
      ∃ o' out1 h' out3 an', timedUpdate ltW Val.ninf a' b' o sr = .ok (o', out1) ∧
        timedUpdate gtW Val.pinf 0 a' h (sinceUpdate s sl sr).2 = .ok (h', out3) ∧
        binUpdate (fun x y => pmin x y) an out1 out3 = .ok (an', out) ∧
        st' = (o', (sinceUpdate s sl sr).1, h', an') := by
  simp only [sinceTStep]
  constructor
  · intro k
    obtain ⟨⟨o', out1⟩, e1, k⟩ := bind_ok k
    obtain ⟨⟨h', out3⟩, e2, k⟩ := bind_ok k
    obtain ⟨⟨an', out'⟩, e3, k⟩ := bind_ok k
    cases k
    exact ⟨o', out1, h', out3, an', e1, e2, e3, rfl⟩
  · rintro ⟨o', out1, h', out3, an', e1, e2, e3, rfl⟩
    rw [bind_ok_eq e1]
    simp only []
    rw [bind_ok_eq e2]
    simp only []
    rw [bind_ok_eq e3]
    rfl

omit [LawfulVal α] in
/-- The stream of a bounded since node: `and` run over (`once[a,b]` run over the right operand's stream) and
    (`historically[0,a]` run over (since run over both operands' streams)). -/
theorem runBin_sinceT (a' b' : Rat) : ∀ (zs : List (ASig α × ASig α)) (o : TimedSt α) (s : SinceSt α) (h : TimedSt α)
    (an : BinSt α) (st' : TimedSt α × SinceSt α × TimedSt α × BinSt α) (outs : List (ASig α)),
    runBin (sinceTStep a' b') (o, s, h, an) zs = .ok (st', outs) ↔
      ∃ o' o1s s' o2s h' o3s an', runUn (timedUpdate ltW Val.ninf a' b') o (zs.map Prod.snd) = .ok (o', o1s) ∧
        runBin (fun (st : SinceSt α) L R => (Except.ok (sinceUpdate st L R) : Except PyErr (SinceSt α × ASig α))) s zs
          = .ok (s', o2s) ∧
        runUn (timedUpdate gtW Val.pinf 0 a') h o2s = .ok (h', o3s) ∧
        runBin (binUpdate (fun x y => pmin x y)) an (o1s.zip o3s) = .ok (an', outs) ∧
        st' = (o', s', h', an') := by
  intro zs
  induction zs with
  | nil =>
    intro o s h an st' outs
    rw [BasicAux.runBin_nil_iff]
    constructor
    · rintro ⟨rfl, rfl⟩
      exact ⟨o, [], s, [], h, [], an, rfl, rfl, rfl, rfl, rfl⟩
    · rintro ⟨o', o1s, s', o2s, h', o3s, an', e1, e2, e3, e4, rfl⟩
      obtain ⟨rfl, rfl⟩ := BasicAux.runUn_nil_iff.1 e1
      obtain ⟨rfl, rfl⟩ := BasicAux.runBin_nil_iff.1 e2
      obtain ⟨rfl, rfl⟩ := BasicAux.runUn_nil_iff.1 e3
      obtain ⟨rfl, rfl⟩ := BasicAux.runBin_nil_iff.1 e4
      exact ⟨rfl, rfl⟩
  | cons z rest ih =>
    intro o s h an st' outs
    obtain ⟨L, R⟩ := z
    rw [BasicAux.runBin_cons_iff]
    constructor
    · rintro ⟨st1, out, os, e1, e2, rfl⟩
      obtain ⟨o1, out1, h1, out3, an1, k1, k2, k3, rfl⟩ := (sinceTStep_ok a' b' o s h an L R st1 out).1 e1
      obtain ⟨o', o1s, s', o2s, h', o3s, an', j1, j2, j3, j4, rfl⟩ := (ih _ _ _ _ st' os).1 e2
      exact ⟨o', out1 :: o1s, s', (sinceUpdate s L R).2 :: o2s, h', out3 :: o3s, an',
        BasicAux.runUn_cons_iff.2 ⟨o1, out1, o1s, k1, j1, rfl⟩,
        BasicAux.runBin_cons_iff.2 ⟨(sinceUpdate s L R).1, _, o2s, rfl, j2, rfl⟩,
        BasicAux.runUn_cons_iff.2 ⟨h1, out3, o3s, k2, j3, rfl⟩,
        BasicAux.runBin_cons_iff.2 ⟨an1, out, os, k3, j4, rfl⟩, rfl⟩
    · rintro ⟨o', o1s, s', o2s, h', o3s, an', e1, e2, e3, e4, rfl⟩
      obtain ⟨o1, out1, o1s', k1, j1, rfl⟩ := BasicAux.runUn_cons_iff.1 e1
      obtain ⟨s1, out2, o2s', k2, j2, rfl⟩ := BasicAux.runBin_cons_iff.1 e2
      obtain ⟨h1, out3, o3s', k3, j3, rfl⟩ := BasicAux.runUn_cons_iff.1 e3
      obtain ⟨an1, out, os, k4, j4, rfl⟩ := BasicAux.runBin_cons_iff.1 e4
      cases ok_inj k2
      exact ⟨_, out, os, (sinceTStep_ok a' b' o s h an L R _ out).2 ⟨o1, out1, h1, out3, an1, k1, k3, k4, rfl⟩,
        (ih _ _ _ _ _ os).2 ⟨o', o1s', s', o2s', h', o3s', an', j1, j2, j3, j4, rfl⟩, rfl⟩

omit [LawfulVal α] in
theorem binStep_nonpred (op : Bin) (hop : ∀ c, op ≠ .pred c) (hm : op ≠ .mul)
    (hia : (∀ c, op ≠ .predSat c) ∧ op ≠ .predZero) :
    (binStep op : BinSt α → _) = binUpdate op.app := by
  funext st sl sr
  cases op <;> first | rfl | exact absurd rfl (hop _) | exact absurd rfl hm | exact absurd rfl (hia.1 _) |
    exact absurd rfl hia.2

omit [LawfulVal α] in
theorem binStep_mul : (binStep Bin.mul : BinSt α → _) = binUpdateNL (Bin.mul).app := by
  funext st sl sr
  rfl

omit [Val α] [LawfulVal α] in
/-- A step followed by a function on the returned batch: the run of the step, then the function on every batch. -/
theorem runBin_post {σ : Type} (step : σ → ASig α → ASig α → Except PyErr (σ × ASig α)) (post : ASig α → ASig α) :
    ∀ (zs : List (ASig α × ASig α)) (s s' : σ) (outs : List (ASig α)),
    runBin (fun s L R => do let (s1, d) ← step s L R; pure (s1, post d)) s zs = .ok (s', outs) ↔
      ∃ outs2, runBin step s zs = .ok (s', outs2) ∧ outs = outs2.map post := by
  intro zs
  induction zs with
  | nil =>
    intro s s' outs
    rw [BasicAux.runBin_nil_iff]
    constructor
    · rintro ⟨rfl, rfl⟩; exact ⟨[], rfl, rfl⟩
    · rintro ⟨_, e, rfl⟩
      obtain ⟨rfl, rfl⟩ := BasicAux.runBin_nil_iff.1 e
      exact ⟨rfl, rfl⟩
  | cons z rest ih =>
    intro s s' outs
    obtain ⟨L, R⟩ := z
    rw [BasicAux.runBin_cons_iff]
    constructor
    · rintro ⟨s1, o, os, e1, e2, rfl⟩
      obtain ⟨os2, k1, rfl⟩ := (ih s1 s' os).1 e2
      obtain ⟨⟨s1', d⟩, j1, j2⟩ := bind_ok e1
      cases j2
      exact ⟨d :: os2, BasicAux.runBin_cons_iff.2 ⟨s1, d, os2, j1, k1, rfl⟩, rfl⟩
    · rintro ⟨_, e, rfl⟩
      obtain ⟨s1, d, os2, j1, k1, rfl⟩ := BasicAux.runBin_cons_iff.1 e
      exact ⟨s1, _, _, bind_ok_eq j1, (ih s1 s' _).2 ⟨os2, k1, rfl⟩, rfl⟩

omit [Val α] [LawfulVal α] in
theorem covered_ge {Bs : List (ASig α)} {d t : Rat} (h : Covered Bs d t) : d ≤ t := by
  obtain ⟨_, _, _, _, k, _⟩ := h
  exact k

omit [Val α] [LawfulVal α] in
theorem shape_streamOK {Bs : List (ASig α)} {d : Rat} (hS : Shape Bs d) :
    StreamOK Bs d (valAtA Bs.flatten) := ⟨hS, fun _ _ => rfl⟩

/-- A run whose returned stream satisfies, at the times it covers, the clause that `f` satisfies from 0 on returns a
    stream of `f`. -/
theorem streamOK_of_sup {σ : Type} {x : Except PyErr (σ × List (ASig α))} {S : Rat → Set α} {f : Rat → Option α}
    (h : ∃ st outs, x = .ok (st, outs) ∧ Shape outs 0 ∧ SupFn S (Covered outs 0) (valAtA outs.flatten))
    (h' : SupFn S (0 ≤ ·) f) : ∃ st outs, x = .ok (st, outs) ∧ StreamOK outs 0 f :=
  let ⟨st, outs, e, hS, hv⟩ := h
  ⟨st, outs, e, hS, fun _ ht => hv.agree h' ht (covered_ge ht)⟩

theorem streamOK_of_inf {σ : Type} {x : Except PyErr (σ × List (ASig α))} {S : Rat → Set α} {f : Rat → Option α}
    (h : ∃ st outs, x = .ok (st, outs) ∧ Shape outs 0 ∧ InfFn S (Covered outs 0) (valAtA outs.flatten))
    (h' : InfFn S (0 ≤ ·) f) : ∃ st outs, x = .ok (st, outs) ∧ StreamOK outs 0 f :=
  streamOK_of_sup (α := αᵒᵈ) h h'

omit [Val α] [LawfulVal α] in
theorem onFrag_eq : ∀ (φ : F α), onFrag φ = onFragG false φ := by
  intro φ
  induction φ with
  | var x => rfl
  | const c => rfl
  | un op φ ih => exact ih
  | bin op φ ψ ih1 ih2 => unfold onFrag onFragG; rw [ih1, ih2]
  | tmp1 op φ ih => unfold onFrag onFragG; rw [ih]
  | tmp2 op φ ψ ih1 ih2 => unfold onFrag onFragG; rw [ih1, ih2]
  | tb1 op a b φ ih => unfold onFrag onFragG; rw [ih]
  | tb2 op a b φ ψ ih1 ih2 => unfold onFrag onFragG; rw [ih1, ih2]

omit [Val α] [LawfulVal α] in
theorem onFragIA_eq : ∀ (φ : F α), onFragIA φ = onFragG true φ := by
  intro φ
  induction φ with
  | var x => rfl
  | const c => rfl
  | un op φ ih => exact ih
  | bin op φ ψ ih1 ih2 =>
    unfold onFragIA onFragG
    rw [ih1, ih2]
    cases op <;> rfl
  | tmp1 op φ ih => unfold onFragIA onFragG; rw [ih]
  | tmp2 op φ ψ ih1 ih2 => unfold onFragIA onFragG; rw [ih1, ih2]
  | tb1 op a b φ ih => unfold onFragIA onFragG; rw [ih]
  | tb2 op a b φ ψ ih1 ih2 => unfold onFragIA onFragG; rw [ih1, ih2]

omit [Val α] [LawfulVal α] in
theorem isConst_eq {φ : F α} (h : isConst φ = true) : ∃ c, φ = .const c := by
  cases φ <;> first | exact ⟨_, rfl⟩ | simp [isConst] at h

omit [Val α] [LawfulVal α] in
theorem frag_op {op : Bin} (h : (match op with | .predSat _ | .predZero => false | _ => true) = true) :
    (∀ c, op ≠ .predSat c) ∧ op ≠ .predZero := by
  cases op <;> simp at h ⊢

omit [Val α] [LawfulVal α] in
theorem frag_opG {ia : Bool} {op : Bin}
    (h : (match op with | .predSat _ => ia | .predZero => false | _ => true) = true) :
    op ≠ .predZero ∧ ((∀ c, op ≠ .predSat c) ∨ ia = true) := by
  cases op <;> simp at h ⊢
  exact h

omit [Val α] [LawfulVal α] in
theorem frag_t1 {op : T1} (h : (match op with | .once | .hist => true | _ => false) = true) :
    op = .once ∨ op = .hist := by
  cases op <;> simp at h ⊢

omit [Val α] [LawfulVal α] in
theorem frag_tb1 {op : TB1} (h : (match op with | .once | .hist => true | _ => false) = true) :
    op = .once ∨ op = .hist := by
  cases op <;> simp at h ⊢

omit [Val α] [LawfulVal α] in
/-- Induction over the fragment, the one place where what a node of the fragment looks like is read off `onFragG`. An
    arithmetic node may have a constant on one side, for which nothing is claimed. -/
theorem onFragG_induction {ia : Bool} {P : F α → Prop} (var : ∀ x, P (.var x)) (un : ∀ op φ, P φ → P (.un op φ))
    (bin : ∀ op φ ψ, op ≠ .predZero → ((∀ c, op ≠ .predSat c) ∨ ia = true) →
      (P φ ∧ P ψ ∨ (∃ c, φ = .const c) ∧ P ψ ∨ P φ ∧ ∃ c, ψ = .const c) → P (.bin op φ ψ))
    (tmp1 : ∀ op φ, op = .once ∨ op = .hist → onFragG ia φ = true → P φ → P (.tmp1 op φ))
    (since : ∀ φ ψ, onFragG ia φ = true → onFragG ia ψ = true → P φ → P ψ → P (.tmp2 .since φ ψ))
    (tb1 : ∀ op a b φ, op = .once ∨ op = .hist → a ≤ b → onFragG ia φ = true → P φ → P (.tb1 op a b φ))
    (sinceT : ∀ a b φ ψ, a ≤ b → onFragG ia φ = true → onFragG ia ψ = true → P φ → P ψ → P (.tb2 .since a b φ ψ)) :
    ∀ (φ : F α), onFragG ia φ = true → P φ := by
  intro φ hfrag
  induction φ with
  | var x => exact var x
  | const c => simp [onFragG] at hfrag
  | un op φ ih => exact un op φ (ih hfrag)
  | bin op φ ψ ih1 ih2 =>
    simp only [onFragG, Bool.and_eq_true, Bool.or_eq_true] at hfrag
    obtain ⟨hz, hps⟩ := frag_opG hfrag.1
    exact bin op φ ψ hz hps ((or_assoc.1 hfrag.2).imp (And.imp ih1 ih2)
      (Or.imp (And.imp isConst_eq ih2) (And.imp ih1 isConst_eq)))
  | tmp1 op φ ih =>
    simp only [onFragG, Bool.and_eq_true] at hfrag
    exact tmp1 op φ (frag_t1 hfrag.1) hfrag.2 (ih hfrag.2)
  | tmp2 op φ ψ ih1 ih2 =>
    cases op <;> simp only [onFragG, Bool.and_eq_true, Bool.false_eq_true, false_and] at hfrag
    exact since φ ψ hfrag.1.2 hfrag.2 (ih1 hfrag.1.2) (ih2 hfrag.2)
  | tb1 op a b φ ih =>
    simp only [onFragG, Bool.and_eq_true, decide_eq_true_eq] at hfrag
    exact tb1 op a b φ (frag_tb1 hfrag.1.1) hfrag.1.2 hfrag.2 (ih hfrag.2)
  | tb2 op a b φ ψ ih1 ih2 =>
    cases op <;> simp only [onFragG, Bool.and_eq_true, decide_eq_true_eq, Bool.false_eq_true, false_and] at hfrag
    exact sinceT a b φ ψ hfrag.1.1.2 hfrag.1.2 hfrag.2 (ih1 hfrag.1.2) (ih2 hfrag.2)

omit [Val α] [LawfulVal α] in
/-- The operand clause of `bin` in `onFragG_induction`, for a property that constants have. -/
theorem opnds_of_const {P : F α → Prop} (hc : ∀ c, P (.const c)) {φ ψ : F α}
    (h : P φ ∧ P ψ ∨ (∃ c, φ = .const c) ∧ P ψ ∨ P φ ∧ ∃ c, ψ = .const c) : P φ ∧ P ψ := by
  rcases h with h | ⟨⟨c, rfl⟩, h2⟩ | ⟨h1, c, rfl⟩
  exacts [h, ⟨hc c, h2⟩, ⟨h1, hc c⟩]

omit [Val α] [LawfulVal α] in
theorem onFragG_supported (ia : Bool) : ∀ (φ : F α), onFragG ia φ = true → supported φ = true := by
  apply onFragG_induction
  case var => exact fun _ => rfl
  case un => exact fun _ _ ih => ih
  case bin =>
    intro op φ ψ _ _ hops
    obtain ⟨h1, h2⟩ := opnds_of_const (P := (supported · = true)) (fun _ => rfl) hops
    simp only [supported, h1, h2, Bool.and_self]
  case tmp1 =>
    rintro op φ (rfl | rfl) _ ih <;> simp only [supported, ih, Bool.and_self]
  case since => exact fun φ ψ _ _ h1 h2 => by simp only [supported, h1, h2, Bool.and_self]
  case tb1 => exact fun op a b φ _ hab _ ih => by simp only [supported, hab, ih, decide_true, Bool.and_self]
  case sinceT => exact fun a b φ ψ hab _ _ h1 h2 => by simp only [supported, hab, h1, h2, decide_true, Bool.and_self]

omit [Val α] [LawfulVal α] in
theorem onFrag_supported (φ : F α) (h : onFrag φ = true) : supported φ = true :=
  onFragG_supported false φ (by rw [← onFrag_eq]; exact h)

omit [Val α] [LawfulVal α] in
theorem validChunks_left {w : DEnv α} {xs ys : List String} {bs : List (String → ASig α)}
    (h : ValidChunks w (xs ++ ys) bs) : ValidChunks w xs bs :=
  fun x hx => h x (List.mem_append_left _ hx)

omit [Val α] [LawfulVal α] in
theorem validChunks_right {w : DEnv α} {xs ys : List String} {bs : List (String → ASig α)}
    (h : ValidChunks w (xs ++ ys) bs) : ValidChunks w ys bs :=
  fun x hx => h x (List.mem_append_right _ hx)

omit [Val α] [LawfulVal α] in
/-- What is shown of an operand from the assumptions on its variables holds under the assumptions on the variables of the
    node. -/
theorem opnd_left {w : DEnv α} {xs ys : List String} {bs : List (String → ASig α)} {Q : Prop}
    (ih : w.WF xs → StartsAt0 w xs → ValidChunks w xs bs → Q) (hw : w.WF (xs ++ ys)) (h0 : StartsAt0 w (xs ++ ys))
    (hch : ValidChunks w (xs ++ ys) bs) : Q :=
  ih hw.left (startsAt0_left h0) (validChunks_left hch)

omit [Val α] [LawfulVal α] in
theorem opnd_right {w : DEnv α} {xs ys : List String} {bs : List (String → ASig α)} {Q : Prop}
    (ih : w.WF ys → StartsAt0 w ys → ValidChunks w ys bs → Q) (hw : w.WF (xs ++ ys)) (h0 : StartsAt0 w (xs ++ ys))
    (hch : ValidChunks w (xs ++ ys) bs) : Q :=
  ih hw.right (startsAt0_right h0) (validChunks_right hch)

omit [LawfulVal α] in
theorem lift2_pred (hsub : ∀ a b : α, Val.neg (Val.sub a b) = Val.sub b a) (c : Cmp) (g1 g2 : Rat → Option α) :
    (fun t => (lift2 (fun a b => Val.sub a b) g1 g2 t).map (cmpOfDiff c)) = lift2 (Bin.pred c).app g1 g2 := by
  funext t
  simp only [lift2]
  cases g1 t <;> cases g2 t <;> simp only [Option.map_none, Option.map_some, cmpOfDiff_sub hsub]

omit [LawfulVal α] in
theorem lift2_predSat (hcmp : ∀ (c : Cmp) (a b : α), satOfDiff c (Val.sub a b) = c.holds a b) (c : Cmp)
    (g1 g2 : Rat → Option α) :
    (fun t => (lift2 (fun a b => Val.sub a b) g1 g2 t).map
        (fun d => if satOfDiff c d then (Val.pinf : α) else Val.ninf)) = lift2 (Bin.predSat c).app g1 g2 := by
  funext t
  simp only [lift2]
  cases g1 t <;> cases g2 t <;> simp only [Option.map_none, Option.map_some, Bin.app, hcmp]

section nodes
variable (cfg : DCfg) (hs : 0 ≤ cfg.scale) (w : DEnv α)

/-- A binary node of the fragment, its operands streams or at most one of them a constant node (`BinAux.Opnd`): the run of
    its operation over the operand streams raises nothing and has the shape of a stream, whatever the values; given `hsub`
    (and `hkey`, `hcmp` at the interface-aware predicate) it is the point-wise operation. -/
theorem bin_node (op : Bin) (hz : op ≠ .predZero) {k1 k2 : Bool} (hk : k1 = true ∨ k2 = true) {ls rs : List (ASig α)}
    {g1 g2 : Rat → Option α} (h1 : BinAux.Opnd g1 k1 ls []) (h2 : BinAux.Opnd g2 k2 rs []) :
    ∃ st outs, runBin (binStep op) {} (ls.zip rs) = .ok (st, outs) ∧ Shape outs 0 ∧
      ((∀ a b : α, Val.neg (Val.sub a b) = Val.sub b a) →
        ((∀ c, op ≠ .predSat c) ∨
          ((∀ (c : Cmp) (d d' : α), cmpOfDiff c d = cmpOfDiff c d' → satOfDiff c d = satOfDiff c d') ∧
            (∀ (c : Cmp) (a b : α), satOfDiff c (Val.sub a b) = c.holds a b))) →
        StreamOK outs 0 (lift2 op.app g1 g2)) := by
  by_cases hp : ∃ c, op = .pred c
  · obtain ⟨c, rfl⟩ := hp
    obtain ⟨st, outs2, e, hD⟩ := BinAux.streams_ok (BinAux.binUpdate_ok fun a b => Val.sub a b) hk h1 h2
    have hM := BasicAux.mapStream_ok (cmpOfDiff c) hD
    refine ⟨st, _, (runBin_post _ _ _ _ _ _).2 ⟨outs2, e, rfl⟩, hM.1, fun hsub _ => ?_⟩
    rw [lift2_pred hsub] at hM
    exact hM
  · have hop : ∀ c, op ≠ .pred c := fun c h => hp ⟨c, h⟩
    by_cases hm : op = .mul
    · subst hm
      obtain ⟨st, outs, e, hD⟩ := BinAux.streams_ok (BinNLAux.binUpdateNL_ok (Bin.mul).app) hk h1 h2
      rw [binStep_mul]
      exact ⟨st, outs, e, hD.1, fun _ _ => hD⟩
    · by_cases hps : ∃ c, op = .predSat c
      · -- the interface-aware predicate: the subtraction, then the output loop on every batch
        obtain ⟨c, rfl⟩ := hps
        obtain ⟨st, outs2, e, hD⟩ := BinAux.streams_ok (BinAux.binUpdate_ok fun a b => Val.sub a b) hk h1 h2
        refine ⟨st, _, (runBin_post _ _ _ _ _ _).2 ⟨outs2, e, rfl⟩, iaStream_shape c hD.1, fun _ hia => ?_⟩
        obtain ⟨hkey, hcmp⟩ := hia.resolve_left (fun k => k c rfl)
        have hI := iaStream_ok c (hkey c) hD
        rw [lift2_predSat hcmp] at hI
        exact hI
      · obtain ⟨st, outs, e, hD⟩ := BinAux.streams_ok (BinAux.binUpdate_ok op.app) hk h1 h2
        rw [binStep_nonpred op hop hm ⟨fun c k => hps ⟨c, k⟩, hz⟩]
        exact ⟨st, outs, e, hD.1, fun _ _ => hD⟩

omit [LawfulVal α] in
theorem pmin_fun_eq : (fun x y : α => pmin x y) = (Bin.and).app := by
  funext x y; rfl

include hs in
/-- A bounded since node: the four operations chained, then the decomposition of `since[a,b]` on the semantics. -/
theorem sinceT_node (a b : Nat) (hab : a ≤ b) (φ ψ : F α) (hsφ : supported φ = true) (hsψ : supported ψ = true)
    (hw : w.WF (φ.vars ++ ψ.vars)) (h0 : StartsAt0 w (φ.vars ++ ψ.vars)) {ls rs : List (ASig α)}
    (hlen : ls.length = rs.length) (h1 : StreamOK ls 0 (rhoD cfg w φ)) (h2 : StreamOK rs 0 (rhoD cfg w ψ)) :
    ∃ st outs, runBin (sinceTStep ((a : Rat) * cfg.scale) ((b : Rat) * cfg.scale))
        ({}, { prev := Val.ninf }, {}, {}) (ls.zip rs) = .ok (st, outs) ∧
      StreamOK outs 0 (rhoD cfg w (.tb2 .since a b φ ψ)) := by
  obtain ⟨ha', hab'⟩ := scale_bounds cfg hs hab
  have hd1 := dom_zero w φ (startsAt0_left h0)
  have hd2 := dom_zero w ψ (startsAt0_right h0)
  obtain ⟨o', o1s, e1, D1⟩ := streamOK_of_sup (timedStream_once_sup _ _ ha' hab' h2)
    (hd2 ▸ rhoD_onceB_sup cfg hs w ψ hsψ hw.right a b hab)
  have C := rhoD_since_sup cfg hs w φ ψ hsφ hsψ hw
  rw [hd1, hd2, max_self] at C
  obtain ⟨s', o2s, e2, D2⟩ := streamOK_of_sup (sinceStream_ok hlen h1 h2) C
  have hsupS : supported (F.tmp2 T2.since φ ψ) = true := by
    simp only [supported, hsφ, hsψ, Bool.and_self]
  obtain ⟨h0', h0a⟩ := scale_bounds cfg hs (Nat.zero_le a)
  obtain ⟨h', o3s, e3, D3⟩ := streamOK_of_inf (timedStream_hist_inf _ _ h0' h0a D2)
    (dom_zero w (F.tmp2 T2.since φ ψ) h0 ▸ rhoD_histB_inf cfg hs w _ hsupS hw 0 a (Nat.zero_le a))
  have hz : ((0 : Nat) : Rat) * cfg.scale = 0 := by simp
  rw [hz] at e3
  have hl : o1s.length = o3s.length := by
    rw [BasicAux.runUn_length e1, BasicAux.runUn_length e3, BasicAux.runBin_length e2, List.length_zip, hlen, min_self]
  obtain ⟨an', outs, e4, D4⟩ := binStream_ok (fun x y : α => pmin x y) hl D1 D3
  rw [pmin_fun_eq, lift2_bin] at D4
  refine ⟨_, outs, (runBin_sinceT _ _ _ _ _ _ _ _ outs).2 ⟨o', o1s, s', o2s, h', o3s, an', ?_, e2, e3, e4, rfl⟩,
    D4.1, fun t ht => ?_⟩
  · rw [List.map_snd_zip (le_of_eq hlen.symm)]
    exact e1
  · rw [D4.2 t ht, rhoD_since_bounded_decomp cfg hs w φ ψ a b hab hsφ hsψ hw h0 t (covered_ge ht)]

/-- … its shape and the absence of exceptions need nothing about the values. -/
theorem sinceT_node_shape (a' b' : Rat) (ha : 0 ≤ a') (hab : a' ≤ b') {ls rs : List (ASig α)}
    (hlen : ls.length = rs.length) (h1 : Shape ls 0) (h2 : Shape rs 0) :
    ∃ st outs, runBin (sinceTStep a' b') ({}, { prev := Val.ninf }, {}, {}) (ls.zip rs) = .ok (st, outs) ∧
      Shape outs 0 := by
  obtain ⟨o', o1s, e1, S1, _⟩ := timedStream_once_sup a' b' ha hab (shape_streamOK h2)
  obtain ⟨s', o2s, e2, S2, _⟩ := sinceStream_ok hlen (shape_streamOK h1) (shape_streamOK h2)
  obtain ⟨h', o3s, e3, S3, _⟩ := timedStream_hist_inf 0 a' le_rfl ha (shape_streamOK S2)
  have hl : o1s.length = o3s.length := by
    rw [BasicAux.runUn_length e1, BasicAux.runUn_length e3, BasicAux.runBin_length e2, List.length_zip, hlen, min_self]
  obtain ⟨an', outs, e4, D4⟩ := binStream_ok (fun x y : α => pmin x y) hl (shape_streamOK S1) (shape_streamOK S3)
  refine ⟨_, outs, (runBin_sinceT _ _ _ _ _ _ _ _ outs).2 ⟨o', o1s, s', o2s, h', o3s, an', ?_, e2, e3, e4, rfl⟩, D4.1⟩
  rw [List.map_snd_zip (le_of_eq hlen.symm)]
  exact e1

end nodes

section tree
open Rtamt.Dense.ProgramOn Rtamt.Dense.C09Dense

omit [LawfulVal α] in
theorem nodeStepOn_un (cfg : DCfg) (op : Un) (φ : F α) (B : ASig α) :
    nodeStepOn cfg (.un op φ) .unit [B] = ((mapUn op B).map fun o => ((), o)).map fun p => (NSt.unit, p.2) := by
  simp only [nodeStepOn]
  cases mapUn op B <;> rfl

omit [LawfulVal α] in
theorem initNodeOn_bin {op : Bin} (hz : op ≠ .predZero) (φ ψ : F α) : initNodeOn (.bin op φ ψ) = .ok (.bin {}) := by
  cases op <;> first | rfl | exact absurd rfl hz

omit [LawfulVal α] in
theorem nodeStepOn_bin (cfg : DCfg) (op : Bin) (φ ψ : F α) (s : BinSt α) (L R : ASig α) :
    nodeStepOn cfg (.bin op φ ψ) (.bin s) [L, R] = (binStep op s L R).map fun p => (NSt.bin p.1, p.2) := by
  -- the two predicate forms post-process what `binUpdate` returns
  cases op <;> first | rfl |
    (simp only [nodeStepOn, binStep]; cases binUpdate (fun a b => Val.sub a b) s L R <;> rfl)

omit [LawfulVal α] in
theorem nodeStepOn_sinceT (cfg : DCfg) (op : TB2) (a b : Nat) (φ ψ : F α)
    (s : TimedSt α × SinceSt α × TimedSt α × BinSt α) (L R : ASig α) :
    nodeStepOn cfg (.tb2 op a b φ ψ) (.sinceT s.1 s.2.1 s.2.2.1 s.2.2.2) [L, R] =
      (sinceTStep ((a : Rat) * cfg.scale) ((b : Rat) * cfg.scale) s L R).map fun p =>
        (NSt.sinceT p.1.1 p.1.2.1 p.1.2.2.1 p.1.2.2.2, p.2) := by
  simp only [nodeStepOn, sinceTStep]
  cases timedUpdate ltW Val.ninf ((a : Rat) * cfg.scale) ((b : Rat) * cfg.scale) s.1 R with
  | error e => rfl
  | ok p1 =>
    simp only [Exc.ok_bind]
    cases timedUpdate gtW Val.pinf 0 ((a : Rat) * cfg.scale) s.2.2.1 (sinceUpdate s.2.1 L R).2 with
    | error e => rfl
    | ok p3 =>
      simp only [Exc.ok_bind]
      cases binUpdate (fun x y => pmin x y) s.2.2.2 p1.2 p3.2 <;> rfl

omit [LawfulVal α] in
theorem stepOn_bin (cfg : DCfg) (op : Bin) (φ ψ : F α) (b : String → ASig α) (s : BinSt α) (l r p' : OnSt α)
    (o : ASig α) :
    stepOn cfg b (.bin op φ ψ) (OnSt.bin s l r) = .ok (p', o) ↔
      ∃ l' x r' y s', stepOn cfg b φ l = .ok (l', x) ∧ stepOn cfg b ψ r = .ok (r', y) ∧
        binStep op s x y = .ok (s', o) ∧ p' = OnSt.bin s' l' r' :=
  stepOn_op2 cfg (.bin op φ ψ) NSt.bin _ (nodeStepOn_bin cfg op φ ψ) b s l r p' o

omit [LawfulVal α] in
theorem stepOn_since (cfg : DCfg) (op : T2) (φ ψ : F α) (b : String → ASig α) (s : SinceSt α) (l r p' : OnSt α)
    (o : ASig α) :
    stepOn cfg b (.tmp2 op φ ψ) (OnSt.since s l r) = .ok (p', o) ↔
      ∃ l' x r' y s', stepOn cfg b φ l = .ok (l', x) ∧ stepOn cfg b ψ r = .ok (r', y) ∧
        (fun (st : SinceSt α) L R => (Except.ok (sinceUpdate st L R) : Except PyErr (SinceSt α × ASig α))) s x y
          = .ok (s', o) ∧ p' = OnSt.since s' l' r' :=
  stepOn_op2 cfg (.tmp2 op φ ψ) NSt.since (fun st L R => .ok (sinceUpdate st L R)) (fun _ _ _ => rfl) b s l r p' o

omit [LawfulVal α] in
theorem stepOn_sinceT (cfg : DCfg) (op : TB2) (a b' : Nat) (φ ψ : F α) (b : String → ASig α)
    (s : TimedSt α × SinceSt α × TimedSt α × BinSt α) (l r p' : OnSt α) (o : ASig α) :
    stepOn cfg b (.tb2 op a b' φ ψ) (.sinceT s.1 s.2.1 s.2.2.1 s.2.2.2 l r) = .ok (p', o) ↔
      ∃ l' x r' y s', stepOn cfg b φ l = .ok (l', x) ∧ stepOn cfg b ψ r = .ok (r', y) ∧
        sinceTStep ((a : Rat) * cfg.scale) ((b' : Rat) * cfg.scale) s x y = .ok (s', o) ∧
        p' = .sinceT s'.1 s'.2.1 s'.2.2.1 s'.2.2.2 l' r' :=
  stepOn_op2 cfg (.tb2 op a b' φ ψ) (fun s : TimedSt α × SinceSt α × TimedSt α × BinSt α =>
    NSt.sinceT s.1 s.2.1 s.2.2.1 s.2.2.2) _ (nodeStepOn_sinceT cfg op a b' φ ψ) b s l r p' o

end tree

omit [Val α] [LawfulVal α] in
/-- The `Claim` that `claim_node1` / `claim_node2` ask of the run `x` of an operation alone, from the two things the theorem
    about the operation gives: the run raises nothing and returns a stream whatever the values, and the stream of the right
    values under `H`. -/
theorem claim_op {σ : Type} {x : Except PyErr (σ × List (ASig α))} {H tot : Prop} {R : List (ASig α) → Prop}
    {g : Rat → Option α} (hshape : ∃ st outs, x = .ok (st, outs) ∧ Shape outs 0 ∧ R outs)
    (hval : H → ∃ st outs, x = .ok (st, outs) ∧ StreamOK outs 0 g) :
    Exc.Claim x tot fun p => Shape p.2 0 ∧ (H → StreamOK p.2 0 g) :=
  have A : Exc.Claim x tot fun p => Shape p.2 0 ∧ R p.2 := .of_ex (Prod.exists.2 hshape)
  ⟨fun p e => ⟨(A.sound p e).1, fun hy =>
    (Exc.Claim.of_ex (tot := True) (P := fun p => StreamOK p.2 0 g) (Prod.exists.2 (hval hy))).sound p e⟩, A.total⟩

/-- The assumptions on the value type under which the returned values are those of `rhoD`: `hsub`, and `hkey`, `hcmp` where
    the interface-aware predicate is allowed. -/
def ValHyp (α : Type) [Val α] (ia : Bool) : Prop :=
  (∀ a b : α, Val.neg (Val.sub a b) = Val.sub b a) ∧
    (ia = true →
      ((∀ (c : Cmp) (d d' : α), cmpOfDiff c d = cmpOfDiff c d' → satOfDiff c d = satOfDiff c d') ∧
        (∀ (c : Cmp) (a b : α), satOfDiff c (Val.sub a b) = c.holds a b)))

section main
open Rtamt.Dense.ProgramOn Rtamt.Dense.C09Dense
variable (cfg : DCfg) (hs : 0 ≤ cfg.scale) (w : DEnv α) (ia : Bool) (batches : List (String → ASig α))

/-- What is claimed of a formula of the fragment: its run returns a stream whatever the values, the stream of `rhoD` under
    `ValHyp`, and raises nothing without `sqrt` / `ln`. -/
abbrev Mirrors (φ : F α) : Prop :=
  ClaimQ cfg batches φ fun outs => Shape outs 0 ∧ (ValHyp α ia → StreamOK outs 0 (rhoD cfg w φ))

include hs in
theorem claim_all : ∀ (φ : F α), onFragG ia φ = true → w.WF φ.vars → StartsAt0 w φ.vars →
    ValidChunks w φ.vars batches → Mirrors cfg w ia batches φ := by
  apply onFragG_induction
  case var =>
    intro x hw h0 hch
    have hx : x ∈ (F.var x : F α).vars := List.mem_singleton_self x
    obtain ⟨hne, hp⟩ := hw x hx
    obtain ⟨rest, hr⟩ := hch x hx
    have hS := varStream_ok (w.sig x) hne hp (h0 x hx) _ rest hr
    exact .of_eq (runOn_var cfg x batches) ⟨hS.1, fun _ => hS⟩
  case un =>
    intro op φ ih hw h0 hch
    refine claim_node1 (.un op φ) (fun _ => NSt.unit) (fun _ B => (mapUn op B).map fun o => ((), o)) () rfl
      (fun _ => nodeStepOn_un cfg op φ)
      (fun cs _ hQ => ⟨fun ⟨st, outs⟩ e => ?_, fun hnp => ?_⟩) (ih hw h0 hch)
    · exact ⟨(unStream_ok op (shape_streamOK hQ.1) e).1, fun hy => unStream_ok op (hQ.2 hy) e⟩
    · obtain ⟨outs, e⟩ := unStream_total (α := α) op (noPartialOps_un hnp) cs
      exact ⟨_, e⟩
  case bin =>
    intro op φ ψ hz hps hops hw h0 hch
    -- what is known of an operand run: the claim of the fragment (a stream) or, of a constant, the run itself
    have opS : ∀ (χ : F α) cs, Shape cs 0 ∧ (ValHyp α ia → StreamOK cs 0 (rhoD cfg w χ)) →
        (∃ g, BinAux.Opnd g true cs []) ∧ (ValHyp α ia → BinAux.Opnd (rhoD cfg w χ) true cs []) :=
      fun χ cs q => ⟨⟨_, .ofStream (shape_streamOK q.1)⟩, fun hy => .ofStream (q.2 hy)⟩
    have opC : ∀ (c : α) cs, cs = constStream c batches.length →
        (∃ g, BinAux.Opnd g false cs []) ∧ (ValHyp α ia → BinAux.Opnd (rhoD cfg w (.const c)) false cs []) :=
      fun c cs q => q ▸ ⟨⟨_, .ofConst c _⟩, fun _ => .ofConst c _⟩
    have key : ∀ {Q1 Q2 : List (ASig α) → Prop} {k1 k2 : Bool}, k1 = true ∨ k2 = true →
        (∀ ls, Q1 ls → (∃ g, BinAux.Opnd g k1 ls []) ∧ (ValHyp α ia → BinAux.Opnd (rhoD cfg w φ) k1 ls [])) →
        (∀ rs, Q2 rs → (∃ g, BinAux.Opnd g k2 rs []) ∧ (ValHyp α ia → BinAux.Opnd (rhoD cfg w ψ) k2 rs [])) →
        ClaimQ cfg batches φ Q1 → ClaimQ cfg batches ψ Q2 → Mirrors cfg w ia batches (.bin op φ ψ) := by
      intro Q1 Q2 k1 k2 hk hO1 hO2
      refine claim_node2 (.bin op φ ψ) NSt.bin (binStep op) {} (initNodeOn_bin hz φ ψ) (nodeStepOn_bin cfg op φ ψ)
        fun ls rs _ _ q1 q2 => claim_op (R := fun _ => True) ?_ fun hy => ?_
      · obtain ⟨g1, o1⟩ := (hO1 ls q1).1
        obtain ⟨g2, o2⟩ := (hO2 rs q2).1
        obtain ⟨st, outs, e, hS, _⟩ := bin_node op hz hk o1 o2
        exact ⟨st, outs, e, hS, trivial⟩
      · obtain ⟨st, outs, e, _, hD⟩ := bin_node op hz hk ((hO1 ls q1).2 hy) ((hO2 rs q2).2 hy)
        exact ⟨st, outs, e, by rw [← lift2_bin]; exact hD hy.1 (hps.imp_right hy.2)⟩
    have hconst : ∀ c : α, ClaimQ cfg batches (.const c) (· = constStream c batches.length) :=
      fun c => .of_eq (runOn_const cfg c batches) rfl
    rcases hops with ⟨ih1, ih2⟩ | ⟨⟨c, rfl⟩, ih2⟩ | ⟨ih1, c, rfl⟩
    · exact key (Or.inl rfl) (opS φ) (opS ψ) (opnd_left ih1 hw h0 hch) (opnd_right ih2 hw h0 hch)
    · exact key (Or.inr rfl) (opC c) (opS ψ) (hconst c) (opnd_right ih2 hw h0 hch)
    · exact key (Or.inl rfl) (opS φ) (opC c) (opnd_left ih1 hw h0 hch) (hconst c)
  case tmp1 =>
    intro op φ hop hf ih hw h0 hch
    replace ih := ih hw h0 hch
    have hsup := onFragG_supported ia φ hf
    have hd := dom_zero w φ h0
    obtain rfl | rfl := hop
    · exact claim_node1 (.tmp1 .once φ) NSt.scan (fun p B => .ok (scanUpdate pmax p B)) Val.ninf rfl (fun _ _ => rfl)
        (fun cs _ hQ => claim_op (scanStream_max (shape_streamOK hQ.1))
          fun hy => streamOK_of_sup (scanStream_max (hQ.2 hy)) (hd ▸ rhoD_once_sup cfg hs w φ hsup hw)) ih
    · exact claim_node1 (.tmp1 .hist φ) NSt.scan (fun p B => .ok (scanUpdate pmin p B)) Val.pinf rfl (fun _ _ => rfl)
        (fun cs _ hQ => claim_op (scanStream_min (shape_streamOK hQ.1))
          fun hy => streamOK_of_inf (scanStream_min (hQ.2 hy)) (hd ▸ rhoD_hist_inf cfg hs w φ hsup hw)) ih
  case since =>
    intro φ ψ hfφ hfψ ih1 ih2 hw h0 hch
    replace ih1 := opnd_left ih1 hw h0 hch
    replace ih2 := opnd_right ih2 hw h0 hch
    have C := rhoD_since_sup cfg hs w φ ψ (onFragG_supported ia φ hfφ) (onFragG_supported ia ψ hfψ) hw
    rw [dom_zero w φ (startsAt0_left h0), dom_zero w ψ (startsAt0_right h0), max_self] at C
    exact claim_node2 (.tmp2 .since φ ψ) NSt.since (fun st L R => .ok (sinceUpdate st L R)) { prev := Val.ninf } rfl
      (fun _ _ _ => rfl)
      (fun ls rs hl hr q1 q2 => claim_op (sinceStream_ok (hl.trans hr.symm) (shape_streamOK q1.1) (shape_streamOK q2.1))
        fun hy => streamOK_of_sup (sinceStream_ok (hl.trans hr.symm) (q1.2 hy) (q2.2 hy)) C) ih1 ih2
  case tb1 =>
    intro op a b φ hop hab hf ih hw h0 hch
    replace ih := ih hw h0 hch
    have hsup := onFragG_supported ia φ hf
    have hd := dom_zero w φ h0
    obtain ⟨ha', hab'⟩ := scale_bounds cfg hs hab
    obtain rfl | rfl := hop
    · exact claim_node1 (.tb1 .once a b φ) NSt.timed
        (timedUpdate ltW Val.ninf ((a : Rat) * cfg.scale) ((b : Rat) * cfg.scale)) {} rfl
        (fun s B => by simp only [nodeStepOn]; cases timedUpdate ltW Val.ninf _ _ s B <;> rfl)
        (fun cs _ hQ => claim_op (timedStream_once_sup _ _ ha' hab' (shape_streamOK hQ.1))
          fun hy => streamOK_of_sup (timedStream_once_sup _ _ ha' hab' (hQ.2 hy))
            (hd ▸ rhoD_onceB_sup cfg hs w φ hsup hw a b hab)) ih
    · exact claim_node1 (.tb1 .hist a b φ) NSt.timed
        (timedUpdate gtW Val.pinf ((a : Rat) * cfg.scale) ((b : Rat) * cfg.scale)) {} rfl
        (fun s B => by simp only [nodeStepOn]; cases timedUpdate gtW Val.pinf _ _ s B <;> rfl)
        (fun cs _ hQ => claim_op (timedStream_hist_inf _ _ ha' hab' (shape_streamOK hQ.1))
          fun hy => streamOK_of_inf (timedStream_hist_inf _ _ ha' hab' (hQ.2 hy))
            (hd ▸ rhoD_histB_inf cfg hs w φ hsup hw a b hab)) ih
  case sinceT =>
    intro a b φ ψ hab hfφ hfψ ih1 ih2 hw h0 hch
    replace ih1 := opnd_left ih1 hw h0 hch
    replace ih2 := opnd_right ih2 hw h0 hch
    obtain ⟨ha', hab'⟩ := scale_bounds cfg hs hab
    exact claim_node2 (.tb2 .since a b φ ψ) (fun s : TimedSt α × SinceSt α × TimedSt α × BinSt α =>
        NSt.sinceT s.1 s.2.1 s.2.2.1 s.2.2.2)
      (sinceTStep ((a : Rat) * cfg.scale) ((b : Rat) * cfg.scale)) ({}, { prev := Val.ninf }, {}, {}) rfl
      (nodeStepOn_sinceT cfg .since a b φ ψ)
      (fun ls rs hl hr q1 q2 => claim_op
        (let ⟨st, outs, e, h⟩ := sinceT_node_shape _ _ ha' hab' (hl.trans hr.symm) q1.1 q2.1; ⟨st, outs, e, h, trivial⟩)
        fun hy => sinceT_node cfg hs w a b hab φ ψ (onFragG_supported ia φ hfφ) (onFragG_supported ia ψ hfψ) hw h0
          (hl.trans hr.symm) (q1.2 hy) (q2.2 hy)) ih1 ih2

end main

end MainAux

/-- C05 (mirror): whatever the chunking, the concatenated output of the online monitor is `rhoD` where it is defined. -/
theorem C05_online_mirror_partial (cfg : DCfg) (hs : 0 ≤ cfg.scale) (w : DEnv α) (φ : F α)
    (hfrag : onFrag φ = true) (hw : w.WF φ.vars) (h0 : StartsAt0 w φ.vars)
    (hsub : ∀ a b : α, Val.neg (Val.sub a b) = Val.sub b a)
    (batches : List (String → ASig α)) (hch : ValidChunks w φ.vars batches)
    {outs : List (ASig α)} (he : runOn cfg φ batches = .ok outs) :
    StreamOK outs 0 (rhoD cfg w φ) :=
  ((MainAux.claim_all cfg hs w false batches φ (by rw [← MainAux.onFrag_eq]; exact hfrag) hw h0 hch).sound outs he).2
    ⟨hsub, fun k => absurd k (by simp)⟩

/-- It raises nothing (without `sqrt` / `ln`). -/
theorem C05_online_total_partial (cfg : DCfg) (hs : 0 ≤ cfg.scale) (w : DEnv α) (φ : F α)
    (hfrag : onFrag φ = true) (hnp : noPartialOps φ = true) (hw : w.WF φ.vars) (h0 : StartsAt0 w φ.vars)
    (batches : List (String → ASig α)) (hch : ValidChunks w φ.vars batches) :
    ∃ outs, runOn cfg φ batches = .ok outs :=
  (MainAux.claim_all cfg hs w false batches φ (by rw [← MainAux.onFrag_eq]; exact hfrag) hw h0 hch).total hnp

/-- Two chunkings of the same signals never yield different robustness at the same instant. -/
theorem C05_chunkings_agree_partial (cfg : DCfg) (hs : 0 ≤ cfg.scale) (w : DEnv α) (φ : F α)
    (hfrag : onFrag φ = true) (hw : w.WF φ.vars) (h0 : StartsAt0 w φ.vars)
    (hsub : ∀ a b : α, Val.neg (Val.sub a b) = Val.sub b a)
    (b1 b2 : List (String → ASig α)) (h1 : ValidChunks w φ.vars b1) (h2 : ValidChunks w φ.vars b2)
    {o1 o2 : List (ASig α)} (e1 : runOn cfg φ b1 = .ok o1) (e2 : runOn cfg φ b2 = .ok o2)
    (t : Rat) (c1 : Covered o1 0 t) (c2 : Covered o2 0 t) :
    valAtA o1.flatten t = valAtA o2.flatten t := by
  rw [(C05_online_mirror_partial cfg hs w φ hfrag hw h0 hsub b1 h1 e1).2 t c1,
    (C05_online_mirror_partial cfg hs w φ hfrag hw h0 hsub b2 h2 e2).2 t c2]

omit [Val α] [LawfulVal α] in
/-- The signal `x = [(0, c1), (1, c2)]` fed one sample per update, for a formula whose only variable is `x`. -/
theorem witness_x (c1 c2 : α) {w : DEnv α} (e : w = [("x", [(0, c1), (1, c2)])]) {xs : List String}
    (hx : ∀ x ∈ xs, x = "x") :
    w.WF xs ∧ StartsAt0 w xs ∧ ValidChunks w xs [fun _ => [(Tm.fin 0, c1)], fun _ => [(Tm.fin 1, c2)]] := by
  obtain ⟨hw, h0⟩ := Alg.witness_x c1 c2 e hx
  subst e
  refine ⟨hw, h0, fun x h => ?_⟩
  rw [hx x h]
  exact ⟨[], rfl⟩

/-- Non-vacuity: the hypotheses of the three theorems hold for a concrete environment, formula
    (`once[0,1] (x >= c)` over the two-sample signal `x = [(0, c1), (1, c2)]`) and a chunking into two updates
    (one sample each), for every value type. -/
example (c c1 c2 : α) :
    let w : DEnv α := [("x", [(0, c1), (1, c2)])]
    let φ : F α := .tb1 .once 0 1 (.bin (.pred .ge) (.var "x") (.const c))
    let batches : List (String → ASig α) := [fun _ => [(Tm.fin 0, c1)], fun _ => [(Tm.fin 1, c2)]]
    onFrag φ = true ∧ noPartialOps φ = true ∧ w.WF φ.vars ∧ StartsAt0 w φ.vars ∧ ValidChunks w φ.vars batches := by
  intro w φ batches
  exact ⟨rfl, rfl, witness_x c1 c2 rfl fun x hx => List.mem_singleton.1 hx⟩

/-- … so the monitor fed in these two updates raises nothing and what it returns is `rhoD` (given `hsub`). -/
example (c c1 c2 : α) (hsub : ∀ a b : α, Val.neg (Val.sub a b) = Val.sub b a) :
    let w : DEnv α := [("x", [(0, c1), (1, c2)])]
    let φ : F α := .tb1 .once 0 1 (.bin (.pred .ge) (.var "x") (.const c))
    let batches : List (String → ASig α) := [fun _ => [(Tm.fin 0, c1)], fun _ => [(Tm.fin 1, c2)]]
    ∃ outs, runOn {} φ batches = .ok outs ∧ StreamOK outs 0 (rhoD {} w φ) := by
  intro w φ batches
  have hfrag : onFrag φ = true := rfl
  obtain ⟨hw, h0, hch⟩ := witness_x c1 c2 (w := w) rfl (xs := φ.vars) fun x hx => List.mem_singleton.1 hx
  obtain ⟨outs, he⟩ := C05_online_total_partial {} (by decide) w φ hfrag rfl hw h0 batches hch
  exact ⟨outs, he, C05_online_mirror_partial {} (by decide) w φ hfrag hw h0 hsub batches hch he⟩

/-- Non-vacuity with `since[a,b]`: `(x >= c) since[1,2] (abs y)` over two two-sample signals fed in two updates (`x` one
    sample per update; `y` both samples in the first update and nothing in the second): the hypotheses hold, the monitor
    raises nothing and what it returns is `rhoD` (given `hsub`). -/
example (c c1 c2 d1 d2 : α) (hsub : ∀ a b : α, Val.neg (Val.sub a b) = Val.sub b a) :
    let w : DEnv α := [("x", [(0, c1), (1, c2)]), ("y", [(0, d1), (2, d2)])]
    let φ : F α := .tb2 .since 1 2 (.bin (.pred .ge) (.var "x") (.const c)) (.un .abs (.var "y"))
    let batches : List (String → ASig α) :=
      [fun x => if x = "x" then [(Tm.fin 0, c1)] else [(Tm.fin 0, d1), (Tm.fin 2, d2)],
       fun x => if x = "x" then [(Tm.fin 1, c2)] else []]
    onFrag φ = true ∧ noPartialOps φ = true ∧ w.WF φ.vars ∧ StartsAt0 w φ.vars ∧ ValidChunks w φ.vars batches ∧
      ∃ outs, runOn {} φ batches = .ok outs ∧ StreamOK outs 0 (rhoD {} w φ) := by
  intro w φ batches
  have hx : ∀ x, x ∈ φ.vars → x = "x" ∨ x = "y" := fun x hx => List.mem_pair.1 hx
  have hfrag : onFrag φ = true := rfl
  have hnp : noPartialOps φ = true := rfl
  have hw : w.WF φ.vars := by
    intro x h
    rcases hx x h with rfl | rfl
    · exact ⟨List.cons_ne_nil _ _, List.pairwise_pair.2 (zero_lt_one : (0 : Rat) < 1)⟩
    · exact ⟨List.cons_ne_nil _ _, List.pairwise_pair.2 (zero_lt_two : (0 : Rat) < 2)⟩
  have h0 : StartsAt0 w φ.vars := by
    intro x h
    rcases hx x h with rfl | rfl <;> rfl
  have hch : ValidChunks w φ.vars batches := by
    intro x h
    rcases hx x h with rfl | rfl <;> exact ⟨[], rfl⟩
  obtain ⟨outs, he⟩ := C05_online_total_partial {} (by decide) w φ hfrag hnp hw h0 batches hch
  exact ⟨hfrag, hnp, hw, h0, hch, outs, he,
    C05_online_mirror_partial {} (by decide) w φ hfrag hw h0 hsub batches hch he⟩

/-- C06 (mirror, interface-aware robustness semantics): the statement of `C05_online_mirror_partial` for the fragment with the
    interface-aware predicate `.bin (.predSat c) φ ψ` (the IA `PredicateOperation`: the subtraction, then `sat()` kept where
    the robustness value changes within the returned batch, as `±inf`).  `hkey`: equal robustness values have equal
    satisfaction; `hcmp`: the satisfaction read off the difference is the comparison. -/
theorem C06_online_ia_partial (cfg : DCfg) (hs : 0 ≤ cfg.scale) (w : DEnv α) (φ : F α)
    (hfrag : onFragIA φ = true) (hw : w.WF φ.vars) (h0 : StartsAt0 w φ.vars)
    (hsub : ∀ a b : α, Val.neg (Val.sub a b) = Val.sub b a)
    (hkey : ∀ (c : Cmp) (d d' : α), cmpOfDiff c d = cmpOfDiff c d' → satOfDiff c d = satOfDiff c d')
    (hcmp : ∀ (c : Cmp) (a b : α), satOfDiff c (Val.sub a b) = c.holds a b)
    (batches : List (String → ASig α)) (hch : ValidChunks w φ.vars batches)
    {outs : List (ASig α)} (he : runOn cfg φ batches = .ok outs) :
    StreamOK outs 0 (rhoD cfg w φ) :=
  ((MainAux.claim_all cfg hs w true batches φ (by rw [← MainAux.onFragIA_eq]; exact hfrag) hw h0 hch).sound outs he).2
    ⟨hsub, fun _ => ⟨hkey, hcmp⟩⟩

/-- … and it raises nothing (without `sqrt` / `ln`). -/
theorem C06_online_ia_total_partial (cfg : DCfg) (hs : 0 ≤ cfg.scale) (w : DEnv α) (φ : F α)
    (hfrag : onFragIA φ = true) (hnp : noPartialOps φ = true) (hw : w.WF φ.vars) (h0 : StartsAt0 w φ.vars)
    (batches : List (String → ASig α)) (hch : ValidChunks w φ.vars batches) :
    ∃ outs, runOn cfg φ batches = .ok outs :=
  (MainAux.claim_all cfg hs w true batches φ (by rw [← MainAux.onFragIA_eq]; exact hfrag) hw h0 hch).total hnp

/-! ### non-vacuity of C06: a lawful value type on which `hsub`, `hkey` and `hcmp` hold -/

namespace IAWitness

/-- Three values `-inf < 0 < +inf`; the difference of two values is the sign of their comparison. -/
local instance : Val (Fin 3) where
  lt a b := decide (a < b)
  neg a := Fin.rev a
  abs a := if a < 1 then Fin.rev a else a
  add a _ := a
  sub a b := if a < b then 0 else if b < a then 2 else 1
  mul a _ := a
  div a _ := a
  pinf := 2
  ninf := 0
  zero := 1
  sqrt a := a
  exp a := a
  ln a := a
  pow a _ := a
  log a _ := a

local instance : LawfulVal (Fin 3) where
  lt_iff a b := by simp [Val.lt]
  pinf_top := rfl
  ninf_bot := rfl
  neg_neg a := by simp [Val.neg]
  neg_le_neg a b h := by simpa [Val.neg] using h

theorem hsub3 (a b : Fin 3) : Val.neg (Val.sub a b) = Val.sub b a := by revert a b; decide

theorem hkey3 (c : Cmp) (d d' : Fin 3) : cmpOfDiff c d = cmpOfDiff c d' → satOfDiff c d = satOfDiff c d' := by
  cases c <;> revert d d' <;> decide

theorem hcmp3 (c : Cmp) (a b : Fin 3) : satOfDiff c (Val.sub a b) = c.holds a b := by
  cases c <;> revert a b <;> decide

/-- `once[0,1] (x >= 0)` (interface-aware predicate) over `x = [(0, -inf), (1, +inf)]` fed in two updates: the hypotheses of
    `C06_online_ia_partial` hold, the monitor raises nothing and what it returns is `rhoD`. -/
example :
    let w : DEnv (Fin 3) := [("x", [(0, 0), (1, 2)])]
    let φ : F (Fin 3) := .tb1 .once 0 1 (.bin (.predSat .ge) (.var "x") (.const 1))
    let batches : List (String → ASig (Fin 3)) := [fun _ => [(Tm.fin 0, 0)], fun _ => [(Tm.fin 1, 2)]]
    onFragIA φ = true ∧ onFrag φ = false ∧ noPartialOps φ = true ∧ w.WF φ.vars ∧ StartsAt0 w φ.vars ∧
      ValidChunks w φ.vars batches ∧ ∃ outs, runOn {} φ batches = .ok outs ∧ StreamOK outs 0 (rhoD {} w φ) := by
  intro w φ batches
  have hfrag : onFragIA φ = true := rfl
  have hnp : noPartialOps φ = true := rfl
  obtain ⟨hw, h0, hch⟩ := witness_x (0 : Fin 3) 2 (w := w) rfl (xs := φ.vars) fun x hx => List.mem_singleton.1 hx
  obtain ⟨outs, he⟩ := C06_online_ia_total_partial {} (by decide) w φ hfrag hnp hw h0 batches hch
  exact ⟨hfrag, rfl, hnp, hw, h0, hch, outs, he,
    C06_online_ia_partial {} (by decide) w φ hfrag hw h0 hsub3 hkey3 hcmp3 batches hch he⟩

end IAWitness

end Rtamt.Dense.AlgOn
