/-
  What the offline and the online dense-time algorithms have in common below their loops, said once about the mirrors
  (`Rtamt/Dense/Alg.lean`, `AlgOn.lean`) for `GenDense*`, `GenDenseOn*` and `Dense/*` alike.  Every output loop KEEPs a
  sample when its value differs from the previous one or it is the last (`keepB`, `dedupGoK_cons`); `intersection` SELects
  among thirteen positions of two segments by one chain of tests (`sel13`).  Before them, two facts about lists that the
  loops over samples need.
-/
import Rtamt.Dense.AlgOn

namespace Rtamt.Dense.Alg
open Rtamt Val

variable {α : Type} [Val α]

theorem exists_cons_cons {γ : Type} : ∀ {l : List γ}, ¬ l.length ≤ 1 → ∃ x y r, l = x :: y :: r
  | _ :: _ :: _, _ => ⟨_, _, _, rfl⟩
  | [], h | [_], h => absurd (by simp) h

theorem drop_of_get {γ : Type} (l : List γ) (j : Nat) (x : γ) (h : l[j]? = some x) :
    l.drop j = x :: l.drop (j + 1) := by
  obtain ⟨hj, rfl⟩ := List.getElem?_eq_some_iff.mp h
  exact List.drop_eq_getElem_cons hj

/-- `out_value != prev`, where `prev` is `nan` at the start -/
def keepB (prev : Option α) (o : α) : Bool :=
  match prev with
  | none => true
  | some x => vne o x

theorem dedupGoK_cons {γ : Type} (key : γ → α) (prev : Option α) (p : Tm × γ) (l : List (Tm × γ)) :
    dedupGoK key prev (p :: l) =
      (if keepB prev (key p.2) || l.isEmpty then [p] else []) ++ dedupGoK key (some (key p.2)) l := by
  cases l with
  | nil => cases prev <;> simp [dedupGoK, keepB]
  | cons q r => cases prev <;> simp [dedupGoK, keepB]

theorem dedupGo_eq_dedupGoK : ∀ (prev : Option α) (s : ASig α), dedupGo prev s = dedupGoK (fun x => x) prev s
  | _, [] => rfl
  | _, [_] => rfl
  | prev, p :: q :: rest => by simp only [dedupGo, dedupGoK, dedupGo_eq_dedupGoK (some p.2) (q :: rest)]

theorem dedupGo_cons (prev : Option α) (p : Tm × α) (l : ASig α) :
    dedupGo prev (p :: l) = (if keepB prev p.2 || l.isEmpty then [p] else []) ++ dedupGo (some p.2) l := by
  rw [dedupGo_eq_dedupGoK, dedupGo_eq_dedupGoK]
  exact dedupGoK_cons _ prev p l

/-- The branch that the `if … elif` chain of `intersection.py` (offline and online alike) takes on the segments
    `[p1, c1)`, `[p2, c2)`: one of thirteen continuations, or the last `else`, which raises. -/
def sel13 {γ : Type} (p1 c1 p2 c2 : Tm) (k1 k2 k3 k4 k5 k6 k7 k8 k9 k10 k11 k12 k13 e : γ) : γ :=
  if Tm.lt c1 p2 then k1
  else if Tm.lt p1 c1 && c1 == p2 && Tm.lt p2 c2 then k2
  else if Tm.lt p1 p2 && Tm.lt p2 c1 && Tm.lt c1 c2 then k3
  else if Tm.lt p1 p2 && Tm.lt p2 c1 && c1 == c2 then k4
  else if Tm.lt p2 p1 && Tm.lt p1 c1 && c1 == c2 then k5
  else if Tm.lt p1 p2 && Tm.lt p2 c2 && Tm.lt c2 c1 then k6
  else if p1 == p2 && Tm.lt p2 c2 && Tm.lt c2 c1 then k7
  else if p1 == p2 && Tm.lt p2 c2 && c2 == c1 then k8
  else if p1 == p2 && Tm.lt p2 c1 && Tm.lt c1 c2 then k9
  else if Tm.lt p2 p1 && Tm.lt p1 c1 && Tm.lt c1 c2 then k10
  else if Tm.lt p2 c2 && c2 == p1 && Tm.lt p1 c1 then k11
  else if Tm.lt p2 p1 && Tm.lt p1 c2 && Tm.lt c2 c1 then k12
  else if Tm.lt c2 p1 then k13
  else e

theorem sel13_apply {γ δ : Type} (g : γ → δ) (p1 c1 p2 c2 : Tm) (k1 k2 k3 k4 k5 k6 k7 k8 k9 k10 k11 k12 k13 e : γ) :
    g (sel13 p1 c1 p2 c2 k1 k2 k3 k4 k5 k6 k7 k8 k9 k10 k11 k12 k13 e) =
      sel13 p1 c1 p2 c2 (g k1) (g k2) (g k3) (g k4) (g k5) (g k6) (g k7) (g k8) (g k9) (g k10) (g k11) (g k12) (g k13)
        (g e) := by
  unfold sel13
  simp only [apply_ite g]

end Rtamt.Dense.Alg
