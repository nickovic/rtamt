/-
  Dense time, online (C05): `MultiplicationOperation` (`binUpdateNL`): `last_output` is cleared at every update, so the
  test "drop the first result sample when it equals `last_output`" never fires and the sample at the last time stamp is
  returned again by the next update.  The buffers evolve exactly as with `binUpdate`; the returned batch is the whole
  result of the intersection (`finish out τ v`), which starts with the sample the previous batch ended with
  (`Flat.append_res` covers both).
-/
import RtamtProofs.Dense.OnBin

namespace Rtamt.Dense.AlgOn
open Rtamt Val Rtamt.Dense.Alg

namespace BinNLAux
open InterAux BinAux
attribute [local instance] InterAux.tmOrder

variable {α β : Type}

section upd
variable [Val α] [LawfulVal α]
set_option linter.unusedSectionVars false

theorem binUpdateNL_empty (f : α → α → α) (st : BinSt α) (sl sr : ASig α)
    (h : joinBuf st.buf1 sl = [] ∨ joinBuf st.buf2 sr = []) :
    binUpdateNL f st sl sr =
      .ok ({ buf1 := joinBuf st.buf1 sl, buf2 := joinBuf st.buf2 sr, lastOut := none }, []) := by
  unfold binUpdateNL
  exact binUpdate_empty f { st with lastOut := none } sl sr h

/-- The whole result of the intersection is returned: nothing is dropped. -/
theorem binUpdateNL_of_inter (f : α → α → α) (st : BinSt α) (sl sr : ASig α) (out : ASig α) (t : Tm) (v : α)
    (r1 r2 : ASig α) (h : interOn f vne (joinBuf st.buf1 sl) (joinBuf st.buf2 sr) = .ok (out, .item t v, r1, r2)) :
    binUpdateNL f st sl sr =
      .ok ({ buf1 := r1, buf2 := r2, lastOut := newLast none (finish out t v) }, finish out t v) := by
  unfold binUpdateNL
  have := binUpdate_of_inter f { st with lastOut := none } sl sr out t v r1 r2 h
  simpa only [dropFirst_none] using this

theorem binUpdateNL_ok (f : α → α → α) : UpdOK f (binUpdateNL f) where
  empty st sl sr _ h := binUpdateNL_empty f st sl sr h
  sem g1 g2 st sl sr lam1 lam2 E μ h1 h2 hfin ht hμ hph := by
    obtain ⟨out, τ, v', r1, r2, hi, hR, hrest⟩ := interOn_sem f g1 g2 _ _ lam1 lam2 μ h1 h2 hfin ht hμ
    have hup := binUpdateNL_of_inter f st sl sr out (Tm.fin τ) v' r1 r2 hi
    rw [newLast_of_last hR.last] at hup
    rcases hph with ⟨_, rfl, rfl⟩ | ⟨v, _, hE, hl⟩
    · exact ⟨r1, r2, _, τ, v', hup, hR.flat, hR.last, hR.sorted, hrest⟩
    · obtain ⟨hF, hl'⟩ := (hE.append_res hl hR).2 _ (Or.inl rfl)
      exact ⟨r1, r2, _, τ, v', hup, hF, hl', hR.sorted, hrest⟩

end upd

end BinNLAux

variable {α : Type} [Val α] [LawfulVal α]

set_option linter.unusedVariables false in
open BinAux BinNLAux in
/-- `MultiplicationOperation`: the same contract as `binStream_ok`. -/
theorem binStreamNL_ok (f : α → α → α) {Ls Rs : List (ASig α)} (hlen : Ls.length = Rs.length)
    {g1 g2 : Rat → Option α} (h1 : StreamOK Ls 0 g1) (h2 : StreamOK Rs 0 g2) :
    ∃ st outs, runBin (binUpdateNL f) {} (Ls.zip Rs) = .ok (st, outs) ∧ StreamOK outs 0 (lift2 f g1 g2) :=
  streams_ok (binUpdateNL_ok f) (Or.inl rfl) (.ofStream h1) (.ofStream h2)

open BinAux BinNLAux in
theorem binStreamNL_const_right (f : α → α → α) (c : α) {Ls : List (ASig α)} {g1 : Rat → Option α} (h1 : StreamOK Ls 0 g1) :
    ∃ st outs, runBin (binUpdateNL f) {} (Ls.zip (constStream c Ls.length)) = .ok (st, outs) ∧
      StreamOK outs 0 (fun t => (g1 t).map (fun a => f a c)) :=
  let ⟨st, outs, hrun, hs⟩ := streams_ok (binUpdateNL_ok f) (Or.inl rfl) (.ofStream h1) (.ofConst c _)
  ⟨st, outs, hrun, streamOK_congr hs (lift2_const_right f g1 c)⟩

open BinAux BinNLAux in
theorem binStreamNL_const_left (f : α → α → α) (c : α) {Rs : List (ASig α)} {g2 : Rat → Option α} (h2 : StreamOK Rs 0 g2) :
    ∃ st outs, runBin (binUpdateNL f) {} ((constStream c Rs.length).zip Rs) = .ok (st, outs) ∧
      StreamOK outs 0 (fun t => (g2 t).map (fun b => f c b)) :=
  let ⟨st, outs, hrun, hs⟩ := streams_ok (binUpdateNL_ok f) (Or.inr rfl) (.ofConst c _) (.ofStream h2)
  ⟨st, outs, hrun, streamOK_congr hs (lift2_const_left f g2 c)⟩

end Rtamt.Dense.AlgOn
