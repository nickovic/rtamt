/-
  The two segment stacks of `Rtamt/Dense/Alg.lean` - `pushSeg` / `popWhile` (bounded past operators, the stack grows where the
  time grows) and `pushSegB` / `popWhileB` (bounded future operators, it grows towards time 0) - are one algorithm in two
  directions: `near` is the end of a segment on the side where the stack grows (`lo` / `hi`), `far` the other one, `before x y`
  says that `x` lies further in that direction than `y`.
-/
import Rtamt.Dense.Alg

namespace Rtamt.Dense.Alg
open Rtamt Val

variable {α : Type}

structure Dir (α : Type) where
  near : Seg α → Tm
  far : Seg α → Tm
  /-- the segment from `x` to `y`, `x` on the near side -/
  seg : Tm → Tm → α → Seg α
  /-- `x` is strictly on the near side of `y` -/
  before : Tm → Tm → Bool

def fwdDir : Dir α := ⟨Seg.lo, Seg.hi, fun x y v => ⟨x, y, v⟩, fun x y => Tm.lt x y⟩
def backDir : Dir α := ⟨Seg.hi, Seg.lo, fun x y v => ⟨y, x, v⟩, fun x y => Tm.lt y x⟩

def popWhileG (d : Dir α) (worse : α → α → Bool) (b : Seg α) : List (Seg α) → Except PyErr (List (Seg α))
  | [] => .error .index
  | a :: rest => if worse a.v b.v && d.before (d.near b) (d.near a) then popWhileG d worse b rest else .ok (a :: rest)

def pushSegG (d : Dir α) (worse : α → α → Bool) (stk : List (Seg α)) (b : Seg α) : Except PyErr (List (Seg α)) :=
  match stk with
  | [] => .ok [b]
  | _ => do
    let stk' ← popWhileG d worse b stk
    match stk' with
    | [] => .error .index
    | a :: rest =>
      if !intersects a.lo a.hi b.lo b.hi then .ok (b :: a :: rest)
      else if !worse a.v b.v then .ok (d.seg (d.far a) (d.far b) b.v :: a :: rest)
      else
        let rest1 := if d.before (d.near a) (d.near b) then d.seg (d.near a) (d.near b) a.v :: rest else rest
        .ok (⟨b.lo, b.hi, b.v⟩ :: rest1)

theorem popWhile_eq (worse : α → α → Bool) (b : Seg α) (stk : List (Seg α)) :
    popWhile worse b stk = popWhileG fwdDir worse b stk := by
  induction stk with
  | nil => rfl
  | cons a rest ih => simp only [popWhile, popWhileG, ih]; rfl

theorem popWhileB_eq (worse : α → α → Bool) (b : Seg α) (stk : List (Seg α)) :
    popWhileB worse b stk = popWhileG backDir worse b stk := by
  induction stk with
  | nil => rfl
  | cons a rest ih => simp only [popWhileB, popWhileG, ih]; rfl

theorem pushSeg_eq (worse : α → α → Bool) (stk : List (Seg α)) (b : Seg α) :
    pushSeg worse stk b = pushSegG fwdDir worse stk b := by
  cases stk with
  | nil => rfl
  | cons x r => simp only [pushSeg, pushSegG, popWhile_eq]; rfl

theorem pushSegB_eq (worse : α → α → Bool) (stk : List (Seg α)) (b : Seg α) :
    pushSegB worse stk b = pushSegG backDir worse stk b := by
  cases stk with
  | nil => rfl
  | cons x r => simp only [pushSegB, pushSegG, popWhileB_eq]; rfl

/-- what `pushSegG` puts on the stack once `a` is the top at which `popWhileG` stopped -/
def place (d : Dir α) (worse : α → α → Bool) (a : Seg α) (rest : List (Seg α)) (b : Seg α) : List (Seg α) :=
  if !intersects a.lo a.hi b.lo b.hi then b :: a :: rest
  else if !worse a.v b.v then d.seg (d.far a) (d.far b) b.v :: a :: rest
  else ⟨b.lo, b.hi, b.v⟩ :: (if d.before (d.near a) (d.near b) then d.seg (d.near a) (d.near b) a.v :: rest else rest)

theorem pushSegG_cons (d : Dir α) (worse : α → α → Bool) (x : Seg α) (stk : List (Seg α)) (b : Seg α) :
    pushSegG d worse (x :: stk) b = (do
      let s ← popWhileG d worse b (x :: stk)
      match s with
      | [] => .error .index
      | a :: rest => .ok (place d worse a rest b)) := by
  unfold pushSegG
  simp only
  cases popWhileG d worse b (x :: stk) with
  | error e => rfl
  | ok s =>
      cases s with
      | nil => rfl
      | cons a r =>
          show (if _ then _ else if _ then _ else _) = Except.ok (place d worse a r b)
          unfold place
          by_cases h1 : (!intersects a.lo a.hi b.lo b.hi) = true <;> by_cases h2 : (!worse a.v b.v) = true <;>
            simp only [h1, h2, if_true] <;> rfl

theorem popWhileG_length (d : Dir α) (worse : α → α → Bool) (b : Seg α) :
    ∀ stk stk' : List (Seg α), popWhileG d worse b stk = .ok stk' → stk'.length ≤ stk.length
  | [], _, h => by cases h
  | a :: rest, stk', h => by
      rw [popWhileG] at h
      split at h
      · exact Nat.le_succ_of_le (popWhileG_length d worse b rest stk' h)
      · cases h; exact Nat.le_refl _

theorem place_length (d : Dir α) (worse : α → α → Bool) (a : Seg α) (rest : List (Seg α)) (b : Seg α) :
    (place d worse a rest b).length ≤ rest.length + 2 := by
  unfold place
  split
  · exact Nat.le_refl _
  · split
    · exact Nat.le_refl _
    · split
      · exact Nat.le_refl _
      · exact Nat.le_succ _

theorem pushSegG_length (d : Dir α) (worse : α → α → Bool) (b : Seg α) (stk stk' : List (Seg α))
    (h : pushSegG d worse stk b = .ok stk') : stk'.length ≤ stk.length + 1 := by
  cases stk with
  | nil => cases h; exact Nat.le_refl _
  | cons x stk =>
      rw [pushSegG_cons] at h
      cases hp : popWhileG d worse b (x :: stk) with
      | error e => rw [hp] at h; cases h
      | ok s =>
          rw [hp] at h
          have hl := popWhileG_length d worse b _ _ hp
          cases s with
          | nil => cases h
          | cons a rest =>
              cases h
              exact Nat.le_trans (place_length d worse a rest b) (Nat.succ_le_succ hl)

theorem pushSeg_length (worse : α → α → Bool) (b : Seg α) (stk stk' : List (Seg α))
    (h : pushSeg worse stk b = .ok stk') : stk'.length ≤ stk.length + 1 :=
  pushSegG_length fwdDir worse b stk stk' (pushSeg_eq worse stk b ▸ h)

theorem pushSegB_length (worse : α → α → Bool) (b : Seg α) (stk stk' : List (Seg α))
    (h : pushSegB worse stk b = .ok stk') : stk'.length ≤ stk.length + 1 :=
  pushSegG_length backDir worse b stk stk' (pushSegB_eq worse stk b ▸ h)

end Rtamt.Dense.Alg
