/-
  Dense time, M-alg = M-spec: the running-extremum loops (`fwdScan`, `backScan`) and the unbounded `since` / `until`
  (`sinceOp`, `untilOp`) of `Rtamt/Dense/Alg.lean`.  Each loop is characterised by the bounds `c` of its value at a time
  `t`, by induction along the list down to the sample whose piece contains `t` (`piece_induction`).

  Scans: `comb` and a relation `R` with `R c (comb a b) ↔ R c a ∧ R c b` are `pmax` and `· ≤ c` (`pmax_le`) or `pmin`
  and `c ≤ ·` (`le_pmin`), so min and max come from one statement.  `fwd_char`: the bounds of `fwdScan.go comb acc l` at
  `t` are those of `acc` and of the samples stamped up to `t`; non-decreasing stamps suffice, which covers the batches
  of the online `scanUpdate` put together (`OnBasic`).  The backward loop `backScanG`, a fold that pops repeated heads,
  is the structural recursion `sufOut` (`backScanG_eq`) on `sufAcc`, the value `prev` after a suffix; `sufFull` keeps
  all suffix values, is the same function of time (`valAtA_sufOut`) and has the bounds of `init` and of all values from
  `t` on (`back_char`).  `fwdScan_char` / `backScan_char` say it under `Denotes`; from `ninf` / `pinf` the bounds are
  `IsLUB` / `IsGLB` (`isLUB_of_char`, `isGLB_of_char`).

  `since` / `until` run over the pairs (left, right) of `inter`.  `ubS l t c` / `ubU l t c` say on the list, without an
  infimum, that `c` bounds every `min (inf φ[t', t]) (ψ t')`, `t' ≤ t` (`φ[t, t']`, `t ≤ t'`): `ψ t' ≤ c`, or a left
  value on the window is `≤ c`.  `since_char`: `sinceOp.go acc l` at `t` is `≤ c` iff `ubS l t c` and `acc` or a left
  value up to `t` is `≤ c`, for any sorted `l` and any `acc`: `Dense/OnSince.lean` uses it on the common pieces of two
  streams.  `until_char`: `sufFull sinceVal ninf l` at `t` is `≤ c` iff `ubU l t c`.  Left values on a window have a
  minimum, so `ubS` / `ubU` are the upper bounds of `sinceSet` / `untilSet` (`ubS_iff`, `ubU_iff`): `sinceOp_spec`,
  `untilOp_spec`.
-/
import RtamtProofs.Dense.AlgInter
import Mathlib.Data.Set.Finite.Lemmas

namespace Rtamt.Dense.Alg
open Rtamt Val

namespace ScanAux

variable {β : Type}

theorem fin_of_lt {a b : Tm} (h : Tm.lt a b = true) : ∃ q, a = .fin q := by
  cases a with
  | fin q => exact ⟨q, rfl⟩
  | inf => cases b <;> cases h

open InterAux AlgOn.BasicAux
attribute [local instance] InterAux.tmOrder

theorem sorted_nil : Sorted ([] : ASig β) := by simp [Sorted, times]

theorem none_mono {l : ASig β} {s s' : Rat} (h : valAtA l s = none) (hs : s' ≤ s) : valAtA l s' = none := by
  cases l with
  | nil => rfl
  | cons p rest =>
    obtain ⟨τ, v⟩ := p
    rw [valAtA_cons_none] at *
    exact lt_of_le_of_lt ((fin_le_fin _ _).2 hs) h

theorem some_mono {l : ASig β} {s s' : Rat} (h : valAtA l s ≠ none) (hs : s ≤ s') : valAtA l s' ≠ none :=
  fun h' => h (none_mono h' hs)

theorem cons_of_some_of_le {τ : Tm} {q : β} {rest : ASig β} {s : Rat} {p : β} (hτ : τ ≤ Tm.fin s)
    (h : valAtA rest s = some p) : valAtA ((τ, q) :: rest) s = some p := by
  rw [valAtA_cons_of_le hτ, h]; rfl

theorem cons_of_some {τ : Tm} {q : β} {rest : ASig β} (hs : Sorted ((τ, q) :: rest)) {s : Rat} {p : β}
    (h : valAtA rest s = some p) : valAtA ((τ, q) :: rest) s = some p := by
  obtain ⟨x, hx, _, hle⟩ := valAtA_mem_le h
  exact cons_of_some_of_le (le_trans (le_of_lt (sorted_lt_of_mem hs x hx)) hle) h

theorem cons_of_none {τ : Tm} {q : β} {rest : ASig β} {s : Rat}
    (h : valAtA rest s = none) (hτ : τ ≤ Tm.fin s) : valAtA ((τ, q) :: rest) s = some q := by
  rw [valAtA_cons_of_le hτ, h]; rfl

theorem cons_cases {τ : Tm} {q : β} {rest : ASig β} {s : Rat} {p : β}
    (h : valAtA ((τ, q) :: rest) s = some p) :
    valAtA rest s = some p ∨ (valAtA rest s = none ∧ p = q) :=
  ((valAtA_cons_some τ q rest s p).1 h).2.imp_right (And.imp_right Eq.symm)

theorem none_of_le_head {τ : Tm} {q : β} {rest : ASig β} (hs : Sorted ((τ, q) :: rest)) {t : Rat}
    (h : Tm.fin t ≤ τ) : valAtA rest t = none :=
  valAtA_none_of_lt rest t fun p hp => lt_of_le_of_lt h (sorted_lt_of_mem hs p hp)

theorem head_at_head {d : Rat} {q : β} {rest : ASig β} (hs : Sorted ((Tm.fin d, q) :: rest)) :
    valAtA ((Tm.fin d, q) :: rest) d = some q :=
  valAtA_weak_at (weak_of_sorted hs) List.mem_cons_self rfl

theorem cons_eq_rest {τ : Tm} {q : β} {rest : ASig β} (hs : Sorted ((τ, q) :: rest)) {s : Rat}
    (h : valAtA rest s ≠ none) : valAtA ((τ, q) :: rest) s = valAtA rest s := by
  cases hr : valAtA rest s with
  | none => exact absurd hr h
  | some w => exact cons_of_some hs hr

/-- Induction along a list down to the sample whose piece contains `t`; `S` is what is known of the list (sorted, or
    only non-decreasing stamps). -/
theorem piece_induction {S P : ASig β → Prop} {t : Rat} (hS : ∀ x rest, S (x :: rest) → S rest)
    (hhead : ∀ d q rest, S ((Tm.fin d, q) :: rest) → d ≤ t → valAtA rest t = none → P ((Tm.fin d, q) :: rest))
    (hstep : ∀ d q rest, S ((Tm.fin d, q) :: rest) → d ≤ t → valAtA rest t ≠ none → P rest →
      P ((Tm.fin d, q) :: rest)) :
    ∀ l, S l → valAtA l t ≠ none → P l := by
  intro l
  induction l with
  | nil => intro _ h; exact absurd rfl h
  | cons x rest ih =>
    obtain ⟨τ, q⟩ := x
    intro hs hne
    obtain ⟨d, rfl⟩ := exists_fin_of_le_fin (le_of_some hne)
    have hdt : d ≤ t := (fin_le_fin _ _).1 (le_of_some hne)
    by_cases hr : valAtA rest t = none
    · exact hhead d q rest hs hdt hr
    · exact hstep d q rest hs hdt hr (ih (hS _ _ hs) hr)

theorem wfa_some {l : ASig β} {d : Rat} (h : WFA l d) {t : Rat} (ht : d ≤ t) : valAtA l t ≠ none :=
  Option.isSome_iff_ne_none.1 (valAtA_isSome h t ht)

theorem defined_of_denotes {l : ASig β} {d D : Rat} {g : Rat → Option β} (h : Denotes l d g) (hd : d ≤ D) :
    ∀ s, D ≤ s → g s ≠ none := by
  intro s hs
  rw [← h.2 s (le_trans hd hs)]
  exact wfa_some h.1 (le_trans hd hs)

theorem wfa_of_times {γ : Type} {l : ASig β} {l' : ASig γ} {d : Rat} (h : WFA l d) (e : times l' = times l)
    (hi : InfOK l') : WFA l' d :=
  ⟨by unfold Sorted; rw [e]; exact h.sorted, by rw [e]; exact h.start, hi⟩

variable {α : Type}

theorem go_cons (comb : α → α → α) (acc : α) (τ : Tm) (v : α) (rest : ASig α) :
    fwdScan.go comb acc ((τ, v) :: rest) = (τ, comb v acc) :: fwdScan.go comb (comb v acc) rest := rfl

theorem times_go (comb : α → α → α) (acc : α) (l : ASig α) : times (fwdScan.go comb acc l) = times l := by
  induction l generalizing acc with
  | nil => rfl
  | cons x rest ih =>
    obtain ⟨τ, v⟩ := x
    rw [go_cons, times_cons, times_cons, ih]

theorem go_none_iff (comb : α → α → α) (acc : α) (l : ASig α) (t : Rat) :
    valAtA (fwdScan.go comb acc l) t = none ↔ valAtA l t = none :=
  valAtA_none_congr (times_go comb acc l) t

theorem infOKr_go (comb : α → α → α) (hidem : ∀ a b, comb a (comb a b) = comb a b) :
    ∀ (l : ASig α) (acc : α), InfOKr l → InfOKr (fwdScan.go comb acc l)
  | [], _, _ => trivial
  | [_], _, _ => trivial
  | (τ, a) :: (τ', b) :: rest, acc, h => by
    refine ⟨fun e => ?_, infOKr_go comb hidem ((τ', b) :: rest) (comb a acc) h.2⟩
    have : a = b := h.1 e
    subst this
    exact (hidem a acc).symm

theorem wfa_go (comb : α → α → α) (hidem : ∀ a b, comb a (comb a b) = comb a b) (acc : α) {l : ASig α} {d : Rat}
    (h : WFA l d) : WFA (fwdScan.go comb acc l) d :=
  wfa_of_times h (times_go _ _ _) (infOK_of_infOKr (infOKr_go comb hidem l acc (infOKr_of_infOK h.sorted h.infok)))

/-- The running `comb` over a list with non-decreasing stamps (a sorted sample list, or the batches of a stream put
    together): at `t` its value is bounded (in the sense of `R`) exactly by the bounds of `acc` and of all samples at or
    before `t`. -/
theorem fwd_char (R : α → α → Prop) (comb : α → α → α) (hcomb : ∀ c a b, R c (comb a b) ↔ R c a ∧ R c b) (t : Rat) :
    ∀ (l : ASig α), l.Pairwise (fun p q => p.1 ≤ q.1) → valAtA l t ≠ none → ∀ (acc : α),
      ∃ v, valAtA (fwdScan.go comb acc l) t = some v ∧
        ∀ c, R c v ↔ R c acc ∧ ∀ p ∈ l, p.1 ≤ Tm.fin t → R c p.2 := by
  refine piece_induction (fun _ _ h => (List.pairwise_cons.1 h).2) (fun d x rest hm hdt hr acc => ?_)
    (fun d x rest hm hdt hrn ih acc => ?_)
  · refine ⟨comb x acc, cons_of_none ((go_none_iff _ _ _ _).2 hr) ((fin_le_fin _ _).2 hdt), fun c => ?_⟩
    have hlate := (valAtA_none_iff_late (List.pairwise_cons.1 hm).2 t).1 hr
    rw [hcomb, List.forall_mem_cons, imp_iff_right ((fin_le_fin d t).2 hdt), and_comm, and_congr_right_iff]
    exact fun _ => (and_iff_left fun p hp hle => absurd hle (not_le.2 (hlate p hp))).symm
  · obtain ⟨v, hv, hc⟩ := ih (comb x acc)
    refine ⟨v, cons_of_some_of_le ((fin_le_fin _ _).2 hdt) hv, fun c => ?_⟩
    rw [hc, hcomb, List.forall_mem_cons, imp_iff_right ((fin_le_fin d t).2 hdt), and_assoc, and_left_comm]

section back
variable {γ : Type} [Val α]

/-- the value `prev` after the samples of the suffix have been processed -/
def sufAcc (g : α → γ → α) (init : α) : List (Tm × γ) → α
  | [] => init
  | p :: rest => g (sufAcc g init rest) p.2

/-- all suffix values, nothing removed -/
def sufFull (g : α → γ → α) (init : α) : List (Tm × γ) → ASig α
  | [] => []
  | p :: rest => (p.1, g (sufAcc g init rest) p.2) :: sufFull g init rest

/-- the result list of `backScanG` for a suffix -/
def sufOut (g : α → γ → α) (init : α) : List (Tm × γ) → ASig α
  | [] => []
  | p :: rest =>
    (p.1, g (sufAcc g init rest) p.2) ::
      (if (!vne (g (sufAcc g init rest) p.2) (sufAcc g init rest) && decide (2 ≤ rest.length)) = true
        then (sufOut g init rest).tail else sufOut g init rest)

/-- the loop body of `backScanG` -/
def bstep (g : α → γ → α) (n : Nat) (st : α × Option α × ASig α × Nat) (p : Tm × γ) :
    α × Option α × ASig α × Nat :=
  let ov := g st.1 p.2
  let eqNext := match st.2.1 with
    | none => false
    | some x => !vne ov x
  let out' := if eqNext && decide (st.2.2.2 + 2 < n) then st.2.2.1.tail else st.2.2.1
  (ov, some ov, (p.1, ov) :: out', st.2.2.2 - 1)

theorem backScanG_unfold (g : α → γ → α) (init : α) (nx0 : Option α) (s : List (Tm × γ)) :
    backScanG g init nx0 s =
      (s.reverse.foldl (bstep g s.length) (init, nx0, [], s.length - 1)).2.2.1 := rfl

theorem foldr_bstep (g : α → γ → α) (init : α) (nx0 : Option α) (n : Nat) :
    ∀ l : List (Tm × γ), l.length ≤ n →
      l.foldr (fun p st => bstep g n st p) (init, nx0, [], n - 1) =
        (sufAcc g init l, (if l = [] then nx0 else some (sufAcc g init l)), sufOut g init l, n - 1 - l.length) := by
  intro l
  induction l with
  | nil => intro _; simp [sufAcc, sufOut]
  | cons p rest ih =>
    intro hl
    simp only [List.length_cons] at hl
    rw [List.foldr_cons, ih (by omega)]
    cases rest with
    | nil =>
      simp [bstep, sufAcc, sufOut]
    | cons q r =>
      simp only [List.length_cons] at hl
      have e : (n - 1 - (r.length + 1) + 2 < n) ↔ 2 ≤ r.length + 1 := by omega
      have e2 : n - 1 - (r.length + 1) - 1 = n - 1 - (r.length + 1 + 1) := by omega
      simp [bstep, sufAcc, sufOut, e, e2]

theorem backScanG_eq (g : α → γ → α) (init : α) (nx0 : Option α) (s : List (Tm × γ)) :
    backScanG g init nx0 s = sufOut g init s := by
  rw [backScanG_unfold, List.foldl_reverse, foldr_bstep g init nx0 s.length s le_rfl]

omit [Val α] in
theorem sufFull_none_iff (g : α → γ → α) (init : α) (l : List (Tm × γ)) (t : Rat) :
    valAtA (sufFull g init l) t = none ↔ valAtA l t = none := by
  cases l with
  | nil => simp [sufFull, valAtA]
  | cons x rest =>
    obtain ⟨τ, v⟩ := x
    simp only [sufFull]
    rw [valAtA_cons_none, valAtA_cons_none]

theorem sorted_of_times {β' γ' : Type} {l : ASig β'} {l' : ASig γ'} (h : Sorted l) (e : times l' = times l) :
    Sorted l' := by
  unfold Sorted; rw [e]; exact h

theorem sorted_of_sublist {β' γ' : Type} {l : ASig β'} {l' : ASig γ'} (h : Sorted l)
    (e : (times l').Sublist (times l)) : Sorted l' :=
  List.Pairwise.sublist e h

theorem fin_of_subset {β' γ' : Type} {l : ASig β'} {l' : ASig γ'} (hsub : times l' ⊆ times l)
    (h : ∀ p ∈ l, p.1 ≠ Tm.inf) : ∀ p ∈ l', p.1 ≠ Tm.inf := by
  intro p hp
  obtain ⟨p', hp', e⟩ := List.mem_map.1 (hsub (List.mem_map_of_mem hp))
  rw [← e]; exact h p' hp'

theorem fin_of_times {γ' : Type} {l : ASig β} {l' : ASig γ'} (e : times l' = times l)
    (h : ∀ p ∈ l, p.1 ≠ Tm.inf) : ∀ p ∈ l', p.1 ≠ Tm.inf :=
  fin_of_subset (e ▸ List.Subset.refl _) h

theorem times_tail {β' : Type} (l : ASig β') : times l.tail = (times l).tail := by
  cases l <;> rfl

theorem times_sufOut (g : α → γ → α) (init : α) (l : List (Tm × γ)) :
    (times (sufOut g init l)).Sublist (times l) ∧ (times (sufOut g init l)).head? = (times l).head? := by
  induction l with
  | nil => exact ⟨List.Sublist.refl _, rfl⟩
  | cons p rest ih =>
    refine ⟨?_, rfl⟩
    simp only [sufOut, times, List.map_cons]
    apply List.Sublist.cons_cons
    split
    · have := times_tail (sufOut g init rest)
      simp only [times] at this ih
      rw [this]
      exact (List.tail_sublist _).trans ih.1
    · exact ih.1

theorem valAtA_drop_dup {τ τ' : Tm} {a : β} {X : ASig β} (hs : Sorted ((τ', a) :: X)) (t : Rat) :
    valAtA ((τ, a) :: X) t = valAtA ((τ, a) :: (τ', a) :: X) t := by
  rw [valAtA_cons, valAtA_cons τ a, valAtA_cons τ' a]
  split
  · rfl
  · split
    · rename_i h
      rw [none_of_le_head hs (le_of_lt h)]
    · rfl

end back

section back2
variable {γ : Type} [Val α] [LawfulVal α]

theorem valAtA_sufOut (g : α → γ → α) (init : α) :
    ∀ l : List (Tm × γ), Sorted l → ∀ t, valAtA (sufOut g init l) t = valAtA (sufFull g init l) t := by
  intro l
  induction l with
  | nil => intro _ _; rfl
  | cons p rest ih =>
    intro hs t
    obtain ⟨τ, x⟩ := p
    have hsr : Sorted rest := sorted_tail hs
    have ih' := ih hsr
    simp only [sufOut, sufFull]
    split
    · rename_i hc
      simp only [Bool.and_eq_true, Bool.not_eq_true', decide_eq_true_eq] at hc
      obtain ⟨he, hlen⟩ := hc
      rw [vne_eq_false_iff] at he
      cases rest with
      | nil => simp at hlen
      | cons p' rest' =>
        obtain ⟨τ', x'⟩ := p'
        have hso : Sorted (sufOut g init ((τ', x') :: rest')) := sorted_of_sublist hsr (times_sufOut g init _).1
        have e1 : sufOut g init ((τ', x') :: rest') =
            (τ', sufAcc g init ((τ', x') :: rest')) :: (sufOut g init ((τ', x') :: rest')).tail := by
          simp only [sufOut, sufAcc, List.tail_cons]
        rw [e1] at hso
        rw [he, valAtA_drop_dup hso t, ← e1]
        rw [valAtA_cons, valAtA_cons, ih' t]
    · rw [valAtA_cons, valAtA_cons, ih' t]

end back2

section backChar
variable (R : α → α → Prop) (comb : α → α → α) (hcomb : ∀ c a b, R c (comb a b) ↔ R c a ∧ R c b) (init : α)
include hcomb

/-- The value at the head is bounded exactly by the bounds of `init` and of all values the list takes. -/
theorem back_head : ∀ (rest : ASig α) (d : Rat) (x : α), Sorted ((Tm.fin d, x) :: rest) →
    InfOKr ((Tm.fin d, x) :: rest) → ∀ c, R c (sufAcc (fun acc v => comb v acc) init ((Tm.fin d, x) :: rest)) ↔
      R c init ∧ ∀ s y, valAtA ((Tm.fin d, x) :: rest) s = some y → R c y := by
  intro rest
  induction rest with
  | nil =>
    intro d x hs _ c
    simp only [sufAcc]
    rw [hcomb]
    constructor
    · rintro ⟨h1, h2⟩
      refine ⟨h2, fun s y hy => ?_⟩
      rcases cons_cases hy with h3 | ⟨_, rfl⟩
      · cases h3
      · exact h1
    · rintro ⟨h1, h2⟩
      exact ⟨h2 d x (head_at_head hs), h1⟩
  | cons p' r ih =>
    intro d x hs hi c
    rw [sufAcc, hcomb]
    obtain ⟨τ', x'⟩ := p'
    cases τ' with
    | inf =>
      have hr : r = [] := InterAux.sorted_inf_nil (InterAux.sorted_tail hs)
      subst hr
      have hx : x = x' := hi.1 rfl
      subst hx
      simp only [sufAcc]
      rw [hcomb]
      constructor
      · rintro ⟨h1, _, h2⟩
        refine ⟨h2, fun s y hy => ?_⟩
        rcases cons_cases hy with h3 | ⟨_, rfl⟩
        · rw [(valAtA_cons_none _ _ _ _).2 (fin_lt_inf s)] at h3; cases h3
        · exact h1
      · rintro ⟨h1, h2⟩
        exact ⟨h2 d x (head_at_head hs), h2 d x (head_at_head hs), h1⟩
    | fin d' =>
      rw [ih d' x' (sorted_tail hs) (infOKr_tail hi) c]
      constructor
      · rintro ⟨h1, h2, h3⟩
        refine ⟨h2, fun s y hy => ?_⟩
        rcases cons_cases hy with h4 | ⟨_, rfl⟩
        · exact h3 s y h4
        · exact h1
      · rintro ⟨h1, h2⟩
        exact ⟨h2 d x (head_at_head hs), h1, fun s y hy => h2 s y (cons_of_some hs hy)⟩

/-- The list of all suffix values: at `t` its value is bounded exactly by the bounds of `init` and of all values
    taken from `t` on. -/
theorem back_char (t : Rat) : ∀ (l : ASig α), Sorted l → valAtA l t ≠ none → InfOKr l →
    ∃ v, valAtA (sufFull (fun acc v => comb v acc) init l) t = some v ∧
      ∀ c, R c v ↔ R c init ∧ ∀ s y, t ≤ s → valAtA l s = some y → R c y := by
  refine piece_induction (S := Sorted) (fun _ _ => sorted_tail) (fun d x rest hs hdt hr hi => ?_)
    (fun d x rest hs hdt hrn ih hi => ?_)
  · refine ⟨_, cons_of_none ((sufFull_none_iff _ _ _ _).2 hr) ((fin_le_fin _ _).2 hdt), fun c => ?_⟩
    refine (back_head R comb hcomb init rest d x hs hi c).trans ?_
    constructor
    · rintro ⟨h1, h2⟩
      exact ⟨h1, fun s y _ hy => h2 s y hy⟩
    · rintro ⟨h1, h2⟩
      refine ⟨h1, fun s y hy => ?_⟩
      by_cases hts : t ≤ s
      · exact h2 s y hts hy
      · rcases cons_cases hy with h3 | ⟨_, rfl⟩
        · rw [none_mono hr (le_of_lt (not_le.1 hts))] at h3; cases h3
        · exact h2 t y le_rfl (cons_of_none hr ((fin_le_fin _ _).2 hdt))
  · obtain ⟨v, hv, hc⟩ := ih (infOKr_tail hi)
    refine ⟨v, cons_of_some_of_le ((fin_le_fin _ _).2 hdt) hv, fun c => ?_⟩
    rw [hc]
    constructor
    · rintro ⟨h1, h2⟩
      exact ⟨h1, fun s y hts hy => h2 s y hts (by rw [← cons_eq_rest hs (some_mono hrn hts)]; exact hy)⟩
    · rintro ⟨h1, h2⟩
      exact ⟨h1, fun s y hts hy => h2 s y hts (cons_of_some hs hy)⟩

end backChar

/-- Under `Denotes`, the values of `g` on `[t, ∞)` are the values the list takes from `t` on. -/
theorem valuesFrom_iff {l : ASig α} {d : Rat} {g : Rat → Option α} (h : Denotes l d g) {t : Rat} (ht : d ≤ t)
    (P : α → Prop) : (∀ y ∈ valuesFrom g t, P y) ↔ ∀ s y, t ≤ s → valAtA l s = some y → P y := by
  constructor
  · intro hh s y hts hy
    exact hh y ⟨s, hts, by rw [← h.2 s (le_trans ht hts)]; exact hy⟩
  · rintro hh y ⟨s, hts, hy⟩
    exact hh s y hts (by rw [h.2 s (le_trans ht hts)]; exact hy)

theorem wfa_sufOut {γ : Type} [Val α] (g : α → γ → α) (init : α) {l : List (Tm × γ)} {d : Rat} (h : WFA l d)
    (hi : InfOK (sufOut g init l)) : WFA (sufOut g init l) d :=
  ⟨sorted_of_sublist h.sorted (times_sufOut g init l).1, by rw [(times_sufOut g init l).2]; exact h.start, hi⟩

section sufOutInf
variable {γ : Type} [Val α] [LawfulVal α] (g : α → γ → α) (init : α)

omit [LawfulVal α] in
theorem sufOut_cons_eq (p : Tm × γ) (rest : List (Tm × γ)) :
    sufOut g init (p :: rest) = (p.1, sufAcc g init (p :: rest)) :: (sufOut g init (p :: rest)).tail := by
  simp only [sufOut, sufAcc, List.tail_cons]

theorem sufOut_cons_cases (p : Tm × γ) (rest : List (Tm × γ)) :
    sufOut g init (p :: rest) = (p.1, sufAcc g init (p :: rest)) :: sufOut g init rest ∨
    (sufAcc g init (p :: rest) = sufAcc g init rest ∧ 2 ≤ rest.length ∧
      sufOut g init (p :: rest) = (p.1, sufAcc g init (p :: rest)) :: (sufOut g init rest).tail) := by
  simp only [sufOut, sufAcc]
  split
  · rename_i hc
    simp only [Bool.and_eq_true, Bool.not_eq_true', decide_eq_true_eq] at hc
    exact Or.inr ⟨(vne_eq_false_iff _ _).1 hc.1, hc.2, rfl⟩
  · exact Or.inl rfl

/-- the result keeps `InfOKr` when the step function is idempotent in the sample -/
theorem infOKr_sufOut (hidem : ∀ a v, g (g a v) v = g a v) :
    ∀ l : List (Tm × γ), Sorted l → InfOKr l → InfOKr (sufOut g init l) := by
  intro l
  induction l with
  | nil => intro _ _; trivial
  | cons p rest ih =>
    intro hs hi
    have ih' := ih (sorted_tail hs) (infOKr_tail hi)
    rcases sufOut_cons_cases g init p rest with e | ⟨heq, hlen, e⟩
    · rw [e]
      cases rest with
      | nil => trivial
      | cons p' rest' =>
        rw [sufOut_cons_eq g init p' rest']
        refine ⟨fun e' => ?_, by rw [← sufOut_cons_eq]; exact ih'⟩
        obtain ⟨τ, x⟩ := p
        obtain ⟨τ', x'⟩ := p'
        simp only at e'
        subst e'
        have hr := InterAux.sorted_inf_nil (InterAux.sorted_tail hs)
        subst hr
        have hx : x = x' := hi.1 rfl
        subst hx
        simp only [sufAcc]
        exact hidem init x
    · rw [e]
      cases rest with
      | nil => simp at hlen
      | cons p' rest' =>
        rw [sufOut_cons_eq g init p' rest'] at ih'
        rw [heq]
        generalize (sufOut g init (p' :: rest')).tail = T at ih' ⊢
        cases T with
        | nil => trivial
        | cons b T' => exact ⟨ih'.1, ih'.2⟩

omit [LawfulVal α] in
theorem fin_sufOut {l : List (Tm × γ)} (h : ∀ p ∈ l, p.1 ≠ Tm.inf) : ∀ p ∈ sufOut g init l, p.1 ≠ Tm.inf :=
  fin_of_subset (times_sufOut g init l).1.subset h

end sufOutInf

theorem backScan_char [Val α] [LawfulVal α] (R : α → α → Prop) (comb : α → α → α)
    (hcomb : ∀ c a b, R c (comb a b) ↔ R c a ∧ R c b) (hidem : ∀ a b, comb a (comb a b) = comb a b) (init : α)
    {s : ASig α} {d : Rat} {g : Rat → Option α} (h : Denotes s d g) :
    WFA (backScan comb init s) d ∧
    ∀ t, d ≤ t → ∃ v, valAtA (backScan comb init s) t = some v ∧
      ∀ c, R c v ↔ R c init ∧ ∀ y ∈ valuesFrom g t, R c y := by
  have e : backScan comb init s = sufOut (fun acc v => comb v acc) init s := backScanG_eq _ _ _ _
  rw [e]
  have hi : InfOKr s := infOKr_of_infOK h.1.sorted h.1.infok
  refine ⟨wfa_sufOut _ _ h.1 (infOK_of_infOKr
    (infOKr_sufOut _ init (fun a v => hidem v a) s h.1.sorted hi)), fun t ht => ?_⟩
  obtain ⟨v, hv, hc⟩ := back_char R comb hcomb init t s h.1.sorted (wfa_some h.1 ht) hi
  refine ⟨v, by rw [valAtA_sufOut _ _ _ h.1.sorted]; exact hv, fun c => ?_⟩
  rw [hc, valuesFrom_iff h ht]

theorem fwdScan_char [Val α] [LawfulVal α] (R : α → α → Prop) (comb : α → α → α)
    (hcomb : ∀ c a b, R c (comb a b) ↔ R c a ∧ R c b) (hidem : ∀ a b, comb a (comb a b) = comb a b) (init : α)
    {s : ASig α} {d : Rat} {g : Rat → Option α} (h : Denotes s d g) :
    WFA (fwdScan comb init s) d ∧
    ∀ t, d ≤ t → ∃ v, valAtA (fwdScan comb init s) t = some v ∧
      ∀ c, R c v ↔ R c init ∧ ∀ y ∈ valuesOn g d t, R c y := by
  have hd := dedup_spec (denotes_self (wfa_go comb hidem init h.1))
  refine ⟨hd.1, fun t ht => ?_⟩
  have hw := weak_of_sorted h.1.sorted
  obtain ⟨v, hv, hc⟩ := fwd_char R comb hcomb t s hw.mono (wfa_some h.1 ht) init
  refine ⟨v, ?_, fun c => ?_⟩
  · show valAtA (dedup (fwdScan.go comb init s)) t = some v
    rw [hd.2 t ht]; exact hv
  · rw [hc c, valuesOn_iff_mem hw (wfa_ge_start h.1) (fun s hs _ => (h.2 s hs).symm) (fun y => R c y)]

section extrema
variable [Val α] [LawfulVal α]

theorem pmax_le (c a b : α) : pmax a b ≤ c ↔ a ≤ c ∧ b ≤ c := by rw [pmax_eq]; exact max_le_iff

theorem le_pmin (c a b : α) : c ≤ pmin a b ↔ c ≤ a ∧ c ≤ b := by rw [pmin_eq]; exact le_min_iff

theorem pmax_idem (a b : α) : pmax a (pmax a b) = pmax a b := by rw [pmax_eq, pmax_eq]; exact sup_left_idem a b

theorem pmin_idem (a b : α) : pmin a (pmin a b) = pmin a b := by rw [pmin_eq, pmin_eq]; exact inf_left_idem a b

/-- The bounds of a scan that starts from `ninf` are the upper bounds of the values alone. -/
theorem isLUB_of_char {S : Set α} {v : α} (h : ∀ c, v ≤ c ↔ Val.ninf ≤ c ∧ ∀ y ∈ S, y ≤ c) : IsLUB S v := by
  rw [isLUB_iff_le_iff]
  intro c
  rw [h c, LawfulVal.ninf_bot]
  exact and_iff_right bot_le

theorem isGLB_of_char {S : Set α} {v : α} (h : ∀ c, c ≤ v ↔ c ≤ Val.pinf ∧ ∀ y ∈ S, c ≤ y) : IsGLB S v := by
  rw [isGLB_iff_le_iff]
  intro c
  rw [h c, LawfulVal.pinf_top]
  exact and_iff_right le_top

end extrema

theorem exists_least_of_subset_list [LinearOrder α] (L : List α) (S : Set α) (hS : ∀ x ∈ S, x ∈ L)
    (hne : S.Nonempty) : ∃ m, IsLeast S m :=
  let ⟨m, hm, hmin⟩ := Set.exists_min_image S id ((List.finite_toSet L).subset hS) hne
  ⟨m, hm, hmin⟩

/-- The values a sample list takes on a bounded window of its domain have a least element: they are among the values of
    its finitely many samples. -/
theorem least_valuesOn [LinearOrder α] {l : ASig α} {d : Rat} {g : Rat → Option α} (h : Denotes l d g) {lo hi : Rat}
    (hlo : d ≤ lo) (hl : lo ≤ hi) : ∃ m, IsLeast (valuesOn g lo hi) m := by
  refine exists_least_of_subset_list (l.map (·.2)) _ ?_ ?_
  · rintro y ⟨t, h1, _, h3⟩
    rw [← h.2 t (le_trans hlo h1)] at h3
    obtain ⟨p, hp, e, _⟩ := valAtA_mem_le h3
    exact List.mem_map.2 ⟨p, hp, e⟩
  · obtain ⟨v, hv⟩ := Option.ne_none_iff_exists'.1 (defined_of_denotes h hlo lo le_rfl)
    exact ⟨v, lo, le_rfl, hl, hv⟩

section since
variable [Val α] [LawfulVal α]

/-- Written with `p.1 ≤ c` last in both disjuncts: the recursion steps of `since_char` then are distributivity. -/
theorem sinceVal_le (acc : α) (p : α × α) (c : α) :
    sinceVal acc p ≤ c ↔ (p.2 ≤ c ∨ p.1 ≤ c) ∧ (acc ≤ c ∨ p.1 ≤ c) := by
  rw [sinceVal, pmax_eq, pmin_eq, pmin_eq, max_le_iff, min_le_iff, min_le_iff, or_comm, or_comm (b := acc ≤ c)]

omit [LawfulVal α] in
theorem sgo_cons (acc : α) (τ : Tm) (p : α × α) (rest : List (Tm × (α × α))) :
    sinceOp.go acc ((τ, p) :: rest) = (τ, sinceVal acc p) :: sinceOp.go (sinceVal acc p) rest := rfl

omit [LawfulVal α] in
theorem times_sgo (acc : α) (l : List (Tm × (α × α))) : times (sinceOp.go acc l) = times l := by
  induction l generalizing acc with
  | nil => rfl
  | cons x rest ih =>
    obtain ⟨τ, v⟩ := x
    rw [sgo_cons]
    simp only [times, List.map_cons] at *
    rw [ih]

omit [LawfulVal α] in
theorem sgo_none_iff (acc : α) (l : List (Tm × (α × α))) (t : Rat) :
    valAtA (sinceOp.go acc l) t = none ↔ valAtA l t = none :=
  valAtA_none_congr (times_sgo acc l) t

/-- some left value on `[lo, hi]` is at most `c` -/
def lowφ (l : List (Tm × (α × α))) (lo hi : Rat) (c : α) : Prop :=
  ∃ s p, lo ≤ s ∧ s ≤ hi ∧ valAtA l s = some p ∧ p.1 ≤ c

/-- some left value up to `hi` is at most `c` -/
def lowB (l : List (Tm × (α × α))) (hi : Rat) (c : α) : Prop :=
  ∃ s p, s ≤ hi ∧ valAtA l s = some p ∧ p.1 ≤ c

/-- `c` bounds every `min (inf φ[t', t]) (ψ t')`, `t' ≤ t` -/
def ubS (l : List (Tm × (α × α))) (t : Rat) (c : α) : Prop :=
  ∀ t' p, t' ≤ t → valAtA l t' = some p → p.2 ≤ c ∨ lowφ l t' t c

variable {d t : Rat} {q : α × α} {rest : List (Tm × (α × α))} {c : α}

theorem lowB_none (hdt : d ≤ t) (hr : valAtA rest t = none) :
    lowB ((Tm.fin d, q) :: rest) t c ↔ q.1 ≤ c := by
  have hτ : Tm.fin d ≤ Tm.fin t := (fin_le_fin _ _).2 hdt
  constructor
  · rintro ⟨s, p, hst, hp, hpc⟩
    rcases cons_cases hp with h | ⟨_, rfl⟩
    · rw [none_mono hr hst] at h; cases h
    · exact hpc
  · intro h
    exact ⟨t, q, le_rfl, cons_of_none hr hτ, h⟩

theorem ubS_none (hdt : d ≤ t) (hr : valAtA rest t = none) :
    ubS ((Tm.fin d, q) :: rest) t c ↔ (q.2 ≤ c ∨ q.1 ≤ c) := by
  have hτ : Tm.fin d ≤ Tm.fin t := (fin_le_fin _ _).2 hdt
  constructor
  · intro h
    rcases h t q le_rfl (cons_of_none hr hτ) with h1 | ⟨s, p, _, hst, hp, hpc⟩
    · exact Or.inl h1
    · rcases cons_cases hp with h | ⟨_, rfl⟩
      · rw [none_mono hr hst] at h; cases h
      · exact Or.inr hpc
  · intro h t' p ht' hp
    rcases cons_cases hp with h3 | ⟨_, rfl⟩
    · rw [none_mono hr ht'] at h3; cases h3
    · rcases h with h | h
      · exact Or.inl h
      · exact Or.inr ⟨t', p, le_rfl, ht', hp, h⟩

theorem lowB_some (hs : Sorted ((Tm.fin d, q) :: rest)) (hdt : d ≤ t) :
    lowB ((Tm.fin d, q) :: rest) t c ↔ (q.1 ≤ c ∨ lowB rest t c) := by
  constructor
  · rintro ⟨s, p, hst, hp, hpc⟩
    rcases cons_cases hp with h | ⟨_, rfl⟩
    · exact Or.inr ⟨s, p, hst, h, hpc⟩
    · exact Or.inl hpc
  · rintro (h | ⟨s, p, hst, hp, hpc⟩)
    · exact ⟨d, q, hdt, head_at_head hs, h⟩
    · exact ⟨s, p, hst, cons_of_some hs hp, hpc⟩

theorem ubS_some (hs : Sorted ((Tm.fin d, q) :: rest)) (hdt : d ≤ t) :
    ubS ((Tm.fin d, q) :: rest) t c ↔ (ubS rest t c ∧ (q.2 ≤ c ∨ q.1 ≤ c ∨ lowB rest t c)) := by
  constructor
  · intro h
    constructor
    · intro t' p ht' hp
      rcases h t' p ht' (cons_of_some hs hp) with h1 | ⟨s, p', h1, h2, h3, h4⟩
      · exact Or.inl h1
      · refine Or.inr ⟨s, p', h1, h2, ?_, h4⟩
        have : valAtA rest s ≠ none := some_mono (by rw [hp]; simp) h1
        rw [← cons_eq_rest hs this]; exact h3
    · rcases h d q hdt (head_at_head hs) with h1 | ⟨s, p, _, hst, hp, hpc⟩
      · exact Or.inl h1
      · rcases cons_cases hp with h | ⟨_, rfl⟩
        · exact Or.inr (Or.inr ⟨s, p, hst, h, hpc⟩)
        · exact Or.inr (Or.inl hpc)
  · rintro ⟨h1, h2⟩ t' p ht' hp
    rcases cons_cases hp with h3 | ⟨h3, rfl⟩
    · rcases h1 t' p ht' h3 with h | ⟨s, p', h4, h5, h6, h7⟩
      · exact Or.inl h
      · exact Or.inr ⟨s, p', h4, h5, cons_of_some hs h6, h7⟩
    · rcases h2 with h | h | ⟨s, p', hst, hp', hpc⟩
      · exact Or.inl h
      · exact Or.inr ⟨t', p, le_rfl, ht', hp, h⟩
      · refine Or.inr ⟨s, p', ?_, hst, cons_of_some hs hp', hpc⟩
        by_contra hn
        rw [none_mono h3 (le_of_lt (not_le.1 hn))] at hp'; cases hp'

theorem since_char : ∀ (l : List (Tm × (α × α))), Sorted l → ∀ (acc : α) (t : Rat), valAtA l t ≠ none →
    ∃ v, valAtA (sinceOp.go acc l) t = some v ∧ ∀ c, v ≤ c ↔ ubS l t c ∧ (acc ≤ c ∨ lowB l t c) := by
  intro l hs acc t hne
  revert acc
  revert l
  refine piece_induction (S := Sorted) (fun _ _ => sorted_tail) (fun d q rest hs hdt hr acc => ?_)
    (fun d q rest hs hdt hrn ih acc => ?_)
  · refine ⟨sinceVal acc q, cons_of_none ((sgo_none_iff _ _ _).2 hr) ((fin_le_fin _ _).2 hdt), fun c => ?_⟩
    rw [sinceVal_le, ubS_none hdt hr, lowB_none hdt hr]
  · obtain ⟨v, hv, hc⟩ := ih (sinceVal acc q)
    refine ⟨v, cons_of_some_of_le ((fin_le_fin _ _).2 hdt) hv, fun c => ?_⟩
    rw [hc, sinceVal_le, ubS_some hs hdt, lowB_some hs hdt, and_or_right, or_assoc, or_assoc, and_assoc]

end since

section until_
variable [Val α] [LawfulVal α]

/-- `c` bounds every `min (inf φ[t, t']) (ψ t')`, `t ≤ t'` -/
def ubU (l : List (Tm × (α × α))) (t : Rat) (c : α) : Prop :=
  ∀ t' p, t ≤ t' → valAtA l t' = some p → p.2 ≤ c ∨ lowφ l t t' c

theorem ubU_congr {l l' : List (Tm × (α × α))} {t : Rat} {c : α} (h : ∀ s, t ≤ s → valAtA l s = valAtA l' s)
    (hu : ubU l t c) : ubU l' t c := by
  intro t' p htt' hp
  rw [← h t' htt'] at hp
  rcases hu t' p htt' hp with h1 | ⟨s, p', h1, h2, h3, h4⟩
  · exact Or.inl h1
  · exact Or.inr ⟨s, p', h1, h2, by rw [← h s h1]; exact h3, h4⟩

theorem some_ge_head {β : Type} {d s : Rat} {q : β} {r : ASig β} (h : valAtA ((Tm.fin d, q) :: r) s ≠ none) :
    d ≤ s :=
  (InterAux.fin_le_fin _ _).1 (le_of_some h)

/-- In the first piece the head value of the backward recursion is the bound of the `until` set. -/
theorem until_head : ∀ (rest : List (Tm × (α × α))) (τ : Tm) (q : α × α), Sorted ((τ, q) :: rest) →
    (∀ p ∈ (τ, q) :: rest, p.1 ≠ Tm.inf) → ∀ t, τ ≤ Tm.fin t → valAtA rest t = none →
    ∀ c, sufAcc sinceVal Val.ninf ((τ, q) :: rest) ≤ c ↔ ubU ((τ, q) :: rest) t c := by
  intro rest
  induction rest with
  | nil =>
    intro τ q hs hfin t hτ hr c
    have hhead : valAtA [(τ, q)] t = some q := cons_of_none hr hτ
    simp only [sufAcc, sinceVal_le, LawfulVal.ninf_bot, bot_le, true_or, and_true]
    constructor
    · intro h t' p htt' hp
      rcases cons_cases hp with h3 | ⟨_, rfl⟩
      · cases h3
      · rcases h with h | h
        · exact Or.inl h
        · exact Or.inr ⟨t, p, le_rfl, htt', hhead, h⟩
    · intro h
      rcases h t q le_rfl hhead with h1 | ⟨s, p, _, _, hp, hpc⟩
      · exact Or.inl h1
      · rcases cons_cases hp with h3 | ⟨_, rfl⟩
        · cases h3
        · exact Or.inr hpc
  | cons p' r ih =>
    intro τ q hs hfin t hτ hr c
    have hhead : valAtA ((τ, q) :: p' :: r) t = some q := cons_of_none hr hτ
    rw [sufAcc, sinceVal_le]
    obtain ⟨τ', q'⟩ := p'
    cases τ' with
    | inf => exact absurd rfl (hfin (Tm.inf, q') (by simp))
    | fin d' =>
      have hsr : Sorted ((Tm.fin d', q') :: r) := sorted_tail hs
      have htd : t < d' := by
        rw [valAtA_cons_none, fin_lt_fin] at hr; exact hr
      rw [ih (Tm.fin d') q' hsr (fun p hp => hfin p (List.mem_cons_of_mem _ hp)) d'
        le_rfl (none_of_le_head hsr le_rfl) c]
      constructor
      · rintro ⟨h1, h2⟩ t' p htt' hp
        by_cases hq : q.1 ≤ c
        · exact Or.inr ⟨t, q, le_rfl, htt', hhead, hq⟩
        · have h1' : q.2 ≤ c := h1.resolve_right hq
          have h2' := h2.resolve_right hq
          rcases cons_cases hp with h3 | ⟨_, rfl⟩
          · have hd't' : d' ≤ t' := some_ge_head (by rw [h3]; simp)
            rcases h2' t' p hd't' h3 with h | ⟨s, p', h4, h5, h6, h7⟩
            · exact Or.inl h
            · exact Or.inr ⟨s, p', by linarith, h5, cons_of_some hs h6, h7⟩
          · exact Or.inl h1'
      · intro h
        constructor
        · rcases h t q le_rfl hhead with h1 | ⟨s, p, h1, h2, hp, hpc⟩
          · exact Or.inl h1
          · have : s = t := le_antisymm h2 h1
            subst this
            rw [hhead] at hp
            injection hp with hp
            subst hp
            exact Or.inr hpc
        · by_cases hq : q.1 ≤ c
          · exact Or.inr hq
          · refine Or.inl (fun t' p hd't' hp => ?_)
            rcases h t' p (by linarith) (cons_of_some hs hp) with h1 | ⟨s, p', h1, h2, h3, h4⟩
            · exact Or.inl h1
            · rcases cons_cases h3 with h5 | ⟨_, rfl⟩
              · exact Or.inr ⟨s, p', some_ge_head (by rw [h5]; simp), h2, h5, h4⟩
              · exact absurd h4 hq

theorem until_char (t : Rat) : ∀ (l : List (Tm × (α × α))), Sorted l → valAtA l t ≠ none →
    (∀ p ∈ l, p.1 ≠ Tm.inf) → ∃ v, valAtA (sufFull sinceVal Val.ninf l) t = some v ∧ ∀ c, v ≤ c ↔ ubU l t c := by
  refine piece_induction (S := Sorted) (fun _ _ => sorted_tail) (fun d q rest hs hdt hr hfin => ?_)
    (fun d q rest hs hdt hrn ih hfin => ?_)
  · exact ⟨_, cons_of_none ((sufFull_none_iff _ _ _ _).2 hr) ((fin_le_fin _ _).2 hdt),
      until_head rest _ q hs hfin t ((fin_le_fin _ _).2 hdt) hr⟩
  · obtain ⟨v, hv, hc⟩ := ih fun p hp => hfin p (List.mem_cons_of_mem _ hp)
    refine ⟨v, cons_of_some_of_le ((fin_le_fin _ _).2 hdt) hv, fun c => ?_⟩
    rw [hc]
    have key : ∀ s, t ≤ s → valAtA ((Tm.fin d, q) :: rest) s = valAtA rest s :=
      fun s hts => cons_eq_rest hs (some_mono hrn hts)
    exact ⟨ubU_congr fun s hts => (key s hts).symm, ubU_congr key⟩

end until_

section sets
variable [Val α] [LawfulVal α]

theorem pairNe_false (a b : α × α) (h : pairNe a b = false) : a = b := by
  unfold pairNe at h
  rw [Bool.or_eq_false_iff, vne_eq_false_iff, vne_eq_false_iff] at h
  exact Prod.ext h.1 h.2

variable {io : List (Tm × (α × α))} {D : Rat} {g1 g2 : Rat → Option α}

omit [Val α] [LawfulVal α] in
theorem io_some_iff (hden : Denotes io D (lift2 (fun a b => (a, b)) g1 g2)) (s : Rat) (p : α × α) :
    valAtA io s = some p ↔ D ≤ s ∧ g1 s = some p.1 ∧ g2 s = some p.2 := by
  by_cases h : D ≤ s
  · rw [hden.2 s h]
    simp only [lift2]
    cases g1 s <;> cases g2 s <;> simp [h, Prod.ext_iff]
  · rw [valAtA_none_before hden.1 s (not_le.1 h)]
    simp [h]

omit [Val α] [LawfulVal α] in
theorem denotes_fst (hden : Denotes io D (lift2 (fun a b => (a, b)) g1 g2)) (hg2 : ∀ s, D ≤ s → g2 s ≠ none) :
    Denotes (io.map (fun p => (p.1, p.2.1))) D g1 :=
  denotes_congr (map_spec Prod.fst hden) fun t ht => by
    obtain ⟨b, hb⟩ := Option.ne_none_iff_exists'.1 (hg2 t ht)
    rw [lift2, hb]
    cases g1 t <;> rfl

theorem le_of_lowφ (hden : Denotes io D (lift2 (fun a b => (a, b)) g1 g2)) {lo hi : Rat} {m c : α}
    (hm : m ∈ lowerBounds (valuesOn g1 lo hi)) (h : lowφ io lo hi c) : m ≤ c := by
  obtain ⟨s, p, h1, h2, h3, h4⟩ := h
  exact le_trans (hm ⟨s, h1, h2, ((io_some_iff hden s p).1 h3).2.1⟩) h4

theorem lowφ_of_le (hden : Denotes io D (lift2 (fun a b => (a, b)) g1 g2)) (hg2 : ∀ s, D ≤ s → g2 s ≠ none)
    {lo hi : Rat} (hlo : D ≤ lo) {m c : α} (hm : m ∈ valuesOn g1 lo hi) (h : m ≤ c) : lowφ io lo hi c := by
  obtain ⟨s, h1, h2, h3⟩ := hm
  obtain ⟨b, hb⟩ := Option.ne_none_iff_exists'.1 (hg2 s (le_trans hlo h1))
  exact ⟨s, (m, b), h1, h2, (io_some_iff hden s (m, b)).2 ⟨le_trans hlo h1, h3, hb⟩, h⟩

theorem ubS_iff (hden : Denotes io D (lift2 (fun a b => (a, b)) g1 g2))
    (hg1 : ∀ s, D ≤ s → g1 s ≠ none) (hg2 : ∀ s, D ≤ s → g2 s ≠ none) (t : Rat) (c : α) :
    ubS io t c ↔ c ∈ upperBounds (sinceSet g1 g2 D t t) := by
  constructor
  · rintro h y ⟨t', m, r, hDt', ht't, hr, hglb, rfl⟩
    obtain ⟨a, ha⟩ := Option.ne_none_iff_exists'.1 (hg1 t' hDt')
    rcases h t' (a, r) ht't ((io_some_iff hden t' (a, r)).2 ⟨hDt', ha, hr⟩) with h1 | h1
    · exact le_trans (min_le_right _ _) h1
    · exact le_trans (min_le_left _ _) (le_of_lowφ hden hglb.1 h1)
  · intro h t' p ht't hp
    obtain ⟨hDt', _, hp2⟩ := (io_some_iff hden t' p).1 hp
    obtain ⟨m, hm⟩ := least_valuesOn (denotes_fst hden hg2) hDt' ht't
    rcases min_le_iff.1 (h ⟨t', m, p.2, hDt', ht't, hp2, hm.isGLB, rfl⟩) with hmc | hmc
    · exact Or.inr (lowφ_of_le hden hg2 hDt' hm.1 hmc)
    · exact Or.inl hmc

theorem ubU_iff (hden : Denotes io D (lift2 (fun a b => (a, b)) g1 g2))
    (hg1 : ∀ s, D ≤ s → g1 s ≠ none) (hg2 : ∀ s, D ≤ s → g2 s ≠ none) {t : Rat} (ht : D ≤ t) (c : α) :
    ubU io t c ↔ c ∈ upperBounds (untilSet g1 g2 t none t) := by
  constructor
  · rintro h y ⟨t', m, r, htt', _, hr, hglb, rfl⟩
    have hDt' : D ≤ t' := le_trans ht htt'
    obtain ⟨a, ha⟩ := Option.ne_none_iff_exists'.1 (hg1 t' hDt')
    rcases h t' (a, r) htt' ((io_some_iff hden t' (a, r)).2 ⟨hDt', ha, hr⟩) with h1 | h1
    · exact le_trans (min_le_right _ _) h1
    · exact le_trans (min_le_left _ _) (le_of_lowφ hden hglb.1 h1)
  · intro h t' p htt' hp
    obtain ⟨_, _, hp2⟩ := (io_some_iff hden t' p).1 hp
    obtain ⟨m, hm⟩ := least_valuesOn (denotes_fst hden hg2) ht htt'
    rcases min_le_iff.1 (h ⟨t', m, p.2, htt', trivial, hp2, hm.isGLB, rfl⟩) with hmc | hmc
    · exact Or.inr (lowφ_of_le hden hg2 ht hm.1 hmc)
    · exact Or.inl hmc

end sets

end ScanAux

open ScanAux

variable {α : Type} [Val α] [LawfulVal α]

/-- `visitOnce`: running maximum = supremum over `[d, t]`. -/
theorem fwdScan_max_spec {s : ASig α} {d : Rat} {g : Rat → Option α} (h : Denotes s d g) :
    WFA (fwdScan pmax Val.ninf s) d ∧
    ∀ t, d ≤ t → ∃ v, valAtA (fwdScan pmax Val.ninf s) t = some v ∧ IsLUB (valuesOn g d t) v := by
  obtain ⟨hw, hv⟩ := fwdScan_char (fun c y => y ≤ c) pmax pmax_le pmax_idem Val.ninf h
  exact ⟨hw, fun t ht => (hv t ht).imp fun _ hc => ⟨hc.1, isLUB_of_char hc.2⟩⟩

/-- `visitHistorically`. -/
theorem fwdScan_min_spec {s : ASig α} {d : Rat} {g : Rat → Option α} (h : Denotes s d g) :
    WFA (fwdScan pmin Val.pinf s) d ∧
    ∀ t, d ≤ t → ∃ v, valAtA (fwdScan pmin Val.pinf s) t = some v ∧ IsGLB (valuesOn g d t) v := by
  obtain ⟨hw, hv⟩ := fwdScan_char (fun c y => c ≤ y) pmin le_pmin pmin_idem Val.pinf h
  exact ⟨hw, fun t ht => (hv t ht).imp fun _ hc => ⟨hc.1, isGLB_of_char hc.2⟩⟩

/-- `visitEventually`: supremum over `[t, ∞)` (last value held).  `InfOK s` (part of `WFA`: a final sample stamped `inf`
    repeats the previous value) is necessary: `[(0, 1), (inf, 5)]` denotes the constant 1, but the loop returns 5. -/
theorem backScan_max_spec {s : ASig α} {d : Rat} {g : Rat → Option α} (h : Denotes s d g) :
    WFA (backScan pmax Val.ninf s) d ∧
    ∀ t, d ≤ t → ∃ v, valAtA (backScan pmax Val.ninf s) t = some v ∧ IsLUB (valuesFrom g t) v := by
  obtain ⟨hw, hv⟩ := backScan_char (fun c y => y ≤ c) pmax pmax_le pmax_idem Val.ninf h
  exact ⟨hw, fun t ht => (hv t ht).imp fun _ hc => ⟨hc.1, isLUB_of_char hc.2⟩⟩

/-- `visitAlways`. -/
theorem backScan_min_spec {s : ASig α} {d : Rat} {g : Rat → Option α} (h : Denotes s d g) :
    WFA (backScan pmin Val.pinf s) d ∧
    ∀ t, d ≤ t → ∃ v, valAtA (backScan pmin Val.pinf s) t = some v ∧ IsGLB (valuesFrom g t) v := by
  obtain ⟨hw, hv⟩ := backScan_char (fun c y => c ≤ y) pmin le_pmin pmin_idem Val.pinf h
  exact ⟨hw, fun t ht => (hv t ht).imp fun _ hc => ⟨hc.1, isGLB_of_char hc.2⟩⟩

/-- `since_operation`: non-strict since, witness in `[max d1 d2, t]`, left operand on the closed `[t', t]`. -/
theorem sinceOp_spec {l r : ASig α} {d1 d2 : Rat} {g1 g2 : Rat → Option α}
    (h1 : Denotes l d1 g1) (h2 : Denotes r d2 g2) :
    ∃ out, sinceOp l r = .ok out ∧ WFA out (max d1 d2) ∧
      ∀ t, max d1 d2 ≤ t → ∃ v, valAtA out t = some v ∧ IsLUB (sinceSet g1 g2 (max d1 d2) t t) v := by
  obtain ⟨io, hio, hden⟩ := inter_denotes (fun a b => (a, b)) pairNe pairNe_false h1 h2
  have hfin := inter_fin _ _ pairNe_false h1.1 h2.1 hio
  have hw : WFA (sinceOp.go Val.ninf io) (max d1 d2) :=
    wfa_of_times hden.1 (times_sgo _ _) (InterAux.infOK_of_fin (fin_of_times (times_sgo _ _) hfin))
  have hd := dedup_spec (denotes_self hw)
  refine ⟨dedup (sinceOp.go Val.ninf io), ?_, hd.1, fun t ht => ?_⟩
  · unfold sinceOp; rw [hio]; rfl
  · obtain ⟨v, hv, hc⟩ := since_char io hden.1.sorted Val.ninf t (wfa_some hden.1 ht)
    refine ⟨v, by rw [hd.2 t ht]; exact hv, ?_⟩
    rw [isLUB_iff_le_iff]
    intro c
    rw [hc c, ubS_iff hden (defined_of_denotes h1 (le_max_left _ _)) (defined_of_denotes h2 (le_max_right _ _))]
    simp only [LawfulVal.ninf_bot, bot_le, true_or, and_true]

/-- `until_operation`. -/
theorem untilOp_spec {l r : ASig α} {d1 d2 : Rat} {g1 g2 : Rat → Option α}
    (h1 : Denotes l d1 g1) (h2 : Denotes r d2 g2) :
    ∃ out, untilOp l r = .ok out ∧ WFA out (max d1 d2) ∧
      ∀ t, max d1 d2 ≤ t → ∃ v, valAtA out t = some v ∧ IsLUB (untilSet g1 g2 t none t) v := by
  obtain ⟨io, hio, hden⟩ := inter_denotes (fun a b => (a, b)) pairNe pairNe_false h1 h2
  have hfin := inter_fin _ _ pairNe_false h1.1 h2.1 hio
  refine ⟨sufOut sinceVal Val.ninf io, ?_,
    wfa_sufOut _ _ hden.1 (InterAux.infOK_of_fin (fin_sufOut _ _ hfin)), fun t ht => ?_⟩
  · unfold untilOp; rw [hio]
    show Except.ok (backScanG sinceVal Val.ninf (some Val.ninf) io) = _
    rw [backScanG_eq]
  · obtain ⟨v, hv, hc⟩ := until_char t io hden.1.sorted (wfa_some hden.1 ht) hfin
    refine ⟨v, by rw [valAtA_sufOut _ _ _ hden.1.sorted]; exact hv, ?_⟩
    rw [isLUB_iff_le_iff]
    intro c
    rw [hc c, ubU_iff hden (defined_of_denotes h1 (le_max_left _ _)) (defined_of_denotes h2 (le_max_right _ _)) ht]

end Rtamt.Dense.Alg
