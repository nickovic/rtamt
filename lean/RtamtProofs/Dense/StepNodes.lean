/-
  One lemma per node class: if the operands are step functions then so is the result, with the
  candidate break-points of `bps`.
-/
import RtamtProofs.Dense.StepBasic

set_option linter.unusedSectionVars false

namespace Rtamt.Dense
open Rtamt Val

variable {α : Type} [Val α] [LawfulVal α]

/-- `foldWin f init` depends only on the set of values on the window. -/
def WinOp (f : α → α → α) (init : α) : Prop :=
  ∀ (g g' : Rat → Option α) (B B' : List Rat) (lo lo' : Rat) (hi hi' : Option Rat),
    StepOn g B lo hi → leHi lo hi → StepOn g' B' lo' hi' → leHi lo' hi' →
    winSet g lo hi = winSet g' lo' hi' → foldWin f init g B lo hi = foldWin f init g' B' lo' hi'

theorem WinOp.some {f : α → α → α} {init : α} (hf : WinOp f init) {g g' : Rat → Option α}
    {B B' : List Rat} {lo lo' h h' : Rat} (hg : StepOn g B lo (some h)) (hne : lo ≤ h)
    (hg' : StepOn g' B' lo' (some h')) (hne' : lo' ≤ h')
    (hw : winSet g lo (some h) = winSet g' lo' (some h')) :
    foldWin f init g B lo (some h) = foldWin f init g' B' lo' (some h') :=
  hf _ _ _ _ _ _ _ _ hg hne hg' hne' hw

theorem winOp_max : WinOp (pmax : α → α → α) ninf := by
  intro g g' B B' lo lo' hi hi' hg hne hg' hne' h
  obtain ⟨v, h1, h2⟩ := foldWin_max_spec hg hne
  obtain ⟨v', h1', h2'⟩ := foldWin_max_spec hg' hne'
  rw [h1, h1', h2.unique (h ▸ h2')]

theorem winOp_min : WinOp (pmin : α → α → α) pinf := winOp_max (α := αᵒᵈ)

theorem foldWin_shift_lo {f : α → α → α} {init : α} (hf : WinOp f init) {g : Rat → Option α}
    {B : List Rat} {lo lo' : Rat} {hi : Option Rat} (hg : StepOn g B lo hi) (h1 : lo ≤ lo')
    (h2 : leHi lo' hi) (hno : ∀ b ∈ B, ¬ (lo < b ∧ b ≤ lo')) :
    foldWin f init g B lo' hi = foldWin f init g B lo hi :=
  hf _ _ _ _ _ _ _ _ (hg.mono_lo h1) h2 hg (leHi_mono h1 h2) (winSet_shift_lo hg h1 h2 hno).symm

theorem foldWin_shift_hi {f : α → α → α} {init : α} (hf : WinOp f init) {g : Rat → Option α}
    {B : List Rat} {lo h h' : Rat} (hg : StepOn g B lo (some h')) (h1 : lo ≤ h) (h2 : h ≤ h')
    (hno : ∀ b ∈ B, ¬ (h < b ∧ b ≤ h')) :
    foldWin f init g B lo (some h') = foldWin f init g B lo (some h) :=
  hf.some hg (le_trans h1 h2) (hg.mono le_rfl (fun _ hs => le_trans hs h2) fun _ hb => hb) h1
    (winSet_shift_hi hg h1 h2 hno).symm

theorem stepOn_foldWin_lo {f : α → α → α} {init : α} (hf : WinOp f init) {g : Rat → Option α}
    {B : List Rat} {lo : Rat} {hi : Option Rat} (hg : StepOn g B lo hi) :
    StepOn (fun s => foldWin f init g B s hi) B lo hi :=
  ⟨fun _ k1 k2 => foldWin_isSome f init (hg.mono_lo k1) k2,
    fun _ _ k1 k2 k3 k4 => foldWin_shift_lo hf (hg.mono_lo k1) k2 k3 k4⟩

theorem stepOn_foldWin_hi {f : α → α → α} {init : α} (hf : WinOp f init) {g : Rat → Option α}
    {B : List Rat} {lo : Rat} (hg : StepOn g B lo none) :
    StepOn (fun s => foldWin f init g B lo (some s)) B lo none :=
  ⟨fun _ k1 _ => foldWin_isSome f init (hg.restrict le_rfl _) k1,
    fun _ _ k1 k2 _ k4 => foldWin_shift_hi hf (hg.restrict le_rfl _) k1 k2 k4⟩

theorem stepOn_un {g : Rat → Option α} {B : List Rat} {d : Rat} (u : α → α)
    (hg : StepOn g B d none) : StepOn (fun t => (g t).map u) B d none := by
  refine ⟨fun s h1 h2 => ?_, fun s s' h1 h2 h3 h4 => ?_⟩
  · simp [hg.1 s h1 h2]
  · show (g s').map u = (g s).map u
    rw [hg.2 s s' h1 h2 h3 h4]

theorem StepOn.map₂ {g1 g2 : Rat → Option α} {B : List Rat} {lo : Rat} {hi : Option Rat}
    (f : α → α → α) (h1 : StepOn g1 B lo hi) (h2 : StepOn g2 B lo hi) :
    StepOn (fun t => do
      let l ← g1 t
      let r ← g2 t
      pure (f l r)) B lo hi := by
  refine ⟨fun s k1 k2 => ?_, fun s s' k1 k2 k3 k4 => ?_⟩
  · obtain ⟨x, hx⟩ := Option.isSome_iff_exists.1 (h1.1 s k1 k2)
    obtain ⟨y, hy⟩ := Option.isSome_iff_exists.1 (h2.1 s k1 k2)
    simp [hx, hy]
  · simp only [h1.2 s s' k1 k2 k3 k4, h2.2 s s' k1 k2 k3 k4]

theorem stepOn_bin {g1 g2 : Rat → Option α} {B1 B2 : List Rat} {d1 d2 : Rat} (f : α → α → α)
    (h1 : StepOn g1 B1 d1 none) (h2 : StepOn g2 B2 d2 none) :
    StepOn (fun t => do
      let l ← g1 t
      let r ← g2 t
      pure (f l r)) (B1 ++ B2) (max d1 d2) none :=
  .map₂ f (h1.mono (le_max_left _ _) (fun _ h => h) fun _ => List.mem_append_left _)
    (h2.mono (le_max_right _ _) (fun _ h => h) fun _ => List.mem_append_right _)

theorem stepOn_past {f : α → α → α} {init : α} (hf : WinOp f init) {g : Rat → Option α}
    {B : List Rat} {d : Rat} (hg : StepOn g B d none) :
    StepOn (fun t => if t < d then none else foldWin f init g B d (some t)) B d none :=
  (stepOn_foldWin_hi hf hg).congr fun _ h _ => if_neg (not_lt.2 h)

theorem stepOn_future {f : α → α → α} {init : α} (hf : WinOp f init) {g : Rat → Option α}
    {B : List Rat} {d : Rat} (hg : StepOn g B d none) :
    StepOn (fun t => if t < d then none else foldWin f init g B t none) B d none :=
  (stepOn_foldWin_lo hf hg).congr fun _ h _ => if_neg (not_lt.2 h)

/-! The bounded nodes fold a function `G t` that may itself depend on the time `t` of evaluation
(`since`, `until`) over a window that moves with `t`.  What is needed of the family `G`: each member is
a step function on the windows read, and `G t` does not change while `t` crosses no candidate. -/

theorem stepOn_tb_past_fam {f : α → α → α} {init : α} (hf : WinOp f init) {G : Rat → Rat → Option α}
    {B : List Rat} {d : Rat}
    (hG : ∀ t lo hi : Rat, d ≤ lo → hi ≤ t → StepOn (G t) B lo (some hi))
    {a' b' : Rat} (ha : 0 ≤ a') (hab : a' ≤ b') {C : List Rat}
    (hshift : ∀ s s' x : Rat, d ≤ x → x ≤ s → s ≤ s' → (∀ c ∈ C, ¬ (s < c ∧ c ≤ s')) →
      G s' x = G s x)
    (hCa : ∀ c ∈ d :: B, c + a' ∈ C) (hCb : ∀ c ∈ d :: B, c + b' ∈ C) :
    StepOn (fun t => if t < d then none else
        if t - a' < d then some init
        else foldWin f init (G t) B (max (t - b') d) (some (t - a'))) C d none := by
  refine ⟨fun s k1 _ => ?_, fun s s' k1 k2 _ k4 => ?_⟩
  · simp only [if_neg (not_lt.2 k1)]
    by_cases h : s - a' < d
    · rw [if_pos h]; rfl
    · rw [if_neg h]
      exact foldWin_isSome f init (hG s _ _ (le_max_right _ _) (sub_le_self s ha))
        (max_le (sub_le_sub_left hab s) (not_lt.1 h))
  · simp only [if_neg (not_lt.2 k1), if_neg (not_lt.2 (le_trans k1 k2))]
    by_cases h' : s' - a' < d
    · rw [if_pos h', if_pos (lt_of_le_of_lt (sub_le_sub_right k2 a') h')]
    · have h'' : d ≤ s' - a' := not_lt.1 h'
      -- `d + a'` is a candidate, so `s - a' < d ≤ s' - a'` is impossible
      have h : ¬ s - a' < d := fun hh =>
        k4 (d + a') (hCa _ (List.mem_cons_self ..)) ⟨sub_lt_iff_lt_add.1 hh, le_sub_iff_add_le.1 h''⟩
      have hle : max (s - b') d ≤ s - a' := max_le (sub_le_sub_left hab s) (not_lt.1 h)
      have hS := hG s' (max (s - b') d) (s' - a') (le_max_right _ _) (sub_le_self s' ha)
      rw [if_neg h', if_neg h]
      calc foldWin f init (G s') B (max (s' - b') d) (some (s' - a'))
          = foldWin f init (G s') B (max (s - b') d) (some (s' - a')) := by
            refine foldWin_shift_lo hf hS (max_le_max (sub_le_sub_right k2 b') le_rfl)
              (max_le (sub_le_sub_left hab s') h'') ?_
            rintro b hb ⟨x, y⟩
            have hd : d < b := lt_of_le_of_lt (le_max_right _ _) x
            exact k4 (b + b') (hCb b (List.mem_cons_of_mem _ hb))
              ⟨sub_lt_iff_lt_add.1 (lt_of_le_of_lt (le_max_left _ _) x),
                le_sub_iff_add_le.1 ((le_max_iff.1 y).resolve_right (not_le.2 hd))⟩
        _ = foldWin f init (G s') B (max (s - b') d) (some (s - a')) :=
            foldWin_shift_hi hf hS hle (sub_le_sub_right k2 a') fun b hb hh =>
              k4 (b + a') (hCa b (List.mem_cons_of_mem _ hb))
                ⟨sub_lt_iff_lt_add.1 hh.1, le_sub_iff_add_le.1 hh.2⟩
        _ = foldWin f init (G s) B (max (s - b') d) (some (s - a')) :=
            foldWin_congr _ _ _ _ _ _ _ hle fun x hx1 hx2 =>
              hshift s s' x (le_trans (le_max_right _ _) hx1) (le_trans hx2 (sub_le_self s ha)) k2 k4

theorem stepOn_tb_future_fam {f : α → α → α} {init : α} (hf : WinOp f init)
    {G : Rat → Rat → Option α} {B : List Rat} {d : Rat}
    (hG : ∀ t lo hi : Rat, d ≤ t → t ≤ lo → StepOn (G t) B lo (some hi))
    {a' b' : Rat} (ha : 0 ≤ a') (hab : a' ≤ b') {C : List Rat}
    (hshift : ∀ s s' x : Rat, d ≤ s → s ≤ s' → s' ≤ x → (∀ c ∈ C, ¬ (s < c ∧ c ≤ s')) →
      G s' x = G s x)
    (hCa : ∀ c ∈ B, c - a' ∈ C) (hCb : ∀ c ∈ B, c - b' ∈ C) :
    StepOn (fun t => if t < d then none else
        foldWin f init (G t) B (t + a') (some (t + b'))) C d none := by
  have hle : ∀ t : Rat, t + a' ≤ t + b' := fun t => add_le_add_right hab t
  refine ⟨fun s k1 _ => ?_, fun s s' k1 k2 _ k4 => ?_⟩
  · simp only [if_neg (not_lt.2 k1)]
    exact foldWin_isSome f init (hG s _ _ k1 (le_add_of_nonneg_right ha)) (hle s)
  · have hS := hG s (s + a') (s' + b') k1 (le_add_of_nonneg_right ha)
    simp only [if_neg (not_lt.2 k1), if_neg (not_lt.2 (le_trans k1 k2))]
    calc foldWin f init (G s') B (s' + a') (some (s' + b'))
        = foldWin f init (G s) B (s' + a') (some (s' + b')) :=
          foldWin_congr _ _ _ _ _ _ _ (hle s') fun x hx1 _ =>
            hshift s s' x k1 k2 (le_trans (le_add_of_nonneg_right ha) hx1) k4
      _ = foldWin f init (G s) B (s + a') (some (s' + b')) :=
          foldWin_shift_lo hf hS (add_le_add_left k2 a') (hle s') fun b hb hh =>
            k4 (b - a') (hCa b hb) ⟨lt_sub_iff_add_lt.2 hh.1, sub_le_iff_le_add.2 hh.2⟩
      _ = foldWin f init (G s) B (s + a') (some (s + b')) :=
          foldWin_shift_hi hf hS (hle s) (add_le_add_left k2 b') fun b hb hh =>
            k4 (b - b') (hCb b hb) ⟨lt_sub_iff_add_lt.2 hh.1, sub_le_iff_le_add.2 hh.2⟩

theorem stepOn_tb_past {f : α → α → α} {init : α} (hf : WinOp f init) {g : Rat → Option α}
    {B : List Rat} {d : Rat} (hg : StepOn g B d none) {a' b' : Rat} (ha : 0 ≤ a') (hab : a' ≤ b')
    {C : List Rat} (hC : (d :: B).map (· + a') ++ (d :: B).map (· + b') ⊆ C) :
    StepOn (fun t => if t < d then none else
        if t - a' < d then some init
        else foldWin f init g B (max (t - b') d) (some (t - a'))) C d none :=
  stepOn_tb_past_fam hf (G := fun _ => g) (fun _ _ _ hlo _ => hg.restrict hlo _) ha hab
    (fun _ _ _ _ _ _ _ => rfl)
    (fun _ hc => hC (List.mem_append_left _ (List.mem_map_of_mem hc)))
    (fun _ hc => hC (List.mem_append_right _ (List.mem_map_of_mem hc)))

theorem stepOn_tb_future {f : α → α → α} {init : α} (hf : WinOp f init) {g : Rat → Option α}
    {B : List Rat} {d : Rat} (hg : StepOn g B d none) {a' b' : Rat} (ha : 0 ≤ a') (hab : a' ≤ b')
    {C : List Rat} (hC : (d :: B).map (· - a') ++ (d :: B).map (· - b') ⊆ C) :
    StepOn (fun t => if t < d then none else
        foldWin f init g B (t + a') (some (t + b'))) C d none :=
  stepOn_tb_future_fam hf (G := fun _ => g) (fun _ _ _ ht hlo => hg.restrict (le_trans ht hlo) _)
    ha hab (fun _ _ _ _ _ _ _ => rfl)
    (fun _ hc => hC (List.mem_append_left _ (List.mem_map_of_mem (List.mem_cons_of_mem _ hc))))
    (fun _ hc => hC (List.mem_append_right _ (List.mem_map_of_mem (List.mem_cons_of_mem _ hc))))

/-- `t' ↦ min(ψ(t'), inf_{[t', t]} φ)` -/
def sinceInner (g1 g2 : Rat → Option α) (B1 : List Rat) (t : Rat) : Rat → Option α :=
  fun t' => do
    let r ← g2 t'
    let l ← foldWin pmin pinf g1 B1 t' (some t)
    pure (pmin l r)

/-- `t' ↦ min(ψ(t'), inf_{[t, t']} φ)` -/
def untilInner (g1 g2 : Rat → Option α) (B1 : List Rat) (t : Rat) : Rat → Option α :=
  fun t' => do
    let r ← g2 t'
    let l ← foldWin pmin pinf g1 B1 t (some t')
    pure (pmin l r)

theorem sinceInner_stepOn {g1 g2 : Rat → Option α} {B1 B2 : List Rat} {d1 d2 : Rat}
    (h1 : StepOn g1 B1 d1 none) (h2 : StepOn g2 B2 d2 none) {t lo hi : Rat}
    (hlo : max d1 d2 ≤ lo) (hhi : hi ≤ t) :
    StepOn (sinceInner g1 g2 B1 t) (B1 ++ B2) lo (some hi) :=
  .map₂ (fun r l => pmin l r)
    (h2.mono (le_trans (le_max_right _ _) hlo) (fun _ _ => trivial) fun _ => List.mem_append_right _)
    ((stepOn_foldWin_lo winOp_min (h1.restrict (le_trans (le_max_left _ _) hlo) (some t))).mono le_rfl
      (fun s (hs : s ≤ hi) => (le_trans hs hhi : s ≤ t)) fun _ => List.mem_append_left _)

theorem sinceInner_shift {g1 : Rat → Option α} (g2 : Rat → Option α) {B1 : List Rat} {d1 : Rat}
    (h1 : StepOn g1 B1 d1 none) {t t2 s : Rat} (hs : d1 ≤ s) (hst : s ≤ t) (htt : t ≤ t2)
    (hno : ∀ b ∈ B1, ¬ (t < b ∧ b ≤ t2)) :
    sinceInner g1 g2 B1 t2 s = sinceInner g1 g2 B1 t s := by
  simp only [sinceInner, foldWin_shift_hi winOp_min (h1.restrict hs _) hst htt hno]

theorem untilInner_stepOn {g1 g2 : Rat → Option α} {B1 B2 : List Rat} {d1 d2 : Rat}
    (h1 : StepOn g1 B1 d1 none) (h2 : StepOn g2 B2 d2 none) {t : Rat} (ht : max d1 d2 ≤ t) :
    StepOn (untilInner g1 g2 B1 t) (B1 ++ B2) t none :=
  .map₂ (fun r l => pmin l r)
    (h2.mono (le_trans (le_max_right _ _) ht) (fun _ h => h) fun _ => List.mem_append_right _)
    ((stepOn_foldWin_hi winOp_min (h1.mono_lo (le_trans (le_max_left _ _) ht))).mono le_rfl (fun _ h => h)
      fun _ => List.mem_append_left _)

theorem untilInner_shift {g1 : Rat → Option α} (g2 : Rat → Option α) {B1 : List Rat} {d1 : Rat}
    (h1 : StepOn g1 B1 d1 none) {t t2 s : Rat} (hd : d1 ≤ t) (htt : t ≤ t2) (hs : t2 ≤ s)
    (hno : ∀ b ∈ B1, ¬ (t < b ∧ b ≤ t2)) :
    untilInner g1 g2 B1 t2 s = untilInner g1 g2 B1 t s := by
  simp only [untilInner, foldWin_shift_lo winOp_min (h1.restrict hd (some s)) htt hs hno]

theorem stepOn_since {g1 g2 : Rat → Option α} {B1 B2 : List Rat} {d1 d2 : Rat}
    (h1 : StepOn g1 B1 d1 none) (h2 : StepOn g2 B2 d2 none) :
    StepOn (fun t => if t < max d1 d2 then none else
        foldWin pmax ninf (sinceInner g1 g2 B1 t) (B1 ++ B2) (max d1 d2) (some t))
      (B1 ++ B2) (max d1 d2) none := by
  refine ⟨fun s k1 _ => ?_, fun s s' k1 k2 _ k4 => ?_⟩
  · simp only [if_neg (not_lt.2 k1)]
    exact foldWin_isSome pmax ninf (sinceInner_stepOn h1 h2 le_rfl le_rfl) k1
  · simp only [if_neg (not_lt.2 k1), if_neg (not_lt.2 (le_trans k1 k2))]
    rw [foldWin_shift_hi winOp_max (sinceInner_stepOn h1 h2 le_rfl le_rfl) k1 k2 k4]
    exact foldWin_congr _ _ _ _ _ _ _ k1 fun x hx1 hx2 =>
      sinceInner_shift g2 h1 (le_trans (le_max_left _ _) hx1) hx2 k2
        fun b hb => k4 b (List.mem_append_left _ hb)

theorem stepOn_until {g1 g2 : Rat → Option α} {B1 B2 : List Rat} {d1 d2 : Rat}
    (h1 : StepOn g1 B1 d1 none) (h2 : StepOn g2 B2 d2 none) :
    StepOn (fun t => if t < max d1 d2 then none else
        foldWin pmax ninf (untilInner g1 g2 B1 t) (B1 ++ B2) t none)
      (B1 ++ B2) (max d1 d2) none := by
  refine ⟨fun s k1 _ => ?_, fun s s' k1 k2 _ k4 => ?_⟩
  · simp only [if_neg (not_lt.2 k1)]
    exact foldWin_isSome pmax ninf (untilInner_stepOn h1 h2 k1) trivial
  · simp only [if_neg (not_lt.2 k1), if_neg (not_lt.2 (le_trans k1 k2))]
    rw [← foldWin_shift_lo winOp_max (untilInner_stepOn h1 h2 k1) k2 trivial k4]
    exact foldWin_congr _ _ _ _ _ _ _ trivial fun x hx1 _ =>
      untilInner_shift g2 h1 (le_trans (le_max_left _ _) k1) k2 hx1
        fun b hb => k4 b (List.mem_append_left _ hb)

theorem stepOn_tb_since {g1 g2 : Rat → Option α} {B1 B2 : List Rat} {d1 d2 : Rat}
    (h1 : StepOn g1 B1 d1 none) (h2 : StepOn g2 B2 d2 none) {a' b' : Rat} (ha : 0 ≤ a')
    (hab : a' ≤ b') {C : List Rat}
    (hC : max d1 d2 :: (B1 ++ B2) ++ (max d1 d2 :: (B1 ++ B2)).map (· + a') ++
      (max d1 d2 :: (B1 ++ B2)).map (· + b') ⊆ C) :
    StepOn (fun t => if t < max d1 d2 then none else
        if t - a' < max d1 d2 then some ninf
        else foldWin pmax ninf (sinceInner g1 g2 B1 t) (B1 ++ B2) (max (t - b') (max d1 d2))
          (some (t - a'))) C (max d1 d2) none :=
  stepOn_tb_past_fam winOp_max (G := sinceInner g1 g2 B1)
    (fun _ _ _ => sinceInner_stepOn h1 h2) ha hab
    (fun _ _ _ hx hxs hss' hno => sinceInner_shift g2 h1 (le_trans (le_max_left _ _) hx) hxs hss'
      fun b hb => hno b (hC (List.mem_append_left _ (List.mem_append_left _
        (List.mem_cons_of_mem _ (List.mem_append_left _ hb))))))
    (fun _ hc => hC (List.mem_append_left _ (List.mem_append_right _ (List.mem_map_of_mem hc))))
    (fun _ hc => hC (List.mem_append_right _ (List.mem_map_of_mem hc)))

theorem stepOn_tb_until {g1 g2 : Rat → Option α} {B1 B2 : List Rat} {d1 d2 : Rat}
    (h1 : StepOn g1 B1 d1 none) (h2 : StepOn g2 B2 d2 none) {a' b' : Rat} (ha : 0 ≤ a')
    (hab : a' ≤ b') {C : List Rat}
    (hC : max d1 d2 :: (B1 ++ B2) ++ (max d1 d2 :: (B1 ++ B2)).map (· - a') ++
      (max d1 d2 :: (B1 ++ B2)).map (· - b') ⊆ C) :
    StepOn (fun t => if t < max d1 d2 then none else
        foldWin pmax ninf (untilInner g1 g2 B1 t) (B1 ++ B2) (t + a') (some (t + b')))
      C (max d1 d2) none :=
  stepOn_tb_future_fam winOp_max (G := untilInner g1 g2 B1)
    (fun _ _ _ ht hlo => (untilInner_stepOn h1 h2 ht).restrict hlo _)
    ha hab
    (fun _ _ _ hs hss' hx hno => untilInner_shift g2 h1 (le_trans (le_max_left _ _) hs) hss' hx
      fun b hb => hno b (hC (List.mem_append_left _ (List.mem_append_left _
        (List.mem_cons_of_mem _ (List.mem_append_left _ hb))))))
    (fun _ hc => hC (List.mem_append_left _ (List.mem_append_right _
      (List.mem_map_of_mem (List.mem_cons_of_mem _ hc)))))
    (fun _ hc => hC (List.mem_append_right _ (List.mem_map_of_mem (List.mem_cons_of_mem _ hc))))

end Rtamt.Dense
