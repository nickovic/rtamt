/-
  Dense time, online (C05): the unbounded `since` (`SinceOperation.update`, mirror `sinceUpdate`) over two operand
  streams.  `sinceStream_ok`: on streams that are `StreamOK` from 0 for `g1`, `g2` it returns a stream with `Shape`
  whose value at every covered `t` is the supremum of `sinceSet g1 g2 0 t t` (the non-strict since).

  `pieces A B` is `sinceLoop` without `prev`: while both lists have a second sample, the non-empty intersections
  `[max a0 b0, min a1 b1)` of their first intervals, as `(start, (left value, right value))`, and the two remainders,
  the next buffers.  One update returns `sinceOp.go st.prev`, the value recursion of the offline `sinceOp`, over the
  pieces of buffers ++ batches (`sinceUpdate_eq`; `st.last` is never read).  Batching does not change the pieces
  (`pieces_chunk`), so the batches returned so far, concatenated, are `sinceOp.go Val.ninf` over the pieces of the
  concatenated operands (`run_eq`; of the state it asks only that one buffer has at most one sample, `pieces_stable`).

  `pieces_inv` (along the iterations, `pieces_induct`) is applied once, to that list: it has `OutInv`, the frontier
  invariant of the merge loops (sorted from 0, with the pairs of the operands' values), and a piece starts at or before
  a stamp of each operand, so what the output covers both operands cover.  Hence the shape (`go` keeps the stamps), and
  the values by `ScanAux.since_char` and `ubS_iff` as in `sinceOp_spec` (`Dense/AlgScan.lean`), at the two projections
  of the pieces, which are `g1`, `g2` up to the last stamp returned (`sinceSet_congr`).
-/
import RtamtProofs.Dense.OnOut
import RtamtProofs.Dense.AlgScan

namespace Rtamt.Dense.AlgOn
open Rtamt Val Rtamt.Dense.Alg

namespace SinceAux
open InterAux BasicAux
attribute [local instance] InterAux.tmOrder

variable {α : Type}

/-- The part of `sinceLoop` that does not depend on `prev`: the two remaining buffers and the completed non-empty
    common pieces `(lo, (left value, right value))`. -/
def pieces : ASig α → ASig α → ASig α × ASig α × List (Tm × (α × α))
  | (a0, av) :: (a1, avn) :: ra, (b0, bv) :: (b1, bvn) :: rb =>
      let pre : List (Tm × (α × α)) :=
        if Tm.lt (tmMax a0 b0) (tmMin a1 b1) then [(tmMax a0 b0, (av, bv))] else []
      if Tm.lt a1 b1 then
        let r := pieces ((a1, avn) :: ra) ((b0, bv) :: (b1, bvn) :: rb)
        (r.1, r.2.1, pre ++ r.2.2)
      else if Tm.lt b1 a1 then
        let r := pieces ((a0, av) :: (a1, avn) :: ra) ((b1, bvn) :: rb)
        (r.1, r.2.1, pre ++ r.2.2)
      else
        let r := pieces ((a1, avn) :: ra) ((b1, bvn) :: rb)
        (r.1, r.2.1, pre ++ r.2.2)
  | a, b => (a, b, [])
termination_by a b => a.length + b.length
decreasing_by all_goals (simp only [List.length_cons]; omega)

/-- The value of `prev` after the pieces `io`. -/
def sacc [Val α] (acc : α) (io : List (Tm × (α × α))) : α := io.foldl (fun a p => sinceVal a p.2) acc

theorem sacc_nil [Val α] (acc : α) : sacc acc ([] : List (Tm × (α × α))) = acc := rfl

theorem sacc_cons [Val α] (acc : α) (p : Tm × (α × α)) (io : List (Tm × (α × α))) :
    sacc acc (p :: io) = sacc (sinceVal acc p.2) io := rfl

theorem sacc_append [Val α] (acc : α) (io io' : List (Tm × (α × α))) :
    sacc acc (io ++ io') = sacc (sacc acc io) io' := by
  unfold sacc; rw [List.foldl_append]

theorem sgo_nil [Val α] (acc : α) : sinceOp.go acc ([] : List (Tm × (α × α))) = [] := rfl

theorem sgo_append [Val α] (acc : α) (io io' : List (Tm × (α × α))) :
    sinceOp.go acc (io ++ io') = sinceOp.go acc io ++ sinceOp.go (sacc acc io) io' := by
  induction io generalizing acc with
  | nil => rfl
  | cons p io ih =>
    obtain ⟨τ, q⟩ := p
    rw [List.cons_append, ScanAux.sgo_cons, ScanAux.sgo_cons, ih, sacc_cons, List.cons_append]

theorem sinceLoop_base [Val α] (A B : ASig α) (h : A.length ≤ 1 ∨ B.length ≤ 1) (prev : α)
    (last : Option (Tm × α)) (res : ASig α) : sinceLoop A B prev last res = (A, B, prev, last, res) := by
  rw [sinceLoop]
  intro a0 av a1 avn ra b0 bv b1 bvn rb hA hB
  subst hA hB
  simp only [List.length_cons] at h
  omega

theorem pieces_base (A B : ASig α) (h : A.length ≤ 1 ∨ B.length ≤ 1) : pieces A B = (A, B, []) := by
  rw [pieces]
  intro a0 av a1 avn ra b0 bv b1 bvn rb hA hB
  subst hA hB
  simp only [List.length_cons] at h
  omega

theorem tmMax_eq (a b : Tm) : tmMax a b = max a b := by
  unfold tmMax
  by_cases h : a < b
  · rw [if_pos ((lt_iff _ _).2 h), max_eq_right (le_of_lt h)]
  · rw [if_neg (fun h' => h ((lt_iff _ _).1 h')), max_eq_left (not_lt.1 h)]

theorem tmMin_eq (a b : Tm) : tmMin a b = min a b := by
  unfold tmMin
  by_cases h : b < a
  · rw [if_pos ((lt_iff _ _).2 h), min_eq_right (le_of_lt h)]
  · rw [if_neg (fun h' => h ((lt_iff _ _).1 h')), min_eq_left (not_lt.1 h)]

/-- The piece emitted by one iteration (none when it is empty). -/
def pre (a0 a1 b0 b1 : Tm) (av bv : α) : List (Tm × (α × α)) :=
  if max a0 b0 < min a1 b1 then [(max a0 b0, (av, bv))] else []

/-- One iteration: the head of the list whose second stamp is smaller is dropped (both when equal). -/
theorem pieces_step (a0 : Tm) (av : α) (a1 : Tm) (avn : α) (ra : ASig α) (b0 : Tm) (bv : α) (b1 : Tm) (bvn : α)
    (rb : ASig α) :
    pieces ((a0, av) :: (a1, avn) :: ra) ((b0, bv) :: (b1, bvn) :: rb) =
      ((pieces (if a1 ≤ b1 then (a1, avn) :: ra else (a0, av) :: (a1, avn) :: ra)
          (if b1 ≤ a1 then (b1, bvn) :: rb else (b0, bv) :: (b1, bvn) :: rb)).1,
       (pieces (if a1 ≤ b1 then (a1, avn) :: ra else (a0, av) :: (a1, avn) :: ra)
          (if b1 ≤ a1 then (b1, bvn) :: rb else (b0, bv) :: (b1, bvn) :: rb)).2.1,
       pre a0 a1 b0 b1 av bv ++
       (pieces (if a1 ≤ b1 then (a1, avn) :: ra else (a0, av) :: (a1, avn) :: ra)
          (if b1 ≤ a1 then (b1, bvn) :: rb else (b0, bv) :: (b1, bvn) :: rb)).2.2) := by
  rw [pieces]
  simp only [tmMax_eq, tmMin_eq, lt_iff, pre]
  rcases lt_trichotomy a1 b1 with h | h | h
  · rw [if_pos h, if_pos (le_of_lt h), if_neg (not_le.2 h)]
  · subst h
    simp only [lt_irrefl, if_false, le_refl, if_true]
  · rw [if_neg (not_lt.2 (le_of_lt h)), if_pos h, if_neg (not_le.2 h), if_pos (le_of_lt h)]

/-- Induction along the iterations of the loop, in the form of `pieces_step`. -/
theorem pieces_induct {motive : ASig α → ASig α → Prop}
    (base : ∀ A B, A.length ≤ 1 ∨ B.length ≤ 1 → motive A B)
    (step : ∀ a0 av a1 avn ra b0 bv b1 bvn rb,
      motive (if a1 ≤ b1 then (a1, avn) :: ra else (a0, av) :: (a1, avn) :: ra)
        (if b1 ≤ a1 then (b1, bvn) :: rb else (b0, bv) :: (b1, bvn) :: rb) →
      motive ((a0, av) :: (a1, avn) :: ra) ((b0, bv) :: (b1, bvn) :: rb)) (A B : ASig α) : motive A B := by
  have key : ∀ (n : Nat) (A B : ASig α), A.length + B.length ≤ n → motive A B := by
    intro n
    induction n with
    | zero => intro A B hn; exact base A B (Or.inl (by omega))
    | succ n ih =>
      intro A B hn
      by_cases hb : A.length ≤ 1 ∨ B.length ≤ 1
      · exact base A B hb
      · obtain ⟨⟨a0, av⟩, ⟨a1, avn⟩, ra, rfl⟩ := exists_cons_cons fun h => hb (Or.inl h)
        obtain ⟨⟨b0, bv⟩, ⟨b1, bvn⟩, rb, rfl⟩ := exists_cons_cons fun h => hb (Or.inr h)
        simp only [List.length_cons] at hn
        apply step
        apply ih
        rcases lt_trichotomy a1 b1 with h | h | h
        · rw [if_pos (le_of_lt h), if_neg (not_le.2 h)]; simp only [List.length_cons]; omega
        · subst h; simp only [le_refl, if_true, List.length_cons]; omega
        · rw [if_neg (not_le.2 h), if_pos (le_of_lt h)]; simp only [List.length_cons]; omega
  exact key _ A B le_rfl

/-- One iteration of `sinceLoop`, in the form of `pieces_step`. -/
theorem sinceLoop_step [Val α] (a0 : Tm) (av : α) (a1 : Tm) (avn : α) (ra : ASig α) (b0 : Tm) (bv : α) (b1 : Tm)
    (bvn : α) (rb : ASig α) (prev : α) (last : Option (Tm × α)) (res : ASig α) :
    ∃ last', sinceLoop ((a0, av) :: (a1, avn) :: ra) ((b0, bv) :: (b1, bvn) :: rb) prev last res =
      sinceLoop (if a1 ≤ b1 then (a1, avn) :: ra else (a0, av) :: (a1, avn) :: ra)
        (if b1 ≤ a1 then (b1, bvn) :: rb else (b0, bv) :: (b1, bvn) :: rb)
        (sacc prev (pre a0 a1 b0 b1 av bv)) last' (res ++ sinceOp.go prev (pre a0 a1 b0 b1 av bv)) := by
  rw [sinceLoop]
  simp only [tmMax_eq, tmMin_eq, lt_iff, pre]
  by_cases he : max a0 b0 < min a1 b1
  · simp only [if_pos he]
    rcases lt_trichotomy a1 b1 with h | h | h
    · rw [if_pos h, if_pos (le_of_lt h), if_neg (not_le.2 h)]; exact ⟨_, rfl⟩
    · subst h; simp only [lt_irrefl, if_false, le_refl, if_true]; exact ⟨_, rfl⟩
    · rw [if_neg (not_lt.2 (le_of_lt h)), if_pos h, if_neg (not_le.2 h), if_pos (le_of_lt h)]; exact ⟨_, rfl⟩
  · simp only [if_neg he, sacc_nil, sgo_nil, List.append_nil]
    rcases lt_trichotomy a1 b1 with h | h | h
    · rw [if_pos h, if_pos (le_of_lt h), if_neg (not_le.2 h)]; exact ⟨_, rfl⟩
    · subst h; simp only [lt_irrefl, if_false, le_refl, if_true]; exact ⟨_, rfl⟩
    · rw [if_neg (not_lt.2 (le_of_lt h)), if_pos h, if_neg (not_le.2 h), if_pos (le_of_lt h)]; exact ⟨_, rfl⟩

/-- `sinceLoop` in terms of `pieces`: the values are the since recursion along the pieces. -/
theorem sinceLoop_eq [Val α] (A B : ASig α) : ∀ (prev : α) (last : Option (Tm × α)) (res : ASig α),
    ∃ last', sinceLoop A B prev last res =
      ((pieces A B).1, (pieces A B).2.1, sacc prev (pieces A B).2.2, last',
        res ++ sinceOp.go prev (pieces A B).2.2) := by
  induction A, B using pieces_induct with
  | base A B hb =>
    intro prev last res
    refine ⟨last, ?_⟩
    rw [sinceLoop_base A B hb, pieces_base A B hb, sacc_nil, sgo_nil, List.append_nil]
  | step a0 av a1 avn ra b0 bv b1 bvn rb ih =>
    intro prev last res
    obtain ⟨l1, e1⟩ := sinceLoop_step a0 av a1 avn ra b0 bv b1 bvn rb prev last res
    obtain ⟨l2, e2⟩ := ih (sacc prev (pre a0 a1 b0 b1 av bv)) l1 (res ++ sinceOp.go prev (pre a0 a1 b0 b1 av bv))
    refine ⟨l2, ?_⟩
    rw [e1, e2, pieces_step, sacc_append, sgo_append, List.append_assoc]

/-- Feeding the operands in two parts gives the same pieces (and the same remainders) as feeding them at once. -/
theorem pieces_chunk (A B : ASig α) : ∀ (X Y : ASig α),
    pieces (A ++ X) (B ++ Y) =
      ((pieces ((pieces A B).1 ++ X) ((pieces A B).2.1 ++ Y)).1,
       (pieces ((pieces A B).1 ++ X) ((pieces A B).2.1 ++ Y)).2.1,
       (pieces A B).2.2 ++ (pieces ((pieces A B).1 ++ X) ((pieces A B).2.1 ++ Y)).2.2) := by
  induction A, B using pieces_induct with
  | base A B hb =>
    intro X Y
    rw [pieces_base A B hb]
    rfl
  | step a0 av a1 avn ra b0 bv b1 bvn rb ih =>
    intro X Y
    rw [pieces_step]
    simp only [List.cons_append]
    rw [pieces_step]
    have e1 : (if a1 ≤ b1 then (a1, avn) :: (ra ++ X) else (a0, av) :: (a1, avn) :: (ra ++ X)) =
        (if a1 ≤ b1 then (a1, avn) :: ra else (a0, av) :: (a1, avn) :: ra) ++ X := by
      split <;> rfl
    have e2 : (if b1 ≤ a1 then (b1, bvn) :: (rb ++ Y) else (b0, bv) :: (b1, bvn) :: (rb ++ Y)) =
        (if b1 ≤ a1 then (b1, bvn) :: rb else (b0, bv) :: (b1, bvn) :: rb) ++ Y := by
      split <;> rfl
    rw [e1, e2, ih X Y]
    simp only [List.append_assoc]

theorem pieces_stable (A B : ASig α) : (pieces A B).1.length ≤ 1 ∨ (pieces A B).2.1.length ≤ 1 := by
  induction A, B using pieces_induct with
  | base A B hb => rw [pieces_base A B hb]; exact hb
  | step a0 av a1 avn ra b0 bv b1 bvn rb ih => rw [pieces_step]; exact ih

theorem sinceUpdate_eq [Val α] (st : SinceSt α) (sl sr : ASig α) :
    ∃ st', sinceUpdate st sl sr = (st', sinceOp.go st.prev (pieces (st.bufA ++ sl) (st.bufB ++ sr)).2.2) ∧
      st'.bufA = (pieces (st.bufA ++ sl) (st.bufB ++ sr)).1 ∧
      st'.bufB = (pieces (st.bufA ++ sl) (st.bufB ++ sr)).2.1 ∧
      st'.prev = sacc st.prev (pieces (st.bufA ++ sl) (st.bufB ++ sr)).2.2 := by
  obtain ⟨l', e⟩ := sinceLoop_eq (st.bufA ++ sl) (st.bufB ++ sr) st.prev st.last []
  unfold sinceUpdate
  rw [e]
  exact ⟨_, rfl, rfl, rfl, rfl⟩

/-- The whole run: the remaining buffers, `prev` and the concatenation of the returned batches are those of one
    pass over the concatenated operands. -/
theorem run_eq [Val α] : ∀ (ps : List (ASig α × ASig α)) (st : SinceSt α),
    (st.bufA.length ≤ 1 ∨ st.bufB.length ≤ 1) →
    ∃ st' outs, runBin (fun (st : SinceSt α) L R => .ok (sinceUpdate st L R)) st ps = .ok (st', outs) ∧
      st'.bufA = (pieces (st.bufA ++ (ps.map Prod.fst).flatten) (st.bufB ++ (ps.map Prod.snd).flatten)).1 ∧
      st'.bufB = (pieces (st.bufA ++ (ps.map Prod.fst).flatten) (st.bufB ++ (ps.map Prod.snd).flatten)).2.1 ∧
      st'.prev = sacc st.prev
        (pieces (st.bufA ++ (ps.map Prod.fst).flatten) (st.bufB ++ (ps.map Prod.snd).flatten)).2.2 ∧
      outs.flatten = sinceOp.go st.prev
        (pieces (st.bufA ++ (ps.map Prod.fst).flatten) (st.bufB ++ (ps.map Prod.snd).flatten)).2.2 := by
  intro ps
  induction ps with
  | nil =>
    intro st hst
    refine ⟨st, [], rfl, ?_⟩
    simp only [List.map_nil, List.flatten_nil, List.append_nil]
    rw [pieces_base _ _ hst]
    exact ⟨rfl, rfl, rfl, rfl⟩
  | cons p rest ih =>
    obtain ⟨L, R⟩ := p
    intro st _
    obtain ⟨st1, e1, hA, hB, hp⟩ := sinceUpdate_eq st L R
    obtain ⟨st2, os, e2, hA2, hB2, hp2, ho2⟩ := ih st1 (by rw [hA, hB]; exact pieces_stable _ _)
    refine ⟨st2, _ :: os, runBin_cons_iff.2 ⟨_, _, _, congrArg Except.ok e1, e2, rfl⟩, ?_⟩
    simp only [List.map_cons, List.flatten_cons, ← List.append_assoc]
    rw [pieces_chunk, ← hA, ← hB]
    refine ⟨hA2, hB2, ?_, ?_⟩
    · rw [hp2, sacc_append, hp]
    · rw [ho2, sgo_append, hp]

/-- The frontier `max (first stamp) (first stamp)` moves to the end of the piece when it is not empty, and stays otherwise. -/
theorem frontier_step (a0 a1 b0 b1 : Tm) (ha : a0 ≤ a1) (hb : b0 ≤ b1) :
    max (if a1 ≤ b1 then a1 else a0) (if b1 ≤ a1 then b1 else b0) =
      if max a0 b0 < min a1 b1 then min a1 b1 else max a0 b0 := by
  -- the list with the smaller second stamp `e` advances to it: the new frontier is `max e (other first stamp)`
  have one : ∀ {e a b : Tm}, a ≤ e → max e b = if max a b < e then e else max a b := fun {e a b} hae => by
    split_ifs with he
    · exact max_eq_left ((le_max_right _ _).trans he.le)
    · exact le_antisymm (max_le (not_lt.1 he) (le_max_right _ _)) (max_le_max hae le_rfl)
  rcases lt_trichotomy a1 b1 with h | rfl | h
  · rw [if_pos h.le, if_neg h.not_ge, min_eq_left h.le]
    exact one ha
  · rw [if_pos le_rfl, if_pos le_rfl, max_self, min_self]
    split_ifs with he
    · rfl
    · exact le_antisymm (not_lt.1 he) (max_le ha hb)
  · rw [if_neg h.not_ge, if_pos h.le, min_eq_right h.le, max_comm, max_comm a0]
    exact one hb

theorem weak_head_le {β : Type} {a0 : Tm} {av : β} {a1 : Tm} {avn : β} {ra : ASig β}
    (hw : Weak ((a0, av) :: (a1, avn) :: ra)) : a0 ≤ a1 :=
  (List.pairwise_cons.1 hw.mono).1 (a1, avn) List.mem_cons_self

/-- The list the next iteration works on: from its first stamp on it reads as the list did. -/
theorem next_list {β : Type} (c : Prop) [Decidable c] (a0 : Tm) (av : β) (a1 : Tm) (avn : β) (ra : ASig β)
    (hw : Weak ((a0, av) :: (a1, avn) :: ra)) :
    ∃ a', (if c then (a1, avn) :: ra else (a0, av) :: (a1, avn) :: ra).head? = some a' ∧
      a'.1 = (if c then a1 else a0) ∧
      Weak (if c then (a1, avn) :: ra else (a0, av) :: (a1, avn) :: ra) ∧
      (∀ p ∈ (if c then (a1, avn) :: ra else (a0, av) :: (a1, avn) :: ra), p ∈ (a0, av) :: (a1, avn) :: ra) ∧
      (∀ t, (if c then a1 else a0) ≤ Tm.fin t →
        valAtA (if c then (a1, avn) :: ra else (a0, av) :: (a1, avn) :: ra) t = valAtA ((a0, av) :: (a1, avn) :: ra) t) := by
  by_cases h : c
  · simp only [if_pos h]
    refine ⟨_, rfl, rfl, hw.tail, fun p hp => List.mem_cons_of_mem _ hp, fun t h1 => ?_⟩
    rw [valAtA_cons_of_le (le_trans (weak_head_le hw) h1), valAtA_cons_of_le h1]
    rfl
  · rw [if_neg h, if_neg h]
    exact ⟨_, rfl, rfl, hw, fun p hp => hp, fun t _ => rfl⟩

/-- The pieces as an output under construction (`OutInv`, the invariant of the merge loops): appended to a result `acc` that is
    right below the frontier `m` (the later of the two first stamps, once both lists have one), they keep it right, for the
    pairs of values of the two lists, up to a new frontier; and each piece starts at or before a stamp of either list. -/
theorem pieces_inv (G : Rat → Option (α × α)) (D : Rat) (A B : ASig α) : Weak A → Weak B →
    ∀ acc m, OutInv G D acc m → (∀ a b, A.head? = some a → B.head? = some b → m = max a.1 b.1) →
    (∀ t, m ≤ Tm.fin t → G t = lift2 Prod.mk (valAtA A) (valAtA B) t) →
    (∃ m', OutInv G D (acc ++ (pieces A B).2.2) m') ∧
      ∀ z ∈ (pieces A B).2.2, (∃ p ∈ A, z.1 ≤ p.1) ∧ ∃ q ∈ B, z.1 ≤ q.1 := by
  induction A, B using pieces_induct with
  | base A B hbase =>
    intro _ _ acc m hO _ _
    rw [pieces_base A B hbase, List.append_nil]
    exact ⟨⟨_, hO⟩, fun _ hz => nomatch hz⟩
  | step a0 av a1 avn ra b0 bv b1 bvn rb ih =>
    intro hwA hwB acc m hO hm hG
    obtain rfl : m = max a0 b0 := hm _ _ rfl rfl
    obtain ⟨a', hha, ea, hwa, hma, hva⟩ := next_list (a1 ≤ b1) a0 av a1 avn ra hwA
    obtain ⟨b', hhb, eb, hwb, hmb, hvb⟩ := next_list (b1 ≤ a1) b0 bv b1 bvn rb hwB
    have hF := frontier_step a0 a1 b0 b1 (weak_head_le hwA) (weak_head_le hwB)
    rw [← ea, ← eb] at hF
    rw [← ea] at hva
    rw [← eb] at hvb
    rw [pieces_step]
    generalize (if a1 ≤ b1 then (a1, avn) :: ra else (a0, av) :: (a1, avn) :: ra) = A' at *
    generalize (if b1 ≤ a1 then (b1, bvn) :: rb else (b0, bv) :: (b1, bvn) :: rb) = B' at *
    have hm' : ∀ a b, A'.head? = some a → B'.head? = some b → max a'.1 b'.1 = max a.1 b.1 := fun a b ha hb => by
      rw [hha] at ha; rw [hhb] at hb; cases ha; cases hb; rfl
    have hmono : max a0 b0 ≤ max a'.1 b'.1 := by
      rw [hF]; split_ifs with he
      · exact he.le
      · exact le_rfl
    have hG' : ∀ t, max a'.1 b'.1 ≤ Tm.fin t → G t = lift2 Prod.mk (valAtA A') (valAtA B') t := fun t ht => by
      rw [hG t (le_trans hmono ht)]
      unfold lift2
      rw [hva t (le_trans (le_max_left _ _) ht), hvb t (le_trans (le_max_right _ _) ht)]
    have hsub : ∀ z : Tm × (α × α), ((∃ p ∈ A', z.1 ≤ p.1) ∧ ∃ q ∈ B', z.1 ≤ q.1) →
        (∃ p ∈ (a0, av) :: (a1, avn) :: ra, z.1 ≤ p.1) ∧ ∃ q ∈ (b0, bv) :: (b1, bvn) :: rb, z.1 ≤ q.1 :=
      fun z ⟨⟨p, hp, h1⟩, ⟨q, hq, h2⟩⟩ => ⟨⟨p, hma p hp, h1⟩, ⟨q, hmb q hq, h2⟩⟩
    show (∃ m, OutInv G D (acc ++ (pre a0 a1 b0 b1 av bv ++ (pieces A' B').2.2)) m) ∧
      ∀ z ∈ pre a0 a1 b0 b1 av bv ++ (pieces A' B').2.2, _
    unfold pre
    by_cases he : max a0 b0 < min a1 b1
    · -- a non-empty piece `[max a0 b0, min a1 b1)`: both lists are in their first interval
      rw [if_pos he] at hF ⊢
      rw [← List.append_assoc]
      have hO' : OutInv G D (acc ++ [(max a0 b0, (av, bv))]) (max a'.1 b'.1) := by
        rw [hF]
        refine hO.snoc he (av, bv) fun t h1 h2 => ?_
        rw [hG t h1]
        unfold lift2
        rw [valAtA_head a0 av a1 avn ra t (le_trans (le_max_left _ _) h1) (lt_of_lt_of_le h2 (min_le_left _ _)),
          valAtA_head b0 bv b1 bvn rb t (le_trans (le_max_right _ _) h1) (lt_of_lt_of_le h2 (min_le_right _ _))]
      obtain ⟨hm, hcov⟩ := ih hwa hwb _ _ hO' hm' hG'
      refine ⟨hm, fun z hz => ?_⟩
      rcases List.mem_cons.1 hz with rfl | hz
      · exact ⟨⟨(a1, avn), by simp, (lt_of_lt_of_le he (min_le_left _ _)).le⟩,
          ⟨(b1, bvn), by simp, (lt_of_lt_of_le he (min_le_right _ _)).le⟩⟩
      · exact hsub z (hcov z hz)
    · rw [if_neg he] at hF ⊢
      obtain ⟨hm, hcov⟩ := ih hwa hwb acc _ (hF ▸ hO) hm' hG'
      exact ⟨hm, fun z hz => hsub z (hcov z hz)⟩

theorem shape_of_sorted {β : Type} {outs : List (ASig β)} {d : Rat} (hs : Sorted outs.flatten)
    (hf : ∀ p ∈ outs.flatten, p.1 ≠ Tm.inf) (hh : ∀ p, outs.flatten.head? = some p → p.1 = Tm.fin d) :
    Shape outs d := by
  refine ⟨fun B hB => ?_, fun B hB p hp => hf p (List.mem_flatten.2 ⟨B, hB, hp⟩), weak_of_sorted hs, hh⟩
  exact ScanAux.sorted_of_sublist hs ((List.sublist_flatten_of_mem hB).map _)

section sets
variable [Val α] [LawfulVal α]

theorem sinceSet_subset {g1 g2 g1' g2' : Rat → Option α} {lo t : Rat}
    (h1 : ∀ s, lo ≤ s → s ≤ t → g1 s = g1' s) (h2 : ∀ s, lo ≤ s → s ≤ t → g2 s = g2' s) :
    sinceSet g1 g2 lo t t ⊆ sinceSet g1' g2' lo t t := by
  rintro y ⟨t', l, r, a, b, c, d, e⟩
  refine ⟨t', l, r, a, b, by rw [← h2 t' a b]; exact c, ?_, e⟩
  have hv : valuesOn g1' t' t = valuesOn g1 t' t := by
    ext z
    constructor
    · rintro ⟨s, p, q, r⟩
      exact ⟨s, p, q, by rw [h1 s (le_trans a p) q]; exact r⟩
    · rintro ⟨s, p, q, r⟩
      exact ⟨s, p, q, by rw [← h1 s (le_trans a p) q]; exact r⟩
  rw [hv]; exact d

theorem sinceSet_congr {g1 g2 g1' g2' : Rat → Option α} {lo t : Rat}
    (h1 : ∀ s, lo ≤ s → s ≤ t → g1 s = g1' s) (h2 : ∀ s, lo ≤ s → s ≤ t → g2 s = g2' s) :
    sinceSet g1 g2 lo t t = sinceSet g1' g2' lo t t :=
  Set.Subset.antisymm (sinceSet_subset h1 h2)
    (sinceSet_subset (fun s a b => (h1 s a b).symm) (fun s a b => (h2 s a b).symm))

end sets

end SinceAux

open SinceAux BasicAux InterAux
attribute [local instance] InterAux.tmOrder

variable {α : Type} [Val α] [LawfulVal α]

/-- `SinceOperation` over two operand streams that start at 0: what has been returned so far is the supremum over the
    witnesses of the non-strict since. -/
theorem sinceStream_ok {Ls Rs : List (ASig α)} (hlen : Ls.length = Rs.length) {g1 g2 : Rat → Option α}
    (h1 : StreamOK Ls 0 g1) (h2 : StreamOK Rs 0 g2) :
    ∃ st outs, runBin (fun (st : SinceSt α) L R => .ok (sinceUpdate st L R)) { prev := Val.ninf } (Ls.zip Rs) = .ok (st, outs) ∧
      Shape outs 0 ∧
      ∀ t, Covered outs 0 t → ∃ v, valAtA outs.flatten t = some v ∧ IsLUB (sinceSet g1 g2 0 t t) v := by
  obtain ⟨st, outs, hrun, _, _, _, hout⟩ :=
    run_eq (Ls.zip Rs) ({ prev := Val.ninf } : SinceSt α) (Or.inl (Nat.zero_le _))
  rw [List.map_fst_zip (le_of_eq hlen), List.map_snd_zip (le_of_eq hlen.symm)] at hout
  simp only [List.nil_append] at hout
  refine ⟨st, outs, hrun, ?_⟩
  have htimes : times outs.flatten = times (pieces Ls.flatten Rs.flatten).2.2 := by
    rw [hout]; exact ScanAux.times_sgo _ _
  obtain ⟨⟨m, hO⟩, hcov⟩ := pieces_inv (lift2 Prod.mk (valAtA Ls.flatten) (valAtA Rs.flatten)) 0 Ls.flatten Rs.flatten
    h1.1.weak h2.1.weak [] _ (OutInv.nil _ _)
    (fun a b hA hB => by rw [h1.1.start a hA, h2.1.start b hB, max_self]) (fun _ _ => rfl)
  rw [List.nil_append] at hO
  generalize (pieces Ls.flatten Rs.flatten).2.2 = io at *
  have s1 := hO.sorted
  have hfin : ∀ p ∈ io, p.1 ≠ Tm.inf := fun p hp e =>
    absurd (hO.below p.1 (mem_times hp)) (by rw [e]; exact not_lt.2 (le_inf m))
  have s3 : ∀ q, io.head? = some q → q.1 = Tm.fin 0 := fun q hq => by
    cases io with
    | nil => cases hq
    | cons x r => cases hq; exact Option.some.inj hO.start
  refine ⟨shape_of_sorted (ScanAux.sorted_of_times s1 htimes) (ScanAux.fin_of_times htimes hfin) ?_, ?_⟩
  · intro p hp
    have e : (times outs.flatten).head? = some p.1 := by
      unfold times; rw [List.head?_map, hp]; rfl
    rw [htimes, times, List.head?_map] at e
    obtain ⟨q, hh, hq⟩ := Option.map_eq_some_iff.1 e
    rw [← hq]; exact s3 q hh
  · intro t hc
    rw [covered_iff, htimes] at hc
    obtain ⟨τ, hl, h0t, htτ⟩ := hc
    unfold times at hl
    rw [List.getLast?_map] at hl
    cases hz : io.getLast? with
    | none => rw [hz] at hl; cases hl
    | some z =>
    rw [hz] at hl
    have ez : z.1 = Tm.fin τ := by simpa using hl
    have hzm : z ∈ io := List.mem_of_getLast? hz
    have hwfa : WFA io 0 := by
      refine ⟨s1, ?_, infOK_of_fin hfin⟩
      unfold times
      rw [List.head?_map]
      cases hh : io.head? with
      | none =>
        rw [List.head?_eq_none_iff] at hh
        rw [hh] at hz; cases hz
      | some q => rw [← s3 q hh]; rfl
    -- the pieces carry the operands' values on the covered part
    have hK : ∀ s, 0 ≤ s → s ≤ τ → ∃ x y, valAtA io s = some (x, y) ∧ g1 s = some x ∧ g2 s = some y := by
      intro s hs0 hsτ
      have hsz : Tm.fin s ≤ z.1 := by rw [ez]; exact (fin_le_fin _ _).2 hsτ
      obtain ⟨⟨p, hp, hpt⟩, ⟨q, hq, hqt⟩⟩ := hcov z hzm
      have e0 := hO.val s hs0 (lt_of_le_of_lt hsz (hO.below z.1 (mem_times hzm)))
      have hne := ScanAux.wfa_some hwfa hs0
      unfold lift2 at e0
      rw [(streamOK_iff.1 h1).2.val_of_mem hp hs0 (le_trans hsz hpt),
        (streamOK_iff.1 h2).2.val_of_mem hq hs0 (le_trans hsz hqt)] at e0
      rcases hx : g1 s with _ | x <;> rcases hy : g2 s with _ | y <;> rw [hx, hy] at e0
      · exact absurd e0 hne
      · exact absurd e0 hne
      · exact absurd e0 hne
      · exact ⟨x, y, e0, rfl, rfl⟩
    have hden : Denotes io 0 (lift2 (fun a b => (a, b)) (fun s => (valAtA io s).map (·.1))
        (fun s => (valAtA io s).map (·.2))) := by
      refine ⟨hwfa, fun s _ => ?_⟩
      simp only [lift2]
      rcases valAtA io s with _ | ⟨x, y⟩ <;> rfl
    have hg1 : ∀ s, (0 : Rat) ≤ s → (fun s => (valAtA io s).map (·.1)) s ≠ none := by
      intro s hs
      have := ScanAux.wfa_some hwfa hs
      simpa using this
    have hg2 : ∀ s, (0 : Rat) ≤ s → (fun s => (valAtA io s).map (·.2)) s ≠ none := by
      intro s hs
      have := ScanAux.wfa_some hwfa hs
      simpa using this
    obtain ⟨v, hv, hcv⟩ := ScanAux.since_char io s1 Val.ninf t (ScanAux.wfa_some hwfa h0t)
    refine ⟨v, by rw [hout]; exact hv, ?_⟩
    rw [isLUB_iff_le_iff]
    intro c
    rw [hcv c, ScanAux.ubS_iff hden hg1 hg2 t c]
    have hset : sinceSet (fun s => (valAtA io s).map (·.1)) (fun s => (valAtA io s).map (·.2)) 0 t t =
        sinceSet g1 g2 0 t t := by
      apply sinceSet_congr
      · intro s hs0 hst
        obtain ⟨x, y, e0, e1, _⟩ := hK s hs0 (le_trans hst htτ)
        simp only [e0, e1]; rfl
      · intro s hs0 hst
        obtain ⟨x, y, e0, _, e2⟩ := hK s hs0 (le_trans hst htτ)
        simp only [e0, e2]; rfl
    rw [hset]
    simp only [LawfulVal.ninf_bot, bot_le, true_or, and_true]

end Rtamt.Dense.AlgOn
