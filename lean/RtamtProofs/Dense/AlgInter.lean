/-
  Dense time, M-alg = M-spec: the 13-case merge `inter`, the point-wise visitors and the output loop `dedup`.

  `interLoop` reads the head intervals `[p1, c1)`, `[p2, c2)` of two sorted lists closed at `inf`.  Its invariant
  `OutInv G D out m`: `out` is the result below the frontier `m` (sorted, stamps `< m`, equal to `G` on `[D, m)`, and
  `times out ++ [m]` starts at `D`); `appendD` moves `m` up (`OutInv.push`: `snoc`, or `skip` of a repeated value).
  `allen13`: the 13 tests are ONE decision on four stamps (`c1` with `p2`, `c2` with `p1`, `c1` with `c2`; the later
  start only spells `max p1 p2`).  Both also serve `onLoop` (`Dense/OnBin.lean`): as defined in `Rtamt/Dense/AlgOn.lean`
  it is `interLoop` plus the pending sample `last` and the remainders, same tests, moves, `appendD`.  `loop_spec`: from
  `OutInv` at `max p1 p2` and lists combining to `G` from it on, a step drops an interval ending no later than the other
  starts, or pushes `f v1 v2` and drops the one ending first; a one-sample list is at `inf`, where `OutInv` is the claim
  (`OutInv.finish`).  `inter_spec` is `loop_spec` from `OutInv.nil` at `max d1 d2`, `inter_denotes` the same for
  `Denotes`; `map_spec` maps the values; `predicate_spec` is `inter_denotes` (subtraction), `map_spec`, `dedup_spec`.

  `IAAux`: the output loop keyed by a function of the value (`dedupGoK`) returns a sublist and, if equal keys give equal
  `o`, keeps `InfOK` and the values of the list mapped by `o` (`dedupGoK_val`).  `dedupGo` is the key `fun x => x`
  (`dedup_spec`); the keyed form is for `predicateIA_spec` (`Dense/AlgPredicateIA.lean`) and `Dense/OnIA.lean`.
-/
import RtamtProofs.Dense.AlgBase

namespace Rtamt.Dense.Alg
open Rtamt Val

namespace InterAux

attribute [local instance] tmOrder

theorem beq_iff (a b : Tm) : (a == b) = true ↔ a = b := by simp

variable {β : Type}

/-- `out` is the part of the result below the frontier `m`. -/
structure OutInv (G : Rat → Option β) (D : Rat) (out : ASig β) (m : Tm) : Prop where
  sorted : Sorted out
  below : ∀ τ ∈ times out, τ < m
  start : (times out ++ [m]).head? = some (Tm.fin D)
  val : ∀ t, D ≤ t → Tm.fin t < m → valAtA out t = G t

theorem OutInv.nil (G : Rat → Option β) (D : Rat) : OutInv G D [] (Tm.fin D) where
  sorted := by simp [Sorted, times]
  below := by simp [times]
  start := by simp [times]
  val := by
    intro t h1 h2
    rw [fin_lt_fin] at h2
    linarith

theorem OutInv.snoc {G : Rat → Option β} {D : Rat} {out : ASig β} {m : Tm} (h : OutInv G D out m) {m' : Tm} (hm : m < m')
    (o : β) (hG : ∀ t, m ≤ Tm.fin t → Tm.fin t < m' → G t = some o) : OutInv G D (out ++ [(m, o)]) m' := by
  refine ⟨sorted_snoc h.sorted h.below o, fun τ hτ => ?_, ?_, fun t h1 h2 => ?_⟩
  · rcases mem_times_snoc.1 hτ with hτ | rfl
    · exact lt_trans (h.below τ hτ) hm
    · exact hm
  · have e : times (out ++ [(m, o)]) = times out ++ [m] := times_append _ _
    rw [e, List.head?_append, h.start]
    rfl
  · by_cases htm : Tm.fin t < m
    · rw [AlgOn.BasicAux.valAtA_append_after _ _ _ _ htm]
      exact h.val t h1 htm
    · rw [not_lt] at htm
      rw [AlgOn.BasicAux.valAtA_append_at _ _ _ _ htm (fun τ' hτ' => le_trans (le_of_lt (h.below τ' hτ')) htm)]
      exact (hG t htm h2).symm

/-- The sample at the frontier is dropped, its value being that of the last sample. -/
theorem OutInv.skip {G : Rat → Option β} {D : Rat} {out : ASig β} {m : Tm} (h : OutInv G D out m) {m' : Tm} (hm : m < m')
    {q : Tm × β} (hq : out.getLast? = some q) (hG : ∀ t, m ≤ Tm.fin t → Tm.fin t < m' → G t = some q.2) :
    OutInv G D out m' := by
  refine ⟨h.sorted, fun τ hτ => lt_trans (h.below τ hτ) hm, ?_, fun t h1 h2 => ?_⟩
  · cases out with
    | nil => cases hq
    | cons a l => exact h.start
  · by_cases htm : Tm.fin t < m
    · exact h.val t h1 htm
    · rw [not_lt] at htm
      rw [AlgOn.BasicAux.valAtA_last _ q t hq (fun τ' hτ' => le_trans (le_of_lt (h.below τ' hτ')) htm)]
      exact (hG t htm h2).symm

theorem OutInv.push {G : Rat → Option β} {D : Rat} {out : ASig β} {m : Tm} (ne : β → β → Bool)
    (hne : ∀ a b, ne a b = false → a = b) (h : OutInv G D out m) {m' : Tm} (hm : m < m') (o : β)
    (hG : ∀ t, m ≤ Tm.fin t → Tm.fin t < m' → G t = some o) : OutInv G D (appendD ne out (m, o)) m' := by
  unfold appendD
  cases hq : out.getLast? with
  | none =>
    rw [List.getLast?_eq_none_iff.1 hq] at h ⊢
    exact h.snoc hm o hG
  | some q =>
    by_cases hk : ne q.2 o = true
    · simp only [hk, if_true]
      exact h.snoc hm o hG
    · simp only [hk, Bool.false_eq_true, if_false]
      have hqo : q.2 = o := hne _ _ (by simpa using hk)
      exact h.skip hm hq (hqo ▸ hG)

theorem lt_facts {a b : Tm} (h : a < b) : ((a < b) = True) ∧ ((b < a) = False) ∧ ((a = b) = False) ∧ ((b = a) = False) :=
  ⟨eq_true h, eq_false h.not_gt, eq_false h.ne, eq_false h.ne'⟩

/-- The thirteen tests of the `while` loop of `intersection.py` (offline and online alike) on two intervals `[p1, c1)`,
    `[p2, c2)` are a decision tree on the two ends: which of `p1`, `p2` is the later start only tells cases 3/9/10, 4/5/8 and
    6/7/12 apart, and these differ in nothing but the spelling of `max p1 p2`.  The final `else` is dead code. -/
theorem allen13 {γ : Type} {p1 c1 p2 c2 : Tm} (h1 : p1 < c1) (h2 : p2 < c2) (k1 k2 k11 k13 e : γ) (k3 k4 k6 : Tm → γ) :
    (if Tm.lt c1 p2 then k1
      else if Tm.lt p1 c1 && c1 == p2 && Tm.lt p2 c2 then k2
      else if Tm.lt p1 p2 && Tm.lt p2 c1 && Tm.lt c1 c2 then k3 p2
      else if Tm.lt p1 p2 && Tm.lt p2 c1 && c1 == c2 then k4 p2
      else if Tm.lt p2 p1 && Tm.lt p1 c1 && c1 == c2 then k4 p1
      else if Tm.lt p1 p2 && Tm.lt p2 c2 && Tm.lt c2 c1 then k6 p2
      else if p1 == p2 && Tm.lt p2 c2 && Tm.lt c2 c1 then k6 p2
      else if p1 == p2 && Tm.lt p2 c2 && c2 == c1 then k4 p2
      else if p1 == p2 && Tm.lt p2 c1 && Tm.lt c1 c2 then k3 p1
      else if Tm.lt p2 p1 && Tm.lt p1 c1 && Tm.lt c1 c2 then k3 p1
      else if Tm.lt p2 c2 && c2 == p1 && Tm.lt p1 c1 then k11
      else if Tm.lt p2 p1 && Tm.lt p1 c2 && Tm.lt c2 c1 then k6 p1
      else if Tm.lt c2 p1 then k13
      else e) =
    if c1 < p2 then k1 else if c1 = p2 then k2 else if c2 < p1 then k13 else if c2 = p1 then k11
    else if c1 < c2 then k3 (max p1 p2) else if c1 = c2 then k4 (max p1 p2) else k6 (max p1 p2) := by
  simp only [lt_iff, beq_iff_eq, Bool.and_eq_true, h1, h2, true_and, and_true]
  by_cases a : c1 < p2
  · rw [if_pos a, if_pos a]
  by_cases b : c1 = p2
  · rw [if_neg a, if_neg a, if_pos b, if_pos b]
  have a' : p2 < c1 := lt_of_le_of_ne (not_lt.1 a) (Ne.symm b)
  -- with the order of the four stamps known, the tests evaluate
  rcases lt_trichotomy c2 p1 with d | d | d
  · simp only [lt_facts a', lt_facts d, lt_facts (h2.trans d), lt_facts (d.trans h1), if_true, if_false, and_true,
      and_false]
  · subst d
    simp only [lt_facts a', lt_facts h1, lt_facts h2, if_true, if_false, and_true, and_false, lt_self_iff_false]
  simp only [lt_facts a', lt_facts d, if_false, and_true]
  rcases lt_trichotomy c1 c2 with c | c | c
  · simp only [lt_facts c, if_true, if_false, and_true, and_false]
    rcases lt_trichotomy p1 p2 with q | q | q
    · rw [if_pos q, max_eq_right q.le]
    · rw [if_neg q.not_lt, if_pos q, max_eq_left q.ge]
    · rw [if_neg q.not_gt, if_neg q.ne', if_pos q, max_eq_left q.le]
  · subst c
    simp only [lt_self_iff_false, if_true, if_false, and_true, and_false]
    rcases lt_trichotomy p1 p2 with q | q | q
    · rw [if_pos q, max_eq_right q.le]
    · rw [if_neg q.not_lt, if_neg q.not_gt, if_pos q, max_eq_right q.le]
    · rw [if_neg q.not_gt, if_pos q, max_eq_left q.le]
  · simp only [lt_facts c, if_false, and_true, and_false]
    rcases lt_trichotomy p1 p2 with q | q | q
    · rw [if_pos q, max_eq_right q.le]
    · rw [if_neg q.not_lt, if_pos q, max_eq_right q.le]
    · rw [if_neg q.not_gt, if_neg q.ne', if_pos q, max_eq_left q.le]

theorem ite_lt_or_eq {γ : Type} (a b : Tm) (x y : γ) :
    (if a < b then x else if a = b then x else y) = if a ≤ b then x else y := by
  by_cases h : a < b
  · rw [if_pos h, if_pos h.le]
  by_cases e : a = b
  · rw [if_neg h, if_pos e, if_pos e.le]
  · rw [if_neg h, if_neg e, if_neg fun l => (lt_or_eq_of_le l).elim h e]

variable {α : Type}

def EndsInf (l : ASig α) : Prop := (times l).getLast? = some Tm.inf

theorem EndsInf.tail {p : Tm × α} {q : Tm × α} {r : ASig α} (h : EndsInf (p :: q :: r)) : EndsInf (q :: r) := by
  simpa [EndsInf, times] using h

theorem EndsInf.single {p : Tm} {v : α} (h : EndsInf [(p, v)]) : p = Tm.inf := by
  simpa [EndsInf, times] using h

theorem OutInv.finish {G : Rat → Option β} {D : Rat} {out : ASig β} (h : OutInv G D out Tm.inf) :
    (∀ p ∈ out, p.1 ≠ Tm.inf) ∧ WFA out D ∧ ∀ t, D ≤ t → valAtA out t = G t := by
  have hf : ∀ p ∈ out, p.1 ≠ Tm.inf := fun p hp => (h.below p.1 (mem_times hp)).ne
  refine ⟨hf, ⟨h.sorted, ?_, infOK_of_fin hf⟩, fun t ht => h.val t ht (fin_lt_inf t)⟩
  cases out with
  | nil => cases h.start
  | cons a l => exact h.start

theorem lift2_adv_left (f : α → α → β) (p1 : Tm) (v1 : α) (c1 : Tm) (w1 : α) (r1 l2 : ASig α) (G : Rat → Option β)
    (m m' : Tm) (h1 : p1 < c1) (hc : c1 ≤ m') (hm : m ≤ m')
    (h : ∀ t, m ≤ Tm.fin t → lift2 f (valAtA ((p1, v1) :: (c1, w1) :: r1)) (valAtA l2) t = G t) :
    ∀ t, m' ≤ Tm.fin t → lift2 f (valAtA ((c1, w1) :: r1)) (valAtA l2) t = G t := by
  intro t ht
  rw [← h t (le_trans hm ht)]
  unfold lift2
  rw [valAtA_tail _ _ _ _ _ _ h1 (le_trans hc ht)]

theorem lift2_adv_right (f : α → α → β) (p2 : Tm) (v2 : α) (c2 : Tm) (w2 : α) (r2 l1 : ASig α) (G : Rat → Option β)
    (m m' : Tm) (h2 : p2 < c2) (hc : c2 ≤ m') (hm : m ≤ m')
    (h : ∀ t, m ≤ Tm.fin t → lift2 f (valAtA l1) (valAtA ((p2, v2) :: (c2, w2) :: r2)) t = G t) :
    ∀ t, m' ≤ Tm.fin t → lift2 f (valAtA l1) (valAtA ((c2, w2) :: r2)) t = G t := by
  intro t ht
  rw [← h t (le_trans hm ht)]
  unfold lift2
  rw [valAtA_tail _ _ _ _ _ _ h2 (le_trans hc ht)]

theorem lift2_heads (f : α → α → β) (p1 : Tm) (v1 : α) (c1 : Tm) (w1 : α) (r1 : ASig α)
    (p2 : Tm) (v2 : α) (c2 : Tm) (w2 : α) (r2 : ASig α) (G : Rat → Option β) (m' : Tm) (hc1 : m' ≤ c1) (hc2 : m' ≤ c2)
    (h : ∀ t, max p1 p2 ≤ Tm.fin t →
      lift2 f (valAtA ((p1, v1) :: (c1, w1) :: r1)) (valAtA ((p2, v2) :: (c2, w2) :: r2)) t = G t) :
    ∀ t, max p1 p2 ≤ Tm.fin t → Tm.fin t < m' → G t = some (f v1 v2) := by
  intro t ht ht'
  rw [← h t ht]
  unfold lift2
  rw [valAtA_head _ _ _ _ _ _ (le_trans (le_max_left _ _) ht) (lt_of_lt_of_le ht' hc1),
    valAtA_head _ _ _ _ _ _ (le_trans (le_max_right _ _) ht) (lt_of_lt_of_le ht' hc2)]

theorem interLoop_left_single (f : α → α → β) (ne : β → β → Bool) (a : Tm × α) (l2 : ASig α) (out : ASig β) :
    interLoop f ne [a] l2 out = .ok out := by
  rw [interLoop]
  intros; simp_all

theorem interLoop_right_single (f : α → α → β) (ne : β → β → Bool) (a : Tm × α) (l1 : ASig α) (out : ASig β) :
    interLoop f ne l1 [a] out = .ok out := by
  rw [interLoop]
  intros; simp_all

theorem loop_spec (f : α → α → β) (ne : β → β → Bool) (hne : ∀ a b, ne a b = false → a = b)
    (G : Rat → Option β) (D : Rat) :
    ∀ (n : Nat) (p1 : Tm) (v1 : α) (r1 : ASig α) (p2 : Tm) (v2 : α) (r2 : ASig α) (out : ASig β),
      r1.length + r2.length ≤ n →
      Sorted ((p1, v1) :: r1) → Sorted ((p2, v2) :: r2) → EndsInf ((p1, v1) :: r1) → EndsInf ((p2, v2) :: r2) →
      OutInv G D out (max p1 p2) →
      (∀ t, max p1 p2 ≤ Tm.fin t → lift2 f (valAtA ((p1, v1) :: r1)) (valAtA ((p2, v2) :: r2)) t = G t) →
      ∃ res, interLoop f ne ((p1, v1) :: r1) ((p2, v2) :: r2) out = .ok res ∧ (∀ p ∈ res, p.1 ≠ Tm.inf) ∧ WFA res D ∧
        ∀ t, D ≤ t → valAtA res t = G t := by
  intro n
  induction n with
  | zero =>
    intro p1 v1 r1 p2 v2 r2 out hn hs1 hs2 he1 he2 ho hG
    have hr1 : r1 = [] := List.eq_nil_of_length_eq_zero (by omega)
    subst hr1
    have := he1.single
    subst this
    rw [max_eq_left (le_inf _)] at ho
    exact ⟨out, interLoop_left_single _ _ _ _ _, ho.finish⟩
  | succ n ih =>
    intro p1 v1 r1 p2 v2 r2 out hn hs1 hs2 he1 he2 ho hG
    cases r1 with
    | nil =>
      have := he1.single
      subst this
      rw [max_eq_left (le_inf _)] at ho
      exact ⟨out, interLoop_left_single _ _ _ _ _, ho.finish⟩
    | cons q1 r1 =>
    cases r2 with
    | nil =>
      have := he2.single
      subst this
      rw [max_eq_right (le_inf _)] at ho
      exact ⟨out, interLoop_right_single _ _ _ _ _, ho.finish⟩
    | cons q2 r2 =>
    obtain ⟨c1, w1⟩ := q1
    obtain ⟨c2, w2⟩ := q2
    have h1 : p1 < c1 := sorted_head_lt hs1
    have h2 : p2 < c2 := sorted_head_lt hs2
    simp only [List.length_cons] at hn
    rw [interLoop, allen13 h1 h2 _ _ _ _ _
      (fun m => interLoop f ne ((c1, w1) :: r1) ((p2, v2) :: (c2, w2) :: r2) (appendD ne out (m, f v1 v2)))
      (fun m => interLoop f ne ((c1, w1) :: r1) ((p2, v2) :: (c2, w2) :: r2) (appendD ne out (m, f v1 v2)))
      (fun m => interLoop f ne ((p1, v1) :: (c1, w1) :: r1) ((c2, w2) :: r2) (appendD ne out (m, f v1 v2)))]
    simp only [ite_lt_or_eq]
    by_cases hA : c1 ≤ p2
    · rw [if_pos hA]
      have hm : max c1 p2 = max p1 p2 := by
        rw [max_eq_right hA, max_eq_right (le_trans h1.le hA)]
      apply ih c1 w1 r1 p2 v2 ((c2, w2) :: r2) out (by simp only [List.length_cons]; omega) (sorted_tail hs1) hs2
        he1.tail he2
      · rw [hm]; exact ho
      · rw [hm]
        exact lift2_adv_left f p1 v1 c1 w1 r1 _ G _ _ h1 (le_trans hA (le_max_right _ _)) le_rfl hG
    rw [if_neg hA]
    rw [not_le] at hA
    by_cases hB : c2 ≤ p1
    · rw [if_pos hB]
      have hm : max p1 c2 = max p1 p2 := by
        rw [max_eq_left hB, max_eq_left (le_trans h2.le hB)]
      apply ih p1 v1 ((c1, w1) :: r1) c2 w2 r2 out (by simp only [List.length_cons]; omega) hs1 (sorted_tail hs2)
        he1 he2.tail
      · rw [hm]; exact ho
      · rw [hm]
        exact lift2_adv_right f p2 v2 c2 w2 r2 _ G _ _ h2 (le_trans hB (le_max_left _ _)) le_rfl hG
    rw [if_neg hB]
    rw [not_le] at hB
    by_cases hC : c1 ≤ c2
    · rw [if_pos hC]
      have hm : max c1 p2 = c1 := max_eq_left hA.le
      have hlt : max p1 p2 < c1 := max_lt h1 hA
      apply ih c1 w1 r1 p2 v2 ((c2, w2) :: r2) _ (by simp only [List.length_cons]; omega) (sorted_tail hs1) hs2
        he1.tail he2
      · rw [hm]
        exact ho.push ne hne hlt (f v1 v2) (lift2_heads f p1 v1 c1 w1 r1 p2 v2 c2 w2 r2 G c1 le_rfl hC hG)
      · rw [hm]
        exact lift2_adv_left f p1 v1 c1 w1 r1 _ G _ _ h1 le_rfl hlt.le hG
    · rw [if_neg hC]
      rw [not_le] at hC
      have hm : max p1 c2 = c2 := max_eq_right hB.le
      have hlt : max p1 p2 < c2 := max_lt hB h2
      apply ih p1 v1 ((c1, w1) :: r1) c2 w2 r2 _ (by simp only [List.length_cons]; omega) hs1 (sorted_tail hs2)
        he1 he2.tail
      · rw [hm]
        exact ho.push ne hne hlt (f v1 v2) (lift2_heads f p1 v1 c1 w1 r1 p2 v2 c2 w2 r2 G c2 hC.le le_rfl hG)
      · rw [hm]
        exact lift2_adv_right f p2 v2 c2 w2 r2 _ G _ _ h2 le_rfl hlt.le hG

theorem extendInf_spec {s : ASig α} {d : Rat} (h : WFA s d) :
    Sorted (extendInf s) ∧ EndsInf (extendInf s) ∧ (times (extendInf s)).head? = some (Tm.fin d) ∧
      ∀ t, valAtA (extendInf s) t = valAtA s t := by
  rcases List.eq_nil_or_concat s with rfl | ⟨init, q, rfl⟩
  · cases h.start
  · rw [List.concat_eq_append] at h ⊢
    obtain ⟨tl, vl⟩ := q
    cases tl with
    | inf =>
      have : extendInf (init ++ [(Tm.inf, vl)]) = init ++ [(Tm.inf, vl)] := by
        simp [extendInf, Tm.lt]
      rw [this]
      exact ⟨h.sorted, by simp [EndsInf, times], h.start, fun _ => rfl⟩
    | fin q =>
      have : extendInf (init ++ [(Tm.fin q, vl)]) = (init ++ [(Tm.fin q, vl)]) ++ [(Tm.inf, vl)] := by
        simp [extendInf, Tm.lt]
      rw [this]
      refine ⟨sorted_snoc h.sorted (fun a ha => ?_) vl, by simp [EndsInf, times], ?_,
        fun t => AlgOn.BasicAux.valAtA_append_after _ _ _ _ (fin_lt_inf t)⟩
      · rcases mem_times_snoc.1 ha with ha | rfl
        · have hs := (sorted_iff _).1 h.sorted
          rw [times_append, List.pairwise_append] at hs
          exact lt_trans (hs.2.2 a ha (Tm.fin q) List.mem_cons_self) (fin_lt_inf q)
        · exact fin_lt_inf q
      · have := h.start
        rw [times_append, List.head?_append, this]; rfl

theorem lift2_congr {γ : Type} (f : γ → γ → β) {g1 g2 g1' g2' : Rat → Option γ} (t : Rat) (h1 : g1 t = g1' t)
    (h2 : g2 t = g2' t) : lift2 f g1 g2 t = lift2 f g1' g2' t := by
  unfold lift2; rw [h1, h2]

theorem infOK_map {γ : Type} (k : β → γ) : ∀ (s : ASig β), InfOK s → InfOK (s.map (fun p => (p.1, k p.2)))
  | [], _ => infOK_nil
  | [a], _ => infOK_single _
  | [a, b], h => by
    rw [infOK_pair] at h
    simp only [List.map_cons, List.map_nil]
    rw [infOK_pair]
    intro hb
    exact congrArg k (h hb)
  | a :: b :: c :: r, h => by
    rw [infOK_cons3] at h
    have := infOK_map k (b :: c :: r) h
    simp only [List.map_cons] at this ⊢
    rw [infOK_cons3]
    exact this

theorem times_map {γ : Type} (k : β → γ) (s : ASig β) : times (s.map (fun p => (p.1, k p.2))) = times s := by
  simp [times, Function.comp_def]

theorem valAtA_map {γ : Type} (k : β → γ) (s : ASig β) (t : Rat) :
    valAtA (s.map (fun p => (p.1, k p.2))) t = (valAtA s t).map k := by
  induction s with
  | nil => rfl
  | cons p s ih =>
    obtain ⟨τ, v⟩ := p
    simp only [List.map_cons, valAtA_cons, ih]
    split_ifs
    · rfl
    · cases valAtA s t <;> rfl

theorem wfa_map {γ : Type} (k : β → γ) {s : ASig β} {d : Rat} (h : WFA s d) :
    WFA (s.map (fun p => (p.1, k p.2))) d :=
  ⟨by unfold Sorted; rw [times_map]; exact h.sorted, by rw [times_map]; exact h.start, infOK_map k s h.infok⟩

theorem mapM_eq_map {γ : Type} (F : Tm × β → Except PyErr (Tm × γ)) (k : β → γ)
    (hF : ∀ p q, F p = .ok q → q = (p.1, k p.2)) :
    ∀ (s : ASig β) (out : ASig γ), s.mapM F = .ok out → out = s.map (fun p => (p.1, k p.2))
  | [], out, h => by
    simp only [List.mapM_nil] at h
    cases h; rfl
  | p :: s, out, h => by
    rw [List.mapM_cons] at h
    cases hp : F p with
    | error e => rw [hp] at h; cases h
    | ok q =>
      rw [hp] at h
      cases hs : s.mapM F with
      | error e => rw [hs] at h; cases h
      | ok r =>
        rw [hs] at h
        cases h
        rw [hF p q hp, mapM_eq_map F k hF s r hs]
        rfl

theorem valAtA_ofDSig {α : Type} (s : DSig α) (t : Rat) : valAtA (ofDSig s) t = DSig.valAt s t := by
  induction s with
  | nil => rfl
  | cons p rest ih =>
    obtain ⟨τ, v⟩ := p
    have ih' : valAtA (List.map (fun p : Rat × α => (Tm.fin p.1, p.2)) rest) t = DSig.valAt rest t := ih
    simp only [ofDSig, List.map_cons, valAtA, DSig.valAt, Tm.lt, decide_eq_true_eq, ih']
    by_cases h : t < τ
    · simp only [if_pos h]
    · simp only [if_neg h]
      cases DSig.valAt rest t <;> rfl

theorem times_ofDSig {α : Type} (s : DSig α) : times (ofDSig s) = s.times.map Tm.fin := by
  simp [times, ofDSig, DSig.times, List.map_map, Function.comp_def]

theorem ofDSig_denotes {α : Type} (s : DSig α) (hp : s.times.Pairwise (· < ·)) (h0 : s.times.head? = some 0) :
    Denotes (ofDSig s) 0 (DSig.valAt s) := by
  refine ⟨⟨?_, ?_, ?_⟩, fun t _ => valAtA_ofDSig s t⟩
  · unfold Sorted
    rw [times_ofDSig, List.pairwise_map]
    exact hp.imp (fun {a b} h => by simpa [Tm.lt] using h)
  · rw [times_ofDSig, List.head?_map, h0]; rfl
  · intro pre a v h
    have hm : (Tm.inf, v) ∈ ofDSig s := by rw [h]; simp
    simp only [ofDSig, List.mem_map] at hm
    obtain ⟨q, _, hq⟩ := hm
    cases (Prod.mk.inj hq).1

end InterAux

open InterAux
attribute [local instance] InterAux.tmOrder

variable {α : Type} [Val α] [LawfulVal α] {β : Type}
set_option linter.unusedSectionVars false

theorem vne_eq_false_iff (a b : α) : vne a b = false ↔ a = b := by
  unfold vne
  rw [Bool.or_eq_false_iff, Bool.eq_false_iff, Bool.eq_false_iff, Ne, Ne, LawfulVal.lt_iff, LawfulVal.lt_iff]
  constructor
  · rintro ⟨h1, h2⟩
    exact le_antisymm (not_lt.1 h2) (not_lt.1 h1)
  · rintro rfl
    exact ⟨lt_irrefl _, lt_irrefl _⟩

namespace IAAux
variable {γ : Type}

omit [LawfulVal α] in
theorem dedupGoK_cons2 (key : γ → α) (prev : Option α) (p q : Tm × γ) (rest : List (Tm × γ)) :
    dedupGoK key prev (p :: q :: rest) =
      (if (match prev with | none => true | some x => vne (key p.2) x) then [p] else []) ++
        dedupGoK key (some (key p.2)) (q :: rest) := rfl

omit [LawfulVal α] in
theorem dedupGoK_map {δ : Type} (key : γ → α) (f : δ → γ) (prev : Option α) (s : List (Tm × δ)) :
    dedupGoK key prev (s.map (fun p => (p.1, f p.2))) =
      (dedupGoK (fun x => key (f x)) prev s).map (fun p => (p.1, f p.2)) := by
  induction s generalizing prev with
  | nil => rfl
  | cons a l ih =>
    cases l with
    | nil => rfl
    | cons b l =>
      have ih' := ih (some (key (f a.2)))
      simp only [List.map_cons] at ih' ⊢
      rw [dedupGoK_cons2, dedupGoK_cons2, ih', List.map_append]
      split_ifs <;> rfl

omit [LawfulVal α] in
theorem dedupGoK_ne_nil (key : γ → α) (prev : Option α) (a : Tm × γ) (l : List (Tm × γ)) :
    dedupGoK key prev (a :: l) ≠ [] := by
  induction l generalizing prev a with
  | nil => simp [dedupGoK]
  | cons b l ih =>
    rw [dedupGoK_cons2]
    intro h
    exact ih _ _ (List.append_eq_nil_iff.1 h).2

omit [LawfulVal α] in
theorem dedupGoK_sublist (key : γ → α) (prev : Option α) (s : List (Tm × γ)) :
    (dedupGoK key prev s).Sublist s := by
  induction s generalizing prev with
  | nil => simp [dedupGoK]
  | cons a l ih =>
    cases l with
    | nil => simp [dedupGoK]
    | cons b l =>
      rw [dedupGoK_cons2]
      split_ifs
      · exact (ih _).cons_cons a
      · exact (ih _).cons a

/-- Dropping the samples whose KEY repeats does not change the function `o ∘ value`, provided equal keys give equal
    `o` (on the values `P` that occur).  `x` is the payload of the sample before `s` (the loop's `prev` is its key):
    `(valAtA s t).getD x` is what `valAtA_cons` gives at `t` for the list with that sample in front. -/
theorem dedupGoK_val (key : γ → α) (o : γ → β) (P : γ → Prop)
    (hko : ∀ x y, P x → P y → key x = key y → o x = o y) (x : γ) (hx : P x) (s : List (Tm × γ))
    (hs : Sorted s) (hP : ∀ p ∈ s, P p.2) (t : Rat) :
    o ((valAtA (dedupGoK key (some (key x)) s) t).getD x) = o ((valAtA s t).getD x) := by
  induction s generalizing x with
  | nil => simp [dedupGoK]
  | cons a l ih =>
    cases l with
    | nil => simp [dedupGoK]
    | cons b l =>
      obtain ⟨τ, v⟩ := a
      have hv : P v := hP (τ, v) (by simp)
      rw [dedupGoK_cons2]
      have ih' := ih v hv (sorted_tail hs) (fun p hp => hP p (List.mem_cons_of_mem _ hp))
      by_cases hk : vne (key v) (key x) = true
      · simp only [hk, if_true, List.singleton_append, valAtA_cons τ]
        by_cases hτ : Tm.fin t < τ
        · simp only [if_pos hτ]
        · simp only [if_neg hτ, Option.getD_some]
          exact ih'
      · have hkx : key v = key x := (vne_eq_false_iff _ _).1 (by simpa using hk)
        have hvx : o v = o x := hko v x hv hx hkx
        simp only [hk, Bool.false_eq_true, if_false, List.nil_append]
        rw [valAtA_cons τ]
        by_cases hτ : Tm.fin t < τ
        · rw [if_pos hτ]
          obtain ⟨c, w⟩ := b
          have hnone : valAtA ((c, w) :: l) t = none := by
            rw [valAtA_cons c, if_pos (lt_trans hτ (sorted_head_lt hs))]
          have e := ih'
          rw [hnone] at e
          -- both sides fall back to the default
          have e1 : ∀ (z : Option γ), o (z.getD v) = o (none.getD v) → o (z.getD x) = o (none.getD x) := by
            intro z hz
            cases z with
            | none => rfl
            | some y => simpa [hvx] using hz
          exact e1 _ e
        · rw [if_neg hτ]
          simp only [Option.getD_some]
          have e2 : ∀ (z : Option γ), o (z.getD v) = o ((valAtA (b :: l) t).getD v) →
              o (z.getD x) = o ((valAtA (b :: l) t).getD v) := by
            intro z hz
            cases z with
            | none => simpa [hvx] using hz
            | some y => simpa using hz
          exact e2 _ ih'

theorem dedupGoK_infOK (key : γ → α) (o : γ → β) (P : γ → Prop)
    (hko : ∀ x y, P x → P y → key x = key y → o x = o y) (τ0 : Tm) (x : γ) (hx : P x)
    (s : List (Tm × γ)) (hP : ∀ p ∈ s, P p.2)
    (h : InfOK (((τ0, x) :: s).map (fun p => (p.1, o p.2)))) :
    InfOK (((τ0, x) :: dedupGoK key (some (key x)) s).map (fun p => (p.1, o p.2))) := by
  induction s generalizing τ0 x with
  | nil => simpa [dedupGoK] using h
  | cons a l ih =>
    cases l with
    | nil => simpa [dedupGoK] using h
    | cons b l =>
      obtain ⟨τ, v⟩ := a
      have hv : P v := hP (τ, v) (by simp)
      have hP' : ∀ p ∈ b :: l, P p.2 := fun p hp => hP p (List.mem_cons_of_mem _ hp)
      rw [dedupGoK_cons2]
      simp only [List.map_cons] at h
      rw [infOK_cons3] at h
      by_cases hk : vne (key v) (key x) = true
      · simp only [hk, if_true, List.singleton_append]
        have := ih τ v hv hP' (by simpa only [List.map_cons] using h)
        cases hd : dedupGoK key (some (key v)) (b :: l) with
        | nil => exact absurd hd (dedupGoK_ne_nil _ _ _ _)
        | cons c r =>
          rw [hd] at this
          simp only [List.map_cons] at this ⊢
          rw [infOK_cons3]; exact this
      · have hkx : key v = key x := (vne_eq_false_iff _ _).1 (by simpa using hk)
        have hvx : o v = o x := hko v x hv hx hkx
        simp only [hk, Bool.false_eq_true, if_false, List.nil_append]
        have := ih τ0 v hv hP' (by
          simp only [List.map_cons]
          exact (infOK_head_congr τ τ0 (o v) _).1 h)
        simp only [List.map_cons] at this ⊢
        rw [← hvx]; exact this

end IAAux

theorem valAtA_isSome {s : ASig β} {d : Rat} (h : WFA s d) (t : Rat) (ht : d ≤ t) : (valAtA s t).isSome = true := by
  obtain ⟨v, r, rfl⟩ := eq_cons_of_head h.start
  rw [valAtA_cons, if_neg (not_lt.2 ((fin_le_fin _ _).2 ht))]
  rfl

theorem denotes_self {l : ASig β} {d : Rat} (h : WFA l d) : Denotes l d (valAtA l) := ⟨h, fun _ _ => rfl⟩

theorem denotes_congr {s : ASig β} {d : Rat} {g g' : Rat → Option β} (h : Denotes s d g)
    (hg : ∀ t, d ≤ t → g t = g' t) : Denotes s d g' :=
  ⟨h.1, fun t ht => (h.2 t ht).trans (hg t ht)⟩

theorem valAtA_none_before {s : ASig β} {d : Rat} (h : WFA s d) (t : Rat) (ht : t < d) : valAtA s t = none := by
  obtain ⟨v, r, rfl⟩ := eq_cons_of_head h.start
  rw [valAtA_cons, if_pos ((fin_lt_fin _ _).2 ht)]

/-- The 13-case merge: no exception on well-formed operands; the result has finite stamps only (each is the start of an
    interval of the loop), starts at the later of the two starts and is the point-wise combination there. -/
theorem inter_spec_fin (f : α → α → β) (ne : β → β → Bool) (hne : ∀ a b, ne a b = false → a = b)
    {s1 s2 : ASig α} {d1 d2 : Rat} (h1 : WFA s1 d1) (h2 : WFA s2 d2) :
    ∃ out, inter f ne s1 s2 = .ok out ∧ (∀ p ∈ out, p.1 ≠ Tm.inf) ∧
      Denotes out (max d1 d2) (lift2 f (valAtA s1) (valAtA s2)) := by
  obtain ⟨hs1, he1, hh1, hv1⟩ := extendInf_spec h1
  obtain ⟨hs2, he2, hh2, hv2⟩ := extendInf_spec h2
  obtain ⟨v1, r1, hl1⟩ := eq_cons_of_head hh1
  obtain ⟨v2, r2, hl2⟩ := eq_cons_of_head hh2
  rw [hl1] at hs1 he1
  rw [hl2] at hs2 he2
  obtain ⟨res, hres, hfin, hwf, hval⟩ := loop_spec f ne hne (lift2 f (valAtA s1) (valAtA s2)) (max d1 d2) _
    (Tm.fin d1) v1 r1 (Tm.fin d2) v2 r2 [] le_rfl hs1 hs2 he1 he2
    (by rw [max_fin]; exact OutInv.nil _ _)
    (by
      intro t _
      rw [← hl1, ← hl2]
      exact lift2_congr f t (hv1 t) (hv2 t))
  refine ⟨res, ?_, hfin, hwf, hval⟩
  obtain ⟨_, _, e1⟩ := eq_cons_of_head h1.start
  obtain ⟨_, _, e2⟩ := eq_cons_of_head h2.start
  unfold inter
  rw [hl1, hl2, e1, e2]
  exact hres

theorem inter_spec (f : α → α → β) (ne : β → β → Bool) (hne : ∀ a b, ne a b = false → a = b)
    {s1 s2 : ASig α} {d1 d2 : Rat} (h1 : WFA s1 d1) (h2 : WFA s2 d2) :
    ∃ out, inter f ne s1 s2 = .ok out ∧ Denotes out (max d1 d2) (lift2 f (valAtA s1) (valAtA s2)) :=
  let ⟨out, ho, _, hd⟩ := inter_spec_fin f ne hne h1 h2
  ⟨out, ho, hd⟩

theorem inter_fin (f : α → α → β) (ne : β → β → Bool) (hne : ∀ a b, ne a b = false → a = b)
    {s1 s2 : ASig α} {d1 d2 : Rat} (h1 : WFA s1 d1) (h2 : WFA s2 d2) {out : ASig β} (ho : inter f ne s1 s2 = .ok out) :
    ∀ p ∈ out, p.1 ≠ Tm.inf := by
  obtain ⟨out', ho', hf, _⟩ := inter_spec_fin f ne hne h1 h2
  obtain rfl : out' = out := Except.ok.inj (ho'.symm.trans ho)
  exact hf

theorem inter_denotes (f : α → α → β) (ne : β → β → Bool) (hne : ∀ a b, ne a b = false → a = b)
    {s1 s2 : ASig α} {d1 d2 : Rat} {g1 g2 : Rat → Option α} (h1 : Denotes s1 d1 g1) (h2 : Denotes s2 d2 g2) :
    ∃ out, inter f ne s1 s2 = .ok out ∧ Denotes out (max d1 d2) (lift2 f g1 g2) := by
  obtain ⟨out, ho, hd⟩ := inter_spec f ne hne h1.1 h2.1
  refine ⟨out, ho, denotes_congr hd ?_⟩
  intro t ht
  exact lift2_congr f t (h1.2 t (le_trans (le_max_left _ _) ht)) (h2.2 t (le_trans (le_max_right _ _) ht))

omit [LawfulVal α] in
theorem mapUn_eq_map (op : Un) {s out : ASig α} (ho : mapUn op s = .ok out) :
    out = s.map (fun p => (p.1, op.app p.2)) := by
  refine mapM_eq_map _ op.app ?_ s out ho
  intro p q hq
  cases op <;> simp only at hq
  all_goals first
    | (cases hq; rfl)
    | (split_ifs at hq; cases hq; rfl)

theorem map_spec {γ : Type} (k : β → γ) {s : ASig β} {d : Rat} {g : Rat → Option β} (h : Denotes s d g) :
    Denotes (s.map (fun p => (p.1, k p.2))) d (fun t => (g t).map k) :=
  ⟨wfa_map k h.1, fun t ht => by rw [valAtA_map, h.2 t ht]⟩

theorem mapUn_spec (op : Un) {s : ASig α} {d : Rat} {g : Rat → Option α} (h : Denotes s d g) {out : ASig α}
    (ho : mapUn op s = .ok out) : Denotes out d (fun t => (g t).map op.app) := by
  rw [mapUn_eq_map op ho]
  exact map_spec _ h

/-- Without `sqrt` / `ln` the unary visitors do not raise. -/
theorem mapUn_ok (op : Un) (hop : op ≠ .sqrt ∧ op ≠ .ln) (s : ASig α) : ∃ out, mapUn op s = .ok out := by
  refine ⟨s.map (fun p => (p.1, op.app p.2)), ?_⟩
  unfold mapUn
  induction s with
  | nil => rfl
  | cons p s ih =>
    rw [List.mapM_cons, ih]
    cases op <;> first | rfl | exact absurd rfl hop.1 | exact absurd rfl hop.2

/-- The plain output loop is the keyed one (`dedupGo_eq_dedupGoK`) at `key := fun x => x`, `o := id`, `P := fun _ => True`. -/
theorem dedup_spec {s : ASig α} {d : Rat} {g : Rat → Option α} (h : Denotes s d g) : Denotes (dedup s) d g := by
  obtain ⟨⟨hs, hst, hi⟩, hval⟩ := h
  unfold dedup
  rw [dedupGo_eq_dedupGoK]
  cases s with
  | nil => exact ⟨⟨hs, hst, hi⟩, hval⟩
  | cons a l =>
    cases l with
    | nil => exact ⟨⟨hs, hst, hi⟩, hval⟩
    | cons b l =>
      obtain ⟨τ, v⟩ := a
      have hmap : ∀ l : ASig α, l.map (fun p => (p.1, id p.2)) = l := List.map_id
      have hK := IAAux.dedupGoK_infOK (fun x : α => x) id (fun _ => True) (fun _ _ _ _ e => e) τ v trivial (b :: l)
        (fun _ _ => trivial) (by rw [hmap]; exact hi)
      rw [hmap] at hK
      have e : dedupGoK (fun x => x) none ((τ, v) :: b :: l) = (τ, v) :: dedupGoK (fun x => x) (some v) (b :: l) := by
        rw [IAAux.dedupGoK_cons2]; rfl
      rw [e]
      refine ⟨⟨?_, hst, hK⟩, ?_⟩
      · have : ((τ, v) :: dedupGoK (fun x => x) (some v) (b :: l)).Sublist ((τ, v) :: b :: l) :=
          (IAAux.dedupGoK_sublist _ _ _).cons_cons _
        exact List.Pairwise.sublist (this.map _) hs
      · intro t ht
        have := IAAux.dedupGoK_val (fun x : α => x) id (fun _ => True) (fun _ _ _ _ e => e) v trivial (b :: l)
          (sorted_tail hs) (fun _ _ => trivial) t
        rw [← hval t ht, valAtA_cons, valAtA_cons]
        exact congrArg (fun y => if Tm.fin t < τ then none else some y) this

theorem predicate_spec (c : Cmp) {l r : ASig α} {d1 d2 : Rat} {g1 g2 : Rat → Option α}
    (h1 : Denotes l d1 g1) (h2 : Denotes r d2 g2) :
    ∃ out, predicate c l r = .ok out ∧
      Denotes out (max d1 d2) (lift2 (fun a b => cmpOfDiff c (Val.sub a b)) g1 g2) := by
  obtain ⟨dd, hd, hden⟩ := inter_denotes (fun a b : α => Val.sub a b) vne
    (fun a b => (vne_eq_false_iff a b).1) h1 h2
  refine ⟨dedup (dd.map (fun p => (p.1, cmpOfDiff c p.2))), ?_, ?_⟩
  · unfold predicate
    rw [hd]; rfl
  · apply dedup_spec
    refine denotes_congr (map_spec (cmpOfDiff c) hden) ?_
    intro t _
    unfold lift2
    cases g1 t <;> cases g2 t <;> rfl

end Rtamt.Dense.Alg
