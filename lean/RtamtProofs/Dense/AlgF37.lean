/-
  The hypothesis "every variable starts at time 0" of `C04_alg_eq_rhoD_partial` cannot be dropped: known finding F37
  in the model.  On a small lawful value type (`Fin 5`: -inf < -1 < 0 < 1 < +inf) the mirror of the dense offline
  visitor evaluates `once[1,2] x` on the well-formed signal `x = [(1, v), (2, v)]` (`v` the fourth element) — which starts at time 1 — to a list that
  starts at time 0, not at the beginning of the input domain: `once_timed_operation` takes 0, not the first time stamp of
  its operand, as the start (the same input is replayed against the real code on every run of the C04 check).
-/
import RtamtProofs.Dense.AlgMain
import Mathlib.Order.Fin.Basic

namespace Rtamt.Dense.Alg.F37
open Rtamt Val Rtamt.Dense Rtamt.Dense.Alg

instance : Val (Fin 5) where
  lt a b := decide (a < b)
  neg a := Fin.rev a
  abs a := if a < 2 then Fin.rev a else a
  add a _ := a
  sub _ _ := 2
  mul a _ := a
  div a _ := a
  pinf := 4
  ninf := 0
  zero := 2
  sqrt a := a
  exp a := a
  ln a := a
  pow a _ := a
  log a _ := a

instance : LawfulVal (Fin 5) where
  lt_iff a b := by simp [Val.lt]
  pinf_top := rfl
  ninf_bot := rfl
  neg_neg a := by simp [Val.neg]
  neg_le_neg a b h := by simpa [Val.neg] using h

/-- `-(l - r) = r - l` holds in this value type (subtraction is constantly the middle element, which negation fixes). -/
theorem hsub_fin5 (a b : Fin 5) : Val.neg (Val.sub a b) = Val.sub b a := by revert a b; decide

def w : DEnv (Fin 5) := [("x", [(1, 3), (2, 3)])]
def φ : F (Fin 5) := .tb1 .once 1 2 (.var "x")

/-- Every other hypothesis of `C04_alg_eq_rhoD_partial` holds … -/
theorem hyps : supported φ = true ∧ noIA φ = true ∧ noPartialOps φ = true ∧ w.WF φ.vars := by
  refine ⟨rfl, rfl, rfl, ?_⟩
  intro x hx
  cases List.mem_singleton.1 hx
  exact ⟨by decide, by decide⟩

/-- … the signal starts at time 1, so `dom = 1` … -/
theorem dom_eq : dom w φ = 1 := by decide +kernel

/-- … and the list the algorithm returns starts at time 0. -/
theorem C04_alg_start_counterexample :
    ∃ s, evalAlg {} w φ = .ok s ∧ (times s).head? = some (Tm.fin 0) ∧ (times s).head? ≠ some (Tm.fin (dom w φ)) := by
  refine ⟨[(Tm.fin 0, 0), (Tm.fin 2, 3), (Tm.fin 4, 3)], by decide +kernel, rfl, ?_⟩
  rw [dom_eq]; decide

end Rtamt.Dense.Alg.F37
