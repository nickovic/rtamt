/-
  Dense time, online (C05): `OnceTimedOperation` / `HistoricallyTimedOperation` over an operand stream that may repeat
  the sample its previous batch ended with.

  `timedUpdate` drops a first sample stamped `residual_start` and then is `timedUpdateCore`.  `residual_start` after a
  successful update is the last stamp received so far, so running `timedUpdate` over a stream `Bs` is running
  `timedUpdateCore` over the stream `dedupFrom none Bs` with the repeated first samples removed; that stream has no
  repeated samples at all, the same samples, hence the same step function and the same covered times, and the theorems
  about `timedUpdateCore` (`OnTimedCore`) apply (`timedStream_once_sup`, `timedStream_hist_inf`: one `SupFn` / `InfFn`
  clause; `timedStream_once`, `timedStream_hist`: the two cases read off it).
-/
import RtamtProofs.Dense.OnTimedCore

namespace Rtamt.Dense.AlgOn
open Rtamt Val Rtamt.Dense.Alg

namespace TimedWrapAux
open InterAux BasicAux
attribute [local instance] InterAux.tmOrder

variable {β : Type}

/-- `residual_start` after an update with the (already shortened) batch `s`. -/
def lastStamp (rs : Option Tm) (s : ASig β) : Option Tm :=
  match s.getLast? with
  | some (t, _) => some t
  | none => rs

theorem lastStamp_nil (rs : Option Tm) : lastStamp rs ([] : ASig β) = rs := rfl

/-- The stream `timedUpdateCore` sees when `timedUpdate` sees `Bs` (`rs`: `residual_start` before the first batch). -/
def dedupFrom : Option Tm → List (ASig β) → List (ASig β)
  | _, [] => []
  | rs, B :: rest => dropRepeat rs B :: dedupFrom (lastStamp rs (dropRepeat rs B)) rest

theorem dropRepeat_nil (rs : Option Tm) : dropRepeat rs ([] : ASig β) = [] := by
  cases rs <;> rfl

theorem dropRepeat_none (s : ASig β) : dropRepeat none s = s := rfl

theorem dropRepeat_cons (r t : Tm) (v : β) (rest : ASig β) :
    dropRepeat (some r) ((t, v) :: rest) = if t = r then rest else (t, v) :: rest := by
  unfold dropRepeat
  by_cases h : t = r
  · simp [h]
  · simp [h]

theorem dropRepeat_sublist (rs : Option Tm) (s : ASig β) : (dropRepeat rs s).Sublist s := by
  cases rs with
  | none => exact List.Sublist.refl _
  | some r =>
    cases s with
    | nil => exact List.Sublist.refl _
    | cons a rest =>
      obtain ⟨t, v⟩ := a
      rw [dropRepeat_cons]
      split_ifs
      · exact List.sublist_cons_self _ _
      · exact List.Sublist.refl _

theorem dedupFrom_sublist : ∀ (Bs : List (ASig β)) (rs : Option Tm), (dedupFrom rs Bs).flatten.Sublist Bs.flatten
  | [], _ => List.Sublist.refl _
  | B :: rest, rs => by
    rw [dedupFrom, List.flatten_cons, List.flatten_cons]
    exact List.Sublist.append (dropRepeat_sublist rs B) (dedupFrom_sublist rest _)

theorem lastStamp_append (P s : ASig β) :
    ((P ++ s).getLast?).map (·.1) = lastStamp ((P.getLast?).map (·.1)) s := by
  rw [List.getLast?_append]
  unfold lastStamp
  cases s.getLast? with
  | none => rfl
  | some z => rfl

section core
variable {α : Type} [Val α]

theorem core_rs (worse : α → α → Bool) (neutral : α) (a b : Rat) {st st' : TimedSt α} {s o : ASig α}
    (h : timedUpdateCore worse neutral a b st s = .ok (st', o)) : st'.rs = lastStamp st.rs s := by
  unfold timedUpdateCore at h
  obtain ⟨stk, _, h⟩ := Exc.bind_ok h
  have := Exc.ok_inj h
  cases this
  rfl

theorem run_eq (worse : α → α → Bool) (neutral : α) (a b : Rat) (Bs : List (ASig α)) : ∀ (st : TimedSt α),
    runUn (timedUpdate worse neutral a b) st Bs =
      runUn (timedUpdateCore worse neutral a b) st (dedupFrom st.rs Bs) := by
  induction Bs with
  | nil => intro st; rfl
  | cons B rest ih =>
    intro st
    rw [dedupFrom, runUn, runUn, timedUpdate]
    refine Exc.bind_congr_ok fun ⟨st1, o⟩ hc => ?_
    show (runUn _ st1 rest >>= _) = (runUn _ st1 _ >>= _)
    rw [← core_rs worse neutral a b hc, ih st1]

end core

/-- One batch: the accumulated samples `P` (without repetitions, last stamp `rs`) extended by the shortened batch. -/
theorem step_facts {P B : ASig β} {rs : Option Tm} (hrs : rs = (P.getLast?).map (·.1)) (hP : Sorted P)
    (hB : Sorted B) (hw : Weak (P ++ B)) :
    Sorted (P ++ dropRepeat rs B) ∧ ∀ p ∈ B, p ∈ P ++ dropRepeat rs B := by
  cases hl : P.getLast? with
  | none =>
    replace hrs : rs = none := by rw [hrs, hl]; rfl
    subst hrs
    rw [List.getLast?_eq_none_iff] at hl
    subst hl
    rw [dropRepeat_none]
    exact ⟨by simpa using hB, fun p hp => by simpa using hp⟩
  | some z =>
    replace hrs : rs = some z.1 := by rw [hrs, hl]; rfl
    subst hrs
    have hz : z ∈ P := List.mem_of_getLast? hl
    have hPz : ∀ p ∈ P, p.1 ≤ z.1 := (weak_of_sorted hP).le_last hl
    have hcross := (List.pairwise_append.1 ((weak_iff _).1 hw)).2.2
    cases B with
    | nil =>
      rw [dropRepeat_nil]
      exact ⟨by simpa using hP, fun p hp => by cases hp⟩
    | cons a rest =>
      obtain ⟨t, v⟩ := a
      obtain ⟨htq, hrest⟩ : (∀ q ∈ rest, t < q.1) ∧ Sorted rest := FwdAux.sorted_cons hB
      rw [dropRepeat_cons]
      by_cases e : t = z.1
      · rw [if_pos e]
        have hzt : z = (t, v) := by
          rcases hcross z hz (t, v) List.mem_cons_self with h | h
          · rw [e] at h; exact absurd h (lt_irrefl _)
          · exact h
        refine ⟨(sorted_append _ _).2 ⟨hP, hrest, fun p hp q hq => ?_⟩, fun p hp => ?_⟩
        · exact lt_of_le_of_lt (hPz p hp) (by rw [← e]; exact htq q hq)
        · rcases List.mem_cons.1 hp with rfl | hp'
          · rw [← hzt]; exact List.mem_append_left _ hz
          · exact List.mem_append_right _ hp'
      · rw [if_neg e]
        have hzt : z.1 < t := by
          rcases hcross z hz (t, v) List.mem_cons_self with h | h
          · exact h
          · rw [h] at e; exact absurd rfl e
        refine ⟨(sorted_append _ _).2 ⟨hP, hB, fun p hp q hq => ?_⟩, fun p hp => List.mem_append_right _ hp⟩
        · refine lt_of_le_of_lt (hPz p hp) (lt_of_lt_of_le hzt ?_)
          rcases List.mem_cons.1 hq with rfl | hq'
          · exact le_rfl
          · exact le_of_lt (htq q hq')

/-- The whole stream, relative to the accumulated samples `P`. -/
theorem dedup_facts : ∀ (Bs : List (ASig β)) (P : ASig β) (rs : Option Tm), rs = (P.getLast?).map (·.1) →
    Sorted P → (∀ B ∈ Bs, Sorted B) → Weak (P ++ Bs.flatten) →
      Sorted (P ++ (dedupFrom rs Bs).flatten) ∧ ∀ p ∈ P ++ Bs.flatten, p ∈ P ++ (dedupFrom rs Bs).flatten
  | [], P, rs, _, hP, _, _ => by
    simp only [dedupFrom, List.flatten_nil, List.append_nil]
    exact ⟨hP, fun p hp => hp⟩
  | B :: rest, P, rs, hrs, hP, hBs, hw => by
    rw [List.flatten_cons, ← List.append_assoc] at hw
    have hwPB : Weak (P ++ B) := hw.sublist (List.sublist_append_left _ _)
    obtain ⟨h1, h2⟩ := step_facts hrs hP (hBs B List.mem_cons_self) hwPB
    have hsub : ((P ++ dropRepeat rs B) ++ rest.flatten).Sublist ((P ++ B) ++ rest.flatten) :=
      List.Sublist.append (List.Sublist.append (List.Sublist.refl _) (dropRepeat_sublist rs B)) (List.Sublist.refl _)
    have hrs' : lastStamp rs (dropRepeat rs B) = ((P ++ dropRepeat rs B).getLast?).map (·.1) := by
      rw [lastStamp_append, hrs]
    obtain ⟨h3, h4⟩ := dedup_facts rest (P ++ dropRepeat rs B) _ hrs' h1
      (fun X hX => hBs X (List.mem_cons_of_mem _ hX)) (hw.sublist hsub)
    rw [dedupFrom, List.flatten_cons, List.flatten_cons, ← List.append_assoc, ← List.append_assoc]
    refine ⟨h3, fun p hp => h4 p ?_⟩
    rcases List.mem_append.1 hp with hp | hp
    · rcases List.mem_append.1 hp with hp | hp
      · exact List.mem_append_left _ (List.mem_append_left _ hp)
      · exact List.mem_append_left _ (h2 p hp)
    · exact List.mem_append_right _ hp

theorem valAtA_same_mem {s r : ASig β} (hs : Weak s) (hr : Weak r) (hm : ∀ p, p ∈ s ↔ p ∈ r) (t : Rat) :
    valAtA s t = valAtA r t := by
  apply Option.ext
  intro y
  rw [valAtA_weak_iff hs, valAtA_weak_iff hr]
  constructor
  · rintro ⟨p, hp, e, hle, hmax⟩
    exact ⟨p, (hm p).1 hp, e, hle, fun q hq => hmax q ((hm q).2 hq)⟩
  · rintro ⟨p, hp, e, hle, hmax⟩
    exact ⟨p, (hm p).2 hp, e, hle, fun q hq => hmax q ((hm q).1 hq)⟩

/-- Two lists ordered by the same antisymmetric relation that have the same members start with the same member. -/
theorem head?_same_mem {γ : Type} {R : γ → γ → Prop} (hR : ∀ a b, R a b → R b a → a = b) :
    ∀ {s r : List γ}, s.Pairwise R → r.Pairwise R → (∀ p, p ∈ s ↔ p ∈ r) → s.head? = r.head?
  | [], [], _, _, _ => rfl
  | [], b :: _, _, _, hm => absurd ((hm b).2 List.mem_cons_self) List.not_mem_nil
  | a :: _, [], _, _, hm => absurd ((hm a).1 List.mem_cons_self) List.not_mem_nil
  | a :: s, b :: r, hs, hr, hm => by
    rcases List.mem_cons.1 ((hm a).1 List.mem_cons_self) with rfl | h1
    · rfl
    · rcases List.mem_cons.1 ((hm b).2 List.mem_cons_self) with rfl | h2
      · rfl
      · exact congrArg some (hR a b (List.rel_of_pairwise_cons hs h2) (List.rel_of_pairwise_cons hr h1))

/-- They end with the same member: the reversed lists are ordered by the converse relation. -/
theorem getLast?_same_mem {γ : Type} {R : γ → γ → Prop} (hR : ∀ a b, R a b → R b a → a = b) {s r : List γ}
    (hs : s.Pairwise R) (hr : r.Pairwise R) (hm : ∀ p, p ∈ s ↔ p ∈ r) : s.getLast? = r.getLast? := by
  rw [← List.head?_reverse, ← List.head?_reverse]
  exact head?_same_mem (fun a b h1 h2 => hR a b h2 h1) (List.pairwise_reverse.2 hs) (List.pairwise_reverse.2 hr)
    fun p => by rw [List.mem_reverse, List.mem_reverse]; exact hm p

theorem weak_antisymm (a b : Tm × β) (h1 : Tm.lt a.1 b.1 = true ∨ a = b) (h2 : Tm.lt b.1 a.1 = true ∨ b = a) :
    a = b := by
  rcases h1 with h1 | h1
  · rcases h2 with h2 | h2
    · exact absurd ((lt_iff _ _).1 h2) (lt_asymm ((lt_iff _ _).1 h1))
    · exact h2.symm
  · exact h1

/-- The stream without the repeated first samples: strictly sorted, and still a stream of `g`. -/
theorem dedup_stream {Bs : List (ASig β)} {d : Rat} {g : Rat → Option β} (h : StreamOK Bs d g) :
    StreamOK (dedupFrom none Bs) d g ∧ Sorted (dedupFrom none Bs).flatten := by
  obtain ⟨hb, hF⟩ := streamOK_iff.1 h
  have hf := dedup_facts Bs [] none rfl (by unfold Sorted times; exact List.Pairwise.nil) hb
    (by rw [List.nil_append]; exact hF.weak)
  simp only [List.nil_append] at hf
  obtain ⟨hsorted, hmem⟩ := hf
  have hsub := dedupFrom_sublist Bs none
  have hw : Weak (dedupFrom none Bs).flatten := weak_of_sorted hsorted
  have hm : ∀ p, p ∈ (dedupFrom none Bs).flatten ↔ p ∈ Bs.flatten := fun p => ⟨fun hp => hsub.subset hp, hmem p⟩
  refine ⟨streamOK_iff.2 ⟨fun B hB => List.Pairwise.sublist ((List.sublist_flatten_of_mem hB).map _) hsorted,
    hF.thin hsub (head?_same_mem weak_antisymm hw hF.weak hm) fun t τ p hp e h1 h2 => ?_⟩, hsorted⟩
  rw [valAtA_same_mem hw hF.weak hm t]
  exact hF.val t τ p (getLast?_same_mem weak_antisymm hw hF.weak hm ▸ hp) e h1 h2

end TimedWrapAux

open TimedWrapAux

variable {α : Type} [Val α] [LawfulVal α]

/-- `OnceTimedOperation` over an operand stream that starts at 0: no exception; what has been returned so far is the
    supremum over the window `[t-b, t-a]` clipped to `[0, ∞)`. -/
theorem timedStream_once_sup (a b : Rat) (ha : 0 ≤ a) (hab : a ≤ b) {Bs : List (ASig α)} {g : Rat → Option α}
    (h : StreamOK Bs 0 g) :
    ∃ st outs, runUn (timedUpdate ltW Val.ninf a b) {} Bs = .ok (st, outs) ∧ Shape outs 0 ∧
      SupFn (fun t => valuesOn g (max (t - b) 0) (t - a)) (Covered outs 0) (valAtA outs.flatten) := by
  obtain ⟨hok, hstrict⟩ := dedup_stream h
  obtain ⟨st, outs, hr, _, hrest⟩ := timedStream_once_core_sup a b ha hab hok hstrict
  exact ⟨st, outs, by rw [run_eq]; exact hr, hrest⟩

/-- `HistoricallyTimedOperation`. -/
theorem timedStream_hist_inf (a b : Rat) (ha : 0 ≤ a) (hab : a ≤ b) {Bs : List (ASig α)} {g : Rat → Option α}
    (h : StreamOK Bs 0 g) :
    ∃ st outs, runUn (timedUpdate gtW Val.pinf a b) {} Bs = .ok (st, outs) ∧ Shape outs 0 ∧
      InfFn (fun t => valuesOn g (max (t - b) 0) (t - a)) (Covered outs 0) (valAtA outs.flatten) := by
  obtain ⟨hok, hstrict⟩ := dedup_stream h
  obtain ⟨st, outs, hr, _, hrest⟩ := timedStream_hist_core_inf a b ha hab hok hstrict
  exact ⟨st, outs, by rw [run_eq]; exact hr, hrest⟩

/-- The same in two cases: `-inf` while the window `[t-b, t-a]` lies before 0. -/
theorem timedStream_once (a b : Rat) (ha : 0 ≤ a) (hab : a ≤ b) {Bs : List (ASig α)} {g : Rat → Option α}
    (h : StreamOK Bs 0 g) :
    ∃ st outs, runUn (timedUpdate ltW Val.ninf a b) {} Bs = .ok (st, outs) ∧ Shape outs 0 ∧
      ∀ t, Covered outs 0 t →
        (t - a < 0 → valAtA outs.flatten t = some Val.ninf) ∧
        (0 ≤ t - a → ∃ v, valAtA outs.flatten t = some v ∧ IsLUB (valuesOn g (max (t - b) 0) (t - a)) v) := by
  obtain ⟨st, outs, e, hS, hv⟩ := timedStream_once_sup a b ha hab h
  exact ⟨st, outs, e, hS, hv.cases⟩

/-- `HistoricallyTimedOperation`. -/
theorem timedStream_hist (a b : Rat) (ha : 0 ≤ a) (hab : a ≤ b) {Bs : List (ASig α)} {g : Rat → Option α}
    (h : StreamOK Bs 0 g) :
    ∃ st outs, runUn (timedUpdate gtW Val.pinf a b) {} Bs = .ok (st, outs) ∧ Shape outs 0 ∧
      ∀ t, Covered outs 0 t →
        (t - a < 0 → valAtA outs.flatten t = some Val.pinf) ∧
        (0 ≤ t - a → ∃ v, valAtA outs.flatten t = some v ∧ IsGLB (valuesOn g (max (t - b) 0) (t - a)) v) := by
  obtain ⟨st, outs, e, hS, hv⟩ := timedStream_hist_inf a b ha hab h
  exact ⟨st, outs, e, hS, hv.cases⟩

end Rtamt.Dense.AlgOn
