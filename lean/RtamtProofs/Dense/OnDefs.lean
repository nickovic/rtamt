/-
  Dense time, online (C05): vocabulary for the theorems about the mirror of the dense-time online operation classes
  (`Rtamt/Dense/AlgOn.lean`).

  A *stream* is the list of the sample lists (batches) an operation receives or returns, one per `update()`.
  * `Shape Bs d`: every batch has strictly increasing finite time stamps; in the concatenation a later sample has a
    later stamp or is a repetition of an earlier sample (a batch may start with the sample the previous one ended with);
    the first stamp is `d`;
  * `Covered Bs d t`: `t` lies between `d` and the last stamp returned so far;
  * `StreamOK Bs d g`: the shape, and the concatenation read as a step function equals `g` at every covered time.
-/
import RtamtProofs.Dense.AlgDefs
import Rtamt.Dense.AlgOn

namespace Rtamt.Dense.AlgOn
open Rtamt Val Rtamt.Dense.Alg

variable {α β σ : Type}

structure Shape (Bs : List (ASig β)) (d : Rat) : Prop where
  batch_sorted : ∀ B ∈ Bs, Sorted B
  finite : ∀ B ∈ Bs, ∀ p ∈ B, p.1 ≠ Tm.inf
  weak : (Bs.flatten).Pairwise (fun p q => Tm.lt p.1 q.1 = true ∨ p = q)
  start : ∀ p, (Bs.flatten).head? = some p → p.1 = Tm.fin d

def Covered (Bs : List (ASig β)) (d t : Rat) : Prop :=
  ∃ τ p, (Bs.flatten).getLast? = some p ∧ p.1 = Tm.fin τ ∧ d ≤ t ∧ t ≤ τ

def StreamOK (Bs : List (ASig β)) (d : Rat) (g : Rat → Option β) : Prop :=
  Shape Bs d ∧ ∀ t, Covered Bs d t → valAtA (Bs.flatten) t = g t

/-- An operation with one operand, run over the stream of its operand. -/
def runUn (step : σ → ASig α → Except PyErr (σ × ASig α)) : σ → List (ASig α) → Except PyErr (σ × List (ASig α))
  | st, [] => .ok (st, [])
  | st, B :: rest => do
      let (st', o) ← step st B
      let (st'', os) ← runUn step st' rest
      pure (st'', o :: os)

/-- An operation with two operands, run over the streams of its operands (one pair of batches per update). -/
def runBin (step : σ → ASig α → ASig α → Except PyErr (σ × ASig α)) :
    σ → List (ASig α × ASig α) → Except PyErr (σ × List (ASig α))
  | st, [] => .ok (st, [])
  | st, (L, R) :: rest => do
      let (st', o) ← step st L R
      let (st'', os) ← runBin step st' rest
      pure (st'', o :: os)

/-- The batches of a constant node: `[[0, c], [inf, c]]` at the first update, nothing afterwards. -/
def constStream (c : α) : Nat → List (ASig α)
  | 0 => []
  | k + 1 => [(Tm.zero, c), (Tm.inf, c)] :: List.replicate k []

end Rtamt.Dense.AlgOn
