/-
  The translated `once_timed_operation` / `historically_timed_operation` (`Gen.Dense.fn_once_timed_operation`,
  `Gen.Dense.fn_historically_timed_operation`) compute what the mirror `fwdTimed` (`onceTimed`, `histTimed`) computes:
  values and exceptions, for all inputs (no well-formedness assumption), with fuel `Fwd.G s.length = s.length + 1`.
-/
import RtamtProofs.GenDenseStack
import RtamtProofs.GenDenseEmit

namespace Rtamt.Py.Dn
open Rtamt Val Rtamt.Dense Rtamt.Dense.Alg

set_option linter.unusedSectionVars false

variable {α : Type} [Val α]

theorem setLoc_of_getLoc {k : String} {v : DV α} {env : Env α} (h : getLoc k env = .ok v) : setLoc k v env = env := by
  induction env with
  | nil => cases h
  | cons p env ih =>
      obtain ⟨k', v'⟩ := p
      rw [getLoc_cons] at h
      unfold setLoc
      by_cases hk : k = k'
      · subst hk; rw [if_pos rfl] at h; cases h; simp
      · rw [if_neg hk] at h; rw [if_neg (by simpa using Ne.symm hk), ih h]

/-- a branch that leaves `x` as it is, written as the assignment of its value -/
theorem exec.skip_set {call : Call α} {fuel : Nat} {env : Env α} {x : String} {v : DV α} (h : getLoc x env = .ok v) :
    exec call fuel .skip env = .ok (Dn.setLoc x v env, none) := by
  rw [setLoc_of_getLoc h, exec]

namespace Fwd

@[simp] theorem exceptMap_ok {ε σ ρ : Type} (a : σ) (f : σ → ρ) : Except.map f (Except.ok a : Except ε σ) = .ok (f a) := rfl
@[simp] theorem exceptMap_error {ε σ ρ : Type} (e : ε) (f : σ → ρ) : Except.map f (Except.error e : Except ε σ) = .error e := rfl

theorem pyIndex_nat (n k : Nat) (h : k < n) : pyIndex n (k : Int) = .ok k := by
  unfold pyIndex; simp [h]

theorem evalIdx_last (l : List (DV α)) (x : DV α) :
    evalIdx (.list (l ++ [x])) (.int (((l ++ [x]).length : Nat) - 1 : Int)) = .ok x := by
  have : (((l ++ [x]).length : Nat) - 1 : Int) = (l.length : Nat) := by simp
  rw [this]
  exact evalIdx.nat _ _ _ (by simp)

theorem evalIdx_last_nil : evalIdx (.list ([] : List (DV α))) (.int ((([] : List (DV α)).length : Nat) - 1 : Int)) = .error .index := by
  simp [evalIdx, pyIndex]

theorem delAt_last (l : List (DV α)) (x : DV α) :
    delAt (l ++ [x]) (((l ++ [x]).length : Nat) - 1 : Int) = .ok l := by
  have : (((l ++ [x]).length : Nat) - 1 : Int) = (l.length : Nat) := by simp
  rw [this]
  unfold delAt
  rw [pyIndex_nat _ _ (by simp)]
  have : (l ++ [x]).eraseIdx l.length = l := by
    induction l with
    | nil => rfl
    | cons y l ih => simp [ih]
  simp [this]

attribute [simp] evalIdx.seg0 evalIdx.seg1 evalIdx.seg2 evalIdx.smp0 evalIdx.smp1

/-! ### the code, cut into named pieces (`opW`: `<` / `>`, `opK`: `>=` / `<=`, `ninit`: `-inf` / `inf`) -/

def lenOutM1 : E := .bin .sub (.call1 "len" (.loc "out")) (.int 1)

def innerCond (opW : BinOp) : E :=
  .and_ (.bin opW (.idx (.loc "a") (.int 2)) (.idx (.loc "b") (.int 2))) (.bin .lt (.idx (.loc "b") (.int 0)) (.idx (.loc "a") (.int 0)))

def innerBody : S := .seq (.delIdx "out" lenOutM1) (.setLoc "a" (.idx (.loc "out") lenOutM1))

def splitStmt : S :=
  .seq (.delIdx "out" lenOutM1) (.seq (.ite (.bin .gt (.idx (.loc "b") (.int 0)) (.idx (.loc "a") (.int 0))) (.appendLoc "out" (.tup3 (.idx (.loc "a") (.int 0)) (.idx (.loc "b") (.int 0)) (.idx (.loc "a") (.int 2)))) .skip) (.appendLoc "out" (.tup3 (.idx (.loc "b") (.int 0)) (.idx (.loc "b") (.int 1)) (.idx (.loc "b") (.int 2)))))

def tailStmt (opK : BinOp) : S :=
  .ite (.not (.call4 "intersects" (.idx (.loc "a") (.int 0)) (.idx (.loc "a") (.int 1)) (.idx (.loc "b") (.int 0)) (.idx (.loc "b") (.int 1)))) (.appendLoc "out" (.loc "b")) (.ite (.bin opK (.idx (.loc "a") (.int 2)) (.idx (.loc "b") (.int 2))) (.appendLoc "out" (.tup3 (.idx (.loc "a") (.int 1)) (.idx (.loc "b") (.int 1)) (.idx (.loc "b") (.int 2)))) splitStmt)

def pushStmt (opW opK : BinOp) : S :=
  .ite (.not (.loc "out")) (.appendLoc "out" (.loc "b")) (.seq (.setLoc "a" (.idx (.loc "out") lenOutM1)) (.seq (.while_ (innerCond opW) innerBody) (tailStmt opK)))

def initStmt (ninit : E) : S :=
  .ite (.and_ (.bin .eq (.loc "i") (.int 1)) (.bin .gt (.loc "begin") (.int 0))) (.appendLoc "out" (.tup3 (.int 0) (.bin .add (.idx (.idx (.loc "input_list") (.int 0)) (.int 0)) (.loc "begin")) ninit)) .skip

def bStmt : S :=
  .ite (.bin .lt (.loc "i") (.call1 "len" (.loc "input_list"))) (.setLoc "b" (.tup3 (.bin .add (.idx (.idx (.loc "input_list") (.bin .sub (.loc "i") (.int 1))) (.int 0)) (.loc "begin")) (.bin .add (.idx (.idx (.loc "input_list") (.loc "i")) (.int 0)) (.loc "end")) (.idx (.idx (.loc "input_list") (.bin .sub (.loc "i") (.int 1))) (.int 1)))) (.setLoc "b" (.tup3 (.bin .add (.idx (.idx (.loc "input_list") (.bin .sub (.loc "i") (.int 1))) (.int 0)) (.loc "begin")) .inf (.idx (.idx (.loc "input_list") (.bin .sub (.loc "i") (.int 1))) (.int 1))))

def incStmt : S := .setLoc "i" (.bin .add (.loc "i") (.int 1))

def outerBody (opW opK : BinOp) (ninit : E) : S := .seq (initStmt ninit) (.seq bStmt (.seq (pushStmt opW opK) incStmt))

def outerCond : E := .bin .le (.loc "i") (.call1 "len" (.loc "input_list"))

def ansBody : S :=
  .seq (.ite (.or_ (.bin .ne (.idx (.loc "b") (.int 2)) (.loc "prev")) (.bin .eq (.loc "i") lenOutM1)) (.appendLoc "ans" (.list2 (.idx (.loc "b") (.int 0)) (.idx (.loc "b") (.int 2)))) .skip) (.setLoc "prev" (.idx (.loc "b") (.int 2)))

def endStmt : S := .seq (.setLoc "prev" .nan) (.seq (.forEnum "i" "b" (.loc "out") false ansBody) (.ret (.loc "ans")))

def domStmt : S := .ite (.loc "input_list") (.setLoc "domain_end" (.idx (.idx (.loc "input_list") (.bin .sub (.call1 "len" (.loc "input_list")) (.int 1))) (.int 0))) .skip

def fwdBody (opW opK : BinOp) (ninit : E) : S :=
  .seq (.setLoc "out" .emptyList) (.seq (.setLoc "input_list" (.loc "sample")) (.seq (.setLoc "ans" .emptyList) (.seq (.setLoc "prev" .emptyList) (.seq (.setLoc "residual_start" ninit) (.seq (.setLoc "max" ninit) (.seq (.setLoc "i" (.int 1)) (.seq (.setLoc "domain_end" .inf) (.seq domStmt (.seq (.while_ outerCond (outerBody opW opK ninit)) endStmt)))))))))

theorem once_body_eq : Gen.Dense.fn_once_timed_operation.body = fwdBody .lt .ge (.neg .inf) := rfl
theorem hist_body_eq : Gen.Dense.fn_historically_timed_operation.body = fwdBody .gt .le .inf := rfl

/-- What the proof uses of the pieces in which `once_timed_operation` and `historically_timed_operation` differ. -/
structure Par (α : Type) [Val α] (opW opK : BinOp) (ninit : E) (worse : α → α → Bool) (neutral : α) : Prop where
  hW : ∀ x y : α, evalBin opW (.val x : DV α) (.val y) = .ok (.bool (worse x y))
  hK : ∀ x y : α, evalBin opK (.val x : DV α) (.val y) = .ok (.bool (!worse x y))
  hN : ∃ d, (∀ (call : Call α) (env : Env α), evalE call env ninit = .ok d) ∧ toVal d = .ok neutral

theorem par_once : Par α .lt .ge (.neg .inf) ltW Val.ninf where
  hW := fun x y => by simp [evalBin, isCmp, cmpDV, isTimeLike, isValLike, toVal, cmpVal, ltW]
  hK := fun x y => by simp [evalBin, isCmp, cmpDV, isTimeLike, isValLike, toVal, cmpVal, ltW]
  hN := ⟨.uinf true, fun _ _ => rfl, rfl⟩

theorem par_hist : Par α .gt .le .inf gtW Val.pinf where
  hW := fun x y => by simp [evalBin, isCmp, cmpDV, isTimeLike, isValLike, toVal, cmpVal, gtW]
  hK := fun x y => by simp [evalBin, isCmp, cmpDV, isTimeLike, isValLike, toVal, cmpVal, gtW]
  hN := ⟨.uinf false, fun _ _ => rfl, rfl⟩

/-- the Python list `out`: the top of the stack is its last element -/
def pyStk (stk : List (Seg α)) : List (DV α) := stk.reverse.map encSeg

theorem pyStk_cons (x : Seg α) (stk : List (Seg α)) : pyStk (x :: stk) = pyStk stk ++ [encSeg x] := by
  simp [pyStk]

@[simp] theorem pyStk_nil : pyStk ([] : List (Seg α)) = [] := rfl

theorem cmpLtTm (x y : Tm) : evalBin .lt (.tm x : DV α) (.tm y) = .ok (.bool (Tm.lt x y)) := by
  simp [evalBin, isCmp, cmpDV, isTimeLike, toTm, cmpTm]

theorem cmpGtTm (x y : Tm) : evalBin .gt (.tm x : DV α) (.tm y) = .ok (.bool (Tm.lt y x)) := by
  simp [evalBin, isCmp, cmpDV, isTimeLike, toTm, cmpTm]

section stack
open Stk (a_ b_ evalE_a evalE_b)

def stkCode : Stk.Code :=
  ⟨.idx (.loc "out") lenOutM1, .delIdx "out" lenOutM1, fun e => .appendLoc "out" e, .bin .lt (b_ 0) (a_ 0),
    .bin .gt (b_ 0) (a_ 0), .tup3 (a_ 1) (b_ 1) (b_ 2), .tup3 (a_ 0) (b_ 0) (a_ 2)⟩

theorem pushStmt_eq (opW opK : BinOp) : pushStmt opW opK = Stk.push stkCode opW opK := rfl

theorem stkCode_ok {call : Call α} (hc : CallOK call) : Stk.OK stkCode (fwdDir (α := α)) pyStk call where
  empty := fun stk => by simp [pyStk]
  top := fun hout hr => by
    rw [pyStk_cons] at hout
    exact (evalE.idx (evalE.loc hout) (evalE_lenSub hc.len hout hr 1)).trans (evalIdx_last _ _)
  top_nil := fun hout hr => (evalE.idx (evalE.loc hout) (evalE_lenSub hc.len hout hr 1)).trans evalIdx_last_nil
  pop := fun hout hr => by
    rw [pyStk_cons] at hout
    exact (exec.delIdx hout (evalE_lenSub hc.len hout hr 1)).trans (by rw [delAt_last]; rfl)
  push := fun h hout => (exec.appendLoc h hout).trans (by rw [pyStk_cons])
  nearLt := fun ha hb => (evalE.bin (evalE_b hb 0) (evalE_a ha 0)).trans (cmpLtTm _ _)
  nearGt := fun ha hb => (evalE.bin (evalE_b hb 0) (evalE_a ha 0)).trans (cmpGtTm _ _)
  seg1 := fun ha hb => (evalE.tup3 (evalE_a ha 1) (evalE_b hb 1) (evalE_b hb 2)).trans rfl
  seg2 := fun ha hb => (evalE.tup3 (evalE_a ha 0) (evalE_b hb 0) (evalE_a ha 2)).trans rfl

end stack

section loops
variable {opW opK : BinOp} {ninit : E} {worse : α → α → Bool} {neutral : α} (hp : Par α opW opK ninit worse neutral)
  {call : Call α} (hc : CallOK call) (fuel : Nat)

include hp hc in
theorem pushStmt_spec {env : Env α} {stk : List (Seg α)} {sb : Seg α} (hf : stk.length ≤ fuel)
    (hout : getLoc "out" env = .ok (.list (pyStk stk))) (hb : getLoc "b" env = .ok (encSeg sb))
    (hlen : resolve env "len" = "len") (hint : resolve env "intersects" = "intersects") :
    Runs (exec call fuel (pushStmt opW opK) env) (pushSeg worse stk sb) fun stk' env' =>
      getLoc "out" env' = .ok (.list (pyStk stk')) ∧ Frame ["a", "out"] env env' :=
  pushSeg_eq worse stk sb ▸ pushStmt_eq opW opK ▸
    Stk.push_spec (stkCode_ok hc) hp.hW hp.hK hc.ints fuel hf hout hb hlen hint

/-- the locals the loops do not touch -/
structure Inv (env : Env α) (s : ASig α) (a b : Rat) : Prop where
  hin : getLoc "input_list" env = .ok (encSig s)
  hbeg : ∃ xb, getLoc "begin" env = .ok xb ∧ BegOK xb a
  hend : getLoc "end" env = .ok (.tm (.fin b))
  hlen : resolve env "len" = "len"
  hint : resolve env "intersects" = "intersects"
  hans : getLoc "ans" env = .ok (.list [])

theorem Inv.frame {env env' : Env α} {s : ASig α} {a b : Rat} {vs : List String} (h : Inv env s a b)
    (hF : Frame vs env env') (hvs : ∀ x ∈ ["input_list", "begin", "end", "len", "intersects", "ans"], x ∉ vs := by decide +kernel) :
    Inv env' s a b :=
  ⟨(hF.getLoc (hvs _ (by simp))).trans h.hin, h.hbeg.imp fun _ hb => ⟨(hF.getLoc (hvs _ (by simp))).trans hb.1, hb.2⟩,
    (hF.getLoc (hvs _ (by simp))).trans h.hend, (hF.resolve (hvs _ (by simp))).trans h.hlen,
    (hF.resolve (hvs _ (by simp))).trans h.hint, (hF.getLoc (hvs _ (by simp))).trans h.hans⟩

/-- the segment `b` of iteration `i = j + 1`, where `p = input_list[j]` -/
def segAt (a b : Rat) (s : ASig α) (j : Nat) (p : Tm × α) : Seg α :=
  ⟨p.1.add a, (match s[j + 1]? with | some q => q.1.add b | none => .inf), p.2⟩

/-- the stack after `if i == 1 and begin > 0: out.append((0, input_list[0][0] + begin, neutral))` -/
def withInit (neutral : α) (a : Rat) (s : ASig α) (j : Nat) (stk : List (Seg α)) : List (Seg α) :=
  match j, s with
  | 0, (t0, _) :: _ => if decide (0 < a) then ⟨Tm.zero, t0.add a, neutral⟩ :: stk else stk
  | _, _ => stk

include hp in
theorem initStmt_ok {env : Env α} {s : ASig α} {a b : Rat} {j : Nat} {p : Tm × α} {stk : List (Seg α)} (hj : s[j]? = some p) (hI : Inv env s a b)
    (hi : getLoc "i" env = .ok (.int ((j : Int) + 1))) (hout : getLoc "out" env = .ok (.list (pyStk stk))) :
    exec call fuel (initStmt ninit) env = .ok (setLoc "out" (.list (pyStk (withInit neutral a s j stk))) env, none) := by
  obtain ⟨xb, gbeg, hxb⟩ := hI.hbeg
  have hgt : evalBin .gt xb (.int 0 : DV α) = .ok (.bool (decide (0 < a))) := by
    rcases hxb with rfl | ⟨rfl, rfl⟩
    · simp [evalBin, isCmp, cmpDV, isTimeLike, toTm, cmpTm, Tm.lt]
    · rfl
  have c1 : evalE call env (.bin .eq (.loc "i") (.int 1)) = .ok (.bool (decide ((j : Int) + 1 = 1))) :=
    evalE.bin (y := .int 1) (evalE.loc hi) rfl
  unfold initStmt
  cases j with
  | succ j =>
      rw [show decide _ = false from by simp; omega] at c1
      rw [exec.ite_false ((evalE.and_ c1 rfl).trans rfl) rfl]
      exact exec.skip_set hout
  | zero =>
      obtain ⟨⟨t0, v0⟩, rest, rfl⟩ : ∃ q rest, s = q :: rest := by
        cases s with
        | nil => simp at hj
        | cons q rest => exact ⟨q, rest, rfl⟩
      rw [show decide _ = true from by simp] at c1
      have hcond := (evalE.and_ (b := .bin .gt (.loc "begin") (.int 0)) c1 rfl).trans
        ((evalE.bin (evalE.loc gbeg) rfl).trans hgt)
      by_cases ha : 0 < a
      · obtain ⟨d, hd1, hd2⟩ := hp.hN
        have h0 : evalE call env (.idx (.loc "input_list") (.int 0)) = .ok (.smp t0 (.val v0)) :=
          (evalE.idxInt (evalE.loc hI.hin)).trans (evalIdx.cons0 _ _)
        rw [decide_eq_true ha] at hcond
        rw [exec.ite_true hcond rfl, exec.appendLoc (v := .seg Tm.zero (t0.add a) neutral)
          ((evalE.tup3 rfl ((evalE.bin (evalE.idxInt h0) (evalE.loc gbeg)).trans (hxb.evalBin_add _)) (hd1 call env)).trans
            (by simp [mkSeg, toTm, hd2, Tm.zero])) hout]
        simp [withInit, ha, pyStk_cons, encSeg]
      · rw [decide_eq_false ha] at hcond
        rw [exec.ite_false hcond rfl]
        simpa [withInit, ha] using exec.skip_set (call := call) (fuel := fuel) hout

include hc in
theorem bStmt_ok {env : Env α} {s : ASig α} {a b : Rat} {j : Nat} {p : Tm × α} (hj : s[j]? = some p) (hI : Inv env s a b)
    (gi : getLoc "i" env = .ok (.int ((j : Int) + 1))) :
    exec call fuel bStmt env = .ok (setLoc "b" (encSeg (segAt a b s j p)) env, none) := by
  obtain ⟨xb, hbeg, hxb⟩ := hI.hbeg
  have gin : getLoc "input_list" env = .ok (.list (s.map encSmp)) := hI.hin
  have hi1 : evalE call env (.bin .sub (.loc "i") (.int 1)) = .ok (.int (j : Int)) := by
    rw [evalE.bin (evalE.loc gi) rfl]
    show Except.ok (DV.int ((j : Int) + 1 - 1)) = _
    rw [Int.add_sub_cancel]
  have hIm : evalE call env (.idx (.loc "input_list") (.bin .sub (.loc "i") (.int 1))) = .ok (encSmp p) :=
    (evalE.idx (evalE.loc gin) hi1).trans (evalIdx.nat _ j _ (by simp [hj]))
  have lo : evalE call env (.bin .add (.idx (.idx (.loc "input_list") (.bin .sub (.loc "i") (.int 1))) (.int 0))
      (.loc "begin")) = .ok (.tm (p.1.add a)) :=
    (evalE.bin (evalE.idxInt hIm) (evalE.loc hbeg)).trans (hxb.evalBin_add _)
  have vv : evalE call env (.idx (.idx (.loc "input_list") (.bin .sub (.loc "i") (.int 1))) (.int 1)) = .ok (.val p.2) :=
    evalE.idxInt hIm
  have hcond : evalE call env (.bin .lt (.loc "i") (.call1 "len" (.loc "input_list")))
      = .ok (.bool (decide ((j : Int) + 1 < ((s.map encSmp).length : Nat)))) :=
    evalE.bin (evalE.loc gi) ((evalE.call1 (call := call) (evalE.loc gin)).trans (by rw [hI.hlen, hc.len]))
  unfold bStmt
  cases hq : s[j + 1]? with
  | none =>
      rw [show decide _ = false from by have := List.getElem?_eq_none_iff.mp hq; simp; omega] at hcond
      rw [exec.ite_false hcond rfl, exec.setLoc ((evalE.tup3 lo rfl vv).trans rfl), segAt, hq]
      rfl
  | some q =>
      rw [show decide _ = true from by have := (List.getElem?_eq_some_iff.mp hq).1; simp; omega] at hcond
      have hIi : evalE call env (.idx (.loc "input_list") (.loc "i")) = .ok (encSmp q) :=
        (evalE.idx (evalE.loc gin) (evalE.loc gi)).trans (evalIdx.nat (s.map encSmp) (j + 1) _ (by simp [hq]))
      have hi' : evalE call env (.bin .add (.idx (.idx (.loc "input_list") (.loc "i")) (.int 0)) (.loc "end"))
          = .ok (.tm (q.1.add b)) :=
        (evalE.bin (evalE.idxInt hIi) (evalE.loc hI.hend)).trans ((BegOK.tm b).evalBin_add _)
      rw [exec.ite_true hcond rfl, exec.setLoc ((evalE.tup3 lo hi' vv).trans rfl), segAt, hq]
      rfl

include hp hc in
theorem outerBody_spec {env : Env α} {s : ASig α} {a b : Rat} {j : Nat} {p : Tm × α} {stk : List (Seg α)} (hj : s[j]? = some p) (hI : Inv env s a b)
    (hi : getLoc "i" env = .ok (.int ((j : Int) + 1))) (hout : getLoc "out" env = .ok (.list (pyStk stk)))
    (hf : (withInit neutral a s j stk).length ≤ fuel) :
    Runs (exec call fuel (outerBody opW opK ninit) env) (pushSeg worse (withInit neutral a s j stk) (segAt a b s j p))
      fun stk' env' => Inv env' s a b ∧ getLoc "i" env' = .ok (.int (((j + 1 : Nat) : Int) + 1)) ∧
        getLoc "out" env' = .ok (.list (pyStk stk')) := by
  have hF2 : Frame ["out", "a", "b", "i"] env (setLoc "b" (encSeg (segAt a b s j p))
      (setLoc "out" (.list (pyStk (withInit neutral a s j stk))) env)) := by frame_tac
  have hI2 := hI.frame hF2
  rw [outerBody, exec.seq_ok (initStmt_ok hp fuel hj hI hi hout),
    exec.seq_ok (bStmt_ok hc fuel hj (hI.frame (vs := ["out"]) (by frame_tac)) (by simpa using hi))]
  refine Runs.seq_sim_right (pushStmt_spec (opW := opW) hp hc fuel hf (by simp) (by simp) hI2.hlen hI2.hint) ?_
  rintro stk' env3 ⟨hout3, hF3⟩
  have hi3 : getLoc "i" env3 = .ok (.int ((j : Int) + 1)) := by rw [hF3.getLoc (by decide)]; simpa using hi
  refine ⟨(setLoc "i" (.int (((j + 1 : Nat) : Int) + 1)) env3, none),
    exec.setLoc ((evalE.bin (evalE.loc hi3) rfl).trans rfl), rfl,
    hI.frame (Frame.set (Frame.trans hF2 (hF3.mono (by simp))) (by simp) _), by simp, by simpa using hout3⟩

theorem fwdSegs_get (a b : Rat) : ∀ (s : ASig α) (j : Nat) (p : Tm × α), s[j]? = some p →
    (fwdSegs a b s)[j]? = some (segAt a b s j p)
  | [], j, p, h => by simp at h
  | [(t, v)], j, p, h => by
      cases j with
      | zero => simp at h; subst h; simp [fwdSegs, segAt]
      | succ j => simp at h
  | (t, v) :: (t', v') :: rest, 0, p, h => by simp at h; subst h; simp [fwdSegs, segAt]
  | (t, v) :: (t', v') :: rest, j + 1, p, h => by
      have h' : ((t', v') :: rest)[j]? = some p := by simpa using h
      have := fwdSegs_get a b ((t', v') :: rest) j p h'
      simpa [fwdSegs, segAt] using this

theorem fwdSegs_length (a b : Rat) : ∀ (s : ASig α), (fwdSegs a b s).length = s.length
  | [] => rfl
  | [(t, v)] => rfl
  | (t, v) :: (t', v') :: rest => by
      have := fwdSegs_length a b ((t', v') :: rest)
      simp [fwdSegs, this]

theorem withInit_none (neutral : α) (a : Rat) (s : ASig α) (j : Nat) (stk : List (Seg α)) (h : s[j]? = none) :
    withInit neutral a s j stk = stk := by
  cases j with
  | zero =>
      cases s with
      | nil => rfl
      | cons q rest => simp at h
  | succ j => rfl

theorem withInit_zero_length (neutral : α) (a : Rat) (s : ASig α) : (withInit neutral a s 0 []).length ≤ 1 := by
  cases s with
  | nil => simp [withInit]
  | cons q rest => simp only [withInit]; split <;> simp

include hc in
theorem outerCond_eval {env : Env α} {s : ASig α} {a b : Rat} {j : Nat}
    (hI : Inv env s a b) (hi : getLoc "i" env = .ok (.int ((j : Int) + 1))) :
    (do truthy (← evalE call env outerCond)) = .ok (decide (j + 1 ≤ s.length)) := by
  have h : evalE call env outerCond = .ok (.bool (decide ((j : Int) + 1 ≤ ((s.map encSmp).length : Nat)))) :=
    (evalE.bin (evalE.loc hi) ((evalE.call1 (evalE.loc hI.hin)).trans (hI.hlen ▸ hc.len _))).trans rfl
  rw [h]
  exact congrArg Except.ok (decide_eq_decide.mpr (by rw [List.length_map]; omega))

include hp hc in
/-- the outer loop pushes the segments one by one; the loop state of the mirror is the index `j` of the next sample and
    the stack, and the stack is at most `j + 1` high (the invariant that bounds the fuel of the inner loop) -/
theorem outerLoop {s : ASig α} {a b : Rat} (hfuel : s.length + 1 ≤ fuel) {env : Env α} (hI : Inv env s a b)
    (hi : getLoc "i" env = .ok (.int (((0 : Nat) : Int) + 1))) (hout : getLoc "out" env = .ok (.list (pyStk ([] : List (Seg α))))) :
    Runs (exec call fuel (.while_ outerCond (outerBody opW opK ninit)) env)
      ((fwdSegs a b s).foldlM (pushSeg worse) (withInit neutral a s 0 []))
      fun stk' env' => Inv env' s a b ∧ getLoc "out" env' = .ok (.list (pyStk stk')) := by
  refine Runs.while (fun st : Nat × List (Seg α) =>
      ((fwdSegs a b s).drop st.1).foldlM (pushSeg worse) (withInit neutral a s st.1 st.2))
    (fun st e => st.1 ≤ s.length ∧ (withInit neutral a s st.1 st.2).length ≤ st.1 + 1 ∧ Inv e s a b ∧
      getLoc "i" e = .ok (.int ((st.1 : Int) + 1)) ∧ getLoc "out" e = .ok (.list (pyStk st.2)))
    _ (fun st => s.length - st.1) ?_ (0, []) ⟨Nat.zero_le _, withInit_zero_length neutral a s, hI, hi, hout⟩ (by simp; omega)
  rintro ⟨j, stk⟩ e ⟨hjs, hlen, hI, hi, hout⟩
  dsimp only at hjs hlen hi hout
  refine ⟨_, outerCond_eval hc hI hi, fun hd => ?_, fun hd => ?_⟩
  · have hj : s.length ≤ j := by simp at hd; omega
    refine ⟨stk, ?_, hI, hout⟩
    show ((fwdSegs a b s).drop j).foldlM _ _ = _
    rw [List.drop_eq_nil_of_le (by rw [fwdSegs_length]; exact hj), withInit_none _ _ _ _ _ (List.getElem?_eq_none hj)]
    rfl
  · have hjl : j < s.length := by simp at hd; omega
    have hj : s[j]? = some s[j] := by simp [hjl]
    refine ⟨_, pushSeg worse (withInit neutral a s j stk) (segAt a b s j s[j]), fun stk' => (j + 1, stk'), ?_, ?_⟩
    · show ((fwdSegs a b s).drop j).foldlM _ _ = _
      rw [drop_of_get _ _ _ (fwdSegs_get a b s j _ hj), List.foldlM_cons]
      rfl
    · refine (outerBody_spec (opW := opW) (opK := opK) hp hc fuel hj hI hi hout (by omega)).mono ?_
      rintro stk' env1 hps ⟨hI1, hi1, hout1⟩
      have hl := pushSeg_length worse _ _ _ hps
      exact ⟨⟨hjl, by show stk'.length ≤ j + 1 + 1; omega, hI1, by simpa using hi1, hout1⟩, by simp; omega⟩

structure AnsInv (env : Env α) (L : List (DV α)) (acc : ASig α) (prev : Option α) : Prop where
  out : getLoc "out" env = .ok (.list L)
  len : resolve env "len" = "len"
  pv : getLoc "prev" env = .ok (encPrev prev)
  ans : getLoc "ans" env = .ok (encSig acc)

theorem ansBody_eq : ansBody = emitS (keepE (.idx (.loc "b") (.int 2)) "out") (.idx (.loc "b") (.int 0))
    (.idx (.loc "b") (.int 2)) "ans" "prev" := rfl

include hc in
theorem ansBody_step {env : Env α} {L : List (DV α)} {acc : ASig α} {prev : Option α} (g : Seg α) (k : Nat)
    (inv : AnsInv env L acc prev) :
    ∃ env', exec call fuel ansBody (setLoc "b" (encSeg g) (setLoc "i" (.int k) env)) = .ok (env', none) ∧
      AnsInv env' L (acc ++ if keepB prev g.v || decide (k + 1 = L.length) then [(g.lo, g.v)] else []) (some g.v) := by
  obtain ⟨h1, h2, h3, h4⟩ := inv
  have gb : ∀ e : Env α, getLoc "b" (setLoc "b" (encSeg g) e) = .ok (.seg g.lo g.hi g.v) := fun e => getLoc_setLoc_same _ _ _
  refine ⟨_, ansBody_eq ▸ emitS_exec (t := g.lo) (o := g.v) (acc := acc)
    (keepE_eval (prev := prev) (k := k) (L := L) hc.len (evalE_segIdx (gb _) 2) (by simpa using h3) (by simp)
      (by simpa using h1) (by simpa using h2))
    (evalE_segIdx (gb _) 0) (fun v => evalE_segIdx (lo := g.lo) (hi := g.hi) (by simp [encSeg]) 2) (evalE_segIdx (gb _) 2)
    (by simpa using h4), ?_⟩
  cases (keepB prev g.v || decide (k + 1 = L.length)) <;> constructor <;> simp [h1, h2, h4, encPrev]

theorem fwdTimed_eq (worse : α → α → Bool) (neutral : α) (s : ASig α) (a b : Rat) :
    fwdTimed worse neutral s a b =
      (do let stk ← (fwdSegs a b s).foldlM (pushSeg worse) (withInit neutral a s 0 [])
          pure (dedup (stk.reverse.map (fun g => (g.lo, g.v))))) := by
  unfold fwdTimed
  cases s with
  | nil => rfl
  | cons q rest => rfl

include hc in
theorem endStmt_rets {env : Env α} {stk : List (Seg α)} (hout : getLoc "out" env = .ok (.list (pyStk stk)))
    (hlen : resolve env "len" = "len") (hans : getLoc "ans" env = .ok (.list [])) :
    Rets (exec call fuel endStmt env) (.ok (dedup (stk.reverse.map fun g => (g.lo, g.v)))) encSig := by
  rw [endStmt, exec.seq_ok (exec.setLoc (v := .nan) rfl)]
  obtain ⟨env', _, h1, _, acc, prev, inv, hT⟩ := exec.forEnum_inv call fuel encSeg "b" "i" (.loc "out") ansBody
    stk.reverse (setLoc "prev" .nan env) (evalE.loc ((getLoc_setLoc_ne _ _ _ _ (by decide)).trans hout))
    (fun k rest e => k + rest.length = stk.length ∧ ∃ acc prev, AnsInv e (pyStk stk) acc prev ∧
      acc ++ dedupGo prev (rest.map fun g => (g.lo, g.v)) = dedup (stk.reverse.map fun g => (g.lo, g.v)))
    (by
      rintro k g rest e ⟨hk, acc, prev, inv, hT⟩
      obtain ⟨env1, h1, inv1⟩ := ansBody_step hc fuel g k inv
      refine ⟨env1, h1, by simp at hk ⊢; omega, _, _, inv1, ?_⟩
      have : decide (k + 1 = (pyStk stk).length) = rest.isEmpty := by cases rest <;> simp [pyStk] at hk ⊢ <;> omega
      rw [← hT, List.map_cons, dedupGo_cons, this]; simp)
    ⟨by simp, [], none, ⟨by simpa using hout, by simpa using hlen, by simp [encPrev], by simpa [encSig] using hans⟩, rfl⟩
  rw [exec.seq_ok h1]
  exact Rets.ret (evalE.loc (by rw [inv.ans, ← hT]; simp [dedupGo]))

include hp hc in
theorem fwd_exec (s : ASig α) (a b : Rat) (xb : DV α) (hxb : BegOK xb a) (hfuel : s.length + 1 ≤ fuel) :
    Rets (exec call fuel (fwdBody opW opK ninit) [("sample", encSig s), ("begin", xb), ("end", .tm (.fin b))])
      (fwdTimed worse neutral s a b) encSig := by
  obtain ⟨d, hd, -⟩ := hp.hN
  unfold fwdBody
  rw [exec.seq_ok (exec.setLoc (v := .list []) rfl), exec.seq_ok (exec.setLoc (v := encSig s) rfl),
    exec.seq_ok (exec.setLoc (v := .list []) rfl), exec.seq_ok (exec.setLoc (v := .list []) rfl),
    exec.seq_ok (exec.setLoc (hd _ _)), exec.seq_ok (exec.setLoc (hd _ _)), exec.seq_ok (exec.setLoc (v := .int 1) rfl),
    exec.seq_ok (exec.setLoc (v := .uinf false) rfl)]
  generalize henv : (setLoc "domain_end" (DV.uinf false : DV α) (setLoc "i" (.int 1) (setLoc "max" d
    (setLoc "residual_start" d (setLoc "prev" (.list []) (setLoc "ans" (.list []) (setLoc "input_list" (encSig s)
      (setLoc "out" (.list []) [("sample", encSig s), ("begin", xb), ("end", .tm (.fin b))])))))))) = env
  have hI : Inv env s a b := by
    subst henv
    constructor <;> simp [resolve, lookup_setLoc, List.lookup, hxb]
  have hi : getLoc "i" env = .ok (.int (((0 : Nat) : Int) + 1)) := by subst henv; simp
  have hout : getLoc "out" env = .ok (.list (pyStk ([] : List (Seg α)))) := by subst henv; simp
  clear henv
  obtain ⟨env1, h1, hF1⟩ : ∃ env1, exec call fuel domStmt env = .ok (env1, none) ∧ Frame ["domain_end"] env env1 :=
    domEnd_exec call fuel env s hc.len hI.hlen hI.hin
  rw [exec.seq_ok h1, fwdTimed_eq]
  refine Runs.seq_sim (outerLoop (opW := opW) (opK := opK) hp hc fuel hfuel (hI.frame hF1)
    ((hF1.getLoc (by decide)).trans hi) ((hF1.getLoc (by decide)).trans hout)) ?_
  rintro stk env2 - ⟨hI2, hout2⟩
  exact endStmt_rets hc fuel hout2 hI2.hlen hI2.hans

end loops

/-- the bound on the fuel: the outer loop runs `n` times, the inner loop at most the height of the stack (at most `n`) -/
def G (n : Nat) : Nat := n + 1

theorem callAt_fwd {opW opK : BinOp} {ninit : E} {worse : α → α → Bool} {neutral : α}
    (hp : Par α opW opK ninit worse neutral) (fuel k : Nat) {name : String} {f : Fn}
    (hl : Gen.Dense.fns.lookup name = some f) (hparams : f.params = ["sample", "begin", "end"])
    (hbody : f.body = fwdBody opW opK ninit) (s : ASig α) (a b : Rat) (xb : DV α) (hxb : BegOK xb a)
    (hfuel : G s.length ≤ fuel) :
    callAt Gen.Dense.fns fuel (k + 2) name [encSig s, xb, .tm (.fin b)] = (fwdTimed worse neutral s a b).map encSig :=
  callAt_of_rets hl (by rw [hparams]; rfl) (by
    rw [hparams, hbody]; exact fwd_exec hp (callOK_callAt fuel k) fuel s a b xb hxb hfuel)

end Fwd

open Fwd

theorem gen_once_timed (fuel k : Nat) (s : ASig α) (a b : Rat) (hfuel : Fwd.G s.length ≤ fuel) :
    callAt Gen.Dense.fns fuel (k + 2) "once_timed_operation" [encSig s, .tm (.fin a), .tm (.fin b)]
      = (onceTimed s a b).map encSig :=
  callAt_fwd par_once fuel k (fns_at 25 rfl) rfl once_body_eq s a b _ (BegOK.tm a) hfuel

theorem gen_hist_timed (fuel k : Nat) (s : ASig α) (a b : Rat) (hfuel : Fwd.G s.length ≤ fuel) :
    callAt Gen.Dense.fns fuel (k + 2) "historically_timed_operation" [encSig s, .tm (.fin a), .tm (.fin b)]
      = (histTimed s a b).map encSig :=
  callAt_fwd par_hist fuel k (fns_at 26 rfl) rfl hist_body_eq s a b _ (BegOK.tm a) hfuel

/-- the same with the integer literal `0` as `begin` (the call `historically_timed_operation(out2, 0, begin)` of
    `since_timed_operation`) -/
theorem gen_hist_timed_int0 (fuel k : Nat) (s : ASig α) (b : Rat) (hfuel : Fwd.G s.length ≤ fuel) :
    callAt Gen.Dense.fns fuel (k + 2) "historically_timed_operation" [encSig s, .int 0, .tm (.fin b)]
      = (histTimed s 0 b).map encSig :=
  callAt_fwd par_hist fuel k (fns_at 26 rfl) rfl hist_body_eq s 0 b _ BegOK.int0 hfuel

theorem gen_once_timed_int0 (fuel k : Nat) (s : ASig α) (b : Rat) (hfuel : Fwd.G s.length ≤ fuel) :
    callAt Gen.Dense.fns fuel (k + 2) "once_timed_operation" [encSig s, .int 0, .tm (.fin b)]
      = (onceTimed s 0 b).map encSig :=
  callAt_fwd par_once fuel k (fns_at 25 rfl) rfl once_body_eq s 0 b _ BegOK.int0 hfuel

end Rtamt.Py.Dn
