/-
  C02 — Discrete-time online monitor equals offline evaluation at every step.

  "For every specification without future operators and every trace, the value
   returned by the i-th update() of the discrete-time online monitor equals the
   offline robustness of the same specification at sample i; it is therefore a
   function of the samples fed so far only …"
-/
import RtamtProofs.Lemmas.OnlineOps
import RtamtProofs.Lemmas.NodeOnline
import RtamtProofs.C16

namespace Rtamt
open Val

variable {α : Type} [Val α] [LawfulVal α]

/-- The stream of valuations fed to `update`: at step `t` variable `x` has value `σ x t`. -/
def envs (σ : String → Nat → α) (n : Nat) : List (String → α) := tab n (fun t x => σ x t)

omit [Val α] [LawfulVal α] in
open Dense.C09Dense in
/-- "No future operator" by recursion (`Rtamt/Discrete/Pastify.lean`) and through the table of classes
    (`Rtamt/Discrete/Online.lean`) is one predicate: the right-hand sides of `T1.online`, … (`Lemmas/NodeOnline.lean`) are
    the guards of `F.futureFree`. -/
theorem F.futureFree_eq_online (φ : F α) : φ.futureFree = φ.online := by
  induction φ using nodeInduction with
  | var x => rfl
  | const c => rfl
  | n1 hn ih =>
    rw [hn.online, ← ih]
    cases hn with
    | un op => exact (congrArg (· && _) (Un.online op)).symm
    | tmp1 op => exact (congrArg (· && _) (T1.online op)).symm
    | tb1 op => exact (congrArg (· && _) (TB1.online op)).symm
  | n2 hn ih1 ih2 =>
    rw [hn.online, ← ih1, ← ih2]
    cases hn with
    | bin op => exact (congrArg (· && _) (Bin.online op)).symm
    | tmp2 op => exact (Bool.and_assoc ..).trans (congrArg (· && _) (T2.online op)).symm
    | tb2 op => exact (Bool.and_assoc ..).trans (congrArg (· && _) (TB2.online op)).symm

set_option linter.unusedSectionVars false in
/-- A formula without future operators looks at samples `≤ t` only: its value at `t` is the
    same on every trace that extends the prefix `0..t`, whatever the length. -/
theorem rho_online_prefix (φ : F α) (hon : φ.online = true) (σ σ' : String → Nat → α)
    (n n' t : Nat) (ht : t < n) (ht' : t < n')
    (hσ : ∀ x s, s ≤ t → σ x s = σ' x s) :
    rho σ n φ t = rho σ' n' φ t := by
  obtain ⟨h0, hb⟩ := C16_futureFree_hor φ ((F.futureFree_eq_online φ).trans hon)
  refine C16_settled φ hb σ σ' n n' t ?_ ?_ ?_ <;> rw [h0] <;> assumption

omit [LawfulVal α] in
private theorem runTree_var (x : String) (es : List (String → α)) :
    runTree (.var x) .leaf es = .ok (.leaf, es.map (fun e => e x)) := by
  induction es with
  | nil => rfl
  | cons e es ih => simp [runTree, stepTree, ih, bind, Except.bind, pure, Except.pure]

omit [LawfulVal α] in
private theorem runTree_const (c : α) (es : List (String → α)) :
    runTree (.const c) .leaf es = .ok (.leaf, es.map (fun _ => c)) := by
  induction es with
  | nil => rfl
  | cons e es ih => simp [runTree, stepTree, ih, bind, Except.bind, pure, Except.pure]

omit [LawfulVal α] in
theorem runTree_cons {φ : F α} {st st'' : STree α} {e : String → α} {es : List (String → α)}
    {out : List α} (h : runTree φ st (e :: es) = .ok (st'', out)) :
    ∃ st' o os, stepTree e φ st = .ok (st', o) ∧ runTree φ st' es = .ok (st'', os) ∧ out = o :: os := by
  rw [runTree] at h
  obtain ⟨⟨st', o⟩, h1, h⟩ := Exc.bind_eq_ok.1 h
  obtain ⟨⟨_, os⟩, h2, h⟩ := Exc.bind_eq_ok.1 h
  cases h
  exact ⟨st', o, os, h1, h2, rfl⟩

omit [LawfulVal α] in
/-- A node with one child: run the child, then run the node's operation over the child's
    output stream. -/
private theorem runTree_n1 {χ φ : F α} (hn : Dense.C09Dense.Node1 χ φ) {es : List (String → α)} {s s' : St α}
    {c c' : STree α} {vs os : List α} (h1 : runTree φ c es = .ok (c', vs))
    (h2 : runOp1 (fun s v => Py.stepNode χ s [v]) s vs = .ok (s', os)) :
    runTree χ (.n1 s c) es = .ok (.n1 s' c', os) := by
  induction es generalizing s c vs os with
  | nil =>
    cases h1
    cases h2
    rfl
  | cons e es ih =>
    obtain ⟨c1, v, vs', hs, hr, rfl⟩ := runTree_cons h1
    obtain ⟨s1, o, os', ht, hq, rfl⟩ := runOp1_cons h2
    simp [runTree, hn.stepTree, hs, ht, ih hr hq, bind, Except.bind, pure, Except.pure]

omit [LawfulVal α] in
private theorem runTree_n2 {χ φ ψ : F α} (hn : Dense.C09Dense.Node2 χ φ ψ) {es : List (String → α)} {s s' : St α}
    {c1 c1' c2 c2' : STree α} {vs1 vs2 os : List α} (h1 : runTree φ c1 es = .ok (c1', vs1))
    (h1' : runTree ψ c2 es = .ok (c2', vs2))
    (h2 : runOp2 (fun s l r => Py.stepNode χ s [l, r]) s (vs1.zip vs2) = .ok (s', os)) :
    runTree χ (.n2 s c1 c2) es = .ok (.n2 s' c1' c2', os) := by
  induction es generalizing s c1 c2 vs1 vs2 os with
  | nil =>
    cases h1
    cases h1'
    cases h2
    rfl
  | cons e es ih =>
    obtain ⟨d1, v1, vs1', hs, hr, rfl⟩ := runTree_cons h1
    obtain ⟨d2, v2, vs2', hs', hr', rfl⟩ := runTree_cons h1'
    obtain ⟨s1, o, os', ht, hq, rfl⟩ := runOp2_cons h2
    simp [runTree, hn.stepTree, hs, hs', ht, ih hr hr' hq, bind, Except.bind, pure, Except.pure]

omit [Val α] [LawfulVal α] in
private theorem runOp1_pointwise (u : α → α) (s : St α) (vs : List α) :
    runOp1 (fun s v => Except.ok (s, u v)) s vs = .ok (s, vs.map u) := by
  induction vs with
  | nil => rfl
  | cons v vs ih => simp [runOp1, ih, bind, Except.bind, pure, Except.pure]

omit [Val α] [LawfulVal α] in
private theorem runOp2_pointwise (u : α → α → α) (s : St α) (vs1 vs2 : List α) :
    runOp2 (fun s l r => Except.ok (s, u l r)) s (vs1.zip vs2) = .ok (s, List.zipWith u vs1 vs2) := by
  induction vs1 generalizing vs2 with
  | nil => simp [runOp2]
  | cons v vs ih =>
    cases vs2 with
    | nil => simp [runOp2]
    | cons w ws => simp [runOp2, ih, bind, Except.bind, pure, Except.pure]

/-- The operator object of a supported one-operand node turns the stream of its operand into the node's. -/
private theorem run_node1 {χ φ : F α} (hn : Dense.C09Dense.Node1 χ φ) (σ : String → Nat → α) (n : Nat)
    (hk : onlineKinds.contains χ.kind = true) (hab : χ.ivOk) :
    ∃ s, runOp1 (fun s v => Py.stepNode χ s [v]) (initNode χ) (tab n (rho σ n φ)) = .ok (s, tab n (rho σ n χ)) := by
  cases hn with
  | un op => exact ⟨.unit, (runOp1_pointwise op.app St.unit _).trans (by rw [map_tab]; rfl)⟩
  | tmp1 op =>
    replace hk : onlineKinds.contains op.kind = true := hk
    cases op with
    | next | snext | ev | alw => cases (T1.online _).symm.trans hk
    | rise => exact run_rise n _
    | fall => exact run_fall n _
    | prev => exact run_prev n _
    | sprev => exact run_sprev n _
    | once => exact run_once n _
    | hist => exact run_hist n _
  | tb1 op a b =>
    replace hk : onlineKinds.contains op.kind = true := hk
    cases op with
    | once => exact run_onceB a b hab n _
    | hist => exact run_histB a b hab n _
    | ev | alw => cases (TB1.online _).symm.trans hk

private theorem run_node2 {χ φ ψ : F α} (hn : Dense.C09Dense.Node2 χ φ ψ) (σ : String → Nat → α) (n : Nat)
    (hk : onlineKinds.contains χ.kind = true) (hab : χ.ivOk) :
    ∃ s, runOp2 (fun s l r => Py.stepNode χ s [l, r]) (initNode χ) ((tab n (rho σ n φ)).zip (tab n (rho σ n ψ))) =
      .ok (s, tab n (rho σ n χ)) := by
  cases hn with
  | bin op => exact ⟨.unit, (runOp2_pointwise op.app St.unit _ _).trans (by rw [zipWith_tab]; rfl)⟩
  | tmp2 op =>
    replace hk : onlineKinds.contains op.kind = true := hk
    cases op with
    | since => exact run_since n _ _
    | «until» => cases (T2.online _).symm.trans hk
  | tb2 op a b =>
    replace hk : onlineKinds.contains op.kind = true := hk
    cases op with
    | since => exact run_sinceB a b hab n _ _
    | «until» => cases (TB2.online _).symm.trans hk
    | precedes => exact run_precedesB a b n _ _

private theorem runTree_eq_rho (h r : Kind → Bool) (σ : String → Nat → α) (n : Nat) (φ : F α)
    (hon : φ.online = true) (hwf : φ.wf = true)
    (hh : ∀ k ∈ φ.kinds, k ≠ .Constant → (h k = true ∧ r k = false)) :
    ∃ st0 st', initTree h r φ = .ok st0 ∧
      runTree φ st0 (envs σ n) = .ok (st', tab n (rho σ n φ)) := by
  induction φ using Dense.C09Dense.nodeInduction with
  | var x =>
    have hk := hh .Variable (by simp [F.kinds]) (by simp)
    refine ⟨.leaf, .leaf, by simp [initTree, hk.1, hk.2], ?_⟩
    rw [runTree_var, envs, map_tab]
    rfl
  | const c =>
    refine ⟨.leaf, .leaf, by simp [initTree], ?_⟩
    rw [runTree_const, envs, map_tab]
    rfl
  | n1 hn ih =>
    rw [hn.online, Bool.and_eq_true] at hon
    rw [hn.kinds] at hh
    obtain ⟨hab, hwφ⟩ := hn.wf.1 hwf
    obtain ⟨st0, st', hi, hr⟩ := ih hon.2 hwφ fun k hk => hh k (List.mem_cons_of_mem _ hk)
    obtain ⟨s, hs⟩ := run_node1 hn σ n hon.1 hab
    exact ⟨_, _, hn.initTree_eq_ok.2 ⟨hh _ List.mem_cons_self hn.kind_ne_const, st0, hi, rfl⟩, runTree_n1 hn hr hs⟩
  | n2 hn ih1 ih2 =>
    rw [hn.online, Bool.and_eq_true, Bool.and_eq_true] at hon
    rw [hn.kinds] at hh
    obtain ⟨hab, hwφ, hwψ⟩ := hn.wf.1 hwf
    obtain ⟨a0, a', hi1, hr1⟩ := ih1 hon.2.1 hwφ fun k hk => hh k (List.mem_cons_of_mem _ (List.mem_append_left _ hk))
    obtain ⟨b0, b', hi2, hr2⟩ := ih2 hon.2.2 hwψ fun k hk => hh k (List.mem_cons_of_mem _ (List.mem_append_right _ hk))
    obtain ⟨s, hs⟩ := run_node2 hn σ n hon.1 hab
    exact ⟨_, _, hn.initTree_eq_ok.2 ⟨hh _ List.mem_cons_self hn.kind_ne_const, a0, b0, hi1, hi2, rfl⟩,
      runTree_n2 hn hr1 hr2 hs⟩

/-- Main theorem: a freshly constructed monitor fed `n` samples returns `rho φ w t` at the
    `t`-th update, for every formula without future operators whose node classes the
    construction visitor supports (`h`, `r`). -/
theorem C02_run_eq_rho (h r : Kind → Bool) (σ : String → Nat → α) (n : Nat) (φ : F α)
    (hon : φ.online = true) (hwf : φ.wf = true)
    (hh : ∀ k ∈ φ.kinds, k ≠ .Constant → (h k = true ∧ r k = false)) :
    runOnline h r φ (envs σ n) = .ok (tab n (rho σ n φ)) := by
  obtain ⟨st0, st', hi, hr⟩ := runTree_eq_rho h r σ n φ hon hwf hh
  simp [runOnline, hi, hr, bind, Except.bind, pure, Except.pure]

/-- The value returned by the `i`-th update (after feeding the prefix `0..i`) is the `i`-th
    value of offline `evaluate` on any data set of `N > i` samples that extends the prefix. -/
theorem C02_online_eq_offline (h r hoff : Kind → Bool) (σ : String → Nat → α) (N i : Nat) (hi : i < N)
    (φ : F α) (hon : φ.online = true) (hwf : φ.wf = true)
    (hh : ∀ k ∈ φ.kinds, k ≠ .Constant → (h k = true ∧ r k = false))
    (hhoff : ∀ k ∈ φ.kinds, hoff k = true) (hp : φ.noPrecedes)
    (w : Env α) (hw : w.Agrees σ N φ.vars) :
    ∃ outs offl, runOnline h r φ (envs σ (i + 1)) = .ok outs ∧ evalOff hoff w N φ = .ok offl ∧
      outs[i]? = offl[i]? ∧ outs.length = i + 1 := by
  refine ⟨_, _, C02_run_eq_rho h r σ (i + 1) φ hon hwf hh,
    C01_offline_eq_rho hoff w σ N (by omega) φ hwf hhoff hp hw, ?_, tab_length _ _⟩
  rw [tab_getElem?, tab_getElem?, if_pos (Nat.lt_succ_self i), if_pos hi,
    rho_online_prefix φ hon σ σ (i + 1) N i (Nat.lt_succ_self i) hi (fun _ _ _ => rfl)]

end Rtamt
