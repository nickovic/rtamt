/-
  The functions of `rtamt/explanation/stl/discrete_time/explanations.py` (bounded operators), as translated
  from the source (`Rtamt/Py/GeneratedExpl.lean`), compute the interval lists of the exact mirror
  (`Rtamt/Discrete/ExplainU.lean`): shifted (and clipped) intervals, the runs of the operand inside them where the
  polarity asks for it, then `interval_union` (`unionIvs`).
-/
import RtamtProofs.GenExplLtlB
import RtamtProofs.GenOffLemmas

namespace Rtamt.Py
open Rtamt Val ExplSteps LtlA ScanB

variable {α : Type} [Val α]

namespace ExplStl

theorem sortIvs_castI (I : Ivs) : sortIvs (castI I) = castI (sortIvsN I) := by
  unfold sortIvs sortIvsN castI
  symm
  apply List.map_mergeSort
  intro a _ b _
  simp [Int.natCast_inj]

/-- One iteration of the loop of `interval_union` on the Python lists. -/
def unionStepZ (out : IvsZ) (p : Int × Int) : IvsZ :=
  match out.getLast? with
  | some q => if p.1 - 1 ≤ q.2 then setLastSnd out (if q.2 < p.2 then p.2 else q.2) else out ++ [p]
  | none => [p]

theorem setLastSnd_concat (X : IvsZ) (q : Int × Int) (v : Int) : setLastSnd (X ++ [q]) v = X ++ [(q.1, v)] := by
  induction X with
  | nil => rfl
  | cons x X ih =>
    cases X with
    | nil => rfl
    | cons y Y =>
      show x :: setLastSnd ((y :: Y) ++ [q]) v = _
      rw [ih]; rfl

theorem castI_append (A B : Ivs) : castI (A ++ B) = castI A ++ castI B := by simp [castI]

theorem castI_unionStep (O : Ivs) (p : Nat × Nat) :
    castI (unionStep O p) = unionStepZ (castI O) ((p.1 : Int), (p.2 : Int)) := by
  rcases List.eq_nil_or_concat O with rfl | ⟨O', q, rfl⟩
  · rfl
  · rw [List.concat_eq_append]
    have h1 : (O' ++ [q]).getLast? = some q := by simp
    have h2 : (castI (O' ++ [q])).getLast? = some ((q.1 : Int), (q.2 : Int)) := by simp [castI]
    unfold unionStep unionStepZ
    rw [h1, h2]
    simp only [List.dropLast_concat]
    have hc : (p.1 ≤ q.2 + 1) ↔ ((p.1 : Int) - 1 ≤ (q.2 : Int)) := by omega
    by_cases h : p.1 ≤ q.2 + 1
    · rw [if_pos h, if_pos (hc.mp h), castI_append, castI_append,
        show castI [q] = [((q.1 : Int), (q.2 : Int))] from rfl, setLastSnd_concat]
      congr 1
      simp only [castI, List.map_cons, List.map_nil]
      congr 2
      split <;> omega
    · rw [if_neg h, if_neg (fun h' => h (hc.mpr h')), castI_append]
      rfl

theorem castI_foldl_unionStep (l O : Ivs) :
    castI (l.foldl unionStep O) = (castI l).foldl unionStepZ (castI O) := by
  induction l generalizing O with
  | nil => rfl
  | cons p l ih =>
    simp only [List.foldl_cons, castI, List.map_cons] at ih ⊢
    rw [ih]
    congr 1
    exact castI_unionStep O p

/-- What `sorted(..)` / `..[-1][1]` do to the value of their operand. -/
def sortedV : V α → Except PyErr (V α)
  | .ivs l => .ok (.ivs (sortIvs l))
  | .dlist [] => .ok (.dlist [])
  | _ => .error .type
def lastSndV : V α → Except PyErr (V α)
  | .ivs l => match l.getLast? with
              | some p => .ok (.int p.2)
              | none => .error .index
  | .dlist [] => .error .index
  | _ => .error .type

theorem e_sorted (env : Env α) (e : E) : evalE env (.sorted e) = (evalE env e >>= sortedV) := by
  simp only [evalE, sortedV, bind, Except.bind]; rfl
theorem e_lastSnd (env : Env α) (e : E) : evalE env (.lastSnd e) = (evalE env e >>= lastSndV) := by
  simp only [evalE, lastSndV, bind, Except.bind]; rfl

set_option linter.unusedSectionVars false in
theorem encZ_nil : (encZ [] : V α) = .dlist [] := rfl
theorem toInt_int (n : Int) : evalUn (α := α) .toInt (.int n) = .ok (.int n) := id rfl

omit [Val α] in
theorem sortedV_encZ (l : IvsZ) : sortedV (α := α) (encZ l) = .ok (encZ (sortIvs l)) := by
  cases l with
  | nil => simp [encZ_nil, sortedV, sortIvs]
  | cons p l =>
    have : sortIvs (p :: l) ≠ [] := by
      intro h
      have := congrArg List.length h
      simp [sortIvs] at this
    rw [encZ_cons, encZ_ne_nil this]; rfl

omit [Val α] in
theorem lastSndV_encZ (l : IvsZ) (q : Int × Int) (h : l.getLast? = some q) :
    lastSndV (α := α) (encZ l) = .ok (.int q.2) := by
  cases l with
  | nil => simp at h
  | cons p l => simp only [encZ_cons, lastSndV, h]

theorem b_ge_int (x y : Int) : evalBin (α := α) .ge (.int x) (.int y) = .ok (.bool (decide (y ≤ x))) := by
  unfold evalBin; rw [coerce_int_int]
theorem b_max_int (x y : Int) : evalBin (α := α) .max (.int x) (.int y) = .ok (.int (if x < y then y else x)) := by
  unfold evalBin; rw [coerce_int_int]
theorem b_min_int (x y : Int) : evalBin (α := α) .min (.int x) (.int y) = .ok (.int (if y < x then y else x)) := by
  unfold evalBin; rw [coerce_int_int]

theorem x_setLastSnd (x : String) (e : E) (σ L : Store α) (l : IvsZ) (v : Int) (hl : l ≠ [])
    (hx : getKey x L = .ok (encZ l)) (he : evalE ⟨σ, L⟩ e = .ok (.int v)) :
    exec (.setLastSnd x e) ⟨σ, L⟩ = .ok ⟨σ, setKey x (encZ (setLastSnd l v)) L⟩ := by
  cases l with
  | nil => exact absurd rfl hl
  | cons p l =>
    have : setLastSnd (p :: l) v ≠ [] := by
      cases l <;> simp [setLastSnd]
    rw [encZ_ne_nil this]
    rw [encZ_cons] at hx
    simp only [exec, hx, he, bind, Except.bind, pure, Except.pure]

def unionBody (out bg en : String) : S :=
  .ite (.ifExp (.un .truthy (.loc out)) (.bin .ge (.lastSnd (.loc out)) (.bin .sub (.loc bg) (.int 1))) (.bin .eq (.int 0) (.int 1)))
    (.setLastSnd out (.bin .max (.lastSnd (.loc out)) (.loc en)))
    (.appendLoc out (.tuple (.loc bg) (.loc en)))

def unionS (iv out bg en : String) : S :=
  .seq (.setLoc out .emptyList) (.forPair bg en (.sorted (.loc iv)) (unionBody out bg en))

theorem exec_unionBody (out bg en : String) (σ L : Store α) (O : IvsZ) (p : Int × Int)
    (hO : getKey out L = .ok (encZ O)) (hb : getKey bg L = .ok (.int p.1)) (he : getKey en L = .ok (.int p.2)) :
    exec (unionBody out bg en) ⟨σ, L⟩ = .ok ⟨σ, setKey out (encZ (unionStepZ O p)) L⟩ := by
  rcases List.eq_nil_or_concat O with rfl | ⟨O', q, rfl⟩
  · simp only [unionBody, exec_ite, evalE_ifExp, evalE_un, evalE_loc, hO, ok_bind, truthy_encZ, List.isEmpty_nil, Bool.not_true,
      evalE_bin, evalE_int, evalBin_eq_int, exec_appendLoc, evalE_tuple, hb, he, appendV_encZ]
    rfl
  · rw [List.concat_eq_append] at hO ⊢
    have h1 : (O' ++ [q]).getLast? = some q := by simp
    have hne : O' ++ [q] ≠ [] := by simp
    have ht : (!(O' ++ [q]).isEmpty) = true := by simp
    have hcond : evalE (α := α) ⟨σ, L⟩ (.ifExp (.un .truthy (.loc out)) (.bin .ge (.lastSnd (.loc out)) (.bin .sub (.loc bg) (.int 1))) (.bin .eq (.int 0) (.int 1)))
        = .ok (.bool (decide (p.1 - 1 ≤ q.2))) := by
      simp only [evalE_ifExp, evalE_un, evalE_loc, hO, ok_bind, truthy_encZ, ht, evalE_bin, e_lastSnd, lastSndV_encZ _ _ h1, hb, evalE_int,
        evalBin_sub_int, b_ge_int]
    unfold unionBody
    rw [exec_ite, hcond, ok_bind]
    unfold unionStepZ
    rw [h1]
    by_cases h : p.1 - 1 ≤ q.2
    · simp only [h, decide_true, if_true]
      apply x_setLastSnd _ _ _ _ _ _ hne hO
      simp only [evalE_bin, e_lastSnd, evalE_loc, hO, ok_bind, lastSndV_encZ _ _ h1, he, b_max_int]
    · simp only [h, decide_false, if_false]
      simp only [exec_appendLoc, evalE_tuple, evalE_loc, hb, he, hO, ok_bind, appendV_encZ]

theorem exec_unionS (iv out bg en : String) (h0 : iv ≠ out) (h1 : out ≠ bg) (h2 : out ≠ en) (h3 : bg ≠ en)
    (σ L : Store α) (J : Ivs) (hJ : getKey iv L = .ok (encI J)) :
    ∃ L', exec (unionS iv out bg en) (⟨σ, L⟩ : Env α) = .ok ⟨σ, L'⟩ ∧ getKey out L' = .ok (encI (unionIvs J)) := by
  unfold unionS
  rw [exec_seq, exec_setLoc, evalE_emptyList, ok_bind, ok_bind]
  rw [exec_forPair_encZ _ _ _ _ _ (sortIvs (castI J))]
  · obtain ⟨⟨σ', L'⟩, hL', hσ, hout⟩ := Loop.foldlM_inv
      (fun (env : Env α) p => exec (unionBody out bg en) { env with loc := setKey en (.int p.2) (setKey bg (.int p.1) env.loc) })
      unionStepZ (fun _ O env => env.self = σ ∧ getKey out env.loc = .ok (encZ O)) (sortIvs (castI J)) 0
      (fun j _ O env ⟨hs, hO⟩ => ⟨_, exec_unionBody out bg en env.self _ O (sortIvs (castI J))[j]
        (by rw [getKey_setKey_ne _ _ _ _ h2, getKey_setKey_ne _ _ _ _ h1, hO])
        (by rw [getKey_setKey_ne _ _ _ _ h3, getKey_setKey_same]) (getKey_setKey_same _ _ _), hs, getKey_setKey_same _ _ _⟩)
      [] ⟨σ, setKey out (.dlist []) L⟩ ⟨rfl, getKey_setKey_same _ _ _⟩
    cases hσ
    refine ⟨L', hL', ?_⟩
    rw [hout, sortIvs_castI, show ([] : IvsZ) = castI [] from rfl, ← castI_foldl_unionStep]
    rfl
  · rw [e_sorted, evalE_loc, getKey_setKey_ne _ _ _ _ h0, hJ, ok_bind]
    exact sortedV_encZ _

end ExplStl

open ExplStl

/-- The inlined `interval_union` on its own: the translated function is `unionIvs`. -/
theorem fn_interval_union (I : Ivs) :
    call (α := α) Gen.Expl.stl_interval_union [] [encI I] = .ok ([], encI (unionIvs I)) := by
  obtain ⟨L', hL', hout⟩ := exec_unionS (α := α) "intervals" "out" "begin" "end" (by simp) (by simp) (by simp) (by simp)
    [] [("intervals", encI I)] I (getKey_cons_same _ _ _)
  exact call_ok Gen.Expl.stl_interval_union [] [] L' [encI I] (.loc "out") _ rfl rfl hL' hout

namespace ExplStl

/-- What the loops over the intervals keep invariant. -/
structure Base (L : Store α) (s : List α) (a b : Int) (acc : IvsZ) : Prop where
  sig : getKey "op_signal" L = .ok (.list s)
  ha : getKey "a" L = .ok (.int a)
  hb : getKey "b" L = .ok (.int b)
  hacc : getKey "op_intervals" L = .ok (encZ acc)

omit [Val α] in
theorem Base.set {L : Store α} {s : List α} {a b : Int} {acc : IvsZ} (h : Base L s a b acc) (x : String) (v : V α)
    (hx : x ∉ ["op_signal", "a", "b", "op_intervals"]) : Base (setKey x v L) s a b acc := by
  simp only [List.mem_cons, List.not_mem_nil, or_false, not_or] at hx
  exact ⟨by rw [getKey_setKey_ne _ _ _ _ (Ne.symm hx.1), h.sig], by rw [getKey_setKey_ne _ _ _ _ (Ne.symm hx.2.1), h.ha],
    by rw [getKey_setKey_ne _ _ _ _ (Ne.symm hx.2.2.1), h.hb], by rw [getKey_setKey_ne _ _ _ _ (Ne.symm hx.2.2.2), h.hacc]⟩

omit [Val α] in
theorem Base.setAcc {L : Store α} {s : List α} {a b : Int} {acc : IvsZ} (h : Base L s a b acc) (acc' : IvsZ) :
    Base (setKey "op_intervals" (encZ acc') L) s a b acc' :=
  ⟨by rw [getKey_setKey_ne _ _ _ _ (by simp), h.sig], by rw [getKey_setKey_ne _ _ _ _ (by simp), h.ha],
   by rw [getKey_setKey_ne _ _ _ _ (by simp), h.hb], getKey_setKey_same _ _ _⟩

def timedS (loopBody : S) : S :=
  .seq (.setLoc "op_intervals" .emptyList) (.seq (.setLoc "a" (.un .toInt (.loc "a"))) (.seq (.setLoc "b" (.un .toInt (.loc "b")))
    (.seq (.forPair "begin" "end" (.loc "intervals") loopBody)
      (.seq (.setLoc "interval_union$intervals" (.loc "op_intervals"))
        (.seq (unionS "interval_union$intervals" "interval_union$out" "interval_union$begin" "interval_union$end")
          (.setLoc "op_intervals" (.loc "interval_union$out")))))))

theorem timed_call (loopBody : S) (f : Nat × Nat → Ivs) (s : List α) (a b : Nat) (I : Ivs)
    (hbody : ∀ (σ L : Store α) (acc : IvsZ) (p : Nat × Nat), p ∈ I → Base L s a b acc →
      ∃ L', exec loopBody ⟨σ, setKey "end" (.int (p.2 : Int)) (setKey "begin" (.int (p.1 : Int)) L)⟩ = .ok ⟨σ, L'⟩
        ∧ Base L' s a b (acc ++ castI (f p)))
    (m : Method) (hm : m = ⟨["op_signal", "intervals", "a", "b"], timedS loopBody, some (.loc "op_intervals")⟩) :
    call m [] [.list s, encI I, .int a, .int b] = .ok ([], encI (unionIvs (I.flatMap f))) := by
  subst hm
  let L0 : Store α := [("op_signal", .list s), ("intervals", encI I), ("a", .int a), ("b", .int b)]
  let L3 : Store α := setKey "b" (.int b) (setKey "a" (.int a) (setKey "op_intervals" (.dlist []) L0))
  have hB3 : Base L3 s a b [] :=
    ⟨by rfl, by rfl, by rfl, by rfl⟩
  have hI3 : getKey "intervals" L3 = .ok (encI I) := by rfl
  obtain ⟨⟨σ4, L4⟩, h4, hσ4, hB4⟩ := foldlM_castI_inv (α := α)
    (fun env p => exec loopBody { env with loc := setKey "end" (.int p.2) (setKey "begin" (.int p.1) env.loc) })
    (fun acc env => env.self = [] ∧ Base env.loc s a b acc) (fun acc p => acc ++ castI ([p].flatMap f)) I
    (fun acc env p hp ⟨h1, hB⟩ => by
      obtain ⟨L', e1, e2⟩ := hbody env.self env.loc acc p hp hB
      exact ⟨⟨env.self, L'⟩, e1, h1, by rw [List.flatMap_singleton]; exact e2⟩)
    [] ⟨[], L3⟩ ⟨rfl, hB3⟩
  cases hσ4
  rw [foldl_append_castI (fun I => I.flatMap f) (fun p I => by simp) rfl] at hB4
  let L5 : Store α := setKey "interval_union$intervals" (encI (I.flatMap f)) L4
  obtain ⟨L6, h6, hout⟩ := exec_unionS (α := α) "interval_union$intervals" "interval_union$out" "interval_union$begin"
    "interval_union$end" (by simp) (by simp) (by simp) (by simp) [] L5 (I.flatMap f) (getKey_setKey_same _ _ _)
  refine call_ok _ [] [] (setKey "op_intervals" (encI (unionIvs (I.flatMap f))) L6) _ (.loc "op_intervals") _ rfl rfl ?_
    (getKey_setKey_same _ _ _)
  show exec (timedS loopBody) ⟨[], L0⟩ = _
  have e1 : exec (.setLoc "op_intervals" .emptyList) (⟨[], L0⟩ : Env α) = .ok ⟨[], setKey "op_intervals" (.dlist []) L0⟩ := by
    rw [exec_setLoc, evalE_emptyList, ok_bind]
  have e2 : exec (.setLoc "a" (.un .toInt (.loc "a"))) (⟨[], setKey "op_intervals" (.dlist []) L0⟩ : Env α)
      = .ok ⟨[], setKey "a" (.int a) (setKey "op_intervals" (.dlist []) L0)⟩ := by
    rw [exec_setLoc, evalE_un, evalE_loc, show getKey "a" (setKey "op_intervals" (.dlist []) L0) = .ok (.int (a : Int)) from rfl,
      ok_bind, toInt_int, ok_bind]
  have e3 : exec (.setLoc "b" (.un .toInt (.loc "b"))) (⟨[], setKey "a" (.int a) (setKey "op_intervals" (.dlist []) L0)⟩ : Env α)
      = .ok ⟨[], L3⟩ := by
    rw [exec_setLoc, evalE_un, evalE_loc, show getKey "b" (setKey "a" (.int a) (setKey "op_intervals" (.dlist []) L0)) = .ok (.int (b : Int)) from rfl,
      ok_bind, toInt_int, ok_bind]
  have e4 : exec (.forPair "begin" "end" (.loc "intervals") loopBody) (⟨[], L3⟩ : Env α) = .ok ⟨[], L4⟩ := by
    rw [exec_forPair_encZ _ _ _ _ _ (castI I) (by rw [evalE_loc, hI3]; rfl)]
    exact h4
  have e5 : exec (.setLoc "interval_union$intervals" (.loc "op_intervals")) (⟨[], L4⟩ : Env α) = .ok ⟨[], L5⟩ := by
    rw [exec_setLoc, evalE_loc, hB4.hacc, ok_bind]
    rfl
  have e7 : exec (.setLoc "op_intervals" (.loc "interval_union$out")) (⟨[], L6⟩ : Env α)
      = .ok ⟨[], setKey "op_intervals" (encI (unionIvs (I.flatMap f))) L6⟩ := by
    rw [exec_setLoc, evalE_loc, hout, ok_bind]
  unfold timedS
  rw [exec_seq, e1, ok_bind, exec_seq, e2, ok_bind, exec_seq, e3, ok_bind, exec_seq, e4, ok_bind, exec_seq, e5, ok_bind,
    exec_seq, h6, ok_bind, e7]

/-- `e` computes `g x` from the variable `v` (`begin` / `end`) and `a`, `b`, `len(op_signal)`. -/
def Shift (s : List α) (a b : Int) (v : String) (e : E) (g : Nat → Nat) : Prop :=
  ∀ (σ L : Store α) (acc : IvsZ) (x : Nat), Base L s a b acc → getKey v L = .ok (.int (x : Int)) →
    evalE ⟨σ, L⟩ e = .ok (.int ((g x : Nat) : Int))

def fwdE (v c : String) : E := .bin .min (.bin .add (.loc v) (.loc c)) (.bin .sub (.len (.loc "op_signal")) (.int 1))
def bwdE (v c : String) : E := .bin .max (.bin .sub (.loc v) (.loc c)) (.int 0)

theorem shift_fwd_begin (s : List α) (hs : 0 < s.length) (a b : Nat) :
    Shift s a b "begin" (fwdE "begin" "a") (fun x => min (x + a) (s.length - 1)) := by
  intro σ L acc x hB hx
  simp only [fwdE, evalE_bin, evalE_loc, hx, hB.ha, ok_bind, evalBin_add_int, evalE_len, hB.sig, lenV_list, evalE_int, evalBin_sub_int, b_min_int]
  congr 2
  split <;> omega

theorem shift_fwd_end (s : List α) (hs : 0 < s.length) (a b : Nat) :
    Shift s a b "end" (fwdE "end" "b") (fun x => min (x + b) (s.length - 1)) := by
  intro σ L acc x hB hx
  simp only [fwdE, evalE_bin, evalE_loc, hx, hB.hb, ok_bind, evalBin_add_int, evalE_len, hB.sig, lenV_list, evalE_int, evalBin_sub_int, b_min_int]
  congr 2
  split <;> omega

theorem shift_bwd_begin (s : List α) (a b : Nat) :
    Shift s a b "begin" (bwdE "begin" "b") (fun x => x - b) := by
  intro σ L acc x hB hx
  simp only [bwdE, evalE_bin, evalE_loc, hx, hB.hb, ok_bind, evalBin_sub_int, evalE_int, b_max_int]
  congr 2
  split <;> omega

theorem shift_bwd_end (s : List α) (a b : Nat) :
    Shift s a b "end" (bwdE "end" "a") (fun x => x - a) := by
  intro σ L acc x hB hx
  simp only [bwdE, evalE_bin, evalE_loc, hx, hB.ha, ok_bind, evalBin_sub_int, evalE_int, b_max_int]
  congr 2
  split <;> omega

def shiftBody (eB eE : E) : S :=
  .seq (.setLoc "exp_begin" eB) (.seq (.setLoc "exp_end" eE)
    (.appendLoc "op_intervals" (.tuple (.loc "exp_begin") (.loc "exp_end"))))

theorem exec_shiftBody (s : List α) (a b : Int) (eB eE : E) (gB gE : Nat → Nat)
    (hgB : Shift s a b "begin" eB gB) (hgE : Shift s a b "end" eE gE)
    (σ L : Store α) (acc : IvsZ) (p : Nat × Nat) (hB : Base L s a b acc) :
    ∃ L', exec (shiftBody eB eE) ⟨σ, setKey "end" (.int (p.2 : Int)) (setKey "begin" (.int (p.1 : Int)) L)⟩ = .ok ⟨σ, L'⟩
      ∧ Base L' s a b (acc ++ castI [(gB p.1, gE p.2)]) := by
  have hB0 := (hB.set "begin" (.int (p.1 : Int)) (by simp)).set
    "end" (.int (p.2 : Int)) (by simp)
  generalize hL0 : setKey "end" (.int (p.2 : Int)) (setKey "begin" (.int (p.1 : Int)) L) = L0 at hB0 ⊢
  have hb0 : getKey "begin" L0 = .ok (.int (p.1 : Int)) := by
    rw [← hL0, getKey_setKey_ne _ _ _ _ (by simp), getKey_setKey_same]
  have he0 : getKey "end" L0 = .ok (.int (p.2 : Int)) := by
    rw [← hL0, getKey_setKey_same]
  have hB1 := hB0.set "exp_begin" (.int (gB p.1 : Nat)) (by simp)
  have he1 : getKey "end" (setKey "exp_begin" (.int (gB p.1 : Nat)) L0) = .ok (.int (p.2 : Int)) := by
    rw [getKey_setKey_ne _ _ _ _ (by simp), he0]
  have hB2 := hB1.set "exp_end" (.int (gE p.2 : Nat)) (by simp)
  refine ⟨_, ?_, hB2.setAcc _⟩
  unfold shiftBody
  rw [exec_seq, exec_setLoc, hgB σ L0 acc p.1 hB0 hb0, ok_bind, ok_bind, exec_seq, exec_setLoc, hgE σ _ acc p.2 hB1 he1,
    ok_bind, ok_bind, exec_appendLoc, evalE_tuple, evalE_loc, evalE_loc, getKey_setKey_ne _ _ _ _ (by simp), getKey_setKey_same,
    getKey_setKey_same, ok_bind, ok_bind, ok_bind, hB2.hacc, ok_bind, appendV_encZ, ok_bind]
  rfl

/-- The functions that shift every interval and take the union. -/
theorem shift_call (s : List α) (a b : Nat) (eB eE : E) (gB gE : Nat → Nat)
    (hgB : Shift s a b "begin" eB gB) (hgE : Shift s a b "end" eE gE) (I : Ivs)
    (m : Method) (hm : m = ⟨["op_signal", "intervals", "a", "b"], timedS (shiftBody eB eE), some (.loc "op_intervals")⟩) :
    call m [] [.list s, encI I, .int a, .int b] = .ok ([], encI (unionIvs (I.map fun p => (gB p.1, gE p.2)))) := by
  rw [timed_call _ (fun p => [(gB p.1, gE p.2)]) s a b I (fun σ L acc p _ hB => exec_shiftBody s a b _ _ _ _ hgB hgE σ L acc p hB) m hm,
    ← List.map_eq_flatMap]

end ExplStl

open ExplStl

theorem fn_sat_timed_always (s : List α) (hs : 0 < s.length) (a b : Nat) (I : Ivs) :
    call (α := α) Gen.Expl.stl_explain_sat_timed_always [] [.list s, encI I, .int a, .int b]
      = .ok ([], encI (unionIvs (fwdI s.length a b I))) :=
  shift_call s a b _ _ _ _ (shift_fwd_begin s hs a b) (shift_fwd_end s hs a b) I _ rfl

theorem fn_unsat_timed_eventually (s : List α) (hs : 0 < s.length) (a b : Nat) (I : Ivs) :
    call (α := α) Gen.Expl.stl_explain_unsat_timed_eventually [] [.list s, encI I, .int a, .int b]
      = .ok ([], encI (unionIvs (fwdI s.length a b I))) :=
  shift_call s a b _ _ _ _ (shift_fwd_begin s hs a b) (shift_fwd_end s hs a b) I _ rfl

theorem fn_sat_timed_historically (s : List α) (a b : Nat) (I : Ivs) :
    call (α := α) Gen.Expl.stl_explain_sat_timed_historically [] [.list s, encI I, .int a, .int b]
      = .ok ([], encI (unionIvs (bwdI a b I))) :=
  shift_call s a b _ _ _ _ (shift_bwd_begin s a b) (shift_bwd_end s a b) I _ rfl

theorem fn_unsat_timed_once (s : List α) (a b : Nat) (I : Ivs) :
    call (α := α) Gen.Expl.stl_explain_unsat_timed_once [] [.list s, encI I, .int a, .int b]
      = .ok ([], encI (unionIvs (bwdI a b I))) :=
  shift_call s a b _ _ _ _ (shift_bwd_begin s a b) (shift_bwd_end s a b) I _ rfl

namespace ExplStl

/-- `begin = ..; end = ..` and the scan of `op_signal[begin .. end]` (`ScanB.scanTail`). -/
def scanS (eB eE : E) (pol : Bool) : S :=
  .seq (.setLoc "begin" eB) (.seq (.setLoc "end" eE)
    (scanTail pol (.loc "begin") (.bin .add (.loc "end") (.int 1)) (.loc "end")))

theorem exec_scanS (pol : Bool) (s : List α) (a b : Int) (eB eE : E) (gB gE : Nat → Nat)
    (hgB : Shift s a b "begin" eB gB) (hgE : Shift s a b "end" eE gE)
    (σ L : Store α) (acc : IvsZ) (pr : Nat × Nat) (hB : Base L s a b acc) (hr : gE pr.2 < s.length) :
    ∃ L', exec (scanS eB eE pol) ⟨σ, setKey "end" (.int (pr.2 : Int)) (setKey "begin" (.int (pr.1 : Int)) L)⟩ = .ok ⟨σ, L'⟩
      ∧ Base L' s a b (acc ++ castI (runs (fun i => polTest pol (atL s i)) (gB pr.1) (gE pr.2))) := by
  have hB0 := (hB.set "begin" (.int (pr.1 : Int)) (by simp)).set
    "end" (.int (pr.2 : Int)) (by simp)
  have hb0 : getKey "begin" (setKey "end" (.int (pr.2 : Int)) (setKey "begin" (.int (pr.1 : Int)) L)) = .ok (.int (pr.1 : Int)) := by
    rw [getKey_setKey_ne _ _ _ _ (by simp), getKey_setKey_same]
  have he0 : getKey "end" (setKey "end" (.int (pr.2 : Int)) (setKey "begin" (.int (pr.1 : Int)) L)) = .ok (.int (pr.2 : Int)) :=
    getKey_setKey_same _ _ _
  generalize setKey "end" (.int (pr.2 : Int)) (setKey "begin" (.int (pr.1 : Int)) L) = L0 at hB0 hb0 he0 ⊢
  have hB1 := hB0.set "begin" (.int (gB pr.1 : Nat)) (by simp)
  have he1 : getKey "end" (setKey "begin" (.int (gB pr.1 : Nat)) L0) = .ok (.int (pr.2 : Int)) := by
    rw [getKey_setKey_ne _ _ _ _ (by simp), he0]
  have hB2 := hB1.set "end" (.int (gE pr.2 : Nat)) (by simp)
  generalize hL2 : setKey "end" (.int (gE pr.2 : Nat)) (setKey "begin" (.int (gB pr.1 : Nat)) L0) = L2 at hB2
  have hb2 : getKey "begin" L2 = .ok (.int (gB pr.1 : Nat)) := by
    rw [← hL2, getKey_setKey_ne _ _ _ _ (by simp), getKey_setKey_same]
  have he2 : getKey "end" L2 = .ok (.int (gE pr.2 : Nat)) := by rw [← hL2, getKey_setKey_same]
  obtain ⟨⟨σ', L'⟩, hex, hself, hk, hout⟩ := scanTail_exec pol s (.loc "begin") (.bin .add (.loc "end") (.int 1)) (.loc "end")
    ⟨σ, L2⟩ (gB pr.1) (gE pr.2) ((gE pr.2 : Nat) + 1) acc hB2.sig hB2.hacc
    (fun env' hf => by rw [evalE_loc, hf "begin" (by simp)]; exact hb2)
    (fun env' hf => by
      rw [evalE_bin, evalE_loc, hf "end" (by simp)]
      exact (congrArg (· >>= _) he2).trans (by rw [ok_bind, evalE_int, ok_bind, evalBin_add_int]))
    (fun env' hf => by rw [evalE_loc, hf "end" (by simp)]; exact he2)
    (by omega) hr
  cases hself
  refine ⟨L', ?_, ⟨(hk _ (by simp)).trans hB2.sig,
    (hk _ (by simp)).trans hB2.ha,
    (hk _ (by simp)).trans hB2.hb, hout⟩⟩
  unfold scanS
  rw [exec_seq, exec_setLoc, hgB σ L0 acc pr.1 hB0 hb0, ok_bind, ok_bind, exec_seq, exec_setLoc, hgE σ _ acc pr.2 hB1 he1,
    ok_bind, ok_bind, hL2]
  exact hex

theorem runsAll_map (q : Nat → Bool) (g : Nat × Nat → Nat × Nat) (I : Ivs) :
    runsAll q (I.map g) = I.flatMap (fun p => runs q (g p).1 (g p).2) := by
  induction I with
  | nil => rfl
  | cons p I ih =>
    simp only [runsAll, List.map_cons, List.flatMap_cons] at ih ⊢
    rw [ih]

/-- The functions that scan every shifted interval for the runs of the operand and take the union. -/
theorem scan_call (pol : Bool) (s : List α) (a b : Nat) (eB eE : E) (gB gE : Nat → Nat)
    (hgB : Shift s a b "begin" eB gB) (hgE : Shift s a b "end" eE gE) (I : Ivs) (hr : ∀ p ∈ I, gE p.2 < s.length)
    (m : Method) (hm : m = ⟨["op_signal", "intervals", "a", "b"], timedS (scanS eB eE pol), some (.loc "op_intervals")⟩) :
    call m [] [.list s, encI I, .int a, .int b]
      = .ok ([], encI (unionIvs (runsAll (fun i => polTest pol (atL s i)) (I.map fun p => (gB p.1, gE p.2))))) := by
  rw [timed_call _ (fun p => runs (fun i => polTest pol (atL s i)) (gB p.1) (gE p.2)) s a b I
    (fun σ L acc p hp hB => exec_scanS pol s a b _ _ _ _ hgB hgE σ L acc p hB (hr p hp)) m hm, runsAll_map]

end ExplStl

open ExplStl

theorem fn_sat_timed_eventually (s : List α) (hs : 0 < s.length) (a b : Nat) (I : Ivs) :
    call (α := α) Gen.Expl.stl_explain_sat_timed_eventually [] [.list s, encI I, .int a, .int b]
      = .ok ([], encI (unionIvs (runsAll (fun i => isSat (atL s i)) (fwdI s.length a b I)))) :=
  scan_call true s a b _ _ _ _ (shift_fwd_begin s hs a b) (shift_fwd_end s hs a b) I (fun _ _ => by omega) _ rfl

theorem fn_unsat_timed_always (s : List α) (hs : 0 < s.length) (a b : Nat) (I : Ivs) :
    call (α := α) Gen.Expl.stl_explain_unsat_timed_always [] [.list s, encI I, .int a, .int b]
      = .ok ([], encI (unionIvs (runsAll (fun i => isUnsat (atL s i)) (fwdI s.length a b I)))) :=
  scan_call false s a b _ _ _ _ (shift_fwd_begin s hs a b) (shift_fwd_end s hs a b) I (fun _ _ => by omega) _ rfl

theorem fn_sat_timed_once (s : List α) (a b : Nat) (I : Ivs) (h : InRange s.length I) :
    call (α := α) Gen.Expl.stl_explain_sat_timed_once [] [.list s, encI I, .int a, .int b]
      = .ok ([], encI (unionIvs (runsAll (fun i => isSat (atL s i)) (bwdI a b I)))) :=
  scan_call true s a b _ _ _ _ (shift_bwd_begin s a b) (shift_bwd_end s a b) I (fun p hp => by have := h p hp; omega) _ rfl

theorem fn_unsat_timed_historically (s : List α) (a b : Nat) (I : Ivs) (h : InRange s.length I) :
    call (α := α) Gen.Expl.stl_explain_unsat_timed_historically [] [.list s, encI I, .int a, .int b]
      = .ok ([], encI (unionIvs (runsAll (fun i => isUnsat (atL s i)) (bwdI a b I)))) :=
  scan_call false s a b _ _ _ _ (shift_bwd_begin s a b) (shift_bwd_end s a b) I (fun p hp => by have := h p hp; omega) _ rfl

end Rtamt.Py
