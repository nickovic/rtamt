/-
  Obligations tying the model of the front end to the ANTLR grammar files of /repo
  (`Rtamt/Front/GeneratedGrammar.lean` is regenerated from `rtamt/antlr/grammar/tl/*.g4` on every run):

  * every literal spelling of a lexer rule is lexed by the model to exactly one token, all spellings of one
    rule to the same token (the aliases of C15), and different rules to different tokens;
  * the binary alternatives of `expression` appear in the grammar in the order of strictly decreasing
    binding level of the model's precedence table (`binLevel`), all operators of one alternative on one level;
  * the prefix alternatives (`not`, the temporal prefix operators) lie after the alternatives that bind at least as
    tightly as a comparison and before all looser binary alternatives (the model parses their operand at level 18),
    unary minus before every binary alternative (level 21).

  All are decided by evaluation (`decide`).
-/
import Rtamt.Front.GeneratedGrammar
import Rtamt.Front.Parser

namespace Rtamt.Front
open Generated

/-- The single token the model lexer produces for a literal. -/
def lexOne (s : String) : Option Tok :=
  match lex s with
  | .ok [t] => some t
  | _ => none

def allSameSome : List (Option Tok) → Bool
  | [] => false
  | none :: _ => false
  | some t :: rest => rest.all (· == some t)

/-- Token of a lexer rule (of its first literal). -/
def ruleTok (rule : String) : Option Tok :=
  match lexerLiterals.lookup rule with
  | some (l :: _) => lexOne l
  | _ => none

/-- The operator tokens of a binary alternative `expression X interval? expression`. -/
def altOps (syms : List String) : List String :=
  match syms with
  | ["expression", x, "expression"] | ["expression", x, "interval?", "expression"] =>
      match opRules.lookup x with
      | some toks => toks
      | none => [x]
  | _ => []

/-- Binding levels (model) of the operators of each binary alternative, in grammar order. -/
def altLevels (alts : List (String × List String)) : List (List (Option Nat)) :=
  (alts.map (fun a => altOps a.2)).filter (· ≠ []) |>.map
    (fun ops => ops.map (fun r => (ruleTok r).bind binOfTok |>.map binLevel))

def oneLevel : List (Option Nat) → Option Nat
  | some n :: rest => if rest.all (· == some n) then some n else none
  | _ => none

def strictlyDecreasing : List (Option Nat) → Bool
  | some a :: some b :: rest => decide (b < a) && strictlyDecreasing (some b :: rest)
  | [some _] => true
  | [] => true
  | _ => false

/-- Index of the first alternative satisfying `p`. -/
def firstIdx (alts : List (String × List String)) (p : List String → Bool) : Option Nat :=
  (alts.zipIdx.find? (fun a => p a.1.2)).map (·.2)

def isPrefixAlt (syms : List String) : Bool :=
  match syms with
  | [x, "expression"] | [x, "interval?", "expression"] =>
      x ≠ "MINUS" && ((ruleTok x).bind preOfTok).isSome
  | _ => false

def levelOfAlt (syms : List String) : Option Nat := oneLevel ((altOps syms).map (fun r => (ruleTok r).bind binOfTok |>.map binLevel))

/-- Every prefix alternative comes after every binary alternative of level ≥ 18 and before every binary alternative of a
    lower level; unary minus comes before every binary alternative. -/
def prefixPlacement (alts : List (String × List String)) : Bool :=
  let idx := alts.zipIdx
  idx.all (fun a =>
    if isPrefixAlt a.1.2 then
      idx.all (fun b => match levelOfAlt b.1.2 with
        | some l => if 18 ≤ l then decide (b.2 < a.2) else decide (a.2 < b.2)
        | none => true)
    else if a.1.2 = ["MINUS", "expression"] then
      idx.all (fun b => match levelOfAlt b.1.2 with | some _ => decide (a.2 < b.2) | none => true)
    else true)

/-- The six obligations in one evaluation: the kernel then lexes each literal, and looks up the token
    of each rule, once for all of them. -/
theorem grammar_obligations :
    lexerLiterals.all (fun p => allSameSome (p.2.map lexOne)) = true ∧
    (lexerLiterals.map (fun p => ruleTok p.1)).Nodup ∧
    strictlyDecreasing ((altLevels stlExpression).map oneLevel) = true ∧
    strictlyDecreasing ((altLevels ltlExpression).map oneLevel) = true ∧
    prefixPlacement stlExpression = true ∧ prefixPlacement ltlExpression = true := by
  decide +kernel

/-- Every lexer rule made of literals: all its spellings give one and the same model token. -/
theorem grammar_spellings :
    lexerLiterals.all (fun p => allSameSome (p.2.map lexOne)) = true :=
  grammar_obligations.1

/-- Different lexer rules give different model tokens. -/
theorem grammar_tokens_distinct :
    (lexerLiterals.map (fun p => ruleTok p.1)).Nodup :=
  grammar_obligations.2.1

/-- STL grammar: the binary alternatives are ordered by strictly decreasing model level. -/
theorem grammar_stl_binary_order : strictlyDecreasing ((altLevels stlExpression).map oneLevel) = true :=
  grammar_obligations.2.2.1

theorem grammar_ltl_binary_order : strictlyDecreasing ((altLevels ltlExpression).map oneLevel) = true :=
  grammar_obligations.2.2.2.1

theorem grammar_stl_prefix_placement : prefixPlacement stlExpression = true :=
  grammar_obligations.2.2.2.2.1

theorem grammar_ltl_prefix_placement : prefixPlacement ltlExpression = true :=
  grammar_obligations.2.2.2.2.2

end Rtamt.Front
