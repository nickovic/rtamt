/-
  The specification-level forwarding methods as translated from `rtamt/spec/abstract_specification.py`
  (`Rtamt/Py/GeneratedFwd.lean`, regenerated on every run) act as the mirror functions of `Rtamt/Py/Fwd.lean`:

  * `gen_spec_set_sampling_period` — `spec.set_sampling_period(p, u, t)` gives period, unit and tolerance to EVERY
    discrete-time interpreter the object owns (an `elif` between the two, or a forgotten argument, breaks it);
  * `gen_spec_violation_counter` — `spec.sampling_violation_counter` is the sum of the counters of the interpreters;
  * `gen_spec_ast_before_use` — over every sequence of `evaluate` / `update` / `final_update` / `reset` /
    `set_sampling_period` calls on a freshly constructed object (offline, online, or both interpreters), every call that
    reaches an interpreter finds it with its AST set (`set_ast` was called on *that* interpreter before): false for
    rtamt before commit fb5434f, where `evaluate()` and `update()` shared one flag (F54);
  * `gen_spec_reset_fresh_noop` — `reset()` before the first `update()` does nothing (C10: "harmless").
-/
import Rtamt.Py.GeneratedFwd
import RtamtProofs.SemBase

namespace Rtamt.Py.Fwd
open Rtamt Rtamt.Py

/- How a translated body runs: the equations of `callF`, `execFS`, `evalFE` and of what they call; a local written by
   `lset` is read through the lemmas below (unfolding `lset` would compute its filter by comparing strings). -/
attribute [local simp] callF execFS evalFE evalArgs lget List.lookup fvEq truthy callInterp attrInterp SpecObj.interp
  SpecObj.setInterp IKind.isa bind Except.bind pure Except.pure

@[local simp] theorem lookup_lset_same (x : String) (v : FV) (l : Locals) : List.lookup x (lset x v l) = some v :=
  List.lookup_cons_self

@[local simp] theorem lookup_lset_ne {x y : String} (h : y ≠ x) (v : FV) (l : Locals) :
    List.lookup y (lset x v l) = List.lookup y l :=
  Assoc.lookup_write_ne h v l

@[local simp] theorem lset_lset (x : String) (v w : FV) (l : Locals) : lset x v (lset x w l) = lset x v l := by
  simp [lset, List.filter_filter]

mutual
def FE.supported : FE → Bool
  | .unsupported _ => false
  | .callOf _ _ args => supportedL args
  | .orElse x y | .add x y | .ne x y | .eq x y => x.supported && y.supported
  | .lenOf x | .idx x _ => x.supported
  | .listOf xs => supportedL xs
  | _ => true
def supportedL : List FE → Bool
  | [] => true
  | e :: es => e.supported && supportedL es
end

def FS.supported : FS → Bool
  | .unsupported _ => false
  | .seq a b => a.supported && b.supported
  | .setLoc _ e | .setFlag _ e | .expr e | .ret e => e.supported
  | .ite c t e => c.supported && t.supported && e.supported
  | .forAppend _ xs _ => xs.supported
  | _ => true

theorem genFwd_supported :
    (Gen.Fwd.set_sampling_period.body.supported && Gen.Fwd.get_sampling_frequency.body.supported
      && Gen.Fwd.sampling_violation_counter.body.supported && Gen.Fwd.sampling_tolerance.body.supported
      && Gen.Fwd.evaluate.body.supported && Gen.Fwd.update.body.supported && Gen.Fwd.final_update.body.supported
      && Gen.Fwd.reset.body.supported) = true := by decide +kernel

/-- The flags as the constructors of the source initialise them. -/
def initFlagList : List (String × Bool) :=
  Gen.Fwd.initFlags.filterMap (fun p => p.2.2.map (fun b => (p.2.1, b)))

def fresh (on off : Option IKind) : SpecObj :=
  { online := on.map (fun k => { kind := k }), offline := off.map (fun k => { kind := k }), flags := initFlagList }

theorem initFlagList_eq : initFlagList = [("set_ast_flag", false), ("offline_set_ast_flag", false)] := rfl

/-- For any tolerance: `DiscreteTimeInterpreter.set_sampling_period` raises on one outside `[0, 1]`, so the call returns
    only with a good tolerance or when no discrete-time interpreter is reached. -/
theorem callF_set_sampling_period (o : SpecObj) (p : Rat) (u : TUnit) (t : Rat) :
    callF Gen.Fwd.set_sampling_period o [.rat p, .unit u, .rat t] =
      if (t < 0 ∨ t > 1) ∧ (o.online.any (·.kind.discrete) || o.offline.any (·.kind.discrete)) then .error .other
      else .ok (.none, o.setSampling p u t) := by
  obtain ⟨on, off, fl, lg⟩ := o
  rcases on with _ | i <;> rcases off with _ | j
  · simp [Gen.Fwd.set_sampling_period, SpecObj.setSampling]
  · cases hk : j.kind.discrete
    case true => by_cases hn : t < 0 ∨ t > 1 <;>
      simp [Gen.Fwd.set_sampling_period, hk, hn, Interp.setSampling, SpecObj.setSampling]
    simp [Gen.Fwd.set_sampling_period, hk, SpecObj.setSampling]
  · cases hk : i.kind.discrete
    case true => by_cases hn : t < 0 ∨ t > 1 <;>
      simp [Gen.Fwd.set_sampling_period, hk, hn, Interp.setSampling, SpecObj.setSampling]
    simp [Gen.Fwd.set_sampling_period, hk, SpecObj.setSampling]
  · cases hk : i.kind.discrete <;> cases hj : j.kind.discrete
    case false.false => simp [Gen.Fwd.set_sampling_period, hk, hj, SpecObj.setSampling]
    all_goals by_cases hn : t < 0 ∨ t > 1 <;>
      simp [Gen.Fwd.set_sampling_period, hk, hj, hn, Interp.setSampling, SpecObj.setSampling]

theorem gen_spec_set_sampling_period (o : SpecObj) (p : Rat) (u : TUnit) (t : Rat) (h0 : 0 ≤ t) (h1 : t ≤ 1) :
    callF Gen.Fwd.set_sampling_period o [.rat p, .unit u, .rat t] = .ok (.none, o.setSampling p u t) := by
  rw [callF_set_sampling_period, if_neg fun h => h.1.elim (Rat.not_lt.mpr h0) (Rat.not_lt.mpr h1)]

/-- `spec.sampling_violation_counter`: `None` without a discrete-time interpreter, else the sum. -/
theorem gen_spec_violation_counter (o : SpecObj) :
    callF Gen.Fwd.sampling_violation_counter o [] =
      .ok ((match o.violations with | some n => FV.int n | Option.none => FV.none), o) := by
  obtain ⟨on, off, fl, lg⟩ := o
  cases on <;> cases off
  · simp [Gen.Fwd.sampling_violation_counter, SpecObj.violations]
  · rename_i i
    cases hk : i.kind.discrete <;>
      simp [Gen.Fwd.sampling_violation_counter, hk, SpecObj.violations]
  · rename_i i
    cases hk : i.kind.discrete <;>
      simp [Gen.Fwd.sampling_violation_counter, hk, SpecObj.violations]
  · rename_i i j
    cases hk : i.kind.discrete <;> cases hj : j.kind.discrete
    -- both counted: `counter or 0` is `counter`, whether it is 0 or not
    case true.true =>
      by_cases h0 : i.viol = 0 <;> simp [Gen.Fwd.sampling_violation_counter, hk, hj, h0, SpecObj.violations]
    all_goals simp [Gen.Fwd.sampling_violation_counter, hk, hj, SpecObj.violations]

/-- The calls of the specification-level API that reach an interpreter. -/
inductive Api
  | evaluate (args : List Nat)          -- `spec.evaluate(*args)`: the arguments are opaque
  | update (args : List Nat)
  | finalUpdate (args : List Nat)
  | reset
  | setSampling (p : Rat) (u : TUnit) (t : Rat)
  deriving Repr

def Api.call : Api → SpecObj → Except PyErr (FV × SpecObj)
  | .evaluate args, o => callF Gen.Fwd.evaluate o [.list (args.map .opaque)]
  | .update args, o => callF Gen.Fwd.update o [.list (args.map .opaque)]
  | .finalUpdate args, o => callF Gen.Fwd.final_update o [.list (args.map .opaque)]
  | .reset, o => callF Gen.Fwd.reset o []
  | .setSampling p u t, o => callF Gen.Fwd.set_sampling_period o [.rat p, .unit u, .rat t]

/-- A sequence of calls, all of which return. -/
def Api.run : List Api → SpecObj → Except PyErr SpecObj
  | [], o => .ok o
  | a :: rest, o => do
      let (_, o1) ← a.call o
      Api.run rest o1

/-- The flag of an interpreter is set only after `set_ast` reached that interpreter, and no recorded call found an
    interpreter without AST. -/
structure Inv (o : SpecObj) : Prop where
  on : o.flags.lookup "set_ast_flag" = some true → ∀ i, o.online = some i → i.hasAst = true
  off : o.flags.lookup "offline_set_ast_flag" = some true → ∀ i, o.offline = some i → i.hasAst = true
  log : ∀ e ∈ o.log, e.hasAst = true

theorem inv_fresh (on off : Option IKind) : Inv (fresh on off) := by
  refine ⟨?_, ?_, ?_⟩ <;> simp [fresh, initFlagList_eq]

theorem lookup_setflag_eq (fl : List (String × Bool)) (f : String) (b : Bool) :
    List.lookup f ((f, b) :: fl.filter (fun p => p.1 != f)) = some b := by
  simp

theorem Inv.logged {o : SpecObj} (h : Inv o) {e : Event} (he : e.hasAst = true) : Inv { o with log := e :: o.log } :=
  ⟨h.on, h.off, fun _ he' => (List.mem_cons.mp he').elim (· ▸ he) (h.log _)⟩

theorem callF_ok {m : FMethod} {o o' : SpecObj} {args : List FV} {v : FV} (hc : callF m o args = .ok (v, o')) :
    ∃ l r, execFS m.body o (m.params.zip args) = .ok (o', l, r) := by
  simp only [callF, bind, Except.bind] at hc
  split at hc
  · cases hc
  · split at hc
    · cases hc
    · rename_i x hx
      cases hc
      exact ⟨_, _, hx⟩

/-- `evaluate`, `update` and `final_update` all begin with `if self.f != True: self.a.set_ast(self.ast); self.f = True`
    (a missing flag or interpreter is an `AttributeError`): when the rest of the body runs, interpreter `a` has its
    AST. -/
theorem exec_setAstOnce {f a : String}
    (hfa : f = "set_ast_flag" ∧ a = "online_interpreter" ∨ f = "offline_set_ast_flag" ∧ a = "offline_interpreter")
    {tail : FS} {o : SpecObj} {l : Locals} {r : SpecObj × Locals × Option FV} (h : Inv o)
    (hc : execFS (.seq (.ite (.ne (.flag f) .true_) (.seq (.expr (.callOf a "set_ast" [.selfAst])) (.setFlag f .true_))
      .skip) tail) o l = .ok r) :
    ∃ o1, Inv o1 ∧ (∀ i, o1.interp a = .ok (some i) → i.hasAst = true) ∧ execFS tail o1 l = .ok r := by
  obtain ⟨hon, hoff, hlog⟩ := h
  obtain ⟨on, off, fl, lg⟩ := o
  simp only at hon hoff hlog
  rcases hb : fl.lookup f with _ | b
  · simp [hb] at hc
  rcases hfa with ⟨rfl, rfl⟩ | ⟨rfl, rfl⟩ <;> cases b
  · cases on <;> simp [hb] at hc
    refine ⟨_, ⟨fun _ _ hi => ?_, fun hf => hoff ?_, hlog⟩, fun _ hi => ?_, hc⟩
    · exact Option.some.inj hi ▸ rfl
    · rwa [Assoc.lookup_write_ne (by simp)] at hf
    · exact Option.some.inj (Except.ok.inj hi) ▸ rfl
  · simp [hb] at hc
    exact ⟨⟨on, off, fl, lg⟩, ⟨hon, hoff, hlog⟩, fun i hi => hon hb i (Except.ok.inj hi), hc⟩
  · cases off <;> simp [hb] at hc
    refine ⟨_, ⟨fun hf => hon ?_, fun _ _ hi => ?_, hlog⟩, fun _ hi => ?_, hc⟩
    · rwa [Assoc.lookup_write_ne (by simp)] at hf
    · exact Option.some.inj hi ▸ rfl
    · exact Option.some.inj (Except.ok.inj hi) ▸ rfl
  · simp [hb] at hc
    exact ⟨⟨on, off, fl, lg⟩, ⟨hon, hoff, hlog⟩, fun i hi => hoff hb i (Except.ok.inj hi), hc⟩

theorem add_two_ne_zero_one (n : Nat) : ¬ ((n : Int) + 1 + 1 = 0) ∧ ¬ ((n : Int) + 1 + 1 = 1) := by omega

/-- `if len(args) == 0: raise … elif len(args) == 1: dataset = [args[0]] else: dataset = []; for i in args: dataset.append(i)`
    (`evaluate`, `update`, `final_update`). -/
abbrev packArgs : FS :=
  .ite (.eq (.lenOf (.loc "args")) (.int 0)) (.raise_ false)
    (.ite (.eq (.lenOf (.loc "args")) (.int 1)) (.setLoc "dataset" (.listOf [.idx (.loc "args") 0]))
      (.seq (.setLoc "dataset" .emptyList) (.forAppend "i" (.loc "args") "dataset")))

/-- The argument block never touches the object: it raises on no argument and else binds `dataset` to the arguments. -/
theorem exec_packArgs (o : SpecObj) (l : Locals) (vs : List FV) (hl : l.lookup "args" = some (.list vs)) :
    execFS packArgs o l = if vs = [] then .error .other else .ok (o, lset "dataset" (.list vs) l, none) := by
  rcases vs with _ | ⟨a, _ | ⟨b, rest⟩⟩ <;> simp [hl, add_two_ne_zero_one]

theorem inv_evaluate (o : SpecObj) (args : List Nat) (h : Inv o) (v : FV) (o' : SpecObj)
    (hc : (Api.evaluate args).call o = .ok (v, o')) : Inv o' := by
  obtain ⟨l', r, hc⟩ := callF_ok (m := Gen.Fwd.evaluate) (args := [_]) hc
  obtain ⟨⟨on, off, fl, lg⟩, h1, hA, hc⟩ := exec_setAstOnce (.inr ⟨rfl, rfl⟩) h hc
  cases off with
  | none => simp at hc
  | some i =>
      have hi := hA i (by simp)
      cases hk : i.kind
      case denseOffline =>
        cases args <;> simp [Gen.Fwd.evaluate, hk, ↓exec_packArgs] at hc
        exact hc.1 ▸ h1.logged hi
      case discreteOffline =>
        cases args <;> simp [Gen.Fwd.evaluate, hk] at hc
        exact hc.1 ▸ h1.logged hi
      -- an interpreter of neither offline class: `evaluate` raises
      all_goals simp [hk] at hc

theorem inv_update (o : SpecObj) (args : List Nat) (h : Inv o) (v : FV) (o' : SpecObj)
    (hc : (Api.update args).call o = .ok (v, o')) : Inv o' := by
  obtain ⟨l', r, hc⟩ := callF_ok (m := Gen.Fwd.update) (args := [_]) hc
  obtain ⟨⟨on, off, fl, lg⟩, h1, hA, hc⟩ := exec_setAstOnce (.inl ⟨rfl, rfl⟩) h hc
  cases on with
  | none => simp at hc
  | some i =>
      have hi := hA i (by simp)
      cases hk : i.kind
      case denseOnline =>
        cases args <;> simp [Gen.Fwd.update, hk, ↓exec_packArgs] at hc
        exact hc.1 ▸ h1.logged hi
      case discreteOnline =>
        rcases args with _ | ⟨a, _ | ⟨b, rest⟩⟩ <;> simp [Gen.Fwd.update, hk] at hc
        exact hc.1 ▸ h1.logged hi
      -- on an interpreter of neither online class `update` falls through and returns `None`
      all_goals
        simp [Gen.Fwd.update, hk] at hc
        exact hc.1 ▸ h1

theorem inv_finalUpdate (o : SpecObj) (args : List Nat) (h : Inv o) (v : FV) (o' : SpecObj)
    (hc : (Api.finalUpdate args).call o = .ok (v, o')) : Inv o' := by
  obtain ⟨l', r, hc⟩ := callF_ok (m := Gen.Fwd.final_update) (args := [_]) hc
  obtain ⟨⟨on, off, fl, lg⟩, h1, hA, hc⟩ := exec_setAstOnce (.inl ⟨rfl, rfl⟩) h hc
  cases on with
  | none =>
      cases args <;> simp [Gen.Fwd.final_update, ↓exec_packArgs] at hc
  | some i =>
      have hi := hA i (by simp)
      cases args <;>
        simp [Gen.Fwd.final_update, ↓exec_packArgs] at hc <;>
        (obtain ⟨rfl, _⟩ := hc; exact h1.logged hi)

theorem inv_reset (o : SpecObj) (h : Inv o) (v : FV) (o' : SpecObj)
    (hc : Api.reset.call o = .ok (v, o')) : Inv o' := by
  obtain ⟨on, off, fl, lg⟩ := o
  rcases hb : fl.lookup "set_ast_flag" with _ | b
  · simp [Api.call, Gen.Fwd.reset, hb] at hc
  cases b
  · -- flag not yet set: `reset` returns at once
    simp [Api.call, Gen.Fwd.reset, hb] at hc
    exact hc.2 ▸ h
  · -- flag set: the online interpreter has its AST
    cases on <;> simp [Api.call, Gen.Fwd.reset, hb] at hc
    exact hc.2 ▸ h.logged (h.on hb _ rfl)

/-- `reset()` before the first `update()` does nothing at all (C10: "calling reset() before the first update is harmless"). -/
theorem gen_spec_reset_fresh_noop (on off : Option IKind) :
    Api.reset.call (fresh on off) = .ok (.none, fresh on off) := by
  simp [Api.call, Gen.Fwd.reset, fresh, initFlagList_eq]

theorem inv_setSampling (o : SpecObj) (p : Rat) (u : TUnit) (t : Rat) (h : Inv o) (v : FV) (o' : SpecObj)
    (hc : (Api.setSampling p u t).call o = .ok (v, o')) : Inv o' := by
  rw [Api.call, callF_set_sampling_period] at hc
  split at hc
  · cases hc
  obtain ⟨_, rfl⟩ := Prod.mk.inj (Except.ok.inj hc)
  obtain ⟨hon, hoff, hlog⟩ := h
  have keep (j : Interp) : (if j.kind.discrete then j.setSampling p u t else j).hasAst = j.hasAst := by split <;> rfl
  refine ⟨fun hb i hi => ?_, fun hb i hi => ?_, hlog⟩
  · obtain ⟨j, hj, rfl⟩ := Option.map_eq_some_iff.mp hi
    exact (keep j).trans (hon hb j hj)
  · obtain ⟨j, hj, rfl⟩ := Option.map_eq_some_iff.mp hi
    exact (keep j).trans (hoff hb j hj)

theorem inv_call (a : Api) (o : SpecObj) (h : Inv o) (v : FV) (o' : SpecObj) (hc : a.call o = .ok (v, o')) : Inv o' := by
  cases a with
  | evaluate args => exact inv_evaluate o args h v o' hc
  | update args => exact inv_update o args h v o' hc
  | finalUpdate args => exact inv_finalUpdate o args h v o' hc
  | reset => exact inv_reset o h v o' hc
  | setSampling p u t => exact inv_setSampling o p u t h v o' hc

theorem inv_run (cs : List Api) : ∀ (o o' : SpecObj), Inv o → Api.run cs o = .ok o' → Inv o' := by
  induction cs with
  | nil => intro o o' h hr; simp [Api.run] at hr; subst hr; exact h
  | cons a rest ih =>
      intro o o' h hr
      simp only [Api.run, bind, Except.bind] at hr
      cases hc : a.call o with
      | error e => simp [hc] at hr
      | ok r =>
          obtain ⟨v, o1⟩ := r
          simp only [hc] at hr
          exact ih o1 o' (inv_call a o h v o1 hc) hr

/-- **Every interpreter has its AST before it is used**: on a freshly constructed specification object that owns an
    offline interpreter, an online interpreter or both (of any of the four classes), after ANY sequence of
    `evaluate` / `update` / `final_update` / `reset` / `set_sampling_period` calls that return, every call that reached
    an interpreter found it with `set_ast` already called on that interpreter.  (False for rtamt before commit fb5434f:
    `evaluate()` and `update()` shared one flag, F54.) -/
theorem gen_spec_ast_before_use (on off : Option IKind) (cs : List Api) (o' : SpecObj)
    (hr : Api.run cs (fresh on off) = .ok o') : ∀ e ∈ o'.log, e.hasAst = true :=
  (inv_run cs _ _ (inv_fresh on off) hr).log

/-- Non-vacuity: on the class that owns both interpreters, `evaluate`, `update`, `reset`, `evaluate` all return, and each
    of the four calls reaches an interpreter. -/
example : (Api.run [.evaluate [7], .update [0, 8], .reset, .evaluate [9]]
    (fresh (some .discreteOnline) (some .discreteOffline))).toOption.map (fun o => o.log.length) = some 4 := by
  decide +kernel

section interp
open Rtamt.Py
variable {α : Type} [Val α]

/-- `DiscreteTimeInterpreter.set_sampling_period(p, u, t)` as translated from the source: with a tolerance in `[0, 1]` it
    assigns the three attributes (the effect `callInterp` gives the forwarded call). -/
theorem gen_interp_set_sampling_period (st : Store α) (p : Rat) (u : String) (t : Rat) (h0 : 0 ≤ t) (h1 : t ≤ 1) :
    call (α := α) Gen.Fwd.interp_set_sampling_period st [.rat p, .str u, .rat t]
      = .ok (setKey "sampling_tolerance" (.rat t) (setKey "sampling_period_unit" (.str u) (setKey "sampling_period" (.rat p) st)),
             .none) := by
  have hlt : decide (t < 0) = false := by simpa using Rat.not_lt.mpr h0
  have hgt : decide (1 < t) = false := by simpa using Rat.not_lt.mpr h1
  py_simp [Gen.Fwd.interp_set_sampling_period, ratOf, hlt, hgt]

/-- … and with a tolerance outside `[0, 1]` it raises `Exception` (`callInterp` gives the forwarded call this outcome too). -/
theorem gen_interp_set_sampling_period_rejects (st : Store α) (p : Rat) (u : String) (t : Rat) (h : t < 0 ∨ 1 < t) :
    call (α := α) Gen.Fwd.interp_set_sampling_period st [.rat p, .str u, .rat t] = .error .other := by
  have hor : (decide (t < 0) || decide (1 < t)) = true := by simpa using h
  py_simp [Gen.Fwd.interp_set_sampling_period, ratOf, hor]

end interp

end Rtamt.Py.Fwd
