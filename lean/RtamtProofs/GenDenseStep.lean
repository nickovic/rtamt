/-
  The simp set `dn_step` for `RtamtProofs/GenDense*.lean`: the equations of the semantics of `Rtamt/Py/Dn.lean`
  (`exec`, `evalE`), reading a local that was just assigned, and the exception monad.  It runs a piece of translated code
  on an environment built by `setLoc`; the full simp set does the same at several times the work.
-/
import Lean.Meta.Tactic.Simp.RegisterCommand

register_simp_attr dn_step

/-- `dn_step [h₁, …]`: rewrite with the set `dn_step` and the given facts; names of locals are compared by
    `String.reduceEq`, constructors of values by `reduceCtorEq`. -/
macro "dn_step" "[" ls:Lean.Parser.Tactic.simpLemma,* "]" : tactic =>
  `(tactic| simp only [dn_step, String.reduceEq, reduceCtorEq, $ls,*])
