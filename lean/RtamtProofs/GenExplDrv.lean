/-
  The driver of the explainer as translated from the Python source denotes the hand-written driver.

  `Rtamt/Py/GeneratedExplDrv.lean` is produced on every run by `harness/py2lean.py` (`generate_expl_driver`) from
  `rtamt/explanation/ltl/discrete_time/explainer.py` (`Explanations.__setitem__`, `LTLExplainer.explain`),
  `rtamt/explanation/stl/discrete_time/explainer.py` (`STLExplainer.explain`) and `rtamt/spec/abstract_specification.py`
  (`AbstractOfflineSpecification.explain`); `Rtamt/Py/ExplDrv.lean` gives the terms their meaning and
  `Rtamt/Py/RunExplDrv.lean` runs them on top of the translated visit methods and explanation functions (`explainG`).

    * `genExplDrv_setitem`  - the translated `__setitem__` is `recordU` (`Rtamt/Discrete/ExplainDrv.lean`): first record stored,
                              a later one merged by `interval_union` (the translated function, `fn_interval_union_ltl`);
    * `genExplDrv_explain`  - the translated `explain()` from ANY earlier state of the explainer is the hand-written driver: a
                              fresh container, the assertions of the loop's iterable that are violated at time 0 visited in order
                              from `[[0, 0]]` / `False` (`genExplDrv_explain_of_all` / `_of_last`: the two iterables the
                              translator knows, `self.spec.specs` and `self.spec.specs[-1:]`; the source has the second, F61);
    * `genExplDrv_spec_explain`, `genExplDrv_supported`;
    * `C20_sufficient_translated_driver_partial` - `C20_sufficient_translated_partial` restated for the run of the driver.

  A change of the source changes the generated terms and these equalities have to be re-proved by the build.
-/
import RtamtProofs.GenExpl
import Rtamt.Py.RunExplDrv

namespace Rtamt.Py.Drv
open Rtamt Rtamt.Py Val

variable {α : Type} [Val α]

/-- The container of the mirror (`Nat`) as the dictionary of the run (`int`). -/
def castD (d : List (String × Ivs)) : Dict := d.map (fun p => (p.1, castI p.2))

theorem castD_lookup (d : List (String × Ivs)) (x : String) :
    (castD d).lookup x = (d.lookup x).map castI := by
  induction d with
  | nil => rfl
  | cons p r ih =>
    obtain ⟨k, v⟩ := p
    simp only [castD, List.map_cons, List.lookup]
    cases x == k
    · exact ih
    · rfl

theorem castD_dictSet (d : List (String × Ivs)) (x : String) (I : Ivs) :
    setKey x (castI I) (castD d) = castD (dictSet x I d) := by
  induction d with
  | nil => rfl
  | cons p r ih =>
    obtain ⟨k, v⟩ := p
    simp only [castD, List.map_cons, setKey, dictSet]
    cases k == x
    · simp only [Bool.false_eq_true, ite_false, List.map_cons]
      congr 1
    · simp only [ite_true, List.map_cons]

theorem callGlobal_fn (ctx : Ctx α) (f : String) (hf : f ≠ "Explanations") (vs : List (DV α)) (w : World α) :
    callGlobal ctx f vs w = (do
      let as ← vs.mapM toV
      let r ← callFn ctx.funcs f as
      pure (← fromV r, w)) := by
  unfold callGlobal
  split
  · exact absurd rfl hf
  · rfl

/-- `interval_union(..)` inside `__setitem__`: the function translated from `explanations.py`. -/
theorem callGlobal_union (w : World α) (J : Ivs) :
    callGlobal (ctx0 (α := α)) "interval_union" [.ivs (castI J)] w = .ok (.ivs (castI (unionIvs J)), w) := by
  have h : callFn (α := α) Gen.Expl.ltlFuncs "interval_union" [encZ (castI J)] = .ok (encI (unionIvs J)) :=
    callFn_of (by decide +kernel) (fn_interval_union_ltl J)
  rw [callGlobal_fn _ _ (by simp)]
  simp only [List.mapM_cons, List.mapM_nil, toV, bind, Except.bind, pure, Except.pure, ctx0, h, fromV, ivsOf_encI, Except.map]

/-- World `w` with the `i`-th `Explanations` object holding `d`. -/
def withDict (w : World α) (i : Nat) (d : List (String × Ivs)) : World α :=
  { w with dicts := w.dicts.set i (castD d) }

theorem execDS_seq_of (ctx : Ctx α) (a b : DS) (s s' : World α × Locals α) (h : execDS ctx a s = .ok s') :
    execDS ctx (.seq a b) s = execDS ctx b s' := by
  rw [execDS, h]; rfl

theorem execDS_skip (ctx : Ctx α) (s : World α × Locals α) : execDS ctx .skip s = .ok s := by
  rw [execDS]

theorem execDS_ite_of (ctx : Ctx α) (c : DE) (t e : DS) (w : World α) (loc : Locals α) (b : Bool)
    (h : evalDE w loc c = .ok (.bool b)) :
    execDS ctx (.ite c t e) (w, loc) = if b then execDS ctx t (w, loc) else execDS ctx e (w, loc) := by
  rw [execDS]
  simp only [h, bind, Except.bind]
  cases b <;> rfl

theorem execDS_setLoc_of (ctx : Ctx α) (x : String) (r : DR) (w w1 : World α) (loc : Locals α) (v : DV α)
    (h : evalDR ctx w loc r = .ok (v, w1)) :
    execDS ctx (.setLoc x r) (w, loc) = .ok (w1, setKey x v loc) := by
  rw [execDS]
  simp only [h, bind, Except.bind, pure, Except.pure]

theorem execDS_expr_of (ctx : Ctx α) (r : DR) (w w1 : World α) (loc : Locals α) (v : DV α)
    (h : evalDR ctx w loc r = .ok (v, w1)) :
    execDS ctx (.expr r) (w, loc) = .ok (w1, loc) := by
  rw [execDS]
  simp only [h, bind, Except.bind, pure, Except.pure]

theorem execDS_setAttr_of (ctx : Ctx α) (e : DE) (a : String) (r : DR) (w w1 w2 : World α) (loc : Locals α) (v o : DV α)
    (h : evalDR ctx w loc r = .ok (v, w1)) (ho : evalDE w1 loc e = .ok o) (hw : setAttrV w1 o a v = .ok w2) :
    execDS ctx (.setAttr e a r) (w, loc) = .ok (w2, loc) := by
  rw [execDS]
  simp only [h, ho, hw, bind, Except.bind, pure, Except.pure]

theorem evalDR_pure_of (ctx : Ctx α) (w : World α) (loc : Locals α) (e : DE) (v : DV α) (h : evalDE w loc e = .ok v) :
    evalDR ctx w loc (.pure e) = .ok (v, w) := by
  rw [evalDR]
  simp only [h, bind, Except.bind, pure, Except.pure]

theorem exec_store (ctx : Ctx α) (w : World α) (loc : Locals α) (i : Nat) (x : String) (J : Ivs) (d : List (String × Ivs))
    (hd : w.dicts[i]? = some (castD d)) (hs : getKey "self" loc = .ok (.dictRef i)) (hk : getKey "key" loc = .ok (.str x))
    (hI : getKey "intervals" loc = .ok (.ivs (castI J))) :
    execDS ctx (.expr (.methG "dict" "__setitem__" [.loc "self", .loc "key", .loc "intervals"])) (w, loc)
      = .ok (withDict w i (dictSet x J d), loc) := by
  apply execDS_expr_of (v := .none)
  simp only [evalDR, List.mapM_cons, List.mapM_nil, evalDE, hs, hk, hI, bind, Except.bind, pure, Except.pure,
    callMethG, hd, castD_dictSet]
  rfl

/-- `[list(i) for i in it]`: a copy of the interval list `it`. -/
theorem evalDE_comp_copy (w : World α) (loc : Locals α) (it : DE) (l : IvsZ) (h : evalDE w loc it = .ok (.ivs l)) :
    evalDE w loc (.comp (.listOf (.loc "i")) "i" it) = .ok (.ivs l) := by
  have hi : ∀ p : Int × Int,
      (do asIv (← evalDE w (setKey "i" (.iv p.1 p.2) loc) (.listOf (.loc "i")))) = (.ok p : Except PyErr (Int × Int)) := by
    intro p
    simp only [evalDE, getKey_setKey_same, bind, Except.bind, pure, Except.pure, asIv]
  rw [evalDE, h]
  simp only [hi]
  simp only [mapM_ok (fun p : Int × Int => p), List.map_id', bind, Except.bind, pure, Except.pure]

/-- `Explanations.__setitem__` as translated from the source is the hand-written record function `recordU`: on the object
    `i` of the heap holding `d`, `d[x] = I` leaves `recordU d x I` there and changes nothing else. -/
theorem genExplDrv_setitem (w : World α) (i : Nat) (d : List (String × Ivs)) (hd : w.dicts[i]? = some (castD d))
    (x : String) (I : Ivs) :
    callD ctx0 Gen.ExplDrv.setitem w [.dictRef i, .str x, .ivs (castI I)] = .ok (withDict w i (recordU d x I)) := by
  let loc0 : Locals α := [("self", .dictRef i), ("key", .str x), ("intervals", .ivs (castI I))]
  have hs : getKey "self" loc0 = .ok (.dictRef i) := rfl
  have hk : getKey "key" loc0 = .ok (.str x) := rfl
  have hI : getKey "intervals" loc0 = .ok (.ivs (castI I)) := rfl
  have hcond : evalDE w loc0 (.isIn (.loc "key") (.loc "self")) = .ok (.bool (d.lookup x).isSome) := by
    simp only [evalDE, hk, hs, bind, Except.bind, evalIn, hd, castD_lookup, Option.isSome_map]
  have hbody : ∃ loc', execDS ctx0 Gen.ExplDrv.setitem.body (w, loc0) = .ok (withDict w i (recordU d x I), loc') := by
    simp only [Gen.ExplDrv.setitem]
    cases hl : d.lookup x with
    | none =>
      refine ⟨loc0, ?_⟩
      rw [execDS_seq_of _ _ _ _ (w, loc0) (by
        rw [execDS_ite_of ctx0 _ _ _ _ _ _ hcond, hl]
        simp only [Option.isSome_none, Bool.false_eq_true, ite_false]
        exact execDS_skip ctx0 _)]
      rw [exec_store ctx0 w loc0 i x I d hd hs hk hI]
      simp only [recordU, hl]
    | some A =>
      have harg : evalDE w loc0 (.add (.comp (.listOf (.loc "i")) "i" (.idx (.loc "self") (.loc "key")))
          (.comp (.listOf (.loc "i")) "i" (.loc "intervals"))) = .ok (.ivs (castI (A ++ I))) := by
        have hold : evalDE w loc0 (.idx (.loc "self") (.loc "key")) = .ok (.ivs (castI A)) := by
          have hg : getKey x (castD d) = .ok (castI A) := by simp only [getKey, castD_lookup, hl, Option.map]
          simp only [evalDE, hs, hk, bind, Except.bind, evalIdxD, hd, hg, Except.map]
        rw [evalDE, evalDE_comp_copy w loc0 _ _ hold, evalDE_comp_copy w loc0 _ _ (show evalDE w loc0 (.loc "intervals") = _ from hI),
          ExplStl.castI_append]
        rfl
      have hcall : evalDR ctx0 w loc0 (.call "interval_union" [.add (.comp (.listOf (.loc "i")) "i" (.idx (.loc "self") (.loc "key")))
          (.comp (.listOf (.loc "i")) "i" (.loc "intervals"))]) = .ok (.ivs (castI (unionIvs (A ++ I))), w) := by
        rw [evalDR]
        simp only [List.mapM_cons, List.mapM_nil, harg, bind, Except.bind, pure, Except.pure, callGlobal_union]
      refine ⟨setKey "intervals" (.ivs (castI (unionIvs (A ++ I)))) loc0, ?_⟩
      rw [execDS_seq_of _ _ _ _ _ (by
        rw [execDS_ite_of ctx0 _ _ _ _ _ _ hcond, hl]
        simp only [Option.isSome_some, ite_true]
        exact execDS_setLoc_of ctx0 _ _ _ _ _ _ hcall)]
      rw [exec_store ctx0 w _ i x (unionIvs (A ++ I)) d hd (by rw [getKey_setKey_ne _ _ _ _ (by simp)]; exact hs)
        (by rw [getKey_setKey_ne _ _ _ _ (by simp)]; exact hk) (getKey_setKey_same _ _ _)]
      simp only [recordU, hl]
  obtain ⟨loc', hb⟩ := hbody
  unfold callD
  have hz : Gen.ExplDrv.setitem.params.zip [DV.dictRef (α := α) i, .str x, .ivs (castI I)] = loc0 := rfl
  rw [hz, hb]
  rfl

omit [Val α] in
theorem withDict_dicts (w : World α) (i : Nat) (d : List (String × Ivs)) (hi : i < w.dicts.length) :
    (withDict w i d).dicts[i]? = some (castD d) := by
  simp [withDict, hi]

omit [Val α] in
theorem withDict_withDict (w : World α) (i : Nat) (d d' : List (String × Ivs)) :
    withDict (withDict w i d) i d' = withDict w i d' := by
  simp [withDict, List.set_set]

omit [Val α] in
theorem withDict_length (w : World α) (i : Nat) (d : List (String × Ivs)) :
    (withDict w i d).dicts.length = w.dicts.length := by
  simp [withDict]

abbrev recStep (d : List (String × Ivs)) (p : String × Ivs) : List (String × Ivs) := recordU d p.1 p.2

theorem recordG_eq (w : World α) (i : Nat) (d : List (String × Ivs)) (hd : w.dicts[i]? = some (castD d))
    (he : getKey "explanations" w.explainer = .ok (.dictRef i)) (x : String) (I : Ivs) :
    recordG w x (castI I) = .ok (withDict w i (recordU d x I)) := by
  unfold recordG
  simp only [getAttr, he, bind, Except.bind]
  exact genExplDrv_setitem w i d hd x I

theorem visitG_eq (σ : String → Nat → α) (n : Nat) (hn : 0 < n) (W : World α) (i : Nat) (hi : i < W.dicts.length)
    (he : getKey "explanations" W.explainer = .ok (.dictRef i)) (φ : F α) (J : Ivs) (hJ : InRange n J) (f : Bool)
    (d : List (String × Ivs)) :
    visitG σ n (withDict W i d) φ (castI J) f =
      match explainU unionIvs σ n φ J f with
      | .ok ex => .ok (withDict W i (ex.foldl recStep d))
      | .error _ => .error .rtamt := by
  unfold visitG
  rw [genExpl_explain σ n hn φ J f hJ]
  cases explainU unionIvs σ n φ J f with
  | error e => rfl
  | ok ex =>
    simp only [liftEx, bind, Except.bind]
    rw [List.foldlM_map]
    obtain ⟨_, h, rfl⟩ := Loop.foldlM_inv (fun w (p : String × Ivs) => recordG w p.1 (castI p.2)) recStep
      (fun _ d w => w = withDict W i d) ex 0
      (fun j _ d w hw => ⟨_, by rw [hw, recordG_eq (withDict W i d) i d (withDict_dicts W i d hi) he, withDict_withDict], rfl⟩)
      d _ rfl
    exact h

/-- The body of the loop over the assertions, as it stands in the generated terms. -/
def loopBody : DS :=
  (.seq (.setLoc "top_signal" (.pure (.idx (.attr (.attr (.loc "self") "spec") "results") (.loc "spec"))))
    (.ite (.lt (.idx (.loc "top_signal") (.int 0)) (.int 0))
      (.expr (.meth (.loc "self") "visit" [(.loc "spec"), (.list2 (.list1 (.list2 (.int 0) (.int 0))) .false_)])) .skip))

/-- The two iterables of the loop the translator knows: all assertions / the last one only. -/
def itAll : DE := .attr (.attr (.loc "self") "spec") "specs"
def itLast : DE := .sliceFrom (.attr (.attr (.loc "self") "spec") "specs") (.neg (.int 1))

/-- `explain(self, spec)` as it stands in the generated terms (the same text in the two explainer classes), with the iterable of
    its loop `it`. -/
def explainTermOf (it : DE) : DMethod :=
  { params := ["self", "spec"],
    body := (.seq (.setAttr (.loc "self") "spec" (.pure (.loc "spec")))
      (.seq (.setAttr (.loc "self") "explanations" (.call "Explanations" []))
        (.forIn "spec" it loopBody))) }

/-- What the loop keeps: the explainer points to the AST and to its container `i`; the results are those of the evaluation. -/
structure LoopInv (σ : String → Nat → α) (n : Nat) (W : World α) (i : Nat) : Prop where
  res : W.results = fun ψ => (List.range n).map (rho σ n ψ)
  spec : getKey "spec" W.explainer = .ok (.ref .ast)
  expl : getKey "explanations" W.explainer = .ok (.dictRef i)
  lt : i < W.dicts.length

theorem ctx1_visit (σ : String → Nat → α) (n : Nat) (w : World α) (φ : F α) (I : IvsZ) (f : Bool) :
    (ctx1 σ n).meth .explainer "visit" [.node φ, .pair (.ivs I) (.bool f)] w =
      (visitG σ n w φ I f).map (fun w' => (.none, w')) := rfl

theorem body_step (σ : String → Nat → α) (n : Nat) (hn : 0 < n) (W : World α) (i : Nat) (inv : LoopInv σ n W i)
    (φ : F α) (d : List (String × Ivs)) (loc : Locals α) (hself : getKey "self" loc = .ok (.ref .explainer)) :
    ∃ loc', getKey "self" loc' = .ok (.ref .explainer) ∧
      execDS (ctx1 σ n) loopBody (withDict W i d, setKey "spec" (.node φ) loc) =
        match explainSpecU σ n φ with
        | .ok ex => .ok (withDict W i (ex.foldl recStep d), loc')
        | .error _ => .error .rtamt := by
  have hs1 : getKey "self" (setKey "spec" (.node φ) loc) = .ok (.ref .explainer) := by
    rw [getKey_setKey_ne _ _ _ _ (by simp)]; exact hself
  have hexp : (withDict W i d).explainer = W.explainer := rfl
  have hres : (withDict W i d).results = fun ψ => (List.range n).map (rho σ n ψ) := inv.res
  have htop : evalDE (withDict W i d) (setKey "spec" (.node φ) loc)
      (.idx (.attr (.attr (.loc "self") "spec") "results") (.loc "spec")) = .ok (.sig ((List.range n).map (rho σ n φ))) := by
    simp only [evalDE, hs1, getKey_setKey_same, bind, Except.bind, getAttr, hexp, inv.spec, evalIdxD, hres]
  refine ⟨setKey "top_signal" (.sig ((List.range n).map (rho σ n φ))) (setKey "spec" (.node φ) loc), ?_, ?_⟩
  · rw [getKey_setKey_ne _ _ _ _ (by simp)]; exact hs1
  have hcond : evalDE (withDict W i d) (setKey "top_signal" (.sig ((List.range n).map (rho σ n φ))) (setKey "spec" (.node φ) loc))
      (.lt (.idx (.loc "top_signal") (.int 0)) (.int 0)) = .ok (.bool (isUnsat (rho σ n φ 0))) := by
    have h0 : ((List.range n).map (rho σ n φ))[(0 : Int).toNat]? = some (rho σ n φ 0) := by
      simp [hn]
    simp only [evalDE, getKey_setKey_same, bind, Except.bind, evalIdxD, lt_self_iff_false, ite_false, h0, evalLt, isUnsat]
  unfold loopBody
  rw [execDS_seq_of _ _ _ _ _ (execDS_setLoc_of _ _ _ _ _ _ _ (evalDR_pure_of _ _ _ _ _ htop))]
  rw [execDS_ite_of _ _ _ _ _ _ _ hcond]
  unfold explainSpecU
  cases hv : isUnsat (rho σ n φ 0) with
  | false =>
    simp only [Bool.false_eq_true, ite_false]
    exact execDS_skip _ _
  | true =>
    simp only [ite_true]
    have hvis := visitG_eq σ n hn W i inv.lt inv.expl φ [(0, 0)] (inRange_single hn) false d
    rw [execDS]
    rw [evalDR]
    simp only [evalDE, List.mapM_cons, List.mapM_nil, bind, Except.bind, pure, Except.pure,
      getKey_setKey_ne "self" "top_signal" _ _ (by simp), hs1,
      getKey_setKey_ne "spec" "top_signal" _ _ (by simp), getKey_setKey_same, mkList2, mkList1]
    have hvis' : visitG σ n (withDict W i d) φ [((0 : Int), (0 : Int))] false = _ := hvis
    rw [ctx1_visit, hvis']
    cases explainU unionIvs σ n φ [(0, 0)] false <;> rfl

theorem loop_eq (σ : String → Nat → α) (n : Nat) (hn : 0 < n) (W : World α) (i : Nat) (inv : LoopInv σ n W i) :
    ∀ (specs : List (F α)) (d : List (String × Ivs)) (loc : Locals α), getKey "self" loc = .ok (.ref .explainer) →
      (specs.foldlM (fun s φ => execDS (ctx1 σ n) loopBody (s.1, setKey "spec" (.node φ) s.2)) (withDict W i d, loc)).map (·.1) =
        match explainRecordsU σ n specs with
        | .ok recs => .ok (withDict W i (recs.foldl recStep d))
        | .error _ => .error .rtamt
  | [], d, loc, _ => rfl
  | φ :: rest, d, loc, hself => by
    obtain ⟨loc', hl', hstep⟩ := body_step σ n hn W i inv φ d loc hself
    rw [List.foldlM_cons]
    dsimp only
    rw [hstep, explainRecordsU]
    cases hφ : explainSpecU σ n φ with
    | error e => rfl
    | ok ex =>
      simp only [bind, Except.bind]
      have ih := loop_eq σ n hn W i inv rest (ex.foldl recStep d) loc' hl'
      rw [ih]
      cases explainRecordsU σ n rest with
      | error e => rfl
      | ok recs => simp only [pure, Except.pure, List.foldl_append]

theorem callD_eq (ctx : Ctx α) (m : DMethod) (w : World α) (args : List (DV α)) (h : args.length = m.params.length) :
    callD ctx m w args = (execDS ctx m.body (w, m.params.zip args)).map (·.1) := by
  unfold callD
  simp only [h, ne_eq, not_true_eq_false, ite_false]
  cases execDS ctx m.body (w, m.params.zip args) <;> rfl

omit [Val α] in
theorem explanationsOf_withDict (W : World α) (i : Nat) (he : getKey "explanations" W.explainer = .ok (.dictRef i))
    (hi : i < W.dicts.length) (d : List (String × Ivs)) :
    explanationsOf (withDict W i d) = .ok (castD d) := by
  unfold explanationsOf
  have hexp : (withDict W i d).explainer = W.explainer := rfl
  simp only [getAttr, hexp, he, bind, Except.bind, withDict_dicts W i d hi]

/-- The world after the two assignments at the head of `explain()`: the explainer points to the AST and to a new, empty
    container; whatever container it pointed to before is out of reach. -/
def headWorld (σ : String → Nat → α) (n : Nat) (specs : List (F α)) (st : List (String × DV α)) (ds : List Dict) : World α :=
  { mkWorld σ n specs st ds with
    explainer := setKey "explanations" (.dictRef ds.length) (setKey "spec" (.ref .ast) st), dicts := ds ++ [[]] }

theorem headWorld_inv (σ : String → Nat → α) (n : Nat) (specs : List (F α)) (st : List (String × DV α)) (ds : List Dict) :
    LoopInv σ n (headWorld σ n specs st ds) ds.length :=
  ⟨rfl, by
    show getKey "spec" (setKey "explanations" _ (setKey "spec" _ st)) = _
    rw [getKey_setKey_ne _ _ _ _ (by simp), getKey_setKey_same],
   getKey_setKey_same _ _ _, by simp [headWorld]⟩

theorem headWorld_withDict (σ : String → Nat → α) (n : Nat) (specs : List (F α)) (st : List (String × DV α)) (ds : List Dict) :
    withDict (headWorld σ n specs st ds) ds.length [] = headWorld σ n specs st ds := by
  simp [withDict, headWorld, castD]

theorem explain_body (σ : String → Nat → α) (n : Nat) (hn : 0 < n) (specs : List (F α)) (st : List (String × DV α))
    (ds : List Dict) (args : Locals α) (hargs : args = [("self", .ref .explainer), ("spec", .ref .ast)])
    (it : DE) (sel : List (F α))
    (hit : evalDE (headWorld σ n specs st ds) [("self", DV.ref (α := α) .explainer), ("spec", .ref .ast)] it = .ok (.nodes sel)) :
    (execDS (ctx1 σ n) (explainTermOf it).body (mkWorld σ n specs st ds, args)).map (·.1) =
      match explainRecordsU σ n sel with
      | .ok recs => .ok (withDict (headWorld σ n specs st ds) ds.length (recs.foldl recStep []))
      | .error _ => .error .rtamt := by
  subst hargs
  have hself : getKey "self" [("self", DV.ref (α := α) .explainer), ("spec", .ref .ast)] = .ok (.ref .explainer) := rfl
  have h1 : execDS (ctx1 σ n) (.setAttr (.loc "self") "spec" (.pure (.loc "spec")))
      (mkWorld σ n specs st ds, [("self", .ref .explainer), ("spec", .ref .ast)]) =
      .ok ({ mkWorld σ n specs st ds with explainer := setKey "spec" (.ref .ast) st }, [("self", .ref .explainer), ("spec", .ref .ast)]) :=
    execDS_setAttr_of _ _ _ _ _ _ _ _ _ _ (evalDR_pure_of _ _ _ _ _ rfl) hself rfl
  have h2 : execDS (ctx1 σ n) (.setAttr (.loc "self") "explanations" (.call "Explanations" []))
      ({ mkWorld σ n specs st ds with explainer := setKey "spec" (.ref .ast) st }, [("self", .ref .explainer), ("spec", .ref .ast)]) =
      .ok (headWorld σ n specs st ds, [("self", .ref .explainer), ("spec", .ref .ast)]) :=
    execDS_setAttr_of _ _ _ _ _
      { mkWorld σ n specs st ds with explainer := setKey "spec" (.ref .ast) st, dicts := ds ++ [[]] } _ _
      (.dictRef ds.length) _ rfl hself rfl
  have inv := headWorld_inv σ n specs st ds
  unfold explainTermOf
  dsimp only
  rw [execDS_seq_of _ _ _ _ _ h1, execDS_seq_of _ _ _ _ _ h2, execDS]
  simp only [hit, bind, Except.bind]
  have := loop_eq σ n hn _ _ inv sel [] _ hself
  rw [headWorld_withDict] at this
  exact this

theorem eval_itAll (σ : String → Nat → α) (n : Nat) (specs : List (F α)) (st : List (String × DV α)) (ds : List Dict) :
    evalDE (headWorld σ n specs st ds) [("self", DV.ref (α := α) .explainer), ("spec", .ref .ast)] itAll = .ok (.nodes specs) := by
  have hself : getKey "self" [("self", DV.ref (α := α) .explainer), ("spec", .ref .ast)] = .ok (.ref .explainer) := rfl
  simp only [itAll, evalDE, hself, bind, Except.bind, getAttr, (headWorld_inv σ n specs st ds).spec]
  rfl

theorem eval_itLast (σ : String → Nat → α) (n : Nat) (specs : List (F α)) (st : List (String × DV α)) (ds : List Dict) :
    evalDE (headWorld σ n specs st ds) [("self", DV.ref (α := α) .explainer), ("spec", .ref .ast)] itLast
      = .ok (.nodes (lastSpec specs)) := by
  have h := eval_itAll σ n specs st ds
  unfold itAll at h
  rw [itLast, evalDE, h]
  simp only [evalDE, bind, Except.bind, pure, Except.pure]
  unfold lastSpec sliceIdx
  have : ((specs.length : Int) + -1).toNat = specs.length - 1 := by omega
  simp only [Int.reduceNeg, Int.neg_neg_iff_pos, Int.one_pos, ite_true, this]

/-- The translated `explain()` whose loop runs over `it`, `it` evaluating to the assertions `sel`. -/
theorem genExplDrv_explain_sel (σ : String → Nat → α) (n : Nat) (hn : 0 < n) (specs : List (F α))
    (st : List (String × DV α)) (ds : List Dict) (it : DE) (sel : List (F α))
    (hit : evalDE (headWorld σ n specs st ds) [("self", DV.ref (α := α) .explainer), ("spec", .ref .ast)] it = .ok (.nodes sel)) :
    explainDrvG σ n (explainTermOf it) (mkWorld σ n specs st ds) = liftEx (explainDriverU σ n sel) := by
  unfold explainDrvG
  rw [callD_eq _ _ _ _ rfl,
    explain_body σ n hn specs st ds ((explainTermOf it).params.zip [.ref .explainer, .ref .ast]) rfl it sel hit]
  unfold explainDriverU
  cases explainRecordsU σ n sel with
  | error e => rfl
  | ok recs =>
    have inv := headWorld_inv σ n specs st ds
    simp only [bind, Except.bind, pure, Except.pure, liftEx]
    exact explanationsOf_withDict _ _ inv.expl inv.lt _

/-- Loop over `self.spec.specs` (every assertion): if the generated `explain` is that text, its run from *any* state of the
    explainer object (`st`: whatever attributes earlier calls left, among them a container of earlier explanations) and of the
    heap (`ds`) leaves in `explainer.explanations` exactly the container of the hand-written driver: the records of the
    assertions violated at time 0, in order, merged per name by `recordU` starting from the empty container - or raises
    `RTAMTException` where the driver does. -/
theorem genExplDrv_explain_of_all (m : DMethod) (hm : m = explainTermOf itAll)
    (σ : String → Nat → α) (n : Nat) (hn : 0 < n) (specs : List (F α)) (st : List (String × DV α)) (ds : List Dict) :
    explainDrvG σ n m (mkWorld σ n specs st ds) = liftEx (explainDriverU σ n specs) := by
  subst hm; exact genExplDrv_explain_sel σ n hn specs st ds itAll specs (eval_itAll σ n specs st ds)

/-- Loop over `self.spec.specs[-1:]` (the main assertion only): the same with the driver run on the last assertion. -/
theorem genExplDrv_explain_of_last (m : DMethod) (hm : m = explainTermOf itLast)
    (σ : String → Nat → α) (n : Nat) (hn : 0 < n) (specs : List (F α)) (st : List (String × DV α)) (ds : List Dict) :
    explainDrvG σ n m (mkWorld σ n specs st ds) = liftEx (explainDriverLastU σ n specs) := by
  subst hm; exact genExplDrv_explain_sel σ n hn specs st ds itLast (lastSpec specs) (eval_itLast σ n specs st ds)

/-- `spec.explain()` as translated from the source: it hands the interpreter's `time_unit_transformer` to the explainer and
    calls `explainer.explain(ast)` - nothing else. -/
theorem genExplDrv_spec_explain_eq (σ : String → Nat → α) (n : Nat) (m : DMethod) (specs : List (F α))
    (st : List (String × DV α)) (ds : List Dict) :
    explainSpecnG σ n m (mkWorld σ n specs st ds) =
      explainDrvG σ n m (mkWorld σ n specs (setKey "time_unit_transformer" .tut st) ds) := by
  unfold explainSpecnG explainDrvG
  rw [callD_eq _ _ _ _ rfl]
  have hself : getKey "self" (Gen.ExplDrv.spec_explain.params.zip [DV.ref (α := α) .specification]) = .ok (.ref .specification) := rfl
  have h1 : execDS (ctx2 σ n m)
      (.setAttr (.attr (.loc "self") "explainer") "time_unit_transformer"
        (.pure (.attr (.attr (.loc "self") "offline_interpreter") "time_unit_transformer")))
      (mkWorld σ n specs st ds, Gen.ExplDrv.spec_explain.params.zip [.ref .specification]) =
      .ok (mkWorld σ n specs (setKey "time_unit_transformer" .tut st) ds, Gen.ExplDrv.spec_explain.params.zip [.ref .specification]) := by
    refine execDS_setAttr_of _ _ _ _ _ _ _ _ .tut (.ref .explainer) (evalDR_pure_of _ _ _ _ _ ?_) ?_ rfl
    · simp only [evalDE, hself, bind, Except.bind, getAttr]
    · simp only [evalDE, hself, bind, Except.bind, getAttr]
  have h2 : evalDR (ctx2 σ n m) (mkWorld σ n specs (setKey "time_unit_transformer" .tut st) ds)
      (Gen.ExplDrv.spec_explain.params.zip [.ref .specification])
      (.meth (.attr (.loc "self") "explainer") "explain" [(.attr (.loc "self") "ast")]) =
      (callD (ctx1 σ n) m (mkWorld σ n specs (setKey "time_unit_transformer" .tut st) ds) [.ref .explainer, .ref .ast]).map
        (fun w' => (.none, w')) := by
    rw [evalDR]
    simp only [evalDE, hself, bind, Except.bind, getAttr, List.mapM_cons, List.mapM_nil, pure, Except.pure]
    rfl
  simp only [Gen.ExplDrv.spec_explain] at h1 h2 hself ⊢
  rw [execDS_seq_of _ _ _ _ _ h1, execDS]
  rw [h2]
  cases callD (ctx1 σ n) m (mkWorld σ n specs (setKey "time_unit_transformer" DV.tut st) ds) [.ref .explainer, .ref .ast] <;> rfl

/-- Every method of the driver lies inside the translated subset, `Explanations` is a `dict` that overrides `__setitem__`
    and nothing else (so `key in self`, `self[key]`, `Explanations()` are those of `dict`), `STLExplainer` takes `explain` from
    its own body, and the two modules bind at top level what the semantics assumes (`interval_union` is the function of the LTL
    `explanations.py`; `Explanations` of the STL module is the class of the LTL module). -/
theorem genExplDrv_supported :
    ([Gen.ExplDrv.setitem, Gen.ExplDrv.ltl_explain, Gen.ExplDrv.stl_explain, Gen.ExplDrv.spec_explain].all
        (fun m => m.body.supported) = true) ∧
    Gen.ExplDrv.explanationsClass = (["dict"], ["__setitem__"]) ∧
    Gen.ExplDrv.ltlExplainerBases = ["LtlAstVisitor"] ∧
    Gen.ExplDrv.stlExplainerBases = ["LTLExplainer", "StlAstVisitor"] ∧
    Gen.ExplDrv.ltlModule =
      ["from rtamt.syntax.ast.visitor.ltl.ast_visitor import LtlAstVisitor",
       "from rtamt.exception.exception import RTAMTException",
       "from rtamt.explanation.ltl.discrete_time.explanations import *",
       "Explanations", "LTLExplainer"] ∧
    Gen.ExplDrv.stlModule =
      ["from rtamt.syntax.ast.visitor.stl.ast_visitor import StlAstVisitor",
       "from rtamt.explanation.ltl.discrete_time.explainer import LTLExplainer, Explanations",
       "from rtamt.explanation.stl.discrete_time.explanations import *",
       "from rtamt.exception.exception import RTAMTException",
       "STLExplainer"] :=
  ⟨by decide, rfl, rfl, rfl, rfl, rfl⟩

theorem reported_iff (ex : List (String × Ivs)) (x : String) (t : Nat) :
    reported ex x t = true ↔ ∃ p ∈ ex, p.1 = x ∧ covered p.2 t := by
  unfold reported covered
  simp only [List.any_eq_true, Bool.and_eq_true, beq_iff_eq, decide_eq_true_eq]

theorem mem_dictSet_self {β : Type} (k : String) (v : β) (d : List (String × β)) : (k, v) ∈ dictSet k v d := by
  induction d with
  | nil => simp [dictSet]
  | cons p r ih =>
    obtain ⟨k', v'⟩ := p
    simp only [dictSet]
    split
    · exact List.mem_cons_self ..
    · exact List.mem_cons_of_mem _ ih

theorem mem_dictSet_of_mem {β : Type} (k : String) (v : β) (d : List (String × β)) (p : String × β) (hp : p ∈ d) :
    p ∈ dictSet k v d ∨ (p.1 = k ∧ d.lookup k = some p.2) := by
  induction d with
  | nil => cases hp
  | cons q r ih =>
    obtain ⟨k', v'⟩ := q
    simp only [dictSet, List.lookup]
    by_cases hk : k' = k
    · subst hk
      simp only [beq_self_eq_true, ite_true]
      rcases List.mem_cons.1 hp with rfl | hp
      · exact Or.inr ⟨rfl, rfl⟩
      · exact Or.inl (List.mem_cons_of_mem _ hp)
    · have h1 : (k' == k) = false := by simpa using hk
      have h2 : (k == k') = false := by simpa using (Ne.symm hk)
      simp only [h1, h2, Bool.false_eq_true, ite_false]
      rcases List.mem_cons.1 hp with rfl | hp
      · exact Or.inl (List.mem_cons_self ..)
      · rcases ih hp with h | h
        · exact Or.inl (List.mem_cons_of_mem _ h)
        · exact Or.inr h

/-- A record only adds positions: what was reported stays reported (merged by `interval_union`, which covers the same
    positions), and the positions of the new record are reported. -/
theorem reported_recordU (d : List (String × Ivs)) (y : String) (I : Ivs) (x : String) (t : Nat)
    (h : reported d x t = true ∨ (y = x ∧ covered I t)) : reported (recordU d y I) x t = true := by
  rw [reported_iff]
  rcases h with h | ⟨rfl, hc⟩
  · obtain ⟨p, hp, hx, hc⟩ := (reported_iff d x t).1 h
    unfold recordU
    cases hl : d.lookup y with
    | none =>
      rcases mem_dictSet_of_mem y I d p hp with h' | ⟨_, h'⟩
      · exact ⟨p, h', hx, hc⟩
      · rw [hl] at h'; cases h'
    | some A =>
      rcases mem_dictSet_of_mem y (unionIvs (A ++ I)) d p hp with h' | ⟨hy, h'⟩
      · exact ⟨p, h', hx, hc⟩
      · rw [hl] at h'
        cases h'
        refine ⟨(y, unionIvs (p.2 ++ I)), mem_dictSet_self _ _ _, hy ▸ hx, ?_⟩
        rw [unionIvs_covered, covered_append]
        exact Or.inl hc
  · unfold recordU
    cases hl : d.lookup y with
    | none => exact ⟨(y, I), mem_dictSet_self _ _ _, rfl, hc⟩
    | some A =>
      refine ⟨(y, unionIvs (A ++ I)), mem_dictSet_self _ _ _, rfl, ?_⟩
      rw [unionIvs_covered, covered_append]
      exact Or.inr hc

theorem reported_fold (recs : List (String × Ivs)) (x : String) (t : Nat) :
    ∀ d : List (String × Ivs), (reported d x t = true ∨ reported recs x t = true) →
      reported (recs.foldl recStep d) x t = true := by
  induction recs with
  | nil =>
    intro d h
    rcases h with h | h
    · exact h
    · simp [reported] at h
  | cons p recs ih =>
    intro d h
    rw [List.foldl_cons]
    apply ih
    rw [show p :: recs = [p] ++ recs from rfl, reported_append, Bool.or_eq_true, ← or_assoc] at h
    refine h.imp_left fun h => reported_recordU d p.1 p.2 x t (h.imp_right fun h => ?_)
    obtain ⟨q, hq, hx, hc⟩ := (reported_iff _ x t).1 h
    cases List.mem_singleton.1 hq
    exact ⟨hx, hc⟩

theorem records_of_mem (σ : String → Nat → α) (n : Nat) (φ : F α) :
    ∀ (sel : List (F α)) (recs : List (String × Ivs)), φ ∈ sel → explainRecordsU σ n sel = .ok recs →
      ∃ ex, explainSpecU σ n φ = .ok ex ∧ ∀ x t, reported ex x t = true → reported recs x t = true
  | [], _, h, _ => by cases h
  | ψ :: rest, recs, hmem, hrun => by
    rw [explainRecordsU] at hrun
    cases hψ : explainSpecU σ n ψ with
    | error e => rw [hψ] at hrun; cases hrun
    | ok a =>
      cases hr : explainRecordsU σ n rest with
      | error e => rw [hψ, hr] at hrun; cases hrun
      | ok b =>
        rw [hψ, hr] at hrun
        have : recs = a ++ b := by cases hrun; rfl
        subst this
        rcases List.mem_cons.1 hmem with rfl | hmem
        · exact ⟨a, hψ, fun x t h => by rw [reported_append, h]; rfl⟩
        · obtain ⟨ex, hex, hsub⟩ := records_of_mem σ n φ rest b hmem hr
          exact ⟨ex, hex, fun x t h => by rw [reported_append, hsub x t h, Bool.or_true]⟩

/-- C20 on the mirror of the driver: the positions of the container are a sufficient cause of the violation of every assertion
    `explain()` visited. -/
theorem C20_driver_mirror [LawfulVal α] (hz : Val.neg (Val.zero : α) = Val.zero)
    (σ σ' : String → Nat → α) (n : Nat) (hn : 0 < n) (sel : List (F α)) (φ : F α) (hmem : φ ∈ sel)
    (hfrag : φ.explFrag = true) (D : Dict)
    (hrun : liftEx (explainDriverU σ n sel) = .ok D) (hviol : isUnsat (rho σ n φ 0) = true)
    (hagree : ∀ x t, reportedZ D x t = true → t < n → σ' x t = σ x t) :
    isUnsat (rho σ' n φ 0) = true := by
  unfold explainDriverU at hrun
  cases hr : explainRecordsU σ n sel with
  | error e => rw [hr] at hrun; cases hrun
  | ok recs =>
    rw [hr] at hrun
    have hD : D = (recs.foldl recStep []).map (fun p => (p.1, castI p.2)) := by
      simp only [bind, Except.bind, pure, Except.pure, liftEx] at hrun
      exact (Except.ok.inj hrun).symm
    subst hD
    obtain ⟨ex, hex, hsub⟩ := records_of_mem σ n φ sel recs hmem hr
    refine C20_sufficient_exact_partial hz σ σ' n hn φ hfrag ex hex hviol (fun x t hrep ht => hagree x t ?_ ht)
    rw [reportedZ_cast]
    exact reported_fold recs x t [] (Or.inr (hsub x t hrep))

-- (`hwf` is not needed, here and below: `explFrag` has `a ≤ b` at every bounded operator)
set_option linter.unusedVariables false in
/-- C20 (partial, fragment `explFrag`) for the run of a translated driver that loops over all assertions. -/
theorem C20_driver_of_all [LawfulVal α] (m : DMethod) (hm : m = explainTermOf itAll) (hz : Val.neg (Val.zero : α) = Val.zero)
    (σ σ' : String → Nat → α) (n : Nat) (hn : 0 < n) (specs : List (F α)) (st : List (String × DV α)) (ds : List Dict)
    (φ : F α) (hmem : φ ∈ specs) (hwf : φ.wf = true) (hfrag : φ.explFrag = true) (D : Dict)
    (hrun : explainDrvG σ n m (mkWorld σ n specs st ds) = .ok D) (hviol : isUnsat (rho σ n φ 0) = true)
    (hagree : ∀ x t, reportedZ D x t = true → t < n → σ' x t = σ x t) :
    isUnsat (rho σ' n φ 0) = true := by
  rw [genExplDrv_explain_of_all m hm σ n hn specs st ds] at hrun
  exact C20_driver_mirror hz σ σ' n hn specs φ hmem hfrag D hrun hviol hagree

set_option linter.unusedVariables false in
/-- The same for a translated driver that loops over the last assertion only: `φ` is that assertion. -/
theorem C20_driver_of_last [LawfulVal α] (m : DMethod) (hm : m = explainTermOf itLast) (hz : Val.neg (Val.zero : α) = Val.zero)
    (σ σ' : String → Nat → α) (n : Nat) (hn : 0 < n) (specs : List (F α)) (st : List (String × DV α)) (ds : List Dict)
    (φ : F α) (hmem : φ ∈ lastSpec specs) (hwf : φ.wf = true) (hfrag : φ.explFrag = true) (D : Dict)
    (hrun : explainDrvG σ n m (mkWorld σ n specs st ds) = .ok D) (hviol : isUnsat (rho σ n φ 0) = true)
    (hagree : ∀ x t, reportedZ D x t = true → t < n → σ' x t = σ x t) :
    isUnsat (rho σ' n φ 0) = true := by
  rw [genExplDrv_explain_of_last m hm σ n hn specs st ds] at hrun
  exact C20_driver_mirror hz σ σ' n hn (lastSpec specs) φ hmem hfrag D hrun hviol hagree

/-! ### the current source

  SWITCH.  Everything above holds for both iterables of the loop.  From here to the end of the file the statements are about the
  source itself, which has `for spec in self.spec.specs[-1:]:` in the two explainer.py files (`itLast`); `stl_explain_term` and
  `ltl_explain_term` fail to build if it has anything else.  With `for spec in self.spec.specs:` the same section holds with
  `explainTermOf itAll`, `genExplDrv_explain_of_all`, `liftEx (explainDriverU σ n specs)`, `C20_driver_of_all`, `(hmem : φ ∈ specs)`
  in the places of their `last` counterparts; `harness/switch_expl_driver.py` maps that form of the section to this one by these
  five replacements. -/

theorem stl_explain_term : Gen.ExplDrv.stl_explain = explainTermOf itLast := rfl
theorem ltl_explain_term : Gen.ExplDrv.ltl_explain = explainTermOf itLast := rfl

/-- `STLExplainer.explain` as translated from the source = the hand-written driver. -/
theorem genExplDrv_explain (σ : String → Nat → α) (n : Nat) (hn : 0 < n) (specs : List (F α))
    (st : List (String × DV α)) (ds : List Dict) :
    explainDrvG σ n Gen.ExplDrv.stl_explain (mkWorld σ n specs st ds) = liftEx (explainDriverLastU σ n specs) :=
  genExplDrv_explain_of_last _ stl_explain_term σ n hn specs st ds

/-- `LTLExplainer.explain` as translated from the source = the hand-written driver. -/
theorem genExplDrv_explain_ltl (σ : String → Nat → α) (n : Nat) (hn : 0 < n) (specs : List (F α))
    (st : List (String × DV α)) (ds : List Dict) :
    explainDrvG σ n Gen.ExplDrv.ltl_explain (mkWorld σ n specs st ds) = liftEx (explainDriverLastU σ n specs) :=
  genExplDrv_explain_of_last _ ltl_explain_term σ n hn specs st ds

/-- C20 (partial, fragment `explFrag`) for the run of the driver translated from the source: after `explain()` - run from any
    earlier state of the explainer - the positions in `explainer.explanations` are a sufficient cause of the violation of
    the main assertion (the last one, the only one `explain()` visits). -/
theorem C20_sufficient_translated_driver_partial [LawfulVal α] (hz : Val.neg (Val.zero : α) = Val.zero)
    (σ σ' : String → Nat → α) (n : Nat) (hn : 0 < n) (specs : List (F α)) (st : List (String × DV α)) (ds : List Dict)
    (φ : F α) (hmem : φ ∈ lastSpec specs) (hwf : φ.wf = true) (hfrag : φ.explFrag = true) (D : Dict)
    (hrun : explainDrvG σ n Gen.ExplDrv.stl_explain (mkWorld σ n specs st ds) = .ok D)
    (hviol : isUnsat (rho σ n φ 0) = true)
    (hagree : ∀ x t, reportedZ D x t = true → t < n → σ' x t = σ x t) :
    isUnsat (rho σ' n φ 0) = true :=
  C20_driver_of_last _ stl_explain_term hz σ σ' n hn specs st ds φ hmem hwf hfrag D hrun hviol hagree

/-- `spec.explain()` of the specification object, as translated, with the `STLExplainer`. -/
theorem genExplDrv_spec_explain (σ : String → Nat → α) (n : Nat) (hn : 0 < n) (specs : List (F α))
    (st : List (String × DV α)) (ds : List Dict) :
    explainSpecnG σ n Gen.ExplDrv.stl_explain (mkWorld σ n specs st ds) = liftEx (explainDriverLastU σ n specs) := by
  rw [genExplDrv_spec_explain_eq]; exact genExplDrv_explain σ n hn specs _ ds

end Rtamt.Py.Drv
