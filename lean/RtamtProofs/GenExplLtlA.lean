/-
  The functions of `rtamt/explanation/ltl/discrete_time/explanations.py`, as translated from the source
  (`Rtamt/Py/GeneratedExpl.lean`), compute the interval lists of the mirror (`Rtamt/Discrete/Explain.lean`):
  part A - the functions without a scan of the signal, and the two-operand scans
  (`explain_sat_or`, `explain_unsat_and`, `explain_sat_implies`).
-/
import RtamtProofs.GenExplSteps
import RtamtProofs.ExplRules
import RtamtProofs.Lemmas.Loop

namespace Rtamt.Py
open Rtamt Val ExplSteps

variable {α : Type} [Val α]

theorem fn_unary (s : List α) (I : Ivs) :
    call (α := α) Gen.Expl.ltl_explain_unary [] [.list s, encI I] = .ok ([], encI I) := by
  py_simp [Gen.Expl.ltl_explain_unary]

theorem fn_binary (s1 s2 : List α) (I : Ivs) :
    call (α := α) Gen.Expl.ltl_explain_binary [] [.list s1, .list s2, encI I] = .ok ([], .pair (encI I) (encI I)) := by
  py_simp [Gen.Expl.ltl_explain_binary]

namespace LtlA

theorem evalUn_truthy_bool (b : Bool) : evalUn (α := α) .truthy (.bool b) = .ok (.bool b) := rfl
theorem evalUn_not_bool (b : Bool) : evalUn (α := α) .not (.bool b) = .ok (.bool (!b)) := rfl

omit [Val α] in
/-- A loop over an interval list with a ghost state. -/
theorem foldlM_castI_inv {τ : Type} (f : Env α → Int × Int → Except PyErr (Env α)) (R : τ → Env α → Prop)
    (upd : τ → Nat × Nat → τ) (I : Ivs)
    (hstep : ∀ t env p, p ∈ I → R t env → ∃ env', f env ((p.1 : Int), (p.2 : Int)) = .ok env' ∧ R (upd t p) env') :
    ∀ t env, R t env → ∃ env', (castI I).foldlM f env = .ok env' ∧ R (I.foldl upd t) env' := by
  intro t env h
  rw [castI, List.foldlM_map]
  exact Loop.foldlM_inv _ upd (fun _ => R) I 0 (fun j hj t env => hstep t env _ (List.getElem_mem hj)) t env h

theorem foldl_append_castI (G : Ivs → Ivs) (hG : ∀ p I, G (p :: I) = G [p] ++ G I) (h0 : G [] = []) :
    ∀ (I : Ivs) (acc : IvsZ), I.foldl (fun acc p => acc ++ castI (G [p])) acc = acc ++ castI (G I) := by
  intro I
  induction I with
  | nil => intro acc; simp [h0, castI]
  | cons p I ih => intro acc; rw [List.foldl_cons, ih, hG p I]; simp [castI]

/-- `for i in range(a, a + n)` with a ghost state. -/
theorem foldlM_range_sim {σ τ : Type} (f : σ → Nat → Except PyErr σ) (g : τ → Nat → τ) (R : Nat → σ → τ → Prop)
    (n a : Nat) (s : σ) (t : τ) (h0 : R a s t)
    (hstep : ∀ k s t, a ≤ k → k < a + n → R k s t → ∃ s', f s k = .ok s' ∧ R (k + 1) s' (g t k)) :
    ∃ s', (List.range' a n).foldlM f s = .ok s' ∧ R (a + n) s' ((List.range' a n).foldl g t) := by
  have := Loop.foldlM_inv f g (fun k t s => R k s t) (List.range' a n) a (fun j hj t s hR => by
    rw [List.length_range'] at hj
    rw [List.getElem_range', Nat.one_mul]
    exact hstep (a + j) s t (Nat.le_add_right a j) (Nat.add_lt_add_left hj a) hR) t s h0
  rwa [List.length_range'] at this

theorem foldl_prod {β γ ι : Type} (f : β → ι → β) (g : γ → ι → γ) (l : List ι) :
    ∀ (x : β) (y : γ), l.foldl (fun t k => (f t.1 k, g t.2 k)) (x, y) = (l.foldl f x, l.foldl g y) := by
  induction l with
  | nil => intro x y; rfl
  | cons a l ih => intro x y; simp only [List.foldl_cons]; exact ih _ _

/-- `op_intervals = []; for begin, end in intervals: body; return op_intervals`. -/
def loopM (body : S) : Method :=
  { params := ["op_signal", "intervals"],
    body := .seq (.setLoc "op_intervals" .emptyList) (.forPair "begin" "end" (.loc "intervals") body),
    ret := some (.loc "op_intervals") }

/-- A loop whose body appends `G [(begin, end)]` to `op_intervals` computes `G`. -/
theorem append_loop (body : S) (G : Ivs → Ivs) (hG : ∀ p I, G (p :: I) = G [p] ++ G I) (h0 : G [] = []) (s : List α)
    (hbody : ∀ (env : Env α) (b e : Nat) (acc : IvsZ), getKey "op_signal" env.loc = .ok (.list s) →
      getKey "op_intervals" env.loc = .ok (encZ acc) →
      ∃ env', exec body { env with loc := setKey "end" (.int e) (setKey "begin" (.int b) env.loc) } = .ok env' ∧
        env'.self = env.self ∧ getKey "op_signal" env'.loc = .ok (.list s) ∧
        getKey "op_intervals" env'.loc = .ok (encZ (acc ++ castI (G [(b, e)])))) (I : Ivs) :
    call (α := α) (loopM body) [] [.list s, encI I] = .ok ([], encI (G I)) := by
  obtain ⟨env', h1, h2, _, h3⟩ := foldlM_castI_inv (α := α)
    (fun env p => exec body { env with loc := setKey "end" (.int p.2) (setKey "begin" (.int p.1) env.loc) })
    (fun acc env => env.self = [] ∧ getKey "op_signal" env.loc = .ok (.list s) ∧
      getKey "op_intervals" env.loc = .ok (encZ acc))
    (fun acc p => acc ++ castI (G [p])) I
    (fun acc env p _ ⟨h1, h2, h3⟩ => by
      obtain ⟨env', e1, e2, e3, e4⟩ := hbody env p.1 p.2 acc h2 h3
      exact ⟨env', e1, by rw [e2, h1], e3, e4⟩)
    [] { self := [], loc := [("op_signal", .list s), ("intervals", encI I), ("op_intervals", .dlist [])] }
    ⟨rfl, by ltla_simp [], by ltla_simp []; rfl⟩
  rw [foldl_append_castI _ hG h0] at h3
  refine (call_ok _ _ env'.self env'.loc _ _ _ rfl rfl ?_ (by rw [evalE_loc]; exact h3)).trans (by rw [h2]; rfl)
  simp only [loopM, exec_seq, exec_setLoc, evalE_emptyList, ok_bind]
  rw [exec_forPair_encZ _ _ _ _ _ (castI I) (by ltla_simp []; rfl)]
  exact h1

def nextBody : S := (.ite (.ifExp (.bin .lt (.loc "begin") (.bin .sub (.len (.loc "op_signal")) (.int 1))) (.bin .lt (.loc "end") (.bin .sub (.len (.loc "op_signal")) (.int 1))) (.bin .eq (.int 0) (.int 1))) (.appendLoc "op_intervals" (.tuple (.bin .add (.loc "begin") (.int 1)) (.bin .add (.loc "end") (.int 1)))) (.ite (.ifExp (.bin .lt (.loc "begin") (.bin .sub (.len (.loc "op_signal")) (.int 1))) (.bin .le (.bin .sub (.len (.loc "op_signal")) (.int 1)) (.loc "end")) (.bin .eq (.int 0) (.int 1))) (.appendLoc "op_intervals" (.tuple (.bin .add (.loc "begin") (.int 1)) (.loc "end"))) .skip))

theorem next_step (s : List α) (env : Env α) (b e : Nat) (acc : IvsZ)
    (hs : getKey "op_signal" env.loc = .ok (.list s))
    (hacc : getKey "op_intervals" env.loc = .ok (encZ acc)) :
    ∃ env', exec nextBody { env with loc := setKey "end" (.int e) (setKey "begin" (.int b) env.loc) } = .ok env' ∧
      env'.self = env.self ∧ getKey "op_signal" env'.loc = .ok (.list s) ∧
      getKey "op_intervals" env'.loc = .ok (encZ (acc ++ castI (explNext s.length [(b, e)]))) := by
  have hlen : ∀ env' : Env α, getKey "op_signal" env'.loc = .ok (.list s) →
      evalE env' (.len (.loc "op_signal")) = .ok (.int s.length) := fun env' h =>
    by rw [evalE_len, evalE_loc, h]; rfl
  unfold nextBody
  ltla_simp []
  rw [hlen _ (by ltla_simp [hs])]
  ltla_simp [hacc]
  by_cases h1 : (b : Int) < (s.length : Int) - 1
  · have h1' : b < s.length - 1 := by omega
    by_cases h2 : (e : Int) < (s.length : Int) - 1
    · have h2' : e < s.length - 1 := by omega
      simp only [h1, h2, decide_true, ok_bind]
      refine ⟨_, rfl, rfl, ?_, ?_⟩
      · ltla_simp [hs]
      · ltla_simp []
        simp [explNext, castI, h1', h2']
    · have h2' : ¬ e < s.length - 1 := by omega
      have h3 : (s.length : Int) - 1 ≤ e := by omega
      have h3' : s.length - 1 ≤ e := by omega
      simp only [h1, h2, h3, decide_true, decide_false, ok_bind]
      refine ⟨_, rfl, rfl, ?_, ?_⟩
      · ltla_simp [hs]
      · ltla_simp []
        simp [explNext, castI, h1', h2', show s.length ≤ e + 1 by omega]
  · have h1' : ¬ b < s.length - 1 := by omega
    simp only [h1, decide_false, ok_bind]
    refine ⟨_, rfl, rfl, ?_, ?_⟩
    · ltla_simp [hs]
    · ltla_simp [hacc]
      simp [explNext, castI, h1']

def prevBody : S := (.ite (.ifExp (.bin .gt (.loc "begin") (.int 0)) (.bin .gt (.loc "end") (.int 0)) (.bin .eq (.int 0) (.int 1))) (.appendLoc "op_intervals" (.tuple (.bin .sub (.loc "begin") (.int 1)) (.bin .sub (.loc "end") (.int 1)))) (.ite (.ifExp (.bin .le (.loc "begin") (.int 0)) (.bin .gt (.loc "end") (.int 0)) (.bin .eq (.int 0) (.int 1))) (.appendLoc "op_intervals" (.tuple (.loc "begin") (.bin .sub (.loc "end") (.int 1)))) .skip))

theorem prev_step (s : List α) (env : Env α) (b e : Nat) (acc : IvsZ)
    (hs : getKey "op_signal" env.loc = .ok (.list s))
    (hacc : getKey "op_intervals" env.loc = .ok (encZ acc)) :
    ∃ env', exec prevBody { env with loc := setKey "end" (.int e) (setKey "begin" (.int b) env.loc) } = .ok env' ∧
      env'.self = env.self ∧ getKey "op_signal" env'.loc = .ok (.list s) ∧
      getKey "op_intervals" env'.loc = .ok (encZ (acc ++ castI (explPrev [(b, e)]))) := by
  unfold prevBody
  ltla_simp [hacc]
  by_cases h1 : (0 : Int) < b
  · have h1' : 0 < b := Int.natCast_pos.1 h1
    have h3 : ¬ (b : Int) ≤ 0 := Int.not_le.2 h1
    by_cases h2 : (0 : Int) < e
    · have h2' : 0 < e := Int.natCast_pos.1 h2
      simp only [h1, h2, decide_true, ok_bind]
      refine ⟨_, rfl, rfl, by ltla_simp [hs], ?_⟩
      ltla_simp []
      have e1 : ((b - 1 : Nat) : Int) = (b : Int) - 1 := Int.ofNat_sub h1'
      have e2 : ((e - 1 : Nat) : Int) = (e : Int) - 1 := Int.ofNat_sub h2'
      simp [explPrev, castI, h1', h2', e1, e2]
    · have h2' : e = 0 := by omega
      simp only [h1, h2, h3, decide_true, decide_false, ok_bind]
      refine ⟨_, rfl, rfl, by ltla_simp [hs], ?_⟩
      ltla_simp [hacc]
      simp [explPrev, castI, h2']
  · have h1' : b = 0 := by omega
    have h3 : (b : Int) ≤ 0 := by omega
    by_cases h2 : (0 : Int) < e
    · have h2' : 0 < e := Int.natCast_pos.1 h2
      simp only [h1, h2, h3, decide_true, decide_false, ok_bind]
      refine ⟨_, rfl, rfl, by ltla_simp [hs], ?_⟩
      ltla_simp []
      have e2 : ((e - 1 : Nat) : Int) = (e : Int) - 1 := Int.ofNat_sub h2'
      simp [explPrev, castI, h1', h2', e2]
    · have h2' : e = 0 := by omega
      simp only [h1, h2, h3, decide_true, decide_false, ok_bind]
      refine ⟨_, rfl, rfl, by ltla_simp [hs], ?_⟩
      ltla_simp [hacc]
      simp [explPrev, castI, h2']

end LtlA
open LtlA

theorem fn_next (s : List α) (I : Ivs) :
    call (α := α) Gen.Expl.ltl_explain_next [] [.list s, encI I] = .ok ([], encI (explNext s.length I)) :=
  append_loop nextBody (explNext s.length) (fun p I => List.filterMap_append (l := [p]) (l' := I)) rfl s (next_step s) I

theorem fn_prev (s : List α) (I : Ivs) :
    call (α := α) Gen.Expl.ltl_explain_prev [] [.list s, encI I] = .ok ([], encI (explPrev I)) :=
  append_loop prevBody explPrev (fun p I => List.filterMap_append (l := [p]) (l' := I)) rfl s (prev_step s) I

/-- `explain_sat_always` / `explain_unsat_eventually`: from the begin of the first interval to the end of the signal. -/
theorem fn_sat_always (s : List α) (hs : 0 < s.length) (I : Ivs) :
    call (α := α) Gen.Expl.ltl_explain_sat_always [] [.list s, encI I]
      = .ok ([], encI (match firstBegin I with | some b => [(b, s.length - 1)] | none => [])) := by
  have e1 : ((s.length - 1 : Nat) : Int) = (s.length : Int) - 1 := by omega
  cases I with
  | nil =>
    py_simp [Gen.Expl.ltl_explain_sat_always, encI, encZ, castI, firstBegin]
  | cons p I =>
    py_simp [Gen.Expl.ltl_explain_sat_always, encI, encZ, castI, firstBegin, evalIdx, asList, appendV, e1]

theorem fn_unsat_eventually (s : List α) (hs : 0 < s.length) (I : Ivs) :
    call (α := α) Gen.Expl.ltl_explain_unsat_eventually [] [.list s, encI I]
      = .ok ([], encI (match firstBegin I with | some b => [(b, s.length - 1)] | none => [])) :=
  fn_sat_always s hs I

namespace LtlA

theorem call_fromZero (m : Method) (s : List α) (I : Ivs)
    (hm : m = { params := ["op_signal", "intervals"], body := (.seq (.setLoc "op_intervals" .emptyList) (.ite (.un .truthy (.loc "intervals")) (.seq (.unpack "begin" "end" (.idx (.loc "intervals") (.bin .sub (.len (.loc "intervals")) (.int 1)))) (.appendLoc "op_intervals" (.tuple (.int 0) (.loc "end")))) .skip)), ret := (some (.loc "op_intervals")) }) :
    call (α := α) m [] [.list s, encI I]
      = .ok ([], encI (match lastEnd I with | some e => [(0, e)] | none => [])) := by
  subst hm
  rcases List.eq_nil_or_concat I with rfl | ⟨I', q, rfl⟩
  · py_simp [encI, encZ, castI, lastEnd]
  · rw [List.concat_eq_append]
    have hne : castI (I' ++ [q]) ≠ [] := by simp [castI]
    have henc : encI (α := α) (I' ++ [q]) = .ivs (castI (I' ++ [q])) := by
      simp [encI, encZ, hne]
    have hlast : lastEnd (I' ++ [q]) = some q.2 := by simp [lastEnd]
    rw [hlast, henc]
    refine call_ok _ _ [] [("op_signal", .list s), ("intervals", .ivs (castI (I' ++ [q]))),
      ("op_intervals", .ivs [(0, (q.2 : Int))]), ("begin", .int q.1), ("end", .int q.2)] _ _ _ rfl rfl ?_ ?_
    · simp only [List.zip_cons_cons, List.zip_nil_right]
      ltla_simp []
      ltla_simp [evalE_len, lenV, evalIdx_last (castI (I' ++ [q])) (q.1, q.2) (by simp [castI])]
      have hemp : (castI (I' ++ [q])).isEmpty = false := by simp [castI]
      simp [evalUn, setKey, appendV]
      simp [hemp, ok_bind]
    · ltla_simp []
      simp [encI, encZ, castI]

end LtlA

/-- `explain_sat_historically` / `explain_unsat_once`: from 0 to the end of the last interval. -/
theorem fn_sat_historically (s : List α) (I : Ivs) :
    call (α := α) Gen.Expl.ltl_explain_sat_historically [] [.list s, encI I]
      = .ok ([], encI (match lastEnd I with | some e => [(0, e)] | none => [])) :=
  call_fromZero _ s I rfl

theorem fn_unsat_once (s : List α) (I : Ivs) :
    call (α := α) Gen.Expl.ltl_explain_unsat_once [] [.list s, encI I]
      = .ok ([], encI (match lastEnd I with | some e => [(0, e)] | none => [])) :=
  call_fromZero _ s I rfl

namespace LtlA

/-! ### the two-operand scans

  `explain_sat_or`, `explain_unsat_and`, `explain_sat_implies` are one program up to the polarity of the two
  state machines (`scanM pol1 pol2`); a machine (`machS`: state flag, start index, output list) is related to
  `runsLoop` through the fold of `mstep`; the two machines use disjoint variables (`Frame`). -/

def opEnter : Bool → BinOp
  | true => .ge
  | false => .lt
def opLeave : Bool → BinOp
  | true => .lt
  | false => .ge
theorem evalBin_enter (pol : Bool) (x : α) :
    evalBin (opEnter pol) (.num x) (.int 0) = .ok (.bool (polTest pol x)) := by
  cases pol <;> simp [opEnter, polTest, evalBin, coerce, isSat, isUnsat]

theorem evalBin_leave (pol : Bool) (x : α) :
    evalBin (opLeave pol) (.num x) (.int 0) = .ok (.bool (!polTest pol x)) := by
  cases pol <;> simp [opLeave, polTest, evalBin, coerce, isSat, isUnsat]

def machS (pol : Bool) (st start out sig : String) : S :=
  .ite (.ifExp (.un .not (.un .truthy (.loc st))) (.bin (opEnter pol) (.idx (.loc sig) (.loc "i")) (.int 0)) (.bin .eq (.int 0) (.int 1)))
    (.seq (.setLoc st (.bin .eq (.int 0) (.int 0))) (.setLoc start (.loc "i")))
    (.ite (.ifExp (.un .truthy (.loc st)) (.bin (opLeave pol) (.idx (.loc sig) (.loc "i")) (.int 0)) (.bin .eq (.int 0) (.int 1)))
      (.seq (.setLoc st (.bin .eq (.int 0) (.int 1))) (.appendLoc out (.tuple (.loc start) (.bin .sub (.loc "i") (.int 1)))))
      .skip)

def finS (st start out : String) (last : E) : S :=
  .ite (.un .truthy (.loc st)) (.appendLoc out (.tuple (.loc start) last)) .skip

def scanBody (pol1 pol2 : Bool) : S :=
  (.seq (.setLoc "op1_state" (.bin .eq (.int 0) (.int 1))) (.seq (.setLoc "op2_state" (.bin .eq (.int 0) (.int 1)))
    (.seq (.for_ "i" (.loc "begin") (.bin .add (.loc "end") (.int 1))
        (.seq (machS pol1 "op1_state" "op1_start" "op1_intervals" "op1_signal")
              (machS pol2 "op2_state" "op2_start" "op2_intervals" "op2_signal")))
      (.seq (finS "op1_state" "op1_start" "op1_intervals" (.loc "i")) (finS "op2_state" "op2_start" "op2_intervals" (.loc "i"))))))

/-- The shape shared by `explain_sat_or` (`true`, `true`), `explain_unsat_and` (`false`, `false`) and `explain_sat_implies`
    (`false`, `true`): one machine per operand, each with the polarity it looks for. -/
def scanM (pol1 pol2 : Bool) : Method :=
  { params := ["op1_signal", "op2_signal", "intervals"],
    body := (.seq (.setLoc "op1_intervals" .emptyList) (.seq (.setLoc "op2_intervals" .emptyList)
      (.forPair "begin" "end" (.loc "intervals") (scanBody pol1 pol2)))),
    ret := (some (.tuple (.loc "op1_intervals") (.loc "op2_intervals"))) }

/-- The state of one machine: the start of the open run, the intervals written so far. -/
abbrev MSt := Option Nat × IvsZ

def mstep (p : Nat → Bool) (m : MSt) (i : Nat) : MSt :=
  match m.1, p i with
  | none, true => (some i, m.2)
  | some s, false => (none, m.2 ++ [((s : Int), (i : Int) - 1)])
  | c, _ => (c, m.2)

def mfin (e : Int) (m : MSt) : IvsZ :=
  match m.1 with
  | some s => m.2 ++ [((s : Int), e)]
  | none => m.2

structure MachInv (st start out : String) (loc : Store α) (m : MSt) : Prop where
  hst : getKey st loc = .ok (.bool m.1.isSome)
  hstart : ∀ c, m.1 = some c → getKey start loc = .ok (.int c)
  hout : getKey out loc = .ok (encZ m.2)

def Frame (st start out : String) (loc loc' : Store α) : Prop :=
  ∀ x, x ∉ [st, start, out] → getKey x loc' = getKey x loc

structure NamesOK (st start out sig : String) : Prop where
  h1 : st ≠ start
  h2 : st ≠ out
  h3 : start ≠ out
  i1 : "i" ≠ st
  i2 : "i" ≠ start
  i3 : "i" ≠ out
  s1 : sig ≠ st
  s2 : sig ≠ start
  s3 : sig ≠ out

omit [Val α] in
theorem MachInv.congr {st start out : String} {loc loc' : Store α} {m : MSt} (hm : MachInv st start out loc m)
    (h1 : getKey st loc' = getKey st loc) (h2 : getKey start loc' = getKey start loc)
    (h3 : getKey out loc' = getKey out loc) : MachInv st start out loc' m :=
  ⟨h1 ▸ hm.hst, fun c hc => h2 ▸ hm.hstart c hc, h3 ▸ hm.hout⟩

theorem evalIdx_list (s : List α) (k : Nat) (hk : k < s.length) :
    evalIdx (.list s) (.int k) = .ok (.num (atL s k)) := by
  have h : ¬ ((k : Int) < 0) := by omega
  simp [evalIdx, h, idx, atL, List.getElem?_eq_getElem hk, Except.map]

theorem mach_step (pol : Bool) (st start out sig : String) (hn : NamesOK st start out sig)
    (env : Env α) (s : List α) (k : Nat) (hk : k < s.length)
    (hi : getKey "i" env.loc = .ok (.int k)) (hsig : getKey sig env.loc = .ok (.list s))
    (m : MSt) (hm : MachInv st start out env.loc m) :
    ∃ env', exec (machS pol st start out sig) env = .ok env' ∧ env'.self = env.self ∧
      MachInv st start out env'.loc (mstep (fun i => polTest pol (atL s i)) m k) ∧
      Frame st start out env.loc env'.loc := by
  obtain ⟨cur, acc⟩ := m
  obtain ⟨hst, hstart, hout⟩ := hm
  obtain ⟨n1, n2, n3, i1, i2, i3, s1, s2, s3⟩ := hn
  unfold machS
  cases cur with
  | none =>
    simp only [Option.isSome_none] at hst
    cases hp : polTest pol (atL s k) with
    | true =>
      -- `↓`: the guard is decided first and only the branch taken is run
      ltla_simp [↓exec_ite_true, hst, hi, hsig, evalUn_truthy_bool, evalUn_not_bool, evalIdx_list s k hk,
        evalBin_enter, hp, Bool.not_false, i1, i2, i3]
      refine ⟨_, rfl, rfl, ⟨?_, ?_, ?_⟩, ?_⟩
      · simp only [mstep, hp]
        ltla_simp [n1, n2, n3, Option.isSome_some, decide_true]
      · intro c hc
        simp only [mstep, hp, Option.some.injEq] at hc
        subst hc
        ltla_simp []
      · simp only [mstep, hp]
        ltla_simp [n1.symm, n2.symm, n3.symm, hout]
      · intro x hx
        simp only [List.mem_cons, List.not_mem_nil, or_false, not_or] at hx
        ltla_simp [hx.1, hx.2.1, hx.2.2]
    | false =>
      ltla_simp [↓exec_ite_false, ↓evalE_False, hst, hi, hsig, evalUn_truthy_bool, evalUn_not_bool,
        evalIdx_list s k hk, evalBin_enter, hp, Bool.not_false]
      refine ⟨_, rfl, rfl, ⟨?_, ?_, ?_⟩, ?_⟩
      · simp only [mstep, hp]; exact hst
      · intro c hc
        simp [mstep, hp] at hc
      · simp only [mstep, hp]; exact hout
      · intro x _; rfl
  | some c =>
    simp only [Option.isSome_some] at hst
    have hstart' := hstart c rfl
    cases hp : polTest pol (atL s k) with
    | true =>
      ltla_simp [↓exec_ite_false, ↓evalE_False, hst, hi, hsig, evalUn_truthy_bool, evalUn_not_bool,
        evalIdx_list s k hk, evalBin_leave, hp, Bool.not_true]
      refine ⟨_, rfl, rfl, ⟨?_, ?_, ?_⟩, ?_⟩
      · simp only [mstep, hp]; exact hst
      · intro c' hc
        simp only [mstep, hp, Option.some.injEq] at hc
        subst hc
        exact hstart'
      · simp only [mstep, hp]; exact hout
      · intro x _; rfl
    | false =>
      ltla_simp [↓exec_ite_true, ↓exec_ite_false, ↓evalE_False, hst, hi, hsig, evalUn_truthy_bool, evalUn_not_bool,
        evalIdx_list s k hk, evalBin_leave, hp, Bool.not_true, Bool.not_false, i1, i2, i3, n1, n2, n3, n1.symm, n2.symm, n3.symm, hstart', hout]
      refine ⟨_, rfl, rfl, ⟨?_, ?_, ?_⟩, ?_⟩
      · simp only [mstep, hp]
        ltla_simp [n1, n2, n3, n2.symm, Option.isSome_none]
      · intro c' hc
        simp [mstep, hp] at hc
      · simp only [mstep, hp]
        ltla_simp []
      · intro x hx
        simp only [List.mem_cons, List.not_mem_nil, or_false, not_or] at hx
        ltla_simp [hx.1, hx.2.1, hx.2.2]

/-- `if state: out.append([start, last])` after the loop. -/
theorem fin_step (st start out : String) (last : E)
    (env : Env α) (e : Int) (m : MSt) (hm : MachInv st start out env.loc m)
    (hi : ∀ c, m.1 = some c → evalE env last = .ok (.int e)) :
    ∃ env', exec (finS st start out last) env = .ok env' ∧ env'.self = env.self ∧
      getKey out env'.loc = .ok (encZ (mfin e m)) ∧
      (∀ x, x ≠ out → getKey x env'.loc = getKey x env.loc) := by
  obtain ⟨cur, acc⟩ := m
  obtain ⟨hst, hstart, hout⟩ := hm
  unfold finS
  cases cur with
  | none =>
    simp only [Option.isSome_none] at hst
    ltla_simp [hst, evalUn_truthy_bool]
    exact ⟨_, rfl, rfl, hout, fun _ _ => rfl⟩
  | some c =>
    simp only [Option.isSome_some] at hst
    ltla_simp [hst, evalUn_truthy_bool, hstart c rfl, hi c rfl, hout]
    refine ⟨_, rfl, rfl, ?_, ?_⟩
    · ltla_simp []; rfl
    · intro x hx
      ltla_simp [hx]

/-- The machine computes `runsLoop`. -/
theorem runsLoop_fold (p : Nat → Bool) (e : Nat) :
    ∀ (k i : Nat) (cur : Option Nat) (acc : IvsZ), (∀ c, cur = some c → c < i) →
      mfin e ((List.range' i k).foldl (mstep p) (cur, acc)) = acc ++ castI (runsLoop p e k i cur) := by
  intro k
  induction k with
  | zero =>
    intro i cur acc _
    cases cur <;> simp [mfin, runsLoop, castI]
  | succ k ih =>
    intro i cur acc hc
    rw [List.range'_succ, List.foldl_cons]
    cases cur with
    | none =>
      cases hp : p i with
      | true =>
        have : mstep p (none, acc) i = (some i, acc) := by simp [mstep, hp]
        rw [this, ih (i + 1) (some i) acc (by intro c h; cases h; omega)]
        simp [runsLoop, hp]
      | false =>
        have : mstep p (none, acc) i = (none, acc) := by simp [mstep, hp]
        rw [this, ih (i + 1) none acc (by intro c h; cases h)]
        simp [runsLoop, hp]
    | some c =>
      have hci := hc c rfl
      cases hp : p i with
      | true =>
        have : mstep p (some c, acc) i = (some c, acc) := by simp [mstep, hp]
        rw [this, ih (i + 1) (some c) acc (by intro c' h; cases h; omega)]
        simp [runsLoop, hp]
      | false =>
        have : mstep p (some c, acc) i = (none, acc ++ [((c : Int), (i : Int) - 1)]) := by simp [mstep, hp]
        rw [this, ih (i + 1) none _ (by intro c' h; cases h)]
        have e1 : ((i - 1 : Nat) : Int) = (i : Int) - 1 := by omega
        simp [runsLoop, hp, castI, e1]

theorem names1 : NamesOK "op1_state" "op1_start" "op1_intervals" "op1_signal" := by
  constructor <;> decide
theorem names2 : NamesOK "op2_state" "op2_start" "op2_intervals" "op2_signal" := by
  constructor <;> decide

structure ScanInv (s1 s2 : List α) (env : Env α) : Prop where
  hself : env.self = []
  hs1 : getKey "op1_signal" env.loc = .ok (.list s1)
  hs2 : getKey "op2_signal" env.loc = .ok (.list s2)

/-- One iteration of the inner loop: the two machines do not interfere. -/
theorem inner_body (pol1 pol2 : Bool) (s1 s2 : List α) (env : Env α) (k : Nat) (hk1 : k < s1.length) (hk2 : k < s2.length)
    (hinv : ScanInv s1 s2 env) (hi : getKey "i" env.loc = .ok (.int k)) (m1 m2 : MSt)
    (hm1 : MachInv "op1_state" "op1_start" "op1_intervals" env.loc m1)
    (hm2 : MachInv "op2_state" "op2_start" "op2_intervals" env.loc m2) :
    ∃ env', exec (.seq (machS pol1 "op1_state" "op1_start" "op1_intervals" "op1_signal")
                    (machS pol2 "op2_state" "op2_start" "op2_intervals" "op2_signal")) env = .ok env' ∧
      ScanInv s1 s2 env' ∧ getKey "i" env'.loc = .ok (.int k) ∧
      MachInv "op1_state" "op1_start" "op1_intervals" env'.loc (mstep (fun i => polTest pol1 (atL s1 i)) m1 k) ∧
      MachInv "op2_state" "op2_start" "op2_intervals" env'.loc (mstep (fun i => polTest pol2 (atL s2 i)) m2 k) := by
  obtain ⟨ea, hea, hsa, hma, hfa⟩ := mach_step pol1 _ _ _ _ names1 env s1 k hk1 hi hinv.hs1 m1 hm1
  have hia : getKey "i" ea.loc = .ok (.int k) := by rw [hfa "i" (by simp)]; exact hi
  have hs2a : getKey "op2_signal" ea.loc = .ok (.list s2) := by
    rw [hfa _ (by simp)]; exact hinv.hs2
  have hm2a := hm2.congr (loc' := ea.loc) (hfa _ (by simp))
    (hfa _ (by simp)) (hfa _ (by simp))
  obtain ⟨eb, heb, hsb, hmb, hfb⟩ := mach_step pol2 _ _ _ _ names2 ea s2 k hk2 hia hs2a m2 hm2a
  refine ⟨eb, by rw [exec_seq, hea, ok_bind, heb], ⟨by rw [hsb, hsa, hinv.hself], ?_, ?_⟩, ?_, ?_, hmb⟩
  · rw [hfb _ (by simp), hfa _ (by simp)]; exact hinv.hs1
  · rw [hfb _ (by simp)]; exact hs2a
  · rw [hfb _ (by simp)]; exact hia
  · exact hma.congr (hfb _ (by simp))
      (hfb _ (by simp)) (hfb _ (by simp))

omit [Val α] in
theorem le_of_lt_range {b e k : Nat} (h1 : b ≤ k) (h2 : k < b + (e + 1 - b)) : k ≤ e := by omega

/-- One interval `[b, e]` of the outer loop. -/
theorem scan_step (pol1 pol2 : Bool) (s1 s2 : List α) (env : Env α) (b e : Nat)
    (he1 : e < s1.length) (he2 : e < s2.length) (hinv : ScanInv s1 s2 env) (acc1 acc2 : IvsZ)
    (ho1 : getKey "op1_intervals" env.loc = .ok (encZ acc1))
    (ho2 : getKey "op2_intervals" env.loc = .ok (encZ acc2)) :
    ∃ env', exec (scanBody pol1 pol2)
        { env with loc := setKey "end" (.int e) (setKey "begin" (.int b) env.loc) } = .ok env' ∧
      ScanInv s1 s2 env' ∧
      getKey "op1_intervals" env'.loc = .ok (encZ (acc1 ++ castI (runs (fun i => polTest pol1 (atL s1 i)) b e))) ∧
      getKey "op2_intervals" env'.loc = .ok (encZ (acc2 ++ castI (runs (fun i => polTest pol2 (atL s2 i)) b e))) := by
  obtain ⟨hself, hs1, hs2⟩ := hinv
  unfold scanBody
  ltla_simp [↓evalE_False]  -- `↓`: before `evalE_bin` takes `0 == 1` apart
  generalize hL : setKey "op2_state" (V.bool false) (setKey "op1_state" (V.bool false)
    (setKey "end" (V.int (e : Int)) (setKey "begin" (V.int (b : Int)) env.loc))) = L
  have gk : ∀ x, x ≠ "op2_state" → x ≠ "op1_state" → x ≠ "end" → x ≠ "begin" → getKey x L = getKey x env.loc := by
    intro x h1 h2 h3 h4
    rw [← hL]; ltla_simp [h1, h2, h3, h4]
  have hbegin : getKey "begin" L = .ok (.int b) := by rw [← hL]; ltla_simp []
  have hend : getKey "end" L = .ok (.int e) := by rw [← hL]; ltla_simp []
  have hst1 : getKey "op1_state" L = .ok (.bool false) := by rw [← hL]; ltla_simp []
  have hst2 : getKey "op2_state" L = .ok (.bool false) := by rw [← hL]; ltla_simp []
  rw [exec_for b ((e : Int) + 1) (by ltla_simp [hbegin]) (by ltla_simp [hend]),
    show ((e : Int) + 1 - b).toNat = e + 1 - b from Int.toNat_sub (e + 1) b]
  obtain ⟨env3, h3, ⟨hself3, hs13, hs23⟩, hm13, hm23, hi3⟩ := foldlM_range_sim
    (fun env k => exec (.seq (machS pol1 "op1_state" "op1_start" "op1_intervals" "op1_signal")
                    (machS pol2 "op2_state" "op2_start" "op2_intervals" "op2_signal"))
      { env with loc := setKey "i" (.int (k : Nat)) env.loc })
    (fun (t : MSt × MSt) k => (mstep (fun i => polTest pol1 (atL s1 i)) t.1 k, mstep (fun i => polTest pol2 (atL s2 i)) t.2 k))
    (fun k (env : Env α) t => ScanInv s1 s2 env ∧ MachInv "op1_state" "op1_start" "op1_intervals" env.loc t.1 ∧
      MachInv "op2_state" "op2_start" "op2_intervals" env.loc t.2 ∧
      (b < k → getKey "i" env.loc = .ok (.int ((k - 1 : Nat) : Int))))
    (e + 1 - b) b { self := env.self, loc := L } ((none, acc1), (none, acc2))
    ⟨⟨hself, by rw [gk _ (by simp) (by simp) (by simp) (by simp)]; exact hs1,
        by rw [gk _ (by simp) (by simp) (by simp) (by simp)]; exact hs2⟩,
      MachInv.mk hst1 (fun c hc => by simp at hc) (by rw [gk _ (by simp) (by simp) (by simp) (by simp)]; exact ho1),
      MachInv.mk hst2 (fun c hc => by simp at hc) (by rw [gk _ (by simp) (by simp) (by simp) (by simp)]; exact ho2),
      fun h => absurd h (Nat.lt_irrefl _)⟩
    (by
      intro k env' t hk1 hk2 ⟨⟨hself', hs1', hs2'⟩, hm1', hm2', _⟩
      have gi : ∀ x, x ≠ "i" → getKey x (setKey "i" (V.int (k : Int)) env'.loc) = getKey x env'.loc :=
        fun x hx => getKey_setKey_ne _ _ _ _ hx
      have hke := le_of_lt_range hk1 hk2
      obtain ⟨env'', hex, hinv'', hi'', hm1'', hm2''⟩ := inner_body pol1 pol2 s1 s2
        { env' with loc := setKey "i" (.int (k : Nat)) env'.loc } k (Nat.lt_of_le_of_lt hke he1) (Nat.lt_of_le_of_lt hke he2)
        ⟨hself', by rw [gi _ (by simp)]; exact hs1', by rw [gi _ (by simp)]; exact hs2'⟩
        (getKey_setKey_same _ _ _) t.1 t.2
        (hm1'.congr (gi _ (by simp)) (gi _ (by simp)) (gi _ (by simp)))
        (hm2'.congr (gi _ (by simp)) (gi _ (by simp)) (gi _ (by simp)))
      exact ⟨env'', hex, hinv'', hm1'', hm2'', fun _ => by rw [hi'']; simp⟩)
  rw [foldl_prod] at hm13 hm23
  simp only at hm13 hm23
  rw [h3, ok_bind]
  -- when a run is still open after the loop, the loop was not empty and `i` is `end`
  have hiE : ∀ (m : MSt), (List.range' b (e + 1 - b)).foldl (mstep (fun i => polTest pol1 (atL s1 i))) (none, acc1) = m ∨
      (List.range' b (e + 1 - b)).foldl (mstep (fun i => polTest pol2 (atL s2 i))) (none, acc2) = m →
      ∀ c, m.1 = some c → getKey "i" env3.loc = .ok (.int (e : Int)) := by
    intro m hm c hc
    by_cases hbe : b ≤ e
    · rw [Nat.add_sub_of_le (Nat.le_succ_of_le hbe)] at hi3
      exact hi3 (Nat.lt_succ_of_le hbe)
    · rw [Nat.sub_eq_zero_of_le (Nat.lt_of_not_le hbe)] at hm
      rcases hm with rfl | rfl <;> cases hc
  obtain ⟨env4, h4, hself4, hout4, hf4⟩ := fin_step "op1_state" "op1_start" "op1_intervals" (.loc "i") env3 (e : Int) _ hm13
    (hiE _ (Or.inl rfl))
  have hm24 := hm23.congr (loc' := env4.loc) (hf4 _ (by simp)) (hf4 _ (by simp)) (hf4 _ (by simp))
  obtain ⟨env5, h5, hself5, hout5, hf5⟩ := fin_step "op2_state" "op2_start" "op2_intervals" (.loc "i") env4 (e : Int) _ hm24
    (fun c hc => by rw [evalE_loc, hf4 _ (by simp)]; exact hiE _ (Or.inr rfl) c hc)
  refine ⟨env5, by rw [exec_seq, h4, ok_bind, h5], ⟨by rw [hself5, hself4, hself3], ?_, ?_⟩, ?_, ?_⟩
  · rw [hf5 _ (by simp), hf4 _ (by simp)]; exact hs13
  · rw [hf5 _ (by simp), hf4 _ (by simp)]; exact hs23
  · rw [hf5 _ (by simp), hout4, runsLoop_fold (fun i => polTest pol1 (atL s1 i)) e _ b none acc1 (fun c hc => by cases hc)]; rfl
  · rw [hout5, runsLoop_fold (fun i => polTest pol2 (atL s2 i)) e _ b none acc2 (fun c hc => by cases hc)]; rfl

theorem runsAll_one (p : Nat → Bool) (q : Nat × Nat) : runsAll p [q] = runs p q.1 q.2 := by
  simp [runsAll]

theorem runsAll_cons (p : Nat → Bool) (q : Nat × Nat) (I : Ivs) : runsAll p (q :: I) = runsAll p [q] ++ runsAll p I := by
  simp [runsAll]

theorem scan_main (pol1 pol2 : Bool) (s1 s2 : List α) (I : Ivs) (h1 : InRange s1.length I) (h2 : InRange s2.length I) :
    call (α := α) (scanM pol1 pol2) [] [.list s1, .list s2, encI I]
      = .ok ([], .pair (encI (runsAll (fun i => polTest pol1 (atL s1 i)) I)) (encI (runsAll (fun i => polTest pol2 (atL s2 i)) I))) := by
  obtain ⟨env', hex, ⟨hself, _, _⟩, ho1, ho2⟩ := foldlM_castI_inv (α := α)
    (fun env p => exec (scanBody pol1 pol2) { env with loc := setKey "end" (.int p.2) (setKey "begin" (.int p.1) env.loc) })
    (fun (t : IvsZ × IvsZ) env => ScanInv s1 s2 env ∧ getKey "op1_intervals" env.loc = .ok (encZ t.1) ∧
      getKey "op2_intervals" env.loc = .ok (encZ t.2))
    (fun t p => (t.1 ++ castI (runsAll (fun i => polTest pol1 (atL s1 i)) [p]),
                 t.2 ++ castI (runsAll (fun i => polTest pol2 (atL s2 i)) [p]))) I
    (fun t env p hp ⟨hinv, ho1, ho2⟩ => by
      obtain ⟨env', e1, e2, e3, e4⟩ := scan_step pol1 pol2 s1 s2 env p.1 p.2 (h1 p hp) (h2 p hp) hinv t.1 t.2 ho1 ho2
      exact ⟨env', e1, e2, by simp only [runsAll_one]; exact e3, by simp only [runsAll_one]; exact e4⟩)
    ([], []) { self := [], loc := [("op1_signal", .list s1), ("op2_signal", .list s2), ("intervals", encI I),
      ("op1_intervals", .dlist []), ("op2_intervals", .dlist [])] }
    ⟨⟨rfl, by ltla_simp [], by ltla_simp []⟩, by ltla_simp []; rfl, by ltla_simp []; rfl⟩
  rw [foldl_prod (fun a p => a ++ castI (runsAll (fun i => polTest pol1 (atL s1 i)) [p]))
    (fun a p => a ++ castI (runsAll (fun i => polTest pol2 (atL s2 i)) [p]))] at ho1 ho2
  rw [foldl_append_castI (runsAll (fun i => polTest pol1 (atL s1 i))) (runsAll_cons _) rfl] at ho1
  rw [foldl_append_castI (runsAll (fun i => polTest pol2 (atL s2 i))) (runsAll_cons _) rfl] at ho2
  simp only [List.nil_append] at ho1 ho2
  refine (call_ok _ _ env'.self env'.loc _ _ _ rfl rfl ?_ (by ltla_simp [ho1, ho2]; rfl)).trans (by rw [hself]; rfl)
  simp only [scanM, exec_seq, exec_setLoc, evalE_emptyList, ok_bind, List.zip_cons_cons, List.zip_nil_right]
  rw [exec_forPair_encZ _ _ _ _ _ (castI I) (by ltla_simp []; rfl)]
  exact hex

end LtlA

/-- The two-operand scans: maximal runs of the operand's satisfaction / violation inside every interval. -/
theorem fn_sat_or (s1 s2 : List α) (I : Ivs) (h1 : InRange s1.length I) (h2 : InRange s2.length I) :
    call (α := α) Gen.Expl.ltl_explain_sat_or [] [.list s1, .list s2, encI I]
      = .ok ([], .pair (encI (runsAll (fun i => isSat (atL s1 i)) I)) (encI (runsAll (fun i => isSat (atL s2 i)) I))) :=
  scan_main true true s1 s2 I h1 h2

theorem fn_unsat_and (s1 s2 : List α) (I : Ivs) (h1 : InRange s1.length I) (h2 : InRange s2.length I) :
    call (α := α) Gen.Expl.ltl_explain_unsat_and [] [.list s1, .list s2, encI I]
      = .ok ([], .pair (encI (runsAll (fun i => isUnsat (atL s1 i)) I)) (encI (runsAll (fun i => isUnsat (atL s2 i)) I))) :=
  scan_main false false s1 s2 I h1 h2

theorem fn_sat_implies (s1 s2 : List α) (I : Ivs) (h1 : InRange s1.length I) (h2 : InRange s2.length I) :
    call (α := α) Gen.Expl.ltl_explain_sat_implies [] [.list s1, .list s2, encI I]
      = .ok ([], .pair (encI (runsAll (fun i => isUnsat (atL s1 i)) I)) (encI (runsAll (fun i => isSat (atL s2 i)) I))) :=
  scan_main false true s1 s2 I h1 h2

end Rtamt.Py
