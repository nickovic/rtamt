/-
  The horizon visitor as translated from the Python source denotes `hor?`: it returns the horizon of a
  specification without unbounded future operator and raises RTAMTException otherwise.
-/
import Rtamt.Py.RunHor
import Rtamt.Generated
import RtamtProofs.SemBase
import RtamtProofs.Lemmas.VisitName

namespace Rtamt.Py
open Rtamt Val

variable {α : Type} [Val α]

/-- The method the two horizon classes define for a node class: one of seven bodies, under the name `visitX`. -/
def horM (k : Kind) : OffMethod :=
  match k with
  | .Variable | .Constant => ⟨visitName k, [], false, .setLoc "out" (.int 0), some (.loc "out")⟩
  | .Eventually | .Always | .Until => ⟨visitName k, [], false, .raise .rtamt, none⟩
  | .Next | .StrongNext => ⟨visitName k, ["op_horizon"], false, .skip, some (.bin .add (.loc "op_horizon") (.int 1))⟩
  | .TimedEventually | .TimedAlways =>
      ⟨visitName k, ["op_horizon"], false, .skip, some (.bin .add (.loc "op_horizon") (.loc "$end"))⟩
  | .TimedUntil => ⟨visitName k, ["op1_horizon", "op2_horizon"], false,
      .setLoc "out" (.bin .add (.bin .max (.loc "op1_horizon") (.loc "op2_horizon")) (.loc "$end")), some (.loc "out")⟩
  | .Abs | .Sqrt | .Exp | .Ln | .Negate | .Neg | .Rise | .Fall | .Previous | .StrongPrevious | .Once | .Historically
  | .TimedOnce | .TimedHistorically => ⟨visitName k, ["op_horizon"], false, .skip, some (.loc "op_horizon")⟩
  | _ => ⟨visitName k, ["op1_horizon", "op2_horizon"], false,
      .setLoc "out" (.bin .max (.loc "op1_horizon") (.loc "op2_horizon")), some (.loc "out")⟩

/-- The node classes in the order of the `visitX` methods in the source. -/
def horOrder : List Kind :=
  [.TimedEventually, .TimedAlways, .TimedUntil, .TimedOnce, .TimedHistorically, .TimedSince, .TimedPrecedes, .Constant, .Predicate,
   .Variable, .Addition, .Multiplication, .Subtraction, .Division, .Abs, .Sqrt, .Exp, .Pow, .Log, .Ln, .Negate, .Rise, .Fall, .Neg,
   .Conjunction, .Disjunction, .Implies, .Iff, .Xor, .Eventually, .Always, .Until, .Once, .Previous, .StrongPrevious, .Next,
   .StrongNext, .Historically, .Since]

theorem horMethods_eq : Gen.Hor.methods = horOrder.map fun k => (visitName k, horM k) := rfl

theorem lookupH_eq (k : Kind) : lookupH k = some (horM k) := by
  rw [lookupH, horMethods_eq]
  exact lookup_visitName horM _ (Kind.forall_of_all (p := (· ∈ horOrder)) (by decide +kernel) k)

/-- The methods found in the two horizon classes are exactly the node classes the regenerated table marks as overridden. -/
theorem genHor_table (k : Kind) :
    (lookupH k).isSome = (Generated.horizon.handles k || Generated.horizon.raises k) := by
  rw [lookupH_eq]
  cases k <;> rfl

theorem evalBin_max_int (x y : Int) : evalBin (α := α) .max (.int x) (.int y) = .ok (.int (if x < y then y else x)) := by
  unfold evalBin; rw [coerce_int_int]

/-- `return 0` (variables and constants). -/
theorem callHor_zero (nm : String) :
    callHor (α := α) ⟨nm, [], false, .setLoc "out" (.int 0), some (.loc "out")⟩ [] [] = .ok 0 := by
  py_step [callHor]

/-- `return self.visit(child)`. -/
theorem callHor_id (nm : String) (a : Int) (ex : Store α) :
    callHor (α := α) ⟨nm, ["op_horizon"], false, .skip, some (.loc "op_horizon")⟩ [a] ex = .ok a := by
  py_step [callHor]

/-- `return self.visit(child) + 1`. -/
theorem callHor_succ (nm : String) (a : Int) (ex : Store α) :
    callHor (α := α) ⟨nm, ["op_horizon"], false, .skip, some (.bin .add (.loc "op_horizon") (.int 1))⟩ [a] ex
      = .ok (a + 1) := by
  py_step [callHor, evalBin_add_int]

theorem ite_natCast_max (a b : Nat) : (if (a : Int) < b then (b : Int) else a) = ((max a b : Nat) : Int) := by
  split <;> omega

/-- `return max(self.visit(child 0), self.visit(child 1))`. -/
theorem callHor_max (nm : String) (a b : Nat) (ex : Store α) :
    callHor (α := α) ⟨nm, ["op1_horizon", "op2_horizon"], false,
      .setLoc "out" (.bin .max (.loc "op1_horizon") (.loc "op2_horizon")), some (.loc "out")⟩ [a, b] ex
      = .ok ((max a b : Nat) : Int) := by
  rw [← ite_natCast_max]
  py_step [callHor, evalBin_max_int]

/-- `return self.visit(child) + end`. -/
theorem callHor_addEnd (nm : String) (a : Int) (x e : Int) :
    callHor (α := α) ⟨nm, ["op_horizon"], false, .skip, some (.bin .add (.loc "op_horizon") (.loc "$end"))⟩ [a]
      [("$begin", .int x), ("$end", .int e)] = .ok (a + e) := by
  py_step [callHor, evalBin_add_int]

/-- `return max(..) + end`. -/
theorem callHor_maxAddEnd (nm : String) (a b x e : Nat) :
    callHor (α := α) ⟨nm, ["op1_horizon", "op2_horizon"], false,
      .setLoc "out" (.bin .add (.bin .max (.loc "op1_horizon") (.loc "op2_horizon")) (.loc "$end")),
      some (.loc "out")⟩ [a, b] [("$begin", .int x), ("$end", .int e)]
      = .ok ((max a b + e : Nat) : Int) := by
  rw [Int.natCast_add, ← ite_natCast_max]
  py_step [callHor, evalBin_max_int, evalBin_add_int]

/-- `raise RTAMTException(..)`. -/
theorem callHor_raise (nm : String) (ex : Store α) :
    callHor (α := α) ⟨nm, [], false, .raise .rtamt, none⟩ [] ex = .error .rtamt := by
  py_step [callHor, exec_raise]

theorem horM_un (op : Un) :
    horM op.kind = ⟨visitName op.kind, ["op_horizon"], false, .skip, some (.loc "op_horizon")⟩ := by
  cases op <;> rfl

theorem horM_bin (op : Bin) : horM op.kind = ⟨visitName op.kind, ["op1_horizon", "op2_horizon"], false,
    .setLoc "out" (.bin .max (.loc "op1_horizon") (.loc "op2_horizon")), some (.loc "out")⟩ := by
  cases op <;> rfl

/-- One operand: dispatch (`lookupH k = some m` by evaluation of the table), the child's result, the method. -/
local macro "hor_case1" k:term "," m:ident "," ih:ident : tactic =>
  `(tactic| (simp only [horG, hor?, $ih:ident, show lookupH $k = some $m from rfl, $m:ident]
             cases hor? _ <;> simp [callHor_id, callHor_succ, callHor_addEnd, bind, Except.bind]))

/-- Two operands. -/
local macro "hor_case2" k:term "," m:ident "," ih1:ident "," ih2:ident : tactic =>
  `(tactic| (simp only [horG, hor?, $ih1:ident, $ih2:ident, show lookupH $k = some $m from rfl, $m:ident]
             cases hor? _ <;> cases hor? _ <;>
               simp [callHor_max, callHor_maxAddEnd, ite_natCast_max, bind, Except.bind]))

/-- A method applied to the horizon of the one operand, which may have raised; `g` is what the method computes. -/
theorem bind_hor1 {o : Option Nat} {f : Int → Except PyErr Int} (g : Nat → Nat) (hf : ∀ a : Nat, f a = .ok (g a : Int)) :
    ((match o with | some h => .ok (h : Int) | none => .error .rtamt) >>= f)
      = match o.map g with | some h => .ok (h : Int) | none => .error .rtamt := by
  cases o
  · rfl
  · exact hf _

theorem bind_hor1_id {o : Option Nat} {f : Int → Except PyErr Int} (hf : ∀ a : Nat, f a = .ok (a : Int)) :
    ((match o with | some h => .ok (h : Int) | none => .error .rtamt) >>= f)
      = match o with | some h => .ok (h : Int) | none => .error .rtamt := by
  simpa using bind_hor1 id hf

theorem bind_hor2 {o₁ o₂ : Option Nat} {f : Int → Int → Except PyErr Int} (g : Nat → Nat → Nat)
    (hf : ∀ a b : Nat, f a b = .ok (g a b : Int)) :
    (do let a ← (match o₁ with | some h => Except.ok (h : Int) | none => .error PyErr.rtamt)
        let b ← (match o₂ with | some h => Except.ok (h : Int) | none => .error PyErr.rtamt)
        f a b)
      = match (do let a ← o₁; let b ← o₂; pure (g a b)) with | some h => .ok (h : Int) | none => .error .rtamt := by
  cases o₁
  · rfl
  cases o₂
  · rfl
  · exact hf _ _

theorem genHor_eval (φ : F α) :
    horG φ = (match hor? φ with | some h => .ok (h : Int) | none => .error .rtamt) := by
  induction φ with
  | var x => simp only [horG, lookupH_eq]; exact callHor_zero _
  | const c => simp only [horG, lookupH_eq]; exact callHor_zero _
  | un op φ ih =>
    simp only [horG, lookupH_eq, horM_un, hor?, ih]
    exact bind_hor1_id fun a => callHor_id _ a _
  | bin op φ ψ ih1 ih2 =>
    simp only [horG, lookupH_eq, horM_bin, hor?, ih1, ih2]
    exact bind_hor2 max fun a b => callHor_max _ a b _
  | tmp1 op φ ih =>
    simp only [horG, lookupH_eq, hor?, ih]
    cases op with
    | ev | alw => exact callHor_raise _ _
    | next | snext => exact bind_hor1 (· + 1) fun a => callHor_succ _ a _
    | _ => exact bind_hor1_id fun a => callHor_id _ a _
  | tmp2 op φ ψ ih1 ih2 =>
    simp only [horG, lookupH_eq, hor?, ih1, ih2]
    cases op
    · exact bind_hor2 max fun a b => callHor_max _ a b _
    · exact callHor_raise _ _
  | tb1 op a b φ ih =>
    simp only [horG, lookupH_eq, hor?, ih]
    cases op with
    | ev | alw => exact bind_hor1 (· + b) fun x => callHor_addEnd _ x a b
    | _ => exact bind_hor1_id fun x => callHor_id _ x _
  | tb2 op a b φ ψ ih1 ih2 =>
    simp only [horG, lookupH_eq, hor?, ih1, ih2]
    cases op with
    | «until» => exact bind_hor2 (max · · + b) fun x y => callHor_maxAddEnd _ x y a b
    | _ => exact bind_hor2 max fun x y => callHor_max _ x y _

end Rtamt.Py
