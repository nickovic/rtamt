/-
  The pastifier as translated from the Python source denotes the mirror `past` / `pastify`
  (`Rtamt/Discrete/Pastify.lean`), the functions C03, C16 and C17 are stated on.
-/
import Rtamt.Py.RunPast
import Rtamt.Generated
import RtamtProofs.GenPastLemmas

namespace Rtamt.Py
open Rtamt Val

variable {α : Type}

/-- Standard semantics: no interface-aware predicate forms (they are not produced by the parser). -/
def plainP : F α → Bool
  | .var _ => true
  | .const _ => true
  | .un _ φ => plainP φ
  | .bin op φ ψ => (match op with | .predSat _ | .predZero => false | _ => true) && plainP φ && plainP ψ
  | .tmp1 _ φ => plainP φ
  | .tmp2 _ φ ψ => plainP φ && plainP ψ
  | .tb1 _ _ _ φ => plainP φ
  | .tb2 _ _ _ φ ψ => plainP φ && plainP ψ

/-- The methods found in `StlPastifier` are the node classes the regenerated table marks as overridden. -/
theorem genPast_table (k : Kind) :
    (lookupP k).isSome = (Generated.pastifier.handles k || Generated.pastifier.raises k) := by
  rw [lookupP_eq]
  cases k <;> rfl

/-- The two ways the methods call `visit` on a child: with the horizon of the node, and with what remains after a bound. -/
theorem visit_nat {φ : F α} (h : ∀ R : Int, pastG φ R = .ok (past R.toNat φ)) (n : Nat) :
    pastG φ (n : Int) = .ok (past n φ) := by simpa using h n

theorem visit_sub {φ : F α} (h : ∀ R : Int, pastG φ R = .ok (past R.toNat φ)) (R : Int) (b : Nat) :
    pastG φ (R - (b : Int)) = .ok (past (R.toNat - b) φ) := by
  have := h (R - (b : Int))
  rwa [show (R - (b : Int)).toNat = R.toNat - b by omega] at this

/-- The middle of the methods of the one-child classes without bounds:
    `child_node = self.visit(node.children[0], node_horizon); node = Cls(child_node)`. -/
def mid1 (cls : String) : PS :=
  .seq (.setLoc "child_node" (.visit 0 (.loc "node_horizon"))) (.setLoc "node" (.mk1 cls (.loc "child_node")))

/-- The same for two children (`Since` names its locals differently). -/
def mid2 (cls : String) : PS :=
  .seq (.setLoc "child1_node" (.visit 0 (.loc "node_horizon"))) (.seq (.setLoc "child2_node" (.visit 1 (.loc "node_horizon")))
    (.setLoc "node" (.mk2 cls (.loc "child1_node") (.loc "child2_node"))))

theorem exec_mid1 {rec : Nat → Int → Except PyErr (F α)} {cls : String} {c n : F α} {R : Int} {H : Nat} {ex : PStore α}
    (hrec : rec 0 H = .ok c) (hmk : mkNode1 cls c = some n) :
    okAnd (execPS rec (mid1 cls) (delayLoc R H ex)) fun loc' =>
      getKey "node" loc' = .ok (.fml n) ∧ getKey "horizon" loc' = .ok (.int (R - H)) := by
  past_exec [mid1, delayLoc, hrec, hmk]

theorem exec_mid2 {rec : Nat → Int → Except PyErr (F α)} {cls : String} {c1 c2 n : F α} {R : Int} {H : Nat} {ex : PStore α}
    (hrec1 : rec 0 H = .ok c1) (hrec2 : rec 1 H = .ok c2) (hmk : mkNode2 cls c1 c2 = some n) :
    okAnd (execPS rec (mid2 cls) (delayLoc R H ex)) fun loc' =>
      getKey "node" loc' = .ok (.fml n) ∧ getKey "horizon" loc' = .ok (.int (R - H)) := by
  past_exec [mid2, delayLoc, hrec1, hrec2, hmk]

/-- The translated pastifier visitor, started with a remaining horizon `R` (possibly negative: it then behaves as with 0),
    builds the formula `past R φ` — for every formula without unbounded future operator. -/
theorem genPast_visit (φ : F α) (hb : φ.bounded = true) (hpl : plainP φ = true) (R : Int) :
    pastG φ R = .ok (past R.toNat φ) := by
  induction φ generalizing R with
  | var x => simp only [pastG, lookupP_eq]; exact call_variable _ x R
  | const c => simp only [pastG, lookupP_eq]; exact call_constant _ c R
  | un op φ ih =>
    have h := visit_nat (ih hb hpl) (hor φ)
    simp only [pastG, lookupP_eq]
    cases op <;> exact call_delayed _ _ _ [] _ R (hor φ) rfl rfl rfl (exec_mid1 h (by simp [mkNode1]))
  | bin op φ ψ ih1 ih2 =>
    simp only [F.bounded, plainP, Bool.and_eq_true] at hb hpl
    have h1 := visit_nat (ih1 hb.1 hpl.1.2) (max (hor φ) (hor ψ))
    have h2 := visit_nat (ih2 hb.2 hpl.2) (max (hor φ) (hor ψ))
    simp only [pastG, lookupP_eq]
    cases op with
    | predSat | predZero => exact absurd hpl.1.1 (by simp)
    | pred c => exact call_delayed _ _ _ _ _ R (max (hor φ) (hor ψ)) rfl rfl rfl (by past_exec [PS.init, delayLoc, h1, h2])
    | _ => exact call_delayed _ _ _ [] _ R (max (hor φ) (hor ψ)) rfl rfl rfl (exec_mid2 h1 h2 (by simp [mkNode2]))
  | tmp1 op φ ih =>
    simp only [F.bounded, plainP, Bool.and_eq_true] at hb hpl
    have ih := ih hb.2 hpl
    have h := visit_nat ih (hor φ)
    have hn : pastG φ (R - 1) = .ok (past (R.toNat - 1) φ) := by simpa using visit_sub ih R 1
    simp only [pastG, lookupP_eq]
    cases op with
    | next | snext => exact call_next _ _ _ R (hor φ + 1) rfl rfl hn
    | ev | alw => exact absurd hb.1 (by simp)
    | _ => exact call_delayed _ _ _ [] _ R (hor φ) rfl rfl rfl (exec_mid1 h (by simp [mkNode1]))
  | tmp2 op φ ψ ih1 ih2 =>
    simp only [F.bounded, plainP, Bool.and_eq_true] at hb hpl
    simp only [pastG, lookupP_eq]
    cases op
    · exact call_delayed _ _ _ [] _ R (max (hor φ) (hor ψ)) rfl rfl rfl
        (by past_exec [PS.init, delayLoc, visit_nat (ih1 hb.1.2 hpl.1) _, visit_nat (ih2 hb.2 hpl.2) _, mkNode2])
    · exact absurd hb.1.1 (by simp)
  | tb1 op a b φ ih =>
    simp only [F.bounded, plainP] at hb hpl
    have ih := ih hb hpl
    simp only [pastG, lookupP_eq]
    cases op
    · exact call_timedOnce _ _ a b R (hor φ) (visit_nat ih _)
    · exact call_delayed _ _ _ _ _ R (hor φ) rfl rfl rfl (by past_exec [PS.init, delayLoc, visit_nat ih (hor φ)])
    · exact call_timedFuture _ _ "TimedOnce" _ _ a b R (hor φ + b) rfl rfl (visit_sub ih R b) (by simp [mkNodeT1])
    · exact call_timedFuture _ _ "TimedHistorically" _ _ a b R (hor φ + b) rfl rfl (visit_sub ih R b) (by simp [mkNodeT1])
  | tb2 op a b φ ψ ih1 ih2 =>
    simp only [F.bounded, plainP, Bool.and_eq_true] at hb hpl
    have h1 := visit_nat (ih1 hb.1 hpl.1) (max (hor φ) (hor ψ))
    have h2 := visit_nat (ih2 hb.2 hpl.2) (max (hor φ) (hor ψ))
    simp only [pastG, lookupP_eq]
    cases op
    · exact call_delayed _ _ _ _ _ R (max (hor φ) (hor ψ)) rfl rfl rfl (by past_exec [PS.init, delayLoc, h1, h2])
    · exact call_timedUntil _ _ _ a b R (max (hor φ) (hor ψ) + b) (visit_sub (ih1 hb.1 hpl.1) R b) (visit_sub (ih2 hb.2 hpl.2) R b)
    · exact call_delayed _ _ _ _ _ R (max (hor φ) (hor ψ)) rfl rfl rfl (by past_exec [PS.init, delayLoc, h1, h2])

/-- Formulas with an unbounded future operator are rejected with RTAMTException (by the horizon visitor). -/
theorem genPast_pastify (φ : F α) (hpl : plainP φ = true) :
    pastifyG φ = if φ.bounded then .ok (pastify φ) else .error .rtamt := by
  unfold pastifyG
  rw [hor?_eq]
  cases hb : φ.bounded
  · rfl
  · simpa [pastify] using genPast_visit φ hb hpl (hor φ : Int)

end Rtamt.Py
