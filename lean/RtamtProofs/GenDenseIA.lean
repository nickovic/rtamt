/-
  The interface-aware `visitPredicate` of the dense-time offline monitor
  (`IAStlOutputRobustnessDenseTimeOfflineAstVisitor` / `IAStlInputRobustnessDenseTimeOfflineAstVisitor`,
  `rtamt/semantics/iastl/dense_time/offline/ast_visitor.py`), translated with the parent's `visitPredicate` inlined
  (`Gen.Dense.visitPredicate_outRob` / `visitPredicate_inRob`), run through `callD` against the mirror:
  `predicateIA c (±inf by satisfaction)` when `node.out_vars` (`node.in_vars`) is empty, `predicate c` otherwise.
-/
import RtamtProofs.GenDenseUn
import RtamtProofs.GenDenseEmit

namespace Rtamt.Py.Dn
open Rtamt Val Rtamt.Dense Rtamt.Dense.Alg

variable {α : Type} [Val α]

namespace GenIAD
open GenUn

/-- `in_sample[1]`, the difference `left - right` -/
def diffE : E := .idx (.loc "in_sample") (.int 1)

/-- a branch of the chain below: `sat_val = True if T else False; out_val = V` -/
def iaBranch (T V : E) : S := .seq (.ite T (.setLoc "sat_val" (.boolLit true)) (.setLoc "sat_val" (.boolLit false))) (.setLoc "out_val" V)

/-- the `if / elif` chain on `node.operator.value`: `sat_val` and `out_val` -/
def iaOutVal : S := (.ite (.bin .eq (.loc "$operator") (.cmpc .eq)) (iaBranch (.bin .eq diffE (.int 0)) (.neg (.call1 "abs" diffE))) (.ite (.bin .eq (.loc "$operator") (.cmpc .ne)) (iaBranch (.bin .gt (.call1 "abs" diffE) (.int 0)) (.call1 "abs" diffE)) (.ite (.bin .eq (.loc "$operator") (.cmpc .le)) (iaBranch (.bin .le diffE (.int 0)) (.neg diffE)) (.ite (.bin .eq (.loc "$operator") (.cmpc .lt)) (iaBranch (.bin .lt diffE (.int 0)) (.neg diffE)) (.ite (.bin .eq (.loc "$operator") (.cmpc .ge)) (iaBranch (.bin .ge diffE (.int 0)) diffE) (.ite (.bin .eq (.loc "$operator") (.cmpc .gt)) (iaBranch (.bin .gt diffE (.int 0)) diffE) (.setLoc "out_val" .nan)))))))

/-- `if out_val != prev or i == len(input_list) - 1: out_samples.append(…); sat_samples.append(…)` and `prev = out_val` -/
def iaKeep : S := (.seq (.ite (keepE (.loc "out_val") "input_list") (.seq (.appendLoc "out_samples" (.list2 (.idx (.loc "in_sample") (.int 0)) (.loc "out_val"))) (.appendLoc "sat_samples" (.list2 (.idx (.loc "in_sample") (.int 0)) (.loc "sat_val")))) .skip) (.setLoc "prev" (.loc "out_val")))

def iaBody1 : S := .seq iaOutVal iaKeep

/-- the body of the second loop: `val = inf if sample[1] == True else -inf; out.append([out_sample[i][0], val])` -/
def iaBody2 : S := (.seq (.ite (.bin .eq (.idx (.loc "sample") (.int 1)) (.boolLit true)) (.setLoc "val" .inf) (.setLoc "val" (.neg .inf))) (.appendLoc "out" (.list2 (.idx (.idx (.loc "out_sample") (.loc "i")) (.int 0)) (.loc "val"))))

/-- what follows the first loop; `nm` is `$out_vars` / `$in_vars` -/
def iaTail (nm : String) : S := (.seq (.setLoc "out_sample" (.loc "out_samples")) (.seq (.setLoc "out" .emptyList) (.seq (.ite (.not (.loc nm)) (.forEnum "i" "sample" (.loc "sat_samples") false iaBody2) (.setLoc "out" (.loc "out_sample"))) (.ret (.loc "out")))))

def iaBody (nm : String) : S := (.seq (.setLoc "out_samples" .emptyList) (.seq (.setLoc "sat_samples" .emptyList) (.seq (.setLoc "input_list" (.call2 "subtraction_operation" (.loc "sample_left") (.loc "sample_right"))) (.seq (.setLoc "prev" .nan) (.seq (.forEnum "i" "in_sample" (.loc "input_list") false iaBody1) (iaTail nm))))))

theorem outRob_body : Gen.Dense.visitPredicate_outRob.body = iaBody "$out_vars" := rfl
theorem inRob_body : Gen.Dense.visitPredicate_inRob.body = iaBody "$in_vars" := rfl

/-- `V` is read after `sat_val` is set: hypothesis `hV`, for every value of `sat_val`. -/
theorem iaBranch_exec {call : Call α} {fuel : Nat} {env : Env α} {T V : E} {b : Bool} {v : α}
    (hT : evalE call env T = .ok (.bool b)) (hV : ∀ x, evalE call (setLoc "sat_val" x env) V = .ok (.val v)) :
    exec call fuel (iaBranch T V) env = .ok (setLoc "out_val" (.val v) (setLoc "sat_val" (.bool b) env), none) := by
  rw [iaBranch, exec.seq_ok (env' := setLoc "sat_val" (.bool b) env) ((exec.ite hT rfl).trans (by cases b <;> rfl)),
    exec.setLoc (hV _)]

/-- `A OP 0` for a value `A` -/
theorem satTest {call : Call α} {env : Env α} {op : BinOp} {A : E} {a : α} {b : Bool}
    (hA : evalE call env A = .ok (.val a)) (hop : isCmp op = true) (hb : cmpVal op a Val.zero = .ok b) :
    evalE call env (.bin op A (.int 0)) = .ok (.bool b) := by
  rw [evalE.bin hA rfl, evalBin.cmp hop, show cmpDV op (.val a) (.int 0) = cmpVal op a Val.zero from rfl, hb]; rfl

theorem iaOutVal_step (call : Call α) (fuel : Nat) (env : Env α) (c : Cmp) (t : Tm) (d : α)
    (hop : getLoc "$operator" env = .ok (.cmp c)) (hin : getLoc "in_sample" env = .ok (.smp t (.val d)))
    (hr : resolve env "abs" = "abs") (hc : call "abs" [.val d] = .ok (.val (Val.abs d))) :
    exec call fuel iaOutVal env =
      .ok (setLoc "out_val" (.val (cmpOfDiff c d)) (setLoc "sat_val" (.bool (satOfDiff c d)) env), none) := by
  have hd : evalE call env diffE = .ok (.val d) := (evalE.idxInt (evalE.loc hin)).trans rfl
  have ha : evalE call env (.call1 "abs" diffE) = .ok (.val (Val.abs d)) := (evalE.call1 hd).trans (by rw [hr, hc])
  rw [iaOutVal, exec.ite (opTest call env c _ hop) rfl, exec.ite (opTest call env c _ hop) rfl,
    exec.ite (opTest call env c _ hop) rfl, exec.ite (opTest call env c _ hop) rfl,
    exec.ite (opTest call env c _ hop) rfl, exec.ite (opTest call env c _ hop) rfl]
  cases c with
  | eq => exact iaBranch_exec (satTest hd rfl rfl) fun _ => by dn_step [diffE, hin, hr, hc, evalNeg, cmpOfDiff]
  | ne => exact iaBranch_exec (satTest ha rfl rfl) fun _ => by dn_step [diffE, hin, hr, hc, cmpOfDiff]
  | le => exact iaBranch_exec (satTest hd rfl rfl) fun _ => by dn_step [diffE, hin, evalNeg, cmpOfDiff]
  | lt => exact iaBranch_exec (satTest hd rfl rfl) fun _ => by dn_step [diffE, hin, evalNeg, cmpOfDiff]
  | ge => exact iaBranch_exec (satTest hd rfl rfl) fun _ => by dn_step [diffE, hin, cmpOfDiff]
  | gt => exact iaBranch_exec (satTest hd rfl rfl) fun _ => by dn_step [diffE, hin, cmpOfDiff]

/-- the two lists the loop builds, from the kept samples `(t, (robustness, satisfaction))` -/
def encOut (acc : List (Tm × (α × Bool))) : List (DV α) := acc.map (fun p => .smp p.1 (.val p.2.1))
def encSat (acc : List (Tm × (α × Bool))) : List (DV α) := acc.map (fun p => .smp p.1 (.bool p.2.2))

theorem iaKeep_step (call : Call α) (fuel : Nat) (env : Env α) (t : Tm) (d v : α) (b : Bool) (prev : Option α) (k : Nat)
    (L accO accS : List (DV α))
    (hov : getLoc "out_val" env = .ok (.val v)) (hsv : getLoc "sat_val" env = .ok (.bool b))
    (hpv : getLoc "prev" env = .ok (encPrev prev))
    (hi : getLoc "i" env = .ok (.int k)) (hL : getLoc "input_list" env = .ok (.list L))
    (hin : getLoc "in_sample" env = .ok (.smp t (.val d)))
    (hos : getLoc "out_samples" env = .ok (.list accO)) (hss : getLoc "sat_samples" env = .ok (.list accS))
    (hr : resolve env "len" = "len") (hc : ∀ l : List (DV α), call "len" [.list l] = .ok (.int l.length)) :
    exec call fuel iaKeep env =
      .ok (setLoc "prev" (.val v)
        (if keepB prev v || decide (k + 1 = L.length)
          then setLoc "sat_samples" (.list (accS ++ [.smp t (.bool b)]))
                (setLoc "out_samples" (.list (accO ++ [.smp t (.val v)])) env) else env), none) := by
  rw [iaKeep, exec, exec.ite (keepE_eval hc (evalE.loc hov) hpv hi hL hr) rfl]
  cases keepB prev v || decide (k + 1 = L.length)
  · dn_step [hov, Bool.false_eq_true]
  · dn_step [hov, hsv, hin, hos, hss, mkList2, toPayload]

/-- what the first loop keeps in its locals; `X` is the value of `node.out_vars` / `node.in_vars` (local `nm`) -/
structure IAInv (nm : String) (X : DV α) (env : Env α) (c : Cmp) (L : List (DV α)) (acc : List (Tm × (α × Bool)))
    (prev : Option α) : Prop where
  op : getLoc "$operator" env = .ok (.cmp c)
  il : getLoc "input_list" env = .ok (.list L)
  os : getLoc "out_samples" env = .ok (.list (encOut acc))
  ss : getLoc "sat_samples" env = .ok (.list (encSat acc))
  pv : getLoc "prev" env = .ok (encPrev prev)
  nmv : getLoc nm env = .ok X
  rabs : resolve env "abs" = "abs"
  rlen : resolve env "len" = "len"

/-- `nm` is none of the other locals of the method -/
abbrev Fresh (nm : String) : Prop :=
  nm ≠ "in_sample" ∧ nm ≠ "i" ∧ nm ≠ "sat_val" ∧ nm ≠ "out_val" ∧ nm ≠ "out_samples" ∧ nm ≠ "sat_samples" ∧
    nm ≠ "prev" ∧ nm ≠ "input_list" ∧ nm ≠ "out_sample" ∧ nm ≠ "out" ∧ nm ≠ "sample_left" ∧ nm ≠ "sample_right" ∧
    nm ≠ "$operator"

theorem fresh_out : Fresh "$out_vars" := by simp [Fresh]
theorem fresh_in : Fresh "$in_vars" := by simp [Fresh]

theorem iaBody1_step (call : Call α) (fuel : Nat) (nm : String) (X : DV α) (fr : Fresh nm) (env : Env α) (c : Cmp)
    (L : List (DV α)) (acc : List (Tm × (α × Bool))) (prev : Option α)
    (t : Tm) (d : α) (k : Nat) (inv : IAInv nm X env c L acc prev)
    (hcAbs : ∀ d : α, call "abs" [.val d] = .ok (.val (Val.abs d)))
    (hcLen : ∀ L : List (DV α), call "len" [.list L] = .ok (.int L.length)) :
    ∃ env', exec call fuel iaBody1 (setLoc "in_sample" (.smp t (.val d)) (setLoc "i" (.int k) env)) = .ok (env', none) ∧
      IAInv nm X env' c L (acc ++ if keepB prev (cmpOfDiff c d) || decide (k + 1 = L.length)
        then [(t, (cmpOfDiff c d, satOfDiff c d))] else []) (some (cmpOfDiff c d)) := by
  obtain ⟨h1, h2, h3, h3', h4, h7, h5, h6⟩ := inv
  refine ⟨_, (exec.seq_ok (iaOutVal_step call fuel _ c t d (by simp [h1]) (by simp) (by simp [h5]) (hcAbs d))).trans
    (iaKeep_step call fuel _ t d (cmpOfDiff c d) (satOfDiff c d) prev k L (encOut acc) (encSat acc)
      (by simp) (by simp) (by simp [h4]) (by simp) (by simp [h2]) (by simp) (by simp [h3]) (by simp [h3'])
      (by simp [h6]) hcLen), ?_⟩
  cases keepB prev (cmpOfDiff c d) || decide (k + 1 = L.length) <;> constructor <;>
    simp [h1, h2, h3, h3', h5, h6, h7, encPrev, encOut, encSat, fr]

theorem dedupGoK_key {γ : Type} (key : γ → α) (l : List (Tm × γ)) : ∀ prev : Option α,
    (dedupGoK key prev l).map (fun p => (p.1, key p.2)) = dedupGo prev (l.map fun p => (p.1, key p.2)) := by
  induction l with
  | nil => intro _; rfl
  | cons p l ih =>
      intro prev
      rw [dedupGoK_cons, List.map_cons, dedupGo_cons, List.map_append, ih, List.isEmpty_map]
      cases keepB prev (key p.2) || l.isEmpty <;> rfl

/-- the samples with both values, as `predicateIA` builds them -/
def both (c : Cmp) (s : ASig α) : List (Tm × (α × Bool)) := s.map (fun p => (p.1, (cmpOfDiff c p.2, satOfDiff c p.2)))

/-- `float("inf") if sat else -float("inf")` -/
def mkInf (b : Bool) : α := if b then Val.pinf else Val.ninf

def encInf (acc : List (Tm × (α × Bool))) : List (DV α) := acc.map (fun p => .smp p.1 (.val (mkInf p.2.2)))

theorem iaBody2_step (call : Call α) (fuel : Nat) (env : Env α) (acc O : List (DV α)) (k : Nat) (t t' : Tm) (v : α)
    (b : Bool) (hs : getLoc "sample" env = .ok (.smp t' (.bool b))) (hi : getLoc "i" env = .ok (.int k))
    (hO : getLoc "out_sample" env = .ok (.list O))
    (hk : O[k]? = some (.smp t (.val v))) (hout : getLoc "out" env = .ok (.list acc)) :
    exec call fuel iaBody2 env =
      .ok (setLoc "out" (.list (acc ++ [.smp t (.val (mkInf b))])) (setLoc "val" (.uinf (!b)) env), none) := by
  have hcond : evalE call env (.bin .eq (.idx (.loc "sample") (.int 1)) (.boolLit true)) = .ok (.bool b) := by
    rw [evalE.bin (y := .bool true) ((evalE.idxInt (evalE.loc hs)).trans rfl) rfl]
    cases b <;> rfl
  rw [iaBody2, exec.seq_ok (env' := setLoc "val" (.uinf (!b)) env) ((exec.ite hcond rfl).trans (by cases b <;> rfl))]
  refine exec.appendLoc ((evalE.list2 (y := .uinf (!b))
    ((evalE.idxInt (x := .smp t (.val v)) ((evalE.idx (evalE.loc (by simpa using hO)) (evalE.loc (by simpa using hi))).trans
      (evalIdx.nat O k _ hk))).trans rfl) (evalE.loc (getLoc_setLoc_same _ _ _))).trans (by cases b <;> rfl))
    (by simpa using hout)

/-- what the method returns on the differences `d`: the kept samples with their robustness, or with `±inf` by
    satisfaction when `node.out_vars` (`node.in_vars`) is empty -/
def iaOut (c : Cmp) (vs : List (DV α)) (d : ASig α) : ASig α :=
  (dedupGoK (fun x : α × Bool => x.1) none (both c d)).map fun p => (p.1, if vs.isEmpty then mkInf p.2.2 else p.2.1)

theorem iaTail_rets (call : Call α) (fuel : Nat) (nm : String) (fr : Fresh nm) (env : Env α)
    (A : List (Tm × (α × Bool))) (vs : List (DV α))
    (hos : getLoc "out_samples" env = .ok (.list (encOut A))) (hss : getLoc "sat_samples" env = .ok (.list (encSat A)))
    (hnm : getLoc nm env = .ok (.list vs)) :
    Rets (exec call fuel (iaTail nm) env)
      (.ok (A.map fun p => (p.1, if vs.isEmpty then mkInf p.2.2 else p.2.1))) encSig := by
  have hnot : evalE call (setLoc "out" (.list []) (setLoc "out_sample" (.list (encOut A)) env)) (.not (.loc nm)) =
      .ok (.bool vs.isEmpty) := by
    simp [evalE, truthy, fr, hnm]
  rw [iaTail, exec.seq_ok (exec.setLoc (evalE.loc hos)), exec.seq_ok (exec.setLoc (v := .list []) rfl)]
  cases vs with
  | cons x xs =>
      rw [exec.seq_ok ((exec.ite_false hnot rfl).trans (exec.setLoc (evalE.loc (v := .list (encOut A)) (by simp))))]
      exact Rets.ret (evalE.loc (by simp [encOut, encSig, encSmp]))
  | nil =>
      obtain ⟨env', _, h1, pre, hA, -, -, hout⟩ := exec.forEnum_inv call fuel
        (fun p : Tm × (α × Bool) => (.smp p.1 (.bool p.2.2) : DV α)) "sample" "i" (.loc "sat_samples") iaBody2 A
        (setLoc "out" (.list []) (setLoc "out_sample" (.list (encOut A)) env)) (evalE.loc (by simp [hss, encSat]))
        (fun k rest env => ∃ pre, A = pre ++ rest ∧ k = pre.length ∧
          getLoc "out_sample" env = .ok (.list (encOut A)) ∧ getLoc "out" env = .ok (.list (encInf pre)))
        (by
          rintro _ ⟨t, v, b⟩ rest env ⟨pre, hA, rfl, hO, hout⟩
          exact ⟨_, iaBody2_step call fuel _ _ _ pre.length t t v b (by simp) (by simp) (by simpa using hO)
              (by simp [encOut, hA]) (by simpa using hout),
            pre ++ [(t, v, b)], by simp [hA], by simp, by simpa using hO, by simp [encInf]⟩)
        ⟨[], rfl, rfl, by simp, by simp [encInf]⟩
      obtain rfl := hA.trans (List.append_nil pre)
      rw [exec.seq_ok ((exec.ite_true hnot rfl).trans h1)]
      exact Rets.ret (evalE.loc (hout.trans (by simp [encInf, encSig, encSmp])))

theorem exec_seq_ret' (call : Call α) (fuel : Nat) (a b : S) (env env' env'' : Env α) (v : DV α)
    (h : exec call fuel a env = .ok (env', none)) (h2 : exec call fuel b env' = .ok (env'', some v)) :
    exec call fuel (.seq a b) env = .ok (env'', some v) :=
  (exec.seq_ok h).trans h2

theorem iaBody_rets (call : Call α) (fuel : Nat) (nm : String) (fr : Fresh nm) (c : Cmp) (vs : List (DV α)) (l r : ASig α)
    (env : Env α) (hcAbs : ∀ d : α, call "abs" [.val d] = .ok (.val (Val.abs d)))
    (hcLen : ∀ L : List (DV α), call "len" [.list L] = .ok (.int L.length))
    (hsub : call "subtraction_operation" [encSig l, encSig r] = (inter (fun a b => Val.sub a b) vne l r).map encSig)
    (hl : getLoc "sample_left" env = .ok (encSig l)) (hr : getLoc "sample_right" env = .ok (encSig r))
    (hop : getLoc "$operator" env = .ok (.cmp c)) (hnm : getLoc nm env = .ok (.list vs))
    (hres : ∀ f, resolve env f = f) :
    Rets (exec call fuel (iaBody nm) env) (inter (fun a b => Val.sub a b) vne l r >>= fun d => .ok (iaOut c vs d))
      encSig := by
  rw [iaBody, exec.seq_ok (exec.setLoc (v := .list []) rfl), exec.seq_ok (exec.setLoc (v := .list []) rfl)]
  refine Runs.seq_sim (Runs.setLoc (enc := encSig) (by dn_step [hl, hr, hres, hsub])) ?_
  rintro d _ - rfl
  rw [exec.seq_ok (exec.setLoc (v := .nan) rfl)]
  -- the samples kept so far, followed by what the mirror keeps of the items to come, are what it keeps of `d`
  obtain ⟨env', _, h1, _, acc, prev, inv, hT⟩ := exec.forEnum_inv call fuel encSmp "in_sample" "i" (.loc "input_list")
    iaBody1 d (setLoc "prev" .nan (setLoc "input_list" (encSig d) (setLoc "sat_samples" (.list [])
      (setLoc "out_samples" (.list []) env)))) (evalE.loc (by simp [encSig]))
    (fun k rest env => k + rest.length = d.length ∧ ∃ acc prev, IAInv nm (.list vs) env c (d.map encSmp) acc prev ∧
      acc ++ dedupGoK (fun x : α × Bool => x.1) prev (both c rest) = dedupGoK (fun x : α × Bool => x.1) none (both c d))
    (by
      rintro k ⟨t, x⟩ rest env ⟨hk, acc, prev, inv, hT⟩
      obtain ⟨env1, h1, inv1⟩ := iaBody1_step call fuel nm _ fr env c _ acc prev t x k inv hcAbs hcLen
      refine ⟨env1, h1, by simp at hk ⊢; omega, _, _, inv1, ?_⟩
      have : decide (k + 1 = (d.map encSmp).length) = (both c rest).isEmpty := by
        cases rest <;> simp [both] at hk ⊢ <;> omega
      rw [← hT, this, List.append_assoc]
      exact congrArg _ (dedupGoK_cons (fun x : α × Bool => x.1) prev (t, _, _) (both c rest)).symm)
    ⟨by simp, [], none, by
      constructor <;> simp [hop, hnm, hres, encSig, encOut, encSat, encPrev, fr], rfl⟩
  obtain rfl := (List.append_nil acc).symm.trans hT
  rw [exec.seq_ok h1]
  exact iaTail_rets call fuel nm fr env' _ vs inv.os inv.ss inv.nmv

/-- both interface-aware robustness `visitPredicate`s: `nm` is `$out_vars` / `$in_vars` -/
theorem iaMethod (fuel : Nat) (m : DMethod) (nm : String) (fr : Fresh nm)
    (hk : m.kids = ["sample_left", "sample_right"]) (hb : m.body = iaBody nm)
    (c : Cmp) (l r : ASig α) (h : l.length + r.length + 4 ≤ fuel) (vs : List (DV α)) :
    callD fuel m [l, r] none [("$operator", .cmp c), (nm, .list vs)] =
      if vs.isEmpty then predicateIA c mkInf l r else predicate c l r := by
  -- both mirrors are `inter … >>=` a function of the differences
  have hM : (if vs.isEmpty then predicateIA c mkInf l r else predicate c l r) =
      inter (fun a b => Val.sub a b) vne l r >>= fun d => .ok (iaOut c vs d) := by
    cases vs with
    | nil => rfl
    | cons x xs =>
        have : ∀ d : ASig α, iaOut c (x :: xs) d = dedup (d.map fun p => (p.1, cmpOfDiff c p.2)) := fun d =>
          (dedupGoK_key (fun x : α × Bool => x.1) (both c d) none).trans (by rw [both, List.map_map]; rfl)
        simp only [this]; rfl
  refine callD_of_rets (by rw [hk]; rfl) ?_
  rw [hk, hb, hM]
  show Rets (exec _ fuel _
    ([("sample_left", encSig l), ("sample_right", encSig r), ("$operator", .cmp c), (nm, .list vs)] : Env α)) _ _
  exact iaBody_rets _ fuel nm fr c vs l r _ (callAt_abs fuel depth) (callAt_len fuel depth)
    (gen_subtraction_operation fuel 3 l r h) (by simp) (by simp) (by simp) (by simp [fr])
    fun f => by simp only [resolve_cons]; simp [resolve, encSig]

/-- `IAStlOutputRobustnessDenseTimeOfflineAstVisitor.visitPredicate`, `node.out_vars` empty -/
theorem _root_.Rtamt.Py.Dn.gen_visitPredicate_outRob_insensitive (fuel : Nat) (c : Cmp) (l r : ASig α)
    (h : l.length + r.length + 4 ≤ fuel) :
    callD fuel Gen.Dense.visitPredicate_outRob [l, r] none [("$operator", .cmp c), ("$out_vars", .list [])]
      = predicateIA c (fun b => if b then Val.pinf else Val.ninf) l r :=
  iaMethod fuel Gen.Dense.visitPredicate_outRob "$out_vars" fresh_out rfl outRob_body c l r h []

/-- `IAStlOutputRobustnessDenseTimeOfflineAstVisitor.visitPredicate`, `node.out_vars` not empty -/
theorem _root_.Rtamt.Py.Dn.gen_visitPredicate_outRob_sensitive (fuel : Nat) (c : Cmp) (l r : ASig α)
    (h : l.length + r.length + 4 ≤ fuel) (vs : List (DV α)) (hvs : vs ≠ []) :
    callD fuel Gen.Dense.visitPredicate_outRob [l, r] none [("$operator", .cmp c), ("$out_vars", .list vs)]
      = predicate c l r := by
  rw [iaMethod fuel Gen.Dense.visitPredicate_outRob "$out_vars" fresh_out rfl outRob_body c l r h vs]
  cases vs with
  | nil => exact absurd rfl hvs
  | cons x xs => rfl

/-- `IAStlInputRobustnessDenseTimeOfflineAstVisitor.visitPredicate`, `node.in_vars` empty -/
theorem _root_.Rtamt.Py.Dn.gen_visitPredicate_inRob_insensitive (fuel : Nat) (c : Cmp) (l r : ASig α)
    (h : l.length + r.length + 4 ≤ fuel) :
    callD fuel Gen.Dense.visitPredicate_inRob [l, r] none [("$operator", .cmp c), ("$in_vars", .list [])]
      = predicateIA c (fun b => if b then Val.pinf else Val.ninf) l r :=
  iaMethod fuel Gen.Dense.visitPredicate_inRob "$in_vars" fresh_in rfl inRob_body c l r h []

/-- `IAStlInputRobustnessDenseTimeOfflineAstVisitor.visitPredicate`, `node.in_vars` not empty -/
theorem _root_.Rtamt.Py.Dn.gen_visitPredicate_inRob_sensitive (fuel : Nat) (c : Cmp) (l r : ASig α)
    (h : l.length + r.length + 4 ≤ fuel) (vs : List (DV α)) (hvs : vs ≠ []) :
    callD fuel Gen.Dense.visitPredicate_inRob [l, r] none [("$operator", .cmp c), ("$in_vars", .list vs)]
      = predicate c l r := by
  rw [iaMethod fuel Gen.Dense.visitPredicate_inRob "$in_vars" fresh_in rfl inRob_body c l r h vs]
  cases vs with
  | nil => exact absurd rfl hvs
  | cons x xs => rfl

/-- the two classes run the same code: on the same value of `node.in_vars` / `node.out_vars` they return the same list
    (`evalAlgG` runs `visitPredicate_outRob` for both robustness semantics) -/
theorem _root_.Rtamt.Py.Dn.gen_visitPredicate_inRob_eq_outRob (fuel : Nat) (c : Cmp) (l r : ASig α)
    (h : l.length + r.length + 4 ≤ fuel) (vs : List (DV α)) :
    callD fuel Gen.Dense.visitPredicate_inRob [l, r] none [("$operator", .cmp c), ("$in_vars", .list vs)] =
      callD fuel Gen.Dense.visitPredicate_outRob [l, r] none [("$operator", .cmp c), ("$out_vars", .list vs)] := by
  rw [iaMethod fuel Gen.Dense.visitPredicate_inRob "$in_vars" fresh_in rfl inRob_body c l r h vs,
    iaMethod fuel Gen.Dense.visitPredicate_outRob "$out_vars" fresh_out rfl outRob_body c l r h vs]

end GenIAD

end Rtamt.Py.Dn
