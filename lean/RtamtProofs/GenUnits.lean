/-
  `DiscreteTimeInterpreter.time_unit_transformer` and `update_sampling_violation_counter`, as translated from
  the Python source (`Rtamt/Py/GeneratedUnits.lean`, regenerated on every run), denote the hand-written
  mirrors `SIv.toSamples` (`Rtamt/Units.lean`, the function the C08 theorems are stated on) and
  `SamplingCfg.violates` (`Rtamt/Discrete/Sampling.lean`, C13).  The body of the second is run on any object that holds
  its three attributes (`exec_counter`): `GenClock.lean` meets the same body inlined into `update` and `evaluate`.

  Numbers are exact (`Rat` for Python's `Fraction` / the numbers given to `set_sampling_period`); a negative
  bound is excluded (the parser rejects it; the Python would return a negative number of samples, the mirror
  raises).
-/
import Rtamt.Py.GeneratedUnits
import Rtamt.Units
import RtamtProofs.SemBase

namespace Rtamt.Py
open Rtamt Val

variable {α : Type} [Val α]

def unitStr : TUnit → String
  | .s => "s" | .ms => "ms" | .us => "us" | .ns => "ns"

def optUnitStr : Option TUnit → String
  | some u => unitStr u
  | none => ""

/-- The attributes of the interpreter that `time_unit_transformer` reads. -/
def cfgStore (c : UnitCfg) : Store α :=
  [("sampling_period", .rat c.period), ("sampling_period_unit", .str (unitStr c.periodUnit))]

/-- Python's `int(x)` on a `Fraction` (truncation towards zero), as in `evalUn .toInt`. -/
def pyToInt (q : Rat) : Int := if 0 ≤ q.num then q.num / q.den else -((-q.num) / q.den)

theorem den_eq_one_of_emod_eq_zero (q : Rat) (h : q.num % (q.den : Int) = 0) : q.den = 1 := by
  have hd : (q.den : Int) ∣ q.num := Int.dvd_of_emod_eq_zero h
  have hd' : q.den ∣ q.num.natAbs := by
    have := Int.natAbs_dvd_natAbs.2 hd
    simpa using this
  exact Nat.Coprime.eq_one_of_dvd q.reduced.symm hd'

/-- The test of the Python code (`numerator % denominator > 0`) says that the fraction is not an integer
    (the fraction is in lowest terms). -/
theorem numer_mod_denom_pos (q : Rat) : (0 < q.num % (q.den : Int)) ↔ q.den ≠ 1 := by
  constructor
  · intro h h1
    rw [h1] at h
    simp at h
  · intro h
    have hnn : 0 ≤ q.num % (q.den : Int) := Int.emod_nonneg _ (by have := q.den_pos; omega)
    have hne : q.num % (q.den : Int) ≠ 0 := fun h0 => h (den_eq_one_of_emod_eq_zero q h0)
    omega

/-- For a non-negative fraction: either the Python test fires and the mirror has no natural number, or it does
    not fire and `int(x)` is the natural number of the mirror. -/
theorem ratToNat_cases (q : Rat) (hq : 0 ≤ q) :
    ((0 < q.num % (q.den : Int)) ∧ ratToNat? q = none) ∨
    (¬ (0 < q.num % (q.den : Int)) ∧ ∃ n : Nat, ratToNat? q = some n ∧ pyToInt q = (n : Int)) := by
  have hn : 0 ≤ q.num := Rat.num_nonneg.2 hq
  by_cases h1 : q.den = 1
  · right
    refine ⟨by rw [numer_mod_denom_pos]; simp [h1], q.num.toNat, by simp [ratToNat?, h1, hn], ?_⟩
    simp [pyToInt, hn, h1]
    omega
  · left
    exact ⟨(numer_mod_denom_pos q).2 h1, by simp [ratToNat?, h1]⟩

theorem unitNs_eq (u : TUnit) : evalUn (α := α) .unitNs (.str (unitStr u)) = .ok (.int u.nanos) := by
  cases u <;> rfl

theorem nanos_pos (u : TUnit) : 0 < u.nanos := by cases u <;> decide

theorem nanos_ne_zero (u : TUnit) : ((u.nanos : Int) : Rat) ≠ 0 := by
  cases u <;> simp [TUnit.nanos]

theorem unitStr_length_pos (u : TUnit) : 0 < (unitStr u).length := by
  cases u <;> decide

theorem evalUn_frac_rat (q : Rat) : evalUn (α := α) .frac (.rat q) = .ok (.rat q) := rfl
theorem evalUn_numer_rat (q : Rat) : evalUn (α := α) .numer (.rat q) = .ok (.int q.num) := rfl
theorem evalUn_denom_rat (q : Rat) : evalUn (α := α) .denom (.rat q) = .ok (.int q.den) := rfl
theorem evalUn_toInt_rat (q : Rat) : evalUn (α := α) .toInt (.rat q) = .ok (.int (pyToInt q)) := rfl

theorem evalBin_mul_rat_int (q : Rat) (n : Int) :
    evalBin (α := α) .mul (.rat q) (.int n) = .ok (.rat (q * (n : Rat))) := by
  simp [evalBin, coerce, ratOf]

theorem evalBin_div_rat_rat (a b : Rat) (hb : b ≠ 0) :
    evalBin (α := α) .div (.rat a) (.rat b) = .ok (.rat (a / b)) := by
  simp [evalBin, coerce, ratOf, hb]

theorem evalBin_div_rat_int (a : Rat) (n : Int) (hn : (n : Rat) ≠ 0) :
    evalBin (α := α) .div (.rat a) (.int n) = .ok (.rat (a / (n : Rat))) := by
  simp [evalBin, coerce, ratOf, hn]

theorem evalBin_mod_num_den (q : Rat) :
    evalBin (α := α) .mod (.int q.num) (.int q.den) = .ok (.int (q.num % q.den)) := by
  simp [evalBin, coerce, q.den_nz]

/-! ### the common beginning of the discrete-time and the dense-time method: copy the arguments, default the units -/

/-- The statement that defaults the units (taken out of the generated term, not copied). -/
def unitsDefault : S :=
  match Gen.Units.time_unit_transformer.body with
  | .seq _ (.seq _ (.seq _ (.seq _ (.seq d _)))) => d
  | _ => .skip

/-- The locals after it: `b_unit`, `e_unit` hold `SIv.units`. -/
def unitsLoc (d : TUnit) (i : SIv) : Store α :=
  [("$begin", .rat i.b), ("$end", .rat i.e), ("$bunit", .str (optUnitStr i.bu)), ("$eunit", .str (optUnitStr i.eu)),
   ("$unit", .str (unitStr d)), ("b", .rat i.b), ("e", .rat i.e),
   ("b_unit", .str (unitStr (i.units d).1)), ("e_unit", .str (unitStr (i.units d).2))]

theorem exec_units_prefix (rest : S) (self : Store α) (d : TUnit) (i : SIv) :
    exec (.seq (.setLoc "b" (.loc "$begin")) (.seq (.setLoc "e" (.loc "$end")) (.seq (.setLoc "b_unit" (.loc "$bunit"))
        (.seq (.setLoc "e_unit" (.loc "$eunit")) (.seq unitsDefault rest)))))
      ⟨self, [("$begin", .rat i.b), ("$end", .rat i.e), ("$bunit", .str (optUnitStr i.bu)),
        ("$eunit", .str (optUnitStr i.eu)), ("$unit", .str (unitStr d))]⟩
      = exec rest ⟨self, unitsLoc d i⟩ := by
  have hlen : ∀ u, (unitStr u).length ≠ 0 := fun u => by have := unitStr_length_pos u; omega
  rcases i with ⟨b, e, bu, eu⟩
  simp [exec_seq, exec_setLoc, evalE_loc, ok_bind, getKey_cons_same, getKey_cons_ne, setKey]
  cases bu <;> cases eu <;>
    simp [unitsDefault, Gen.Units.time_unit_transformer, unitsLoc, SIv.units, optUnitStr, exec_seq, exec_setLoc,
      exec_ite, exec_skip, evalE, evalBin_gt_int, evalBin_eq_int, ok_bind, getKey_cons_same,
      getKey_cons_ne, setKey, hlen, unitStr_length_pos]

/-- What follows the scaling of the bounds to sampling periods: the two tests for a whole number, and `int()`. -/
def tutRound : S :=
  match Gen.Units.time_unit_transformer.body with
  | .seq _ (.seq _ (.seq _ (.seq _ (.seq _ (.seq _ (.seq _ (.seq _ (.seq _ (.seq _ r))))))))) => r
  | _ => .skip

/-- Symbolic execution of `tutRound`. -/
macro "tut_simp" "[" ls:Lean.Parser.Tactic.simpLemma,* "]" : tactic =>
  `(tactic| simp [tutRound, Gen.Units.time_unit_transformer, exec_skip, exec_seq, exec_setLoc, exec_ite,
      exec_raise, evalE, evalUn_numer_rat, evalUn_denom_rat, evalUn_toInt_rat, evalBin_mod_num_den, evalBin_gt_int,
      ok_bind, error_bind, getKey_cons_same, getKey_cons_ne, setKey, pure, Except.pure, Functor.map, Except.map, $ls,*])

/-- The translated `time_unit_transformer` computes `SIv.toSamples` (and raises RTAMTException exactly when the mirror
    does) for non-negative bounds and a positive period. -/
theorem gen_time_unit_transformer (c : UnitCfg) (i : SIv) (hb : 0 ≤ i.b) (he : 0 ≤ i.e) (hp : 0 < c.period) :
    call (α := α) Gen.Units.time_unit_transformer (cfgStore c)
        [.rat i.b, .rat i.e, .str (optUnitStr i.bu), .str (optUnitStr i.eu), .str (unitStr c.unit)]
      = (i.toSamples c).map (fun r => (cfgStore c, V.pair (.int r.1) (.int r.2))) := by
  rw [call_some _ _ _ _ rfl rfl]
  change (exec (.seq _ (.seq _ (.seq _ (.seq _ (.seq unitsDefault
    (.seq _ (.seq _ (.seq _ (.seq _ (.seq _ tutRound)))))))))) ⟨_, [_, _, _, _, _]⟩ >>= _) = _
  rw [exec_units_prefix]
  have hsp0 : 0 < c.period * (c.periodUnit.nanos : Rat) := Rat.mul_pos hp (Rat.natCast_pos.2 (nanos_pos _))
  have hsp : c.period * (c.periodUnit.nanos : Rat) ≠ 0 := Rat.ne_of_gt hsp0
  have hinv : 0 ≤ (c.period * (c.periodUnit.nanos : Rat))⁻¹ := Rat.le_of_lt (Rat.inv_pos.2 hsp0)
  obtain ⟨ub, ue, hu⟩ : ∃ ub ue, i.units c.unit = (ub, ue) := ⟨_, _, rfl⟩
  have hqb : 0 ≤ i.b * (ub.nanos : Rat) / (c.period * (c.periodUnit.nanos : Rat)) := by
    rw [Rat.div_def]; exact Rat.mul_nonneg (Rat.mul_nonneg hb Rat.natCast_nonneg) hinv
  have hqe : 0 ≤ i.e * (ue.nanos : Rat) / (c.period * (c.periodUnit.nanos : Rat)) := by
    rw [Rat.div_def]; exact Rat.mul_nonneg (Rat.mul_nonneg he Rat.natCast_nonneg) hinv
  have hmirror : i.toSamples c =
      match ratToNat? (i.b * (ub.nanos : Rat) / (c.period * (c.periodUnit.nanos : Rat))),
            ratToNat? (i.e * (ue.nanos : Rat) / (c.period * (c.periodUnit.nanos : Rat))) with
      | some b, some e => .ok (b, e)
      | _, _ => .error .rtamt := by
    simp only [SIv.toSamples, SIv.durNs, hu, UnitCfg.periodNs]
    rfl
  -- the scaling, once; what remains is `tutRound` on locals that hold the two quotients
  simp [unitsLoc, cfgStore, hu, hsp, exec_seq, exec_setLoc, evalE, unitNs_eq, evalUn_frac_rat, evalBin_mul_rat_int,
    evalBin_div_rat_rat, ok_bind, getKey_cons_same, getKey_cons_ne, setKey, Rat.intCast_natCast]
  rw [hmirror]
  rcases ratToNat_cases _ hqb with ⟨hb1, hb2⟩ | ⟨hb1, nb, hb2, hb3⟩
  · -- the lower bound is not a multiple of the period
    rw [hb2]
    tut_simp [hb1]
  · rcases ratToNat_cases _ hqe with ⟨he1, he2⟩ | ⟨he1, ne, he2, he3⟩
    · -- the upper bound is not a multiple of the period
      rw [hb2, he2]
      tut_simp [hb1, he1]
    · rw [hb2, he2]
      tut_simp [hb1, he1, hb3, he3]

/-- The attributes that `update_sampling_violation_counter` reads and writes. -/
def samplingStore (period tol : Rat) (k : Nat) : Store α :=
  [("sampling_period", .rat period), ("sampling_tolerance", .rat tol), ("sampling_violation_counter", .int k)]

/-- `update_sampling_violation_counter(duration)` on any object that holds the three attributes, `duration` a local. -/
theorem exec_counter (c : SamplingCfg) (self loc : Store α) (n : Nat) (D : Rat)
    (hp : getKey "sampling_period" self = .ok (.rat c.period))
    (ht : getKey "sampling_tolerance" self = .ok (.rat c.tol))
    (hn : getKey "sampling_violation_counter" self = .ok (.int n))
    (hd : getKey "duration" loc = .ok (.rat D)) :
    exec Gen.Units.update_sampling_violation_counter.body ⟨self, loc⟩
      = .ok ⟨if c.violates D then setKey "sampling_violation_counter" (.int (n + 1 : Nat)) self else self,
             setKey "tolerance" (.rat (c.period * c.tol)) loc⟩ := by
  have hd' : getKey "duration" (setKey "tolerance" (V.rat (c.period * c.tol)) loc) = .ok (.rat D) :=
    (getKey_setKey_ne _ _ _ _ (by decide)).trans hd
  simp only [Gen.Units.update_sampling_violation_counter, exec_seq, exec_setLoc, exec_ite, exec_setAttr, exec_skip,
    evalE, hp, ht, hn, hd', getKey_setKey_same, ok_bind, evalBin_mul_rat_rat, evalBin_sub_rat_rat,
    evalBin_add_rat_rat, evalBin_lt_rat_rat, evalBin_gt_rat_rat, evalBin_or_bool, evalBin_add_int,
    SamplingCfg.violates, gt_iff_lt]
  cases decide (D < c.period - c.period * c.tol) || decide (c.period + c.period * c.tol < D) <;> rfl

theorem gen_update_counter (c : SamplingCfg) (k : Nat) (d : Rat) :
    call (α := α) Gen.Units.update_sampling_violation_counter (samplingStore c.period c.tol k) [.rat d]
      = .ok (samplingStore c.period c.tol (if c.violates d then k + 1 else k), .none) := by
  have h := exec_counter (α := α) c (samplingStore c.period c.tol k) [("duration", .rat d)] k d
    (getKey_cons_same ..) (by py_step [samplingStore]) (by py_step [samplingStore]) (getKey_cons_same ..)
  simp only [call, Gen.Units.update_sampling_violation_counter] at h ⊢
  simp only [List.length_cons, List.length_nil, ne_eq, not_true_eq_false, if_false, List.zip_cons_cons,
    List.zip_nil_right, h, ok_bind, pure, Except.pure]
  cases c.violates d <;> rfl

theorem gen_units_supported :
    Gen.Units.time_unit_transformer.supported = true ∧ Gen.Units.update_sampling_violation_counter.supported = true := by
  decide

end Rtamt.Py
