/-
  C01 — Discrete-time offline robustness equals the STL quantitative semantics.

  "For every well-formed STL specification … and every discrete-time trace of
   length >= 1, offline evaluate() returns exactly one [timestamp, value] pair per
   input sample and the value at sample t is rho(phi,w,t) … The result depends only
   on the specification and the sample values, never on the numeric time-stamps."
-/
import RtamtProofs.Lemmas.OffScan
import RtamtProofs.Lemmas.OffTimed1
import RtamtProofs.Lemmas.OffTimed2
import RtamtProofs.Lemmas.Node

namespace Rtamt
open Val

variable {α : Type} [Val α] [LawfulVal α]

/-- The data set supplies, for every variable of the formula, a list of `n` samples
    whose `t`-th element is `σ x t`. -/
def Env.Agrees (w : Env α) (σ : String → Nat → α) (n : Nat) (xs : List String) : Prop :=
  ∀ x ∈ xs, w.lookup x = some (tab n (σ x))

/-- `TimedPrecedes` exists only as the output of the pastifier; the offline visitor raises on it. -/
def F.noPrecedes (φ : F α) : Prop := Kind.TimedPrecedes ∉ φ.kinds

/-- Main theorem: the mirror of the offline visitor computes the README semantics,
    for every formula whose node classes the visitor overrides (`h`), every trace
    length `n ≥ 1` and every data set. -/
theorem C01_offline_eq_rho (h : Kind → Bool) (w : Env α) (σ : String → Nat → α) (n : Nat)
    (hn : 0 < n) (φ : F α) (hwf : φ.wf = true) (hh : ∀ k ∈ φ.kinds, h k = true)
    (hp : φ.noPrecedes) (hw : w.Agrees σ n φ.vars) :
    evalOff h w n φ = .ok (tab n (rho σ n φ)) := by
  induction φ using Dense.C09Dense.nodeInduction with
  | var x =>
    have hv : h .Variable = true := hh _ (by simp [F.kinds])
    have := hw x (by simp [F.vars])
    simp [evalOff, hv, Env.get, this, rho]
  | const c =>
    have hv : h .Constant = true := hh _ (by simp [F.kinds])
    simp [evalOff, hv, rho, replicate_tab]
  | n1 hN ih =>
    unfold F.noPrecedes at hp
    rw [hN.kinds] at hh hp
    have hk : h _ = true := hh _ List.mem_cons_self
    obtain ⟨hab, hwφ⟩ := hN.wf.1 hwf
    have ih' := ih hwφ (fun k hk' => hh k (List.mem_cons_of_mem _ hk'))
      (fun hc => hp (List.mem_cons_of_mem _ hc)) (by rwa [hN.vars] at hw)
    cases hN with
    | un op =>
      replace hk : h op.kind = true := hk
      simp [evalOff, ih', hk, rho, map_tab, bind, Except.bind, pure, Except.pure]
    | tmp1 op =>
      replace hk : h op.kind = true := hk
      cases op <;>
        simp only [evalOff, ih', hk, rho, bind, Except.bind, pure, Except.pure, if_true,
          rise_tab, fall_tab, shiftFwd_tab, next_tab _ _ hn, scanFwd_once, scanFwd_hist,
          scanRev_ev, scanRev_alw]
    | tb1 op a b =>
      replace hk : h op.kind = true := hk
      replace hab : a ≤ b := hab
      cases op <;>
        simp [evalOff, ih', hk, hab, rho, timedPast_once, timedPast_hist, timedFuture_ev,
          timedFuture_alw, bind, Except.bind]
  | @n2 _ φ ψ hN ih1 ih2 =>
    unfold F.noPrecedes at hp
    rw [hN.kinds] at hh hp
    have hk : h _ = true := hh _ List.mem_cons_self
    rw [hN.vars] at hw
    obtain ⟨hab, hwφ, hwψ⟩ := hN.wf.1 hwf
    have ih1' := ih1 hwφ (fun k hk' => hh k (List.mem_cons_of_mem _ (List.mem_append_left _ hk')))
      (fun hc => hp (List.mem_cons_of_mem _ (List.mem_append_left _ hc)))
      (fun x hx => hw x (List.mem_append_left _ hx))
    have ih2' := ih2 hwψ (fun k hk' => hh k (List.mem_cons_of_mem _ (List.mem_append_right _ hk')))
      (fun hc => hp (List.mem_cons_of_mem _ (List.mem_append_right _ hc)))
      (fun x hx => hw x (List.mem_append_right _ hx))
    cases hN with
    | bin op =>
      replace hk : h op.kind = true := hk
      cases op <;>
        simp [evalOff, ih1', ih2', hk, rho, zipWith_tab, loop2, bind, Except.bind, pure, Except.pure]
    | tmp2 op =>
      replace hk : h op.kind = true := hk
      cases op <;>
        simp [evalOff, ih1', ih2', hk, rho, scan2_since, scan2_until, bind, Except.bind, pure, Except.pure]
    | tb2 op a b =>
      replace hk : h op.kind = true := hk
      replace hab : a ≤ b := hab
      cases op with
      | since =>
        simp [evalOff, ih1', ih2', hk, hab, rho, sinceLoop_since, bind, Except.bind]
      | «until» =>
        have := sinceLoop_until a b hab n (rho σ n φ) (rho σ n ψ)
        simp only [bind, Except.bind, pure, Except.pure] at this
        simp [evalOff, ih1', ih2', hk, hab, rho, bind, Except.bind, pure, Except.pure, this]
      | precedes => exact absurd List.mem_cons_self hp

/-! ### The interpreter's `evaluate`: one pair per sample, time-stamps only echoed -/

theorem C01_evaluate {τ : Type} (h : Kind → Bool) (w : Env α) (σ : String → Nat → α)
    (time : List τ) (hn : 0 < time.length) (φ : F α) (hwf : φ.wf = true)
    (hh : ∀ k ∈ φ.kinds, h k = true) (hp : φ.noPrecedes) (hw : w.Agrees σ time.length φ.vars) :
    evaluateOff h φ time w = .ok (time.zip (tab time.length (rho σ time.length φ))) := by
  simp [evaluateOff, C01_offline_eq_rho h w σ time.length hn φ hwf hh hp hw, bind, Except.bind,
    pure, Except.pure]

/-- Exactly one `[timestamp, value]` pair per input sample, the `t`-th being `(time[t], rho φ w t)`. -/
theorem C01_one_pair_per_sample {τ : Type} (h : Kind → Bool) (w : Env α) (σ : String → Nat → α)
    (time : List τ) (hn : 0 < time.length) (φ : F α) (hwf : φ.wf = true)
    (hh : ∀ k ∈ φ.kinds, h k = true) (hp : φ.noPrecedes) (hw : w.Agrees σ time.length φ.vars) :
    ∃ out, evaluateOff h φ time w = .ok out ∧ out.length = time.length ∧
      ∀ t (ht : t < time.length), out[t]? = some (time[t], rho σ time.length φ t) := by
  refine ⟨_, C01_evaluate h w σ time hn φ hwf hh hp hw, by simp, ?_⟩
  intro t ht
  simp [ht, tab_getElem]

/-- The values do not depend on the time column. -/
theorem C01_time_independent {τ τ' : Type} (h : Kind → Bool) (w : Env α) (σ : String → Nat → α)
    (time : List τ) (time' : List τ') (hlen : time'.length = time.length) (hn : 0 < time.length)
    (φ : F α) (hwf : φ.wf = true) (hh : ∀ k ∈ φ.kinds, h k = true) (hp : φ.noPrecedes)
    (hw : w.Agrees σ time.length φ.vars) :
    (evaluateOff h φ time w).map (List.map Prod.snd) =
      (evaluateOff h φ time' w).map (List.map Prod.snd) := by
  have hw' : w.Agrees σ time'.length φ.vars := by rw [hlen]; exact hw
  rw [C01_evaluate h w σ time hn φ hwf hh hp hw,
      C01_evaluate h w σ time' (by omega) φ hwf hh hp hw']
  simp only [Except.map]
  congr 1
  rw [hlen]
  rw [List.map_snd_zip (by simp), List.map_snd_zip (by simp [hlen])]

end Rtamt
