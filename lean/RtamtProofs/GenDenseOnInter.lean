/-
  The translated online `intersection` (`Gen.DenseOn.fn_intersection`: early return, the initial `last`, the 13-case `while`
  loop that also maintains `last`, the remainders, one of the two tail loops with `break`) computes what the mirror
  `Rtamt.Dense.AlgOn.interOn` (`onLoop`, `tail1`, `tail2`) computes - the 4-tuple, and the `RTAMTException` of the last
  `else` - for all inputs (`gen_on_intersection_sim`).  What can raise (the loop body, the main loop, the rest of the body,
  the call) is stated as `Exc.Sim` against the mirror and composed along `exec`.  A block's lemma says what the locals of
  `Loc` hold afterwards; the blocks run between the reading of `current_in_sample_k` and its use also say, by the frame
  rule (`frame_cur`), that they leave both where they are.  At the end, the functions the operation classes hand to
  `intersection`, by operator (`gen_on_binMethod`), and the two instances the classes use (`gen_on_inter_val`, `_split`).
-/
import RtamtProofs.GenDenseOnMeth

namespace Rtamt.Py.DnOn.GOnInter
open Rtamt Val Rtamt.Dense Rtamt.Dense.Alg Rtamt.Dense.AlgOn Rtamt.Py.DnOn

set_option linter.unusedSectionVars false

variable {α : Type} [Val α]

/-! A structured copy of the generated body, checked by `rfl` against the generated term (`fn_intersection_body`). -/

def tE (x : String) : E := .idx (.loc x) (.int 0)
def aLt (x y : String) : E := .bin .lt (tE x) (tE y)
def aEq (x y : String) : E := .bin .eq (tE x) (tE y)
def aGt (x y : String) : E := .bin .gt (tE x) (tE y)
def and3 (a b c : E) : E := .and_ a (.and_ b c)

def sDel1 : S := .delIdx "in_samples_1" (.int 0)
def sDel2 : S := .delIdx "in_samples_2" (.int 0)
def sPrev1 : S := .setLoc "prev_in_sample_1" (.loc "current_in_sample_1")
def sPrev2 : S := .setLoc "prev_in_sample_2" (.loc "current_in_sample_2")
def sAdv1 : S := .seq sDel1 sPrev1
def sAdv2 : S := .seq sDel2 sPrev2

def sOutVal : S :=
  .setLoc "out_value" (.call2 "method" (.idx (.loc "prev_in_sample_1") (.int 1)) (.idx (.loc "prev_in_sample_2") (.int 1)))

/-- the inlined `_append(out_samples, item)` -/
def sAppendE (item : E) : S :=
  .seq (.setLoc "_append$item" item)
    (.ite (.not (.loc "out_samples")) (.appendLoc "out_samples" (.loc "_append$item"))
      (.seq (.setLoc "_append$prev_item" (.idx (.loc "out_samples") (.neg (.int 1))))
        (.ite (.bin .ne (.idx (.loc "_append$prev_item") (.int 1)) (.idx (.loc "_append$item") (.int 1)))
          (.appendLoc "out_samples" (.loc "_append$item")) .skip)))

def outItem (src : String) : E := .list2 (.idx (.loc src) (.int 0)) (.loc "out_value")

/-- `last_val = method(a[1], b[1])` -/
def sLastVal (a b : String) : S := .setLoc "last_val" (.call2 "method" (.idx (.loc a) (.int 1)) (.idx (.loc b) (.int 1)))
/-- `last = [s[0], last_val]` -/
def sSetLast (s : String) : S := .setLoc "last" (.list2 (.idx (.loc s) (.int 0)) (.loc "last_val"))

def sCase1 : S := .seq sDel1 (.seq sPrev1 (.setLoc "last" .emptyList))
def sCase2 : S := .seq sDel1 (.seq sPrev1 (.seq (sLastVal "current_in_sample_1" "prev_in_sample_2") (sSetLast "prev_in_sample_2")))
def sCase11 : S := .seq (sLastVal "prev_in_sample_1" "current_in_sample_2") (.seq (sSetLast "current_in_sample_2") sAdv2)
def sFull (osrc la lb ls : String) (adv : S) : S :=
  .seq sOutVal (.seq (sAppendE (outItem osrc)) (.seq (sLastVal la lb) (.seq (sSetLast ls) adv)))

local notation "P1" => "prev_in_sample_1"
local notation "P2" => "prev_in_sample_2"
local notation "C1" => "current_in_sample_1"
local notation "C2" => "current_in_sample_2"

def interChain : S :=
  .ite (aLt C1 P2) sCase1
  (.ite (and3 (aLt P1 C1) (aEq C1 P2) (aLt P2 C2)) sCase2
  (.ite (and3 (aLt P1 P2) (aLt P2 C1) (aLt C1 C2)) (sFull P2 C1 P2 C1 sAdv1)
  (.ite (and3 (aLt P1 P2) (aLt P2 C1) (aEq C1 C2)) (sFull P2 C1 C2 C2 sAdv1)
  (.ite (and3 (aLt P2 P1) (aLt P1 C1) (aEq C1 C2)) (sFull P1 C1 C2 C2 sAdv1)
  (.ite (and3 (aLt P1 P2) (aLt P2 C2) (aLt C2 C1)) (sFull P2 P1 C2 C2 sAdv2)
  (.ite (and3 (aEq P1 P2) (aLt P2 C2) (aLt C2 C1)) (sFull P2 P1 C2 C2 sAdv2)
  (.ite (and3 (aEq P1 P2) (aLt P2 C2) (aEq C2 C1)) (sFull P2 C1 C2 C2 sAdv1)
  (.ite (and3 (aEq P1 P2) (aLt P2 C1) (aLt C1 C2)) (sFull P1 C1 P2 C1 sAdv1)
  (.ite (and3 (aLt P2 P1) (aLt P1 C1) (aLt C1 C2)) (sFull P1 C1 P2 C1 sAdv1)
  (.ite (and3 (aLt P2 C2) (aEq C2 P1) (aLt P1 C1)) sCase11
  (.ite (and3 (aLt P2 P1) (aLt P1 C2) (aLt C2 C1)) (sFull P1 P1 C2 C2 sAdv2)
  (.ite (aGt P1 C2) sAdv2
  (.raise .rtamt)))))))))))))

def sCur1 : S := .setLoc "current_in_sample_1" (.idx (.loc "in_samples_1") (.int 1))
def sCur2 : S := .setLoc "current_in_sample_2" (.idx (.loc "in_samples_2") (.int 1))

def interBody : S := .seq sCur1 (.seq sCur2 interChain)

def interCond : E := .and_ (.sliceFrom (.loc "in_samples_1") 1) (.sliceFrom (.loc "in_samples_2") 1)

def sEarly : S :=
  .ite (.or_ (.bin .eq (.call1 "len" (.loc "in_samples_1")) (.int 0)) (.bin .eq (.call1 "len" (.loc "in_samples_2")) (.int 0)))
    (.ret (.tup4 (.loc "out_samples") (.loc "last") (.loc "in_samples_1") (.loc "in_samples_2"))) .skip

def sInitLast : S :=
  .ite (aEq P1 P2)
    (.seq (.setLoc "out_val" (.call2 "method" (.idx (.loc P1) (.int 1)) (.idx (.loc P2) (.int 1))))
      (.setLoc "last" (.list2 (.idx (.loc P1) (.int 0)) (.loc "out_val")))) .skip

/-- the item appended in the tail loops is `last` itself -/
def sTailEmit (adv : S) : S := .seq (sAppendE (.loc "last")) adv

def tailChain1 : S :=
  .ite (aGt P1 P2) .brk
  (.ite (aEq P1 P2) (.seq (sLastVal P1 P2) (.seq (sSetLast P2) .brk))
  (.ite (.and_ (aLt P1 P2) (aLt P2 C1)) (.seq (sLastVal P1 P2) (.seq (sSetLast P2) (sTailEmit sAdv1)))
  (.ite (.and_ (aLt P1 P2) (aEq P2 C1)) (.seq (sLastVal C1 P2) (.seq (sSetLast P2) (sTailEmit sAdv1)))
  (.ite (aGt P2 C1) (.seq (.setLoc "last" .emptyList) sAdv1) .skip))))

def tailChain2 : S :=
  .ite (aGt P2 P1) .brk
  (.ite (aEq P2 P1) (.seq (sLastVal P1 P2) (.seq (sSetLast P1) .brk))
  (.ite (.and_ (aLt P2 P1) (aLt P1 C2)) (.seq (sLastVal P1 P2) (.seq (sSetLast P1) (sTailEmit sAdv2)))
  (.ite (.and_ (aLt P2 P1) (aEq P1 C2)) (.seq (sLastVal P1 C2) (.seq (sSetLast P1) (sTailEmit sAdv2)))
  (.ite (aGt P1 C2) (.seq (.setLoc "last" .emptyList) sAdv2) .skip))))

def tailBody1 : S := .seq sCur1 tailChain1
def tailBody2 : S := .seq sCur2 tailChain2

def tailCond1 : E := .sliceFrom (.loc "in_samples_1") 1
def tailCond2 : E := .sliceFrom (.loc "in_samples_2") 1

def sTails : S :=
  .ite (.bin .gt (.call1 "len" (.loc "in_samples_1")) (.int 1)) (.while_ tailCond1 tailBody1)
    (.ite (.bin .gt (.call1 "len" (.loc "in_samples_2")) (.int 1)) (.while_ tailCond2 tailBody2) .skip)

def sRet : S := .ret (.tup4 (.loc "out_samples") (.loc "last") (.loc "remainder_samples_1") (.loc "remainder_samples_2"))

def sRem1 : S := .setLoc "remainder_samples_1" (.call1 "list" (.loc "in_samples_1"))
def sRem2 : S := .setLoc "remainder_samples_2" (.call1 "list" (.loc "in_samples_2"))

def interRest : S :=
  .seq (.setLoc P1 (.idx (.loc "in_samples_1") (.int 0)))
    (.seq (.setLoc P2 (.idx (.loc "in_samples_2") (.int 0)))
      (.seq sInitLast
        (.seq (.while_ interCond interBody)
          (.seq sRem1 (.seq sRem2 (.seq sTails sRet))))))

theorem fn_intersection_body : Gen.DenseOn.fn_intersection.body =
    .seq (.setLoc "in_samples_1" (.call1 "list" (.loc "in_samples_1")))
      (.seq (.setLoc "in_samples_2" (.call1 "list" (.loc "in_samples_2")))
        (.seq (.setLoc "out_samples" .emptyList) (.seq (.setLoc "last" .emptyList) (.seq sEarly interRest)))) := rfl

theorem fn_intersection_isMethod : Gen.DenseOn.fn_intersection.isMethod = false := rfl

theorem fn_intersection_params : Gen.DenseOn.fn_intersection.params = ["in_samples_1", "in_samples_2", "method"] := rfl

theorem adv1_keeps : ∀ x ∈ [C1, C2], x ∉ mods sAdv1 := by decide +kernel

theorem tails_keeps : ∀ x ∈ ["remainder_samples_1", "remainder_samples_2"], x ∉ mods sTails := by decide +kernel

theorem tm_tri (a b : Tm) (h1 : Tm.lt b a = false) (h2 : (a == b) = false) : Tm.lt a b = true := by
  cases a <;> cases b <;> simp_all [Tm.lt]
  rename_i x y
  exact Rat.lt_of_le_of_ne (Rat.not_lt.mp h1) h2

section stmts
variable (call : Call α) (fuel : Nat)

theorem exec_seq_brk {a b : S} {env env' : Env α} (h : exec call fuel a env = .ok (env', .brk)) :
    exec call fuel (.seq a b) env = .ok (env', .brk) :=
  exec.seq_brk h

theorem evalIdx_smp0 (t : Tm) (p : DV α) : evalIdx (.smp t p) (.int 0) = .ok (.tm t) :=
  evalIdx.smp0 t p

theorem evalIdx_cons1 (a b : DV α) (l : List (DV α)) : evalIdx (.list (a :: b :: l)) (.int 1) = .ok b :=
  evalIdx.cons1 a b l

/-- `x[1]` of a list of at least two samples -/
theorem evalE_second {env : Env α} {x : String} {p q : Tm × α} {r : ASig α} (h : getLoc x env = .ok (encSig (p :: q :: r))) :
    evalE call env (.idx (.loc x) (.int 1)) = .ok (encSmp q) := by
  simp only [evalE, h, ok_bind]
  exact evalIdx.cons1 _ _ _

/-- `x[1:]` is non-empty -/
theorem drop1_nonempty {γ : Type} (l : List γ) : (!(l.drop 1).isEmpty) = decide (2 ≤ l.length) := by
  rcases l with _ | ⟨x, _ | ⟨y, r⟩⟩ <;> simp

theorem evalE_slice1 {env : Env α} {x : String} {l : ASig α} (h : getLoc x env = .ok (encSig l)) :
    evalE call env (.sliceFrom (.loc x) 1) = .ok (encSig (l.drop 1)) := by
  simp only [evalE, h, ok_bind, encSig, pure_eq_ok, List.map_drop]

/-- `while x[1:]` goes on as long as two samples are left -/
theorem sliceCond_spec {env : Env α} {x : String} {l : ASig α} (h : getLoc x env = .ok (encSig l)) :
    (do truthy (← evalE call env (.sliceFrom (.loc x) 1))) = .ok (decide (2 ≤ l.length)) := by
  simp only [evalE_slice1 call h, ok_bind, truthy_encSig, drop1_nonempty]

theorem evalE_and3 {env : Env α} {a b c : E} {A B C : Bool} (ha : evalE call env a = .ok (.bool A))
    (hb : evalE call env b = .ok (.bool B)) (hc : evalE call env c = .ok (.bool C)) :
    evalE call env (and3 a b c) = .ok (.bool (A && B && C)) := by
  rw [Bool.and_assoc]
  exact evalE.and_bool ha (evalE.and_bool hb hc)

theorem evalE_tE {env : Env α} {x : String} {t : Tm} {p : DV α} (h : getLoc x env = .ok (.smp t p)) :
    evalE call env (tE x) = .ok (.tm t) :=
  evalE.time (evalE.loc h)

theorem evalE_aLt {env : Env α} {x y : String} {t u : Tm} {p q : DV α} (hx : getLoc x env = .ok (.smp t p))
    (hy : getLoc y env = .ok (.smp u q)) : evalE call env (aLt x y) = .ok (.bool (Tm.lt t u)) :=
  (evalE.bin (evalE_tE call hx) (evalE_tE call hy)).trans (evalBin.lt_tm t u)

theorem evalE_aEq {env : Env α} {x y : String} {t u : Tm} {p q : DV α} (hx : getLoc x env = .ok (.smp t p))
    (hy : getLoc y env = .ok (.smp u q)) : evalE call env (aEq x y) = .ok (.bool (t == u)) :=
  (evalE.bin (evalE_tE call hx) (evalE_tE call hy)).trans (evalBin.eq_tm t u)

theorem evalE_aGt {env : Env α} {x y : String} {t u : Tm} {p q : DV α} (hx : getLoc x env = .ok (.smp t p))
    (hy : getLoc y env = .ok (.smp u q)) : evalE call env (aGt x y) = .ok (.bool (Tm.lt u t)) :=
  (evalE.bin (evalE_tE call hx) (evalE_tE call hy)).trans (evalBin.gt_tm t u)

end stmts

/-- The 13 cases by the shape of their bodies.  `full e la lb ls a`: a sample is written at `prev_in_sample_1[0]` (`e`) or at
    `prev_in_sample_2[0]`; `last_val = method(x[1], y[1])` with `x` = `current_in_sample_1` (`la`) or `prev_in_sample_1`,
    `y` = `current_in_sample_2` (`lb`) or `prev_in_sample_2`; `last` carries the time of `current_in_sample_1` (`ls`) or of
    `current_in_sample_2`; the first (`a`) or the second list advances. -/
inductive Dec
  | k1 | k2 | k11 | k13 | err
  | full (e la lb ls a : Bool)

def interDec (p1 c1 p2 c2 : Tm) : Dec :=
  sel13 p1 c1 p2 c2 .k1 .k2 (.full false true false true true) (.full false true true false true)
    (.full true true true false true) (.full false false true false false) (.full false false true false false)
    (.full false true true false true) (.full true true false true true) (.full true true false true true) .k11
    (.full true false true false false) .k13 .err

section mirror
variable {β : Type}

/-- the state `(out, last, l1, l2)` of the mirror's loop after the decision `d`, in the order in which `onLoop` returns it -/
def nextSt (f : α → α → β) (ne : β → β → Bool) (p1 c1 p2 c2 : Tm) (v1 w1 v2 w2 : α) (r1 r2 : ASig α)
    (out : ASig β) (last : Last β) : Dec → Except PyErr (ASig β × Last β × ASig α × ASig α)
  | .err => .error .rtamt
  | .k1 => .ok (out, .nil, (c1, w1) :: r1, (p2, v2) :: (c2, w2) :: r2)
  | .k2 => .ok (out, .item p2 (f w1 v2), (c1, w1) :: r1, (p2, v2) :: (c2, w2) :: r2)
  | .k11 => .ok (out, .item c2 (f v1 w2), (p1, v1) :: (c1, w1) :: r1, (c2, w2) :: r2)
  | .k13 => .ok (out, last, (p1, v1) :: (c1, w1) :: r1, (c2, w2) :: r2)
  | .full e la lb ls a =>
      .ok (appendD ne out (if e then p1 else p2, f v1 v2),
        .item (if ls then c1 else c2) (f (if la then w1 else v1) (if lb then w2 else v2)),
        if a then (c1, w1) :: r1 else (p1, v1) :: (c1, w1) :: r1,
        if a then (p2, v2) :: (c2, w2) :: r2 else (c2, w2) :: r2)

theorem onLoop_dec (f : α → α → β) (ne : β → β → Bool) (p1 c1 p2 c2 : Tm) (v1 w1 v2 w2 : α) (r1 r2 : ASig α)
    (out : ASig β) (last : Last β) :
    onLoop f ne ((p1, v1) :: (c1, w1) :: r1) ((p2, v2) :: (c2, w2) :: r2) out last =
      nextSt f ne p1 c1 p2 c2 v1 w1 v2 w2 r1 r2 out last (interDec p1 c1 p2 c2) >>= fun s =>
        onLoop f ne s.2.2.1 s.2.2.2 s.1 s.2.1 := by
  rw [onLoop, interDec, sel13_apply fun d => nextSt f ne p1 c1 p2 c2 v1 w1 v2 w2 r1 r2 out last d >>= fun s =>
    onLoop f ne s.2.2.1 s.2.2.2 s.1 s.2.1]
  rfl

theorem onLoop_short (f : α → α → β) (ne : β → β → Bool) (l1 l2 : ASig α) (out : ASig β) (last : Last β)
    (h : l1.length < 2 ∨ l2.length < 2) : onLoop f ne l1 l2 out last = .ok (out, last, l1, l2) := by
  unfold onLoop
  split
  · simp only [List.length_cons] at h; omega
  · rfl

theorem nextSt_len (f : α → α → β) (ne : β → β → Bool) (p1 c1 p2 c2 : Tm) (v1 w1 v2 w2 : α) (r1 r2 : ASig α)
    (out : ASig β) (last : Last β) (d : Dec) (s : ASig β × Last β × ASig α × ASig α)
    (h : nextSt f ne p1 c1 p2 c2 v1 w1 v2 w2 r1 r2 out last d = .ok s) :
    s.2.2.1.length ≤ r1.length + 2 ∧ s.2.2.2.length ≤ r2.length + 2 ∧
      s.2.2.1.length + s.2.2.2.length < r1.length + r2.length + 4 := by
  cases d with
  | err => cases h
  | full e la lb ls a =>
      cases h
      cases a <;> simp only [↓reduceIte, Bool.false_eq_true, List.length_cons] <;> omega
  | _ =>
      cases h
      simp only [List.length_cons]
      omega

theorem onLoop_len (f : α → α → β) (ne : β → β → Bool) : ∀ (n : Nat) (l1 l2 : ASig α) (out : ASig β) (last : Last β)
    (s : ASig β × Last β × ASig α × ASig α), l1.length + l2.length < n → onLoop f ne l1 l2 out last = .ok s →
    s.2.2.1.length ≤ l1.length ∧ s.2.2.2.length ≤ l2.length := by
  intro n
  induction n with
  | zero => intro l1 l2 out last s hn; omega
  | succ n ih =>
      intro l1 l2 out last s hn h
      by_cases hl : l1.length < 2 ∨ l2.length < 2
      · rw [onLoop_short f ne l1 l2 out last hl] at h
        cases h
        exact ⟨Nat.le_refl _, Nat.le_refl _⟩
      · obtain ⟨⟨p1, v1⟩, ⟨c1, w1⟩, r1, rfl⟩ := exists_cons_cons (fun h => hl (.inl (Nat.lt_succ_of_le h)))
        obtain ⟨⟨p2, v2⟩, ⟨c2, w2⟩, r2, rfl⟩ := exists_cons_cons (fun h => hl (.inr (Nat.lt_succ_of_le h)))
        rw [onLoop_dec] at h
        obtain ⟨s', hs', h⟩ := Exc.bind_ok h
        have hlen := nextSt_len f ne p1 c1 p2 c2 v1 w1 v2 w2 r1 r2 out last _ s' hs'
        have hih := ih _ _ _ _ s (by simp only [List.length_cons] at hn; omega) h
        simp only [List.length_cons]
        omega

variable (encP : β → DV α)

theorem encSigP_concat (o : ASig β) (p : Tm × β) :
    encSigP encP (o ++ [p]) = .list (o.map (fun p => .smp p.1 (encP p.2)) ++ [.smp p.1 (encP p.2)]) := by
  simp [encSigP]

/-- `x.append(e)` on a list of samples -/
theorem exec_append_sigP (call : Call α) (fuel : Nat) {x : String} {e : E} {env : Env α} {o : ASig β} {t : Tm} {v : β}
    (he : evalE call env e = .ok (.smp t (encP v))) (hx : getLoc x env = .ok (encSigP encP o)) :
    exec call fuel (.appendLoc x e) env = .ok (setLoc x (encSigP encP (o ++ [(t, v)])) env, .none) := by
  simp only [exec, he, hx, ok_bind, pure_eq_ok, encSigP, List.map_append, List.map_cons, List.map_nil]

theorem truthy_encSigP (o : ASig β) : truthy (encSigP encP o) = .ok (!o.isEmpty) := by
  cases o <;> rfl

theorem appendD_concat (ne : β → β → Bool) (o : ASig β) (q p : Tm × β) :
    appendD ne (o ++ [q]) p = if ne q.2 p.2 then o ++ [q] ++ [p] else o ++ [q] := by
  simp [appendD]

end mirror

section calls
variable {β : Type} {encP : β → DV α} {call : Call α} {env : Env α}

/-- `method(a[1], b[1])` on two samples -/
theorem evalE_method {m : String} {f : α → α → β} (hcall : ∀ a b, call m [.val a, .val b] = .ok (encP (f a b)))
    {a b : E} {ta tb : Tm} {va vb : α} (hm : getLoc "method" env = .ok (.fn m))
    (ha : evalE call env a = .ok (encSmp (ta, va))) (hb : evalE call env b = .ok (encSmp (tb, vb))) :
    evalE call env (.call2 "method" (.idx a (.int 1)) (.idx b (.int 1))) = .ok (encP (f va vb)) := by
  rw [evalE.call2 (evalE.payload ha) (evalE.payload hb), resolve_of_getLoc hm]
  exact hcall va vb

/-- `[a[0], b]` for a sample `a` and a payload `b` -/
theorem evalE_mkSmp (hpay : ∀ x, toPayload (encP x) = .ok (encP x)) {a b : E} {t : Tm} {q : DV α} {p : β}
    (ha : evalE call env a = .ok (.smp t q)) (hb : evalE call env b = .ok (encP p)) :
    evalE call env (.list2 (.idx a (.int 0)) b) = .ok (.smp t (encP p)) := by
  rw [evalE.list2 (evalE.time ha) hb]
  simp only [mkList2, hpay, ok_bind, pure_eq_ok]

/-- `list(x)` of a sample list -/
theorem evalE_listCopy (hlist : ∀ l, call "list" [.list l] = .ok (.list l)) {x : String} {l : ASig α}
    (hx : getLoc x env = .ok (encSig l)) (hr : resolve env "list" = "list") :
    evalE call env (.call1 "list" (.loc x)) = .ok (encSig l) := by
  rw [evalE.call1 (evalE.loc hx), hr, encSig, hlist]

variable (hlen : ∀ l, call "len" [.list l] = .ok (.int l.length))
include hlen

/-- `len(x)` of a sample list -/
theorem evalE_len {x : String} {l : ASig α} (hx : getLoc x env = .ok (encSig l)) (hn : resolve env "len" = "len") :
    evalE call env (.call1 "len" (.loc x)) = .ok (.int l.length) := by
  rw [evalE.call1 (evalE.loc hx), hn, encSig, hlen, List.length_map]

theorem lenGt_spec (x : String) (l : ASig α) (hx : getLoc x env = .ok (encSig l))
    (hn : resolve env "len" = "len") :
    evalE call env (.bin .gt (.call1 "len" (.loc x)) (.int 1)) = .ok (.bool (decide (1 < l.length))) := by
  rw [evalE.bin (evalE_len hlen hx hn) (y := .int 1) rfl]
  exact congrArg (fun c => Except.ok (DV.bool c)) (decide_eq_decide.mpr (by omega))

theorem lenEq0_spec (x : String) (l : ASig α) (hx : getLoc x env = .ok (encSig l))
    (hn : resolve env "len" = "len") :
    evalE call env (.bin .eq (.call1 "len" (.loc x)) (.int 0)) = .ok (.bool l.isEmpty) :=
  (evalE.bin (evalE_len hlen hx hn) rfl).trans (by cases l <;> rfl)

end calls

section loop
variable {β : Type} (encP : β → DV α) (m : String)

/-- the locals the loops of `intersection` work on -/
structure Loc (env : Env α) (l1 l2 : ASig α) (x1 x2 : Tm × α) (out : ASig β) (last : Last β) : Prop where
  in1 : getLoc "in_samples_1" env = .ok (encSig l1)
  in2 : getLoc "in_samples_2" env = .ok (encSig l2)
  out : getLoc "out_samples" env = .ok (encSigP encP out)
  last : getLoc "last" env = .ok (encLast encP last)
  p1 : getLoc P1 env = .ok (encSmp x1)
  p2 : getLoc P2 env = .ok (encSmp x2)
  m : getLoc "method" env = .ok (.fn m)
  rl : resolve env "list" = "list"
  rn : resolve env "len" = "len"

def tracked : List String :=
  ["in_samples_1", "in_samples_2", "out_samples", "last", P1, P2, "method", "list", "len"]

/-- the two `current_in_sample_k` are untouched -/
def SameCur (env env' : Env α) : Prop := getLoc C1 env' = getLoc C1 env ∧ getLoc C2 env' = getLoc C2 env

theorem SameCur.rfl' (env : Env α) : SameCur env env := ⟨rfl, rfl⟩

variable {env : Env α} {l1 l2 : ASig α} {x1 x2 : Tm × α} {out : ASig β} {last : Last β}

theorem Loc.set_other (h : Loc encP m env l1 l2 x1 x2 out last) (k : String) (v : DV α) (hk : k ∉ tracked) :
    Loc encP m (setLoc k v env) l1 l2 x1 x2 out last := by
  simp only [tracked, List.mem_cons, List.not_mem_nil, or_false, not_or] at hk
  obtain ⟨h1, h2, h3, h4, h5, h6, h7, h8, h9⟩ := hk
  constructor
  · rw [getLoc_setLoc_ne _ _ _ _ (fun e => h1 e.symm)]; exact h.in1
  · rw [getLoc_setLoc_ne _ _ _ _ (fun e => h2 e.symm)]; exact h.in2
  · rw [getLoc_setLoc_ne _ _ _ _ (fun e => h3 e.symm)]; exact h.out
  · rw [getLoc_setLoc_ne _ _ _ _ (fun e => h4 e.symm)]; exact h.last
  · rw [getLoc_setLoc_ne _ _ _ _ (fun e => h5 e.symm)]; exact h.p1
  · rw [getLoc_setLoc_ne _ _ _ _ (fun e => h6 e.symm)]; exact h.p2
  · rw [getLoc_setLoc_ne _ _ _ _ (fun e => h7 e.symm)]; exact h.m
  · rw [resolve_setLoc_ne _ _ _ _ (fun e => h8 e.symm)]; exact h.rl
  · rw [resolve_setLoc_ne _ _ _ _ (fun e => h9 e.symm)]; exact h.rn

theorem Loc.set_out (h : Loc encP m env l1 l2 x1 x2 out last) (o : ASig β) :
    Loc encP m (setLoc "out_samples" (encSigP encP o) env) l1 l2 x1 x2 o last := by
  constructor <;> simp [h.in1, h.in2, h.last, h.p1, h.p2, h.m, h.rl, h.rn]

theorem Loc.set_last (h : Loc encP m env l1 l2 x1 x2 out last) (la : Last β) :
    Loc encP m (setLoc "last" (encLast encP la) env) l1 l2 x1 x2 out la := by
  constructor <;> simp [h.in1, h.in2, h.out, h.p1, h.p2, h.m, h.rl, h.rn]

/-- the locals hold the state `s = (out, last, l1, l2)` of the mirror's loop, and `prev_in_sample_k` the head of `lk` -/
def Holds (s : ASig β × Last β × ASig α × ASig α) (env : Env α) : Prop :=
  ∃ x1 x2, Loc encP m env s.2.2.1 s.2.2.2 x1 x2 s.1 s.2.1 ∧ s.2.2.1.head? = some x1 ∧ s.2.2.2.head? = some x2

variable (call : Call α) (fuel : Nat) (f : α → α → β) (ne : β → β → Bool)

theorem frame_cur {s : S} {P : Env α → Prop} (hs : ∀ x ∈ [C1, C2], x ∉ mods s)
    (h : ∃ env', exec call fuel s env = .ok (env', .none) ∧ P env') :
    ∃ env', exec call fuel s env = .ok (env', .none) ∧ P env' ∧ SameCur env env' := by
  obtain ⟨env', hx, hp⟩ := h
  have ho := exec_frame call fuel s env env' _ hx
  exact ⟨env', hx, hp, ho.getLoc (hs _ (.head _)), ho.getLoc (hs _ (.tail _ (.head _)))⟩

theorem adv1_spec {a y1 : Tm × α} (h : Loc encP m env (a :: l1) l2 x1 x2 out last)
    (hc : getLoc C1 env = .ok (encSmp y1)) :
    ∃ env', exec call fuel sAdv1 env = .ok (env', .none) ∧ Loc encP m env' l1 l2 y1 x2 out last := by
  refine ⟨setLoc P1 (encSmp y1) (setLoc "in_samples_1" (encSig l1) env), ?_, ?_⟩
  · have hd : exec call fuel sDel1 env = .ok (setLoc "in_samples_1" (encSig l1) env, .none) :=
      exec.delHead h.in1
    unfold sAdv1
    rw [exec.seq_ok hd]
    exact exec.setLoc (evalE.loc ((getLoc_setLoc_ne _ _ _ _ (by simp)).trans hc))
  · constructor <;> simp [h.in2, h.out, h.last, h.p2, h.m, h.rl, h.rn]

theorem adv2_spec {a y2 : Tm × α} (h : Loc encP m env l1 (a :: l2) x1 x2 out last)
    (hc : getLoc C2 env = .ok (encSmp y2)) :
    ∃ env', exec call fuel sAdv2 env = .ok (env', .none) ∧ Loc encP m env' l1 l2 x1 y2 out last := by
  refine ⟨setLoc P2 (encSmp y2) (setLoc "in_samples_2" (encSig l2) env), ?_, ?_⟩
  · have hd : exec call fuel sDel2 env = .ok (setLoc "in_samples_2" (encSig l2) env, .none) :=
      exec.delHead h.in2
    unfold sAdv2
    rw [exec.seq_ok hd]
    exact exec.setLoc (evalE.loc ((getLoc_setLoc_ne _ _ _ _ (by simp)).trans hc))
  · constructor <;> simp [h.in1, h.out, h.last, h.p1, h.m, h.rl, h.rn]

/-- `last_val = method(la[1], lb[1]); last = [ls[0], last_val]` -/
theorem lastset_spec (hcall : ∀ a b, call m [.val a, .val b] = .ok (encP (f a b)))
    (hpay : ∀ x, toPayload (encP x) = .ok (encP x)) (h : Loc encP m env l1 l2 x1 x2 out last)
    {la lb ls : String} {ta tb t : Tm} {va vb : α} {p : DV α} (hla : getLoc la env = .ok (encSmp (ta, va)))
    (hlb : getLoc lb env = .ok (encSmp (tb, vb))) (hls : getLoc ls env = .ok (.smp t p)) (hn : ls ≠ "last_val") :
    ∃ env', exec call fuel (.seq (sLastVal la lb) (sSetLast ls)) env = .ok (env', .none) ∧
      Loc encP m env' l1 l2 x1 x2 out (.item t (f va vb)) ∧ SameCur env env' := by
  -- `mods` does not look at the expressions of a statement, so it is evaluated with `la lb ls` filled in
  refine frame_cur call fuel
    (show ∀ x ∈ [C1, C2], x ∉ mods (.seq (sLastVal "" "") (sSetLast "")) from by decide +kernel) ?_
  have h1 : exec call fuel (sLastVal la lb) env = .ok (setLoc "last_val" (encP (f va vb)) env, .none) :=
    exec.setLoc (evalE_method hcall h.m (evalE.loc hla) (evalE.loc hlb))
  have h2 : exec call fuel (sSetLast ls) (setLoc "last_val" (encP (f va vb)) env) =
      .ok (setLoc "last" (.smp t (encP (f va vb))) (setLoc "last_val" (encP (f va vb)) env), .none) :=
    exec.setLoc (evalE_mkSmp hpay
      (evalE.loc ((getLoc_setLoc_ne _ _ _ _ hn).trans hls)) (evalE.loc (getLoc_setLoc_same _ _ _)))
  refine ⟨setLoc "last" (.smp t (encP (f va vb))) (setLoc "last_val" (encP (f va vb)) env), ?_,
    (h.set_other encP m "last_val" (encP (f va vb)) (by simp [tracked])).set_last encP m (.item t (f va vb))⟩
  rw [exec.seq_ok h1, h2]

/-- the inlined `_append(out_samples, item)` -/
theorem append_spec (hne : ∀ x y, cmpDV .ne (encP x) (encP y) = .ok (ne x y))
    (h : Loc encP m env l1 l2 x1 x2 out last) (item : E) (t : Tm) (v : β)
    (hitem : evalE call env item = .ok (.smp t (encP v))) :
    ∃ env', exec call fuel (sAppendE item) env = .ok (env', .none) ∧
      Loc encP m env' l1 l2 x1 x2 (appendD ne out (t, v)) last ∧ SameCur env env' := by
  refine frame_cur call fuel (show ∀ x ∈ [C1, C2], x ∉ mods (sAppendE .inf) from by decide +kernel) ?_
  have h0 := h.set_other encP m "_append$item" (.smp t (encP v)) (by simp [tracked])
  have hi0 : getLoc "_append$item" (setLoc "_append$item" (.smp t (encP v)) env) = .ok (.smp t (encP v)) :=
    getLoc_setLoc_same _ _ _
  unfold sAppendE
  rw [exec.seq_ok (exec.setLoc hitem)]
  generalize setLoc "_append$item" (.smp t (encP v)) env = env0 at h0 hi0
  rw [exec.ite (evalE.not (evalE.loc h0.out) (truthy_encSigP encP out)) rfl]
  rcases List.eq_nil_or_concat out with rfl | ⟨O, q, e⟩
  · exact ⟨_, exec_append_sigP encP call fuel (evalE.loc hi0) h0.out, h0.set_out encP m [(t, v)]⟩
  · rw [List.concat_eq_append] at e; subst e
    have hout := h0.out
    rw [encSigP_concat] at hout
    have h1 := h0.set_other encP m "_append$prev_item" (.smp q.1 (encP q.2)) (by simp [tracked])
    have hc : evalE call (setLoc "_append$prev_item" (.smp q.1 (encP q.2)) env0)
        (.bin .ne (.idx (.loc "_append$prev_item") (.int 1)) (.idx (.loc "_append$item") (.int 1))) =
        .ok (.bool (ne q.2 v)) := by
      rw [evalE.bin (evalE.payload (evalE.loc (getLoc_setLoc_same _ _ _)))
        (evalE.payload (evalE.loc ((getLoc_setLoc_ne _ _ _ _ (by simp)).trans hi0)))]
      simp only [evalBin, isCmp, ↓reduceIte, hne, Except.map]
    have happ := exec_append_sigP encP call fuel (x := "out_samples")
      (evalE.loc ((getLoc_setLoc_ne _ _ _ _ (by simp)).trans hi0)) h1.out
    have hne' : (!!(O ++ [q]).isEmpty) = false := by simp
    rw [hne', if_neg Bool.false_ne_true, exec.seq_ok (exec.setLoc (evalE.last hout)),
      exec.ite hc rfl, appendD_concat]
    generalize setLoc "_append$prev_item" (.smp q.1 (encP q.2)) env0 = env1 at *
    cases ne q.2 v with
    | true => exact ⟨_, happ, h1.set_out encP m _⟩
    | false => exact ⟨env1, exec.skip (call := call) (fuel := fuel), h1⟩

section emit
variable (hcall : ∀ a b, call m [.val a, .val b] = .ok (encP (f a b)))
  (hpay : ∀ x, toPayload (encP x) = .ok (encP x))
  (hne : ∀ x y, cmpDV .ne (encP x) (encP y) = .ok (ne x y))
include hcall hpay hne

/-- `out_value = method(prev_in_sample_1[1], prev_in_sample_2[1]); _append(out_samples, [src[0], out_value])` -/
theorem emit_spec (h : Loc encP m env l1 l2 x1 x2 out last) (src : String) (t : Tm) (p : DV α)
    (hsrc : getLoc src env = .ok (.smp t p)) (hs : src ≠ "out_value") :
    ∃ env', exec call fuel (.seq sOutVal (sAppendE (outItem src))) env = .ok (env', .none) ∧
      Loc encP m env' l1 l2 x1 x2 (appendD ne out (t, f x1.2 x2.2)) last ∧ SameCur env env' := by
  refine frame_cur call fuel
    (show ∀ x ∈ [C1, C2], x ∉ mods (.seq sOutVal (sAppendE .inf)) from by decide +kernel) ?_
  have h1 : exec call fuel sOutVal env = .ok (setLoc "out_value" (encP (f x1.2 x2.2)) env, .none) :=
    exec.setLoc (evalE_method hcall h.m (evalE.loc h.p1) (evalE.loc h.p2))
  have h0 := h.set_other encP m "out_value" (encP (f x1.2 x2.2)) (by simp [tracked])
  have hitem : evalE call (setLoc "out_value" (encP (f x1.2 x2.2)) env) (outItem src) =
      .ok (.smp t (encP (f x1.2 x2.2))) :=
    evalE_mkSmp hpay (evalE.loc ((getLoc_setLoc_ne _ _ _ _ hs).trans hsrc))
      (evalE.loc (getLoc_setLoc_same _ _ _))
  obtain ⟨env', hex, hl, -⟩ := append_spec encP m call fuel ne hne h0 (outItem src) t (f x1.2 x2.2) hitem
  exact ⟨env', (exec.seq_ok h1).trans hex, hl⟩

end emit

/-- what the chain of `if … elif …` does after the decision `d` -/
def chainK (env : Env α) : Dec → Except PyErr (Res α)
  | .err => .error .rtamt
  | .k1 => exec call fuel sCase1 env
  | .k2 => exec call fuel sCase2 env
  | .k11 => exec call fuel sCase11 env
  | .k13 => exec call fuel sAdv2 env
  | .full e la lb ls a =>
      exec call fuel (sFull (if e then P1 else P2) (if la then C1 else P1) (if lb then C2 else P2) (if ls then C1 else C2)
        (if a then sAdv1 else sAdv2)) env

theorem chain_spec {env : Env α} (p1 c1 p2 c2 : Tm) {a1 b1 a2 b2 : DV α}
    (hp1 : getLoc P1 env = .ok (.smp p1 a1)) (hc1 : getLoc C1 env = .ok (.smp c1 b1))
    (hp2 : getLoc P2 env = .ok (.smp p2 a2)) (hc2 : getLoc C2 env = .ok (.smp c2 b2)) :
    exec call fuel interChain env = chainK call fuel env (interDec p1 c1 p2 c2) := by
  unfold interChain
  rw [exec.ite (evalE_aLt call hc1 hp2) rfl,
    exec.ite (evalE_and3 call (evalE_aLt call hp1 hc1) (evalE_aEq call hc1 hp2) (evalE_aLt call hp2 hc2)) rfl,
    exec.ite (evalE_and3 call (evalE_aLt call hp1 hp2) (evalE_aLt call hp2 hc1) (evalE_aLt call hc1 hc2)) rfl,
    exec.ite (evalE_and3 call (evalE_aLt call hp1 hp2) (evalE_aLt call hp2 hc1) (evalE_aEq call hc1 hc2)) rfl,
    exec.ite (evalE_and3 call (evalE_aLt call hp2 hp1) (evalE_aLt call hp1 hc1) (evalE_aEq call hc1 hc2)) rfl,
    exec.ite (evalE_and3 call (evalE_aLt call hp1 hp2) (evalE_aLt call hp2 hc2) (evalE_aLt call hc2 hc1)) rfl,
    exec.ite (evalE_and3 call (evalE_aEq call hp1 hp2) (evalE_aLt call hp2 hc2) (evalE_aLt call hc2 hc1)) rfl,
    exec.ite (evalE_and3 call (evalE_aEq call hp1 hp2) (evalE_aLt call hp2 hc2) (evalE_aEq call hc2 hc1)) rfl,
    exec.ite (evalE_and3 call (evalE_aEq call hp1 hp2) (evalE_aLt call hp2 hc1) (evalE_aLt call hc1 hc2)) rfl,
    exec.ite (evalE_and3 call (evalE_aLt call hp2 hp1) (evalE_aLt call hp1 hc1) (evalE_aLt call hc1 hc2)) rfl,
    exec.ite (evalE_and3 call (evalE_aLt call hp2 hc2) (evalE_aEq call hc2 hp1) (evalE_aLt call hp1 hc1)) rfl,
    exec.ite (evalE_and3 call (evalE_aLt call hp2 hp1) (evalE_aLt call hp1 hc2) (evalE_aLt call hc2 hc1)) rfl,
    exec.ite (evalE_aGt call hp1 hc2) rfl]
  rw [interDec, sel13_apply (chainK call fuel env)]
  rfl

theorem cond_spec {env : Env α} {l1 l2 : ASig α} {x1 x2 : Tm × α} {out : ASig β} {last : Last β}
    (h : Loc encP m env l1 l2 x1 x2 out last) :
    (do truthy (← evalE call env interCond)) = .ok (decide (2 ≤ l1.length ∧ 2 ≤ l2.length)) := by
  unfold interCond
  rw [evalE.and_ (evalE_slice1 call h.in1) (truthy_encSig _), drop1_nonempty]
  by_cases h1 : 2 ≤ l1.length
  · simp only [h1, decide_true, ↓reduceIte, true_and, evalE_slice1 call h.in2, ok_bind, truthy_encSig, drop1_nonempty]
  · simp only [h1, decide_false, Bool.false_eq_true, ↓reduceIte, false_and, ok_bind, truthy_encSig, drop1_nonempty]

section body
variable (hcall : ∀ a b, call m [.val a, .val b] = .ok (encP (f a b)))
  (hpay : ∀ x, toPayload (encP x) = .ok (encP x))
  (hne : ∀ x y, cmpDV .ne (encP x) (encP y) = .ok (ne x y))
include hcall hpay hne

/-- the body of the cases 3-10 and 12 -/
theorem full_spec {env : Env α} {p1 c1 p2 c2 : Tm} {v1 w1 v2 w2 : α} {r1 r2 : ASig α} {out : ASig β} {last : Last β}
    (h : Loc encP m env ((p1, v1) :: (c1, w1) :: r1) ((p2, v2) :: (c2, w2) :: r2) (p1, v1) (p2, v2) out last)
    (hc1 : getLoc C1 env = .ok (encSmp (c1, w1))) (hc2 : getLoc C2 env = .ok (encSmp (c2, w2))) (e la lb ls a : Bool) :
    ∃ env', exec call fuel (sFull (if e then P1 else P2) (if la then C1 else P1) (if lb then C2 else P2)
        (if ls then C1 else C2) (if a then sAdv1 else sAdv2)) env = .ok (env', .none) ∧
      Loc encP m env' (if a then (c1, w1) :: r1 else (p1, v1) :: (c1, w1) :: r1)
        (if a then (p2, v2) :: (c2, w2) :: r2 else (c2, w2) :: r2)
        (if a then (c1, w1) else (p1, v1)) (if a then (p2, v2) else (c2, w2))
        (appendD ne out (if e then p1 else p2, f v1 v2))
        (.item (if ls then c1 else c2) (f (if la then w1 else v1) (if lb then w2 else v2))) := by
  obtain ⟨e1, hx1, hl1, hs1⟩ := emit_spec encP m call fuel f ne hcall hpay hne h (if e then P1 else P2)
    (if e then p1 else p2) (.val (if e then v1 else v2)) (by cases e <;> simp [h.p1, h.p2, encSmp])
    (by cases e <;> simp)
  have hc1' := hs1.1.trans hc1
  have hc2' := hs1.2.trans hc2
  obtain ⟨e2, hx2, hl2, hs2⟩ := lastset_spec encP m call fuel f hcall hpay hl1
    (la := if la then C1 else P1) (lb := if lb then C2 else P2) (ls := if ls then C1 else C2)
    (ta := if la then c1 else p1) (tb := if lb then c2 else p2) (t := if ls then c1 else c2)
    (va := if la then w1 else v1) (vb := if lb then w2 else v2) (p := .val (if ls then w1 else w2))
    (by cases la <;> simp [hc1', hl1.p1])
    (by cases lb <;> simp [hc2', hl1.p2])
    (by cases ls <;> simp [hc1', hc2', encSmp])
    (by cases ls <;> simp)
  unfold sFull
  rw [exec.seq_seq_ok hx1, exec.seq_seq_ok hx2]
  cases a with
  | true => exact adv1_spec encP m call fuel hl2 (hs2.1.trans hc1')
  | false => exact adv2_spec encP m call fuel hl2 (hs2.2.trans hc2')

theorem body_spec {env : Env α} {p1 c1 p2 c2 : Tm} {v1 w1 v2 w2 : α} {r1 r2 : ASig α} {out : ASig β} {last : Last β}
    (h : Loc encP m env ((p1, v1) :: (c1, w1) :: r1) ((p2, v2) :: (c2, w2) :: r2) (p1, v1) (p2, v2) out last) :
    Exc.Sim (exec call fuel interBody env)
      (nextSt f ne p1 c1 p2 c2 v1 w1 v2 w2 r1 r2 out last (interDec p1 c1 p2 c2))
      fun s r => r.2 = .none ∧ Holds encP m s r.1 := by
  unfold interBody sCur1 sCur2
  rw [exec.seq_setLoc (evalE_second call h.in1),
    exec.seq_setLoc (evalE_second call ((getLoc_setLoc_ne _ _ _ _ (by simp)).trans h.in2))]
  have h2 := (h.set_other encP m C1 (encSmp (c1, w1)) (by simp [tracked])).set_other encP m C2 (encSmp (c2, w2))
    (by simp [tracked])
  generalize henv2 : (setLoc C2 (encSmp (c2, w2)) (setLoc C1 (encSmp (c1, w1)) env)) = env2 at h2 ⊢
  have hc1 : getLoc C1 env2 = .ok (encSmp (c1, w1)) := by subst henv2; simp
  have hc2 : getLoc C2 env2 = .ok (encSmp (c2, w2)) := by subst henv2; simp
  rw [chain_spec call fuel p1 c1 p2 c2 (a1 := .val v1) (b1 := .val w1) (a2 := .val v2) (b2 := .val w2)
    h2.p1 hc1 h2.p2 hc2]
  cases interDec p1 c1 p2 c2 with
  | err => exact rfl
  | k1 =>
      obtain ⟨e1, hx1, hl1⟩ := adv1_spec encP m call fuel h2 hc1
      exact Exc.Sim.ok ((exec.seq_seq_ok hx1).trans (exec.setLoc (v := .list []) rfl))
        ⟨rfl, (c1, w1), (p2, v2), hl1.set_last encP m .nil, rfl, rfl⟩
  | k2 =>
      obtain ⟨e1, hx1, hl1, hs1⟩ := frame_cur call fuel adv1_keeps (adv1_spec encP m call fuel h2 hc1)
      obtain ⟨e2, hx2, hl2, -⟩ := lastset_spec encP m call fuel f hcall hpay hl1 (hs1.1.trans hc1) hl1.p2 hl1.p2
        (by simp)
      exact Exc.Sim.ok ((exec.seq_seq_ok hx1).trans hx2) ⟨rfl, (c1, w1), (p2, v2), hl2, rfl, rfl⟩
  | k11 =>
      obtain ⟨e1, hx1, hl1, hs1⟩ := lastset_spec encP m call fuel f hcall hpay h2 h2.p1 hc2 hc2 (by simp)
      obtain ⟨e2, hx2, hl2⟩ := adv2_spec encP m call fuel hl1 (hs1.2.trans hc2)
      exact Exc.Sim.ok ((exec.seq_seq_ok hx1).trans hx2) ⟨rfl, (p1, v1), (c2, w2), hl2, rfl, rfl⟩
  | k13 =>
      obtain ⟨e2, hx2, hl2⟩ := adv2_spec encP m call fuel h2 hc2
      exact Exc.Sim.ok hx2 ⟨rfl, (p1, v1), (c2, w2), hl2, rfl, rfl⟩
  | full e la lb ls a =>
      obtain ⟨e1, hx1, hl1⟩ := full_spec encP m call fuel f ne hcall hpay hne h2 hc1 hc2 e la lb ls a
      exact Exc.Sim.ok hx1 ⟨rfl, _, _, hl1, by cases a <;> rfl, by cases a <;> rfl⟩

/-- The main `while` loop against `onLoop`: an iteration ends the loop where `onLoop` returns, or raises what the decision
    of `onLoop` raises, or leaves a shorter state from which `onLoop` goes on. -/
theorem loop_sim {l1 l2 : ASig α} {out : ASig β} {last : Last β} {env : Env α}
    (h : Holds encP m (out, last, l1, l2) env) (hn : l1.length + l2.length < fuel) :
    Exc.Sim (exec call fuel (.while_ interCond interBody) env) (onLoop f ne l1 l2 out last)
      fun s r => r.2 = .none ∧ Holds encP m s r.1 := by
  rw [exec.while_]
  refine Exc.Sim.loop _ (fun s => onLoop f ne s.2.2.1 s.2.2.2 s.1 s.2.1) (Holds encP m) _
    (fun s => s.2.2.1.length + s.2.2.2.length) ?_ fuel (out, last, l1, l2) env h hn
  rintro n ⟨out, last, l1, l2⟩ env ⟨x1, x2, h, hh1, hh2⟩
  dsimp only at h hh1 hh2 ⊢
  have hc := cond_spec encP m call h
  by_cases hl : 2 ≤ l1.length ∧ 2 ≤ l2.length
  · rw [decide_eq_true hl] at hc
    obtain ⟨⟨p1, v1⟩, ⟨c1, w1⟩, r1, rfl⟩ := exists_cons_cons (Nat.not_le.mpr hl.1)
    obtain ⟨⟨p2, v2⟩, ⟨c2, w2⟩, r2, rfl⟩ := exists_cons_cons (Nat.not_le.mpr hl.2)
    cases hh1
    cases hh2
    have hb := body_spec encP m call fuel f ne hcall hpay hne h
    rw [onLoop_dec]
    cases hd : nextSt f ne p1 c1 p2 c2 v1 w1 v2 w2 r1 r2 out last (interDec p1 c1 p2 c2) with
    | error e => exact .inl (whileLoop_raise _ _ _ _ _ hc (hb.of_error hd))
    | ok s =>
        obtain ⟨⟨env', c⟩, hex, hc', hI⟩ := hb.of_ok hd
        cases hc'
        have hlen := nextSt_len f ne p1 c1 p2 c2 v1 w1 v2 w2 r1 r2 out last _ s hd
        exact .inr ⟨s, env', hI, by simp only [List.length_cons]; omega, rfl, whileLoop_step _ _ _ _ _ hc hex⟩
  · rw [decide_eq_false hl] at hc
    rw [onLoop_short f ne l1 l2 out last (by omega)]
    exact .inl (Exc.Sim.ok (whileLoop_done _ _ _ _ hc) ⟨rfl, x1, x2, h, hh1, hh2⟩)

/-- `loop_sim` with the outcome of `onLoop` spelled out -/
theorem loop_spec {l1 l2 : ASig α} {out : ASig β} {last : Last β} {env : Env α}
    (h : Holds encP m (out, last, l1, l2) env) (hn : l1.length + l2.length < fuel) :
    match onLoop f ne l1 l2 out last with
    | .ok (o, la, l1', l2') => ∃ env', exec call fuel (.while_ interCond interBody) env = .ok (env', .none) ∧
        Holds encP m (o, la, l1', l2') env'
    | .error e => exec call fuel (.while_ interCond interBody) env = .error e := by
  have hs := loop_sim encP m call fuel f ne hcall hpay hne h hn
  cases hr : onLoop f ne l1 l2 out last with
  | error e => exact hs.of_error hr
  | ok s =>
      obtain ⟨⟨env', c⟩, hw, hc, hI⟩ := hs.of_ok hr
      cases hc
      exact ⟨env', hw, hI⟩

end body

inductive TDec | stop | stopSet | contA | contB | contNil

/-- the decision of one iteration of a tail loop: `p`, `c` the previous and the current sample of the list that is consumed,
    `q` the previous sample of the other list, which stays the same -/
def tailDec (p c q : Tm) : TDec :=
  if Tm.lt q p then .stop
  else if p == q then .stopSet
  else if Tm.lt q c then .contA
  else if q == c then .contB
  else .contNil

/-- whether the loop goes on, `out_samples` and `last` after the iteration -/
def tailNext (t : Tm) (oA oB : β) (out : ASig β) (last : Last β) : TDec → Bool × ASig β × Last β
  | .stop => (false, out, last)
  | .stopSet => (false, out, .item t oA)
  | .contA => (true, appendD ne out (t, oA), .item t oA)
  | .contB => (true, appendD ne out (t, oB), .item t oB)
  | .contNil => (true, out, .nil)

/-- a tail loop goes on with `k`, or stops, as `tailNext` says -/
def tailCont (k : ASig β → Last β → ASig β × Last β) (N : Bool × ASig β × Last β) : ASig β × Last β :=
  if N.1 then k N.2.1 N.2.2 else N.2

theorem tail1_dec (q : Tm) (xq : α) (p c : Tm) (v w : α) (r : ASig α) (out : ASig β) (last : Last β) :
    tail1 f ne q xq ((p, v) :: (c, w) :: r) out last =
      tailCont (tail1 f ne q xq ((c, w) :: r)) (tailNext ne q (f v xq) (f w xq) out last (tailDec p c q)) := by
  rw [tail1]
  unfold tailDec
  simp only [apply_ite (tailNext ne q (f v xq) (f w xq) out last), apply_ite (tailCont _)]
  rfl

theorem tail1_short (q : Tm) (xq : α) (l : ASig α) (out : ASig β) (last : Last β) (h : l.length < 2) :
    tail1 f ne q xq l out last = (out, last) := by
  unfold tail1
  split
  · simp only [List.length_cons] at h; omega
  · rfl

theorem tail2_eq (q : Tm) (xq : α) : ∀ (l : ASig α) (out : ASig β) (last : Last β),
    tail2 f ne q xq l out last = tail1 (fun a b => f b a) ne q xq l out last := by
  intro l
  induction l with
  | nil => intro out last; rfl
  | cons a l ih =>
      intro out last
      obtain ⟨p, v⟩ := a
      rcases l with _ | ⟨⟨c, w⟩, r⟩
      · rfl
      · rw [tail1, tail2]
        simp only [ih]

/-- A `while cond: body` over a list `l` with first sample `x` (`Inv env l x out last`: what the locals hold) computes
    `tail1`, if `cond` says whether two samples are left and the body does what `tailNext` says, breaking where it says stop. -/
theorem tailLoop_spec (cond : E) (body : S) (Inv : Env α → ASig α → Tm × α → ASig β → Last β → Prop) (q : Tm) (xq : α)
    (hcond : ∀ {env l x o la}, Inv env l x o la →
      (do truthy (← evalE call env cond)) = .ok (decide (2 ≤ l.length)))
    (hbody : ∀ {env p c v w r o la}, Inv env ((p, v) :: (c, w) :: r) (p, v) o la →
      ∀ N, tailNext ne q (f v xq) (f w xq) o la (tailDec p c q) = N →
      ∃ env' l' x', exec call fuel body env = .ok (env', if N.1 then .none else .brk) ∧ Inv env' l' x' N.2.1 N.2.2 ∧
        (N.1 = true → l' = (c, w) :: r ∧ x' = (c, w))) :
    ∀ (n : Nat) (l : ASig α) (x : Tm × α) (out : ASig β) (last : Last β) (env : Env α), l.length < n →
      Inv env l x out last → l.head? = some x →
      ∃ env' l' x', whileLoop (fun env => do truthy (← evalE call env cond)) (exec call fuel body) n env =
          .ok (env', .none) ∧
        Inv env' l' x' (tail1 f ne q xq l out last).1 (tail1 f ne q xq l out last).2 := by
  intro n
  induction n with
  | zero => intro l x out last env hn; omega
  | succ n ih =>
      intro l x out last env hn h hh
      have hc := hcond h
      by_cases hl : l.length < 2
      · rw [tail1_short f ne q xq l out last hl]
        have hf : decide (2 ≤ l.length) = false := by simp; omega
        rw [hf] at hc
        exact ⟨env, l, x, whileLoop_done _ _ _ _ hc, h⟩
      · have ht : decide (2 ≤ l.length) = true := by simp; omega
        rw [ht] at hc
        obtain ⟨⟨p, v⟩, ⟨c, w⟩, r, rfl⟩ := exists_cons_cons (fun h => hl (Nat.lt_succ_of_le h))
        cases hh
        rw [tail1_dec]
        generalize hN : tailNext ne q (f v xq) (f w xq) out last (tailDec p c q) = N
        obtain ⟨env', l', x', hex, hl', hcont⟩ := hbody h N hN
        obtain ⟨cont, o, la⟩ := N
        cases cont with
        | false => exact ⟨env', l', x', whileLoop_break _ _ _ _ _ hc hex, hl'⟩
        | true =>
            obtain ⟨rfl, rfl⟩ := hcont rfl
            rw [whileLoop_step _ _ _ _ _ hc hex]
            exact ih _ _ _ _ env' (by simp only [List.length_cons] at hn ⊢; omega) hl' rfl

theorem tm_tri' (a b : Tm) (h1 : Tm.lt a b = false) (h2 : (a == b) = false) : Tm.lt b a = true :=
  tm_tri b a h1 (by rwa [BEq.comm])

/-- what the chain of a tail loop does after the decision `d`, by its four bodies -/
def tailK (bSet bA bB bNil : S) (env : Env α) : TDec → Except PyErr (Res α)
  | .stop => .ok (env, .brk)
  | .stopSet => exec call fuel bSet env
  | .contA => exec call fuel bA env
  | .contB => exec call fuel bB env
  | .contNil => exec call fuel bNil env

/-- the chain of either tail loop: `pn`, `cn` name the previous and the current sample of the list that is consumed, `qn` the
    previous sample of the other list -/
theorem tailChain_spec {env : Env α} {pn cn qn : String} {bSet bA bB bNil : S} (p c q : Tm) {a b d : DV α}
    (hp : getLoc pn env = .ok (.smp p a)) (hc : getLoc cn env = .ok (.smp c b)) (hq : getLoc qn env = .ok (.smp q d)) :
    exec call fuel (.ite (aGt pn qn) .brk (.ite (aEq pn qn) bSet (.ite (.and_ (aLt pn qn) (aLt qn cn)) bA
      (.ite (.and_ (aLt pn qn) (aEq qn cn)) bB (.ite (aGt qn cn) bNil .skip))))) env =
      tailK call fuel bSet bA bB bNil env (tailDec p c q) := by
  rw [exec.ite (evalE_aGt call hp hq) rfl,
    exec.ite (evalE_aEq call hp hq) rfl,
    exec.ite (evalE.and_bool (evalE_aLt call hp hq) (evalE_aLt call hq hc)) rfl,
    exec.ite (evalE.and_bool (evalE_aLt call hp hq) (evalE_aEq call hq hc)) rfl,
    exec.ite (evalE_aGt call hq hc) rfl]
  unfold tailDec
  cases h1 : Tm.lt q p with
  | true => simp only [↓reduceIte, tailK, exec.brk]
  | false =>
      cases h2 : (p == q) with
      | true => simp only [Bool.false_eq_true, ↓reduceIte, tailK]
      | false =>
          have h3 := tm_tri p q h1 h2
          cases h4 : Tm.lt q c with
          | true => simp only [h3, Bool.and_self, Bool.false_eq_true, ↓reduceIte, tailK]
          | false =>
              cases h5 : (q == c) with
              | true => simp only [h3, Bool.and_self, Bool.and_false, Bool.false_eq_true, ↓reduceIte, tailK]
              | false =>
                  have h6 := tm_tri' q c h4 h5
                  simp only [h3, h6, Bool.and_false, Bool.false_eq_true, ↓reduceIte, tailK]

/-- `_append(out_samples, last)` right after `last` was set -/
theorem appendLast_spec (hne : ∀ x y, cmpDV .ne (encP x) (encP y) = .ok (ne x y)) {env : Env α}
    {l1 l2 : ASig α} {x1 x2 : Tm × α} {out : ASig β} {t : Tm} {v : β} (h : Loc encP m env l1 l2 x1 x2 out (.item t v)) :
    ∃ env', exec call fuel (sAppendE (.loc "last")) env = .ok (env', .none) ∧
      Loc encP m env' l1 l2 x1 x2 (appendD ne out (t, v)) (.item t v) ∧ SameCur env env' :=
  append_spec encP m call fuel ne hne h (.loc "last") t v (evalE.loc h.last)

section tailbody
variable (hcall : ∀ a b, call m [.val a, .val b] = .ok (encP (f a b)))
  (hpay : ∀ x, toPayload (encP x) = .ok (encP x))
  (hne : ∀ x y, cmpDV .ne (encP x) (encP y) = .ok (ne x y))
include hcall hpay hne

theorem tailBody1_spec {env : Env α} {p1 c1 p2 : Tm} {v1 w1 v2 : α} {r1 l2 : ASig α} {out : ASig β} {last : Last β}
    (h : Loc encP m env ((p1, v1) :: (c1, w1) :: r1) l2 (p1, v1) (p2, v2) out last) (N : Bool × ASig β × Last β)
    (hN : tailNext ne p2 (f v1 v2) (f w1 v2) out last (tailDec p1 c1 p2) = N) :
    ∃ env' l1' x1', exec call fuel tailBody1 env = .ok (env', if N.1 then .none else .brk) ∧
      Loc encP m env' l1' l2 x1' (p2, v2) N.2.1 N.2.2 ∧ (N.1 = true → l1' = (c1, w1) :: r1 ∧ x1' = (c1, w1)) := by
  have k1 : exec call fuel sCur1 env = .ok (setLoc C1 (encSmp (c1, w1)) env, .none) :=
    exec.setLoc (evalE_second call h.in1)
  have h1 := h.set_other encP m C1 (encSmp (c1, w1)) (by simp [tracked])
  generalize henv1 : setLoc C1 (encSmp (c1, w1)) env = env1 at k1 h1
  have hc1 : getLoc C1 env1 = .ok (encSmp (c1, w1)) := by subst henv1; simp
  unfold tailBody1 tailChain1
  rw [exec.seq_ok k1, tailChain_spec call fuel p1 c1 p2 (a := .val v1) (b := .val w1) (d := .val v2) h1.p1 hc1 h1.p2]
  subst hN
  cases hd : tailDec p1 c1 p2 with
  | stop =>
      simp only [tailNext, tailK, Bool.false_eq_true, ↓reduceIte]
      exact ⟨env1, _, _, rfl, h1, by simp⟩
  | stopSet =>
      simp only [tailNext, tailK, Bool.false_eq_true, ↓reduceIte]
      obtain ⟨e2, hx, hl, -⟩ := lastset_spec encP m call fuel f hcall hpay h1 h1.p1 h1.p2 h1.p2 (by simp)
      refine ⟨e2, _, _, ?_, hl, by simp⟩
      rw [exec.seq_seq_ok hx, exec.brk]
  | contA =>
      simp only [tailNext, tailK, ↓reduceIte]
      obtain ⟨e2, hx, hl, hs⟩ := lastset_spec encP m call fuel f hcall hpay h1 h1.p1 h1.p2 h1.p2 (by simp)
      obtain ⟨e3, hx3, hl3, hs3⟩ := appendLast_spec encP m call fuel ne hne hl
      obtain ⟨e4, hx4, hl4⟩ := adv1_spec encP m call fuel hl3 (hs3.1.trans (hs.1.trans hc1))
      refine ⟨e4, _, _, ?_, hl4, fun _ => ⟨rfl, rfl⟩⟩
      rw [exec.seq_seq_ok hx]
      exact (exec.seq_ok hx3).trans hx4
  | contB =>
      simp only [tailNext, tailK, ↓reduceIte]
      obtain ⟨e2, hx, hl, hs⟩ := lastset_spec encP m call fuel f hcall hpay h1 hc1 h1.p2 h1.p2 (by simp)
      obtain ⟨e3, hx3, hl3, hs3⟩ := appendLast_spec encP m call fuel ne hne hl
      obtain ⟨e4, hx4, hl4⟩ := adv1_spec encP m call fuel hl3 (hs3.1.trans (hs.1.trans hc1))
      refine ⟨e4, _, _, ?_, hl4, fun _ => ⟨rfl, rfl⟩⟩
      rw [exec.seq_seq_ok hx]
      exact (exec.seq_ok hx3).trans hx4
  | contNil =>
      simp only [tailNext, tailK, ↓reduceIte]
      have k2 : exec call fuel (.setLoc "last" .emptyList) env1 = .ok (setLoc "last" (encLast encP (.nil : Last β)) env1, .none) :=
        exec.setLoc (v := .list []) rfl
      obtain ⟨e3, hx3, hl3⟩ := adv1_spec encP m call fuel (h1.set_last encP m .nil) (y1 := (c1, w1))
        (by rw [getLoc_setLoc_ne _ _ _ _ (by simp)]; exact hc1)
      refine ⟨e3, _, _, ?_, hl3, fun _ => ⟨rfl, rfl⟩⟩
      rw [exec.seq_ok k2, hx3]

theorem tailBody2_spec {env : Env α} {p2 c2 p1 : Tm} {v2 w2 v1 : α} {r2 l1 : ASig α} {out : ASig β} {last : Last β}
    (h : Loc encP m env l1 ((p2, v2) :: (c2, w2) :: r2) (p1, v1) (p2, v2) out last) (N : Bool × ASig β × Last β)
    (hN : tailNext ne p1 (f v1 v2) (f v1 w2) out last (tailDec p2 c2 p1) = N) :
    ∃ env' l2' x2', exec call fuel tailBody2 env = .ok (env', if N.1 then .none else .brk) ∧
      Loc encP m env' l1 l2' (p1, v1) x2' N.2.1 N.2.2 ∧ (N.1 = true → l2' = (c2, w2) :: r2 ∧ x2' = (c2, w2)) := by
  have k1 : exec call fuel sCur2 env = .ok (setLoc C2 (encSmp (c2, w2)) env, .none) :=
    exec.setLoc (evalE_second call h.in2)
  have h1 := h.set_other encP m C2 (encSmp (c2, w2)) (by simp [tracked])
  generalize henv1 : setLoc C2 (encSmp (c2, w2)) env = env1 at k1 h1
  have hc2 : getLoc C2 env1 = .ok (encSmp (c2, w2)) := by subst henv1; simp
  unfold tailBody2 tailChain2
  rw [exec.seq_ok k1, tailChain_spec call fuel p2 c2 p1 (a := .val v2) (b := .val w2) (d := .val v1) h1.p2 hc2 h1.p1]
  subst hN
  cases hd : tailDec p2 c2 p1 with
  | stop =>
      simp only [tailNext, tailK, Bool.false_eq_true, ↓reduceIte]
      exact ⟨env1, _, _, rfl, h1, by simp⟩
  | stopSet =>
      simp only [tailNext, tailK, Bool.false_eq_true, ↓reduceIte]
      obtain ⟨e2, hx, hl, -⟩ := lastset_spec encP m call fuel f hcall hpay h1 h1.p1 h1.p2 h1.p1 (by simp)
      refine ⟨e2, _, _, ?_, hl, by simp⟩
      rw [exec.seq_seq_ok hx, exec.brk]
  | contA =>
      simp only [tailNext, tailK, ↓reduceIte]
      obtain ⟨e2, hx, hl, hs⟩ := lastset_spec encP m call fuel f hcall hpay h1 h1.p1 h1.p2 h1.p1 (by simp)
      obtain ⟨e3, hx3, hl3, hs3⟩ := appendLast_spec encP m call fuel ne hne hl
      obtain ⟨e4, hx4, hl4⟩ := adv2_spec encP m call fuel hl3 (hs3.2.trans (hs.2.trans hc2))
      refine ⟨e4, _, _, ?_, hl4, fun _ => ⟨rfl, rfl⟩⟩
      rw [exec.seq_seq_ok hx]
      exact (exec.seq_ok hx3).trans hx4
  | contB =>
      simp only [tailNext, tailK, ↓reduceIte]
      obtain ⟨e2, hx, hl, hs⟩ := lastset_spec encP m call fuel f hcall hpay h1 h1.p1 hc2 h1.p1 (by simp)
      obtain ⟨e3, hx3, hl3, hs3⟩ := appendLast_spec encP m call fuel ne hne hl
      obtain ⟨e4, hx4, hl4⟩ := adv2_spec encP m call fuel hl3 (hs3.2.trans (hs.2.trans hc2))
      refine ⟨e4, _, _, ?_, hl4, fun _ => ⟨rfl, rfl⟩⟩
      rw [exec.seq_seq_ok hx]
      exact (exec.seq_ok hx3).trans hx4
  | contNil =>
      simp only [tailNext, tailK, ↓reduceIte]
      have k2 : exec call fuel (.setLoc "last" .emptyList) env1 = .ok (setLoc "last" (encLast encP (.nil : Last β)) env1, .none) :=
        exec.setLoc (v := .list []) rfl
      obtain ⟨e3, hx3, hl3⟩ := adv2_spec encP m call fuel (h1.set_last encP m .nil) (y2 := (c2, w2))
        (by rw [getLoc_setLoc_ne _ _ _ _ (by simp)]; exact hc2)
      refine ⟨e3, _, _, ?_, hl3, fun _ => ⟨rfl, rfl⟩⟩
      rw [exec.seq_ok k2, hx3]

end tailbody

end loop

section mirror2
variable {β : Type} (f : α → α → β) (ne : β → β → Bool)

/-- what `interOn` does after the main loop -/
def tailSel (out : ASig β) (last : Last β) (l1 l2 : ASig α) : ASig β × Last β :=
  match l1, l2 with
  | _ :: _ :: _, (q2, x2) :: _ => tail1 f ne q2 x2 l1 out last
  | (q1, x1) :: _, _ :: _ :: _ => tail2 f ne q1 x1 l2 out last
  | _, _ => (out, last)

theorem interOn_cons (p1 : Tm) (v1 : α) (t1 : ASig α) (p2 : Tm) (v2 : α) (t2 : ASig α) :
    interOn f ne ((p1, v1) :: t1) ((p2, v2) :: t2) =
      onLoop f ne ((p1, v1) :: t1) ((p2, v2) :: t2) [] (if p1 == p2 then .item p1 (f v1 v2) else .nil) >>= fun s =>
        .ok ((tailSel f ne s.1 s.2.1 s.2.2.1 s.2.2.2).1, (tailSel f ne s.1 s.2.1 s.2.2.1 s.2.2.2).2, s.2.2.1, s.2.2.2) := by
  unfold interOn
  dsimp only
  cases onLoop f ne ((p1, v1) :: t1) ((p2, v2) :: t2) [] (if p1 == p2 then .item p1 (f v1 v2) else .nil) with
  | error e => rfl
  | ok res =>
      obtain ⟨out, last, l1, l2⟩ := res
      simp only [ok_bind]
      rcases l1 with _ | ⟨⟨q1, y1⟩, _ | ⟨b1, r1⟩⟩ <;> rcases l2 with _ | ⟨⟨q2, y2⟩, _ | ⟨b2, r2⟩⟩ <;> rfl

end mirror2

/-- the 4-tuple `intersection` returns, or the exception -/
def encRes {β : Type} (encP : β → DV α) : Except PyErr (ASig β × Last β × ASig α × ASig α) → Except PyErr (DV α)
  | .ok (out, last, r1, r2) => .ok (.list [encSigP encP out, encLast encP last, encSig r1, encSig r2])
  | .error e => .error e

section fn
variable (call : Call α) (fuel : Nat)
variable {β : Type} (encP : β → DV α) (f : α → α → β) (ne : β → β → Bool) (m : String)
  (hcall : ∀ a b, call m [.val a, .val b] = .ok (encP (f a b)))
  (hpay : ∀ x, toPayload (encP x) = .ok (encP x))
  (hne : ∀ x y, cmpDV .ne (encP x) (encP y) = .ok (ne x y))
  (hlist : ∀ l, call "list" [.list l] = .ok (.list l))
  (hlen : ∀ l, call "len" [.list l] = .ok (.int l.length))
include hcall hpay hne hlen

/-- `if len(in_samples_1) > 1: while … elif len(in_samples_2) > 1: while …` -/
theorem tails_spec {env : Env α} {l1 l2 : ASig α} {x1 x2 : Tm × α} {out : ASig β} {last : Last β}
    (h : Loc encP m env l1 l2 x1 x2 out last) (hh1 : l1.head? = some x1)
    (hh2 : l2.head? = some x2) (hf1 : l1.length < fuel) (hf2 : l2.length < fuel) :
    ∃ env' l1' l2' x1' x2', exec call fuel sTails env = .ok (env', .none) ∧
      Loc encP m env' l1' l2' x1' x2' (tailSel f ne out last l1 l2).1 (tailSel f ne out last l1 l2).2 := by
  unfold sTails
  rw [exec.ite (lenGt_spec hlen "in_samples_1" l1 h.in1 h.rn) rfl]
  rcases l1 with _ | ⟨⟨q1, y1⟩, _ | ⟨b1, r1⟩⟩
  · cases hh1
  · cases hh1
    rw [if_neg (by simp), exec.ite (lenGt_spec hlen "in_samples_2" l2 h.in2 h.rn) rfl]
    rcases l2 with _ | ⟨⟨q2, y2⟩, _ | ⟨b2, r2⟩⟩
    · cases hh2
    · rw [if_neg (by simp)]
      exact ⟨env, _, _, _, _, exec.skip, h⟩
    · cases hh2
      rw [if_pos (by simp), exec.while_]
      obtain ⟨env', l2', x2', hw, hl⟩ := tailLoop_spec call fuel (fun a b => f b a) ne tailCond2 tailBody2
        (fun env l x o la => Loc encP m env [(q1, y1)] l (q1, y1) x o la) q1 y1 (fun h => sliceCond_spec call h.in2)
        (tailBody2_spec encP m call fuel f ne hcall hpay hne) fuel _ _ _ _ env hf2 h rfl
      rw [← tail2_eq] at hl
      exact ⟨env', _, _, _, _, hw, hl⟩
  · cases hh1
    rw [if_pos (by simp), exec.while_]
    rcases l2 with _ | ⟨⟨q2, y2⟩, t2⟩
    · cases hh2
    · cases hh2
      obtain ⟨env', l1', x1', hw, hl⟩ := tailLoop_spec call fuel f ne tailCond1 tailBody1
        (fun env l x o la => Loc encP m env l ((q2, y2) :: t2) x (q2, y2) o la) q2 y2 (fun h => sliceCond_spec call h.in1)
        (tailBody1_spec encP m call fuel f ne hcall hpay hne) fuel _ _ _ _ env hf1 h rfl
      exact ⟨env', _, _, _, _, hw, hl⟩

include hlist

/-- the body of `intersection` after the early return, both operands non-empty -/
theorem rest_spec (env : Env α) (p1 : Tm) (v1 : α) (t1 : ASig α) (p2 : Tm) (v2 : α) (t2 : ASig α)
    (hfuel : ((p1, v1) :: t1).length + ((p2, v2) :: t2).length < fuel)
    (hin1 : getLoc "in_samples_1" env = .ok (encSig ((p1, v1) :: t1)))
    (hin2 : getLoc "in_samples_2" env = .ok (encSig ((p2, v2) :: t2)))
    (hout : getLoc "out_samples" env = .ok (.list [])) (hlast : getLoc "last" env = .ok (.list []))
    (hm : getLoc "method" env = .ok (.fn m)) (hrl : resolve env "list" = "list") (hrn : resolve env "len" = "len") :
    Exc.Sim (exec call fuel interRest env) (interOn f ne ((p1, v1) :: t1) ((p2, v2) :: t2)) fun res r =>
      r.2 = .ret (.list [encSigP encP res.1, encLast encP res.2.1, encSig res.2.2.1, encSig res.2.2.2]) := by
  unfold interRest
  rw [exec.seq_setLoc ((evalE.idxInt (evalE.loc hin1)).trans (evalIdx.cons0 (encSmp (p1, v1)) _)),
    exec.seq_setLoc ((evalE.idxInt (evalE.loc ((getLoc_setLoc_ne _ _ _ _ (by simp)).trans hin2))).trans
      (evalIdx.cons0 (encSmp (p2, v2)) _))]
  generalize henv6 : setLoc P2 (encSmp (p2, v2)) (setLoc P1 (encSmp (p1, v1)) env) = env6
  have h6 : Loc encP m env6 ((p1, v1) :: t1) ((p2, v2) :: t2) (p1, v1) (p2, v2) ([] : ASig β) .nil := by
    subst henv6
    constructor
    · simp [hin1]
    · simp [hin2]
    · simp [hout, encSigP]
    · simp [hlast, encLast]
    · simp
    · simp
    · simp [hm]
    · simp [hrl]
    · simp [hrn]
  obtain ⟨env7, hx7, h7⟩ : ∃ env7, exec call fuel sInitLast env6 = .ok (env7, .none) ∧
      Loc encP m env7 ((p1, v1) :: t1) ((p2, v2) :: t2) (p1, v1) (p2, v2) ([] : ASig β)
        (if p1 == p2 then .item p1 (f v1 v2) else .nil) := by
    unfold sInitLast
    rw [exec.ite (evalE_aEq call h6.p1 h6.p2) rfl]
    cases hpp : (p1 == p2) with
    | false =>
        simp only [Bool.false_eq_true, ↓reduceIte]
        exact ⟨env6, by rw [exec], h6⟩
    | true =>
        simp only [↓reduceIte]
        rw [exec.seq_setLoc (evalE_method hcall h6.m (evalE.loc h6.p1) (evalE.loc h6.p2))]
        exact ⟨_, exec.setLoc (evalE_mkSmp hpay (evalE.loc ((getLoc_setLoc_ne _ _ _ _ (by simp)).trans h6.p1))
            (evalE.loc (getLoc_setLoc_same _ _ _))),
          (h6.set_other encP m "out_val" (encP (f v1 v2)) (by simp [tracked])).set_last encP m (.item p1 (f v1 v2))⟩
  have hloop := loop_sim encP m call fuel f ne hcall hpay hne ⟨_, _, h7, rfl, rfl⟩ hfuel
  rw [exec.seq_ok hx7, interOn_cons]
  refine exec.seq_sim hloop ?_
  rintro ⟨o, la, l1', l2'⟩ ⟨env8, c⟩ hr ⟨hc, x1', x2', h8, hh1, hh2⟩
  cases hc
  obtain ⟨hle1, hle2⟩ := onLoop_len f ne _ _ _ _ _ _ (Nat.lt_succ_self _) hr
  refine ⟨rfl, ?_⟩
  dsimp only at h8 hh1 hh2 hle1 hle2 ⊢
  unfold sRem1 sRem2
  have h9 := h8.set_other encP m "remainder_samples_1" (encSig l1') (by simp [tracked])
  have h10 := h9.set_other encP m "remainder_samples_2" (encSig l2') (by simp [tracked])
  rw [exec.seq_setLoc (evalE_listCopy hlist h8.in1 h8.rl), exec.seq_setLoc (evalE_listCopy hlist h9.in2 h9.rl)]
  obtain ⟨env11, l1'', l2'', y1, y2, hx11, h11⟩ := tails_spec call fuel encP f ne m hcall hpay hne hlen h10 hh1 hh2
    (by simp only [List.length_cons] at hfuel hle1; omega) (by simp only [List.length_cons] at hfuel hle2; omega)
  have ho := exec_frame call fuel _ _ _ _ hx11
  rw [exec.seq_ok hx11]
  exact Exc.Sim.ok (r := (env11, .ret _)) (by simp [sRet, exec, evalE, h11.out, h11.last,
    ho.getLoc (tails_keeps _ (.head _)), ho.getLoc (tails_keeps _ (.tail _ (.head _)))]) rfl

theorem run_intersection (s1 s2 : ASig α) (hfuel : s1.length + s2.length < fuel) :
    Exc.Sim (runFn call fuel Gen.DenseOn.fn_intersection [encSig s1, encSig s2, .fn m]) (interOn f ne s1 s2) fun res r =>
      r = .list [encSigP encP res.1, encLast encP res.2.1, encSig res.2.2.1, encSig res.2.2.2] := by
  unfold runFn
  rw [fn_intersection_isMethod, fn_intersection_params, fn_intersection_body]
  simp only [Bool.false_eq_true, ↓reduceIte, List.length_cons, List.length_nil, List.zip_cons_cons, List.zip_nil_right,
    ne_eq, not_true_eq_false]
  rw [exec.seq_setLoc (evalE_listCopy hlist (l := s1) (by simp) (resolve_of_lookup rfl)),
    exec.seq_setLoc (evalE_listCopy hlist (l := s2) (by simp) (by simp [resolve, lookup_setLoc, List.lookup])),
    exec.seq_setLoc (v := .list []) rfl, exec.seq_setLoc (v := .list []) rfl]
  generalize henv4 : setLoc "last" (.list []) (setLoc "out_samples" (.list [])
        (setLoc "in_samples_2" (encSig s2) (setLoc "in_samples_1" (encSig s1) _))) = env4
  have q1 : getLoc "in_samples_1" env4 = .ok (encSig s1) := by subst henv4; simp
  have q2 : getLoc "in_samples_2" env4 = .ok (encSig s2) := by subst henv4; simp
  have q3 : getLoc "method" env4 = .ok (.fn m) := by subst henv4; simp
  have q4 : getLoc "out_samples" env4 = .ok (.list []) := by subst henv4; simp
  have q5 : getLoc "last" env4 = .ok (.list []) := by subst henv4; simp
  have q6 : resolve env4 "list" = "list" := by subst henv4; simp [resolve, lookup_setLoc, List.lookup]
  have q7 : resolve env4 "len" = "len" := by subst henv4; simp [resolve, lookup_setLoc, List.lookup]
  have hc := evalE.or_bool
    (lenEq0_spec hlen "in_samples_1" s1 q1 q7)
    (lenEq0_spec hlen "in_samples_2" s2 q2 q7)
  by_cases hemp : (s1.isEmpty || s2.isEmpty) = true
  · have he : exec call fuel sEarly env4 = .ok (env4, .ret (.list [.list [], .list [], encSig s1, encSig s2])) := by
      unfold sEarly
      rw [exec.ite hc rfl]
      simp [hemp, exec, evalE, q1, q2, q4, q5]
    rw [exec.seq_ret he]
    rcases s1 with _ | ⟨x1, t1⟩
    · exact Exc.Sim.ok rfl rfl
    · rcases s2 with _ | ⟨x2, t2⟩
      · exact Exc.Sim.ok rfl rfl
      · simp at hemp
  · have he : exec call fuel sEarly env4 = .ok (env4, .none) := by
      unfold sEarly
      rw [exec.ite hc rfl, if_neg hemp, exec]
    rw [exec.seq_ok he]
    rcases s1 with _ | ⟨⟨p1, v1⟩, t1⟩
    · simp at hemp
    rcases s2 with _ | ⟨⟨p2, v2⟩, t2⟩
    · simp at hemp
    refine (rest_spec call fuel encP f ne m hcall hpay hne hlist hlen env4 p1 v1 t1 p2 v2 t2 hfuel q1 q2 q4 q5 q3 q6
      q7).bind_right ?_
    rintro res ⟨env', c⟩ hc
    cases hc
    exact ⟨_, rfl, rfl⟩

end fn

end Rtamt.Py.DnOn.GOnInter

namespace Rtamt.Py.DnOn
open Rtamt Val Rtamt.Dense Rtamt.Dense.Alg Rtamt.Dense.AlgOn Rtamt.Py.DnOn.GOnInter

set_option linter.unusedSectionVars false

variable {α : Type} [Val α]

/-- The translated online `intersection` returns the 4-tuple `(out_samples, last, remainder_1, remainder_2)` of the mirror
    `interOn f ne` - or raises what the mirror raises - for all inputs, as soon as `s1.length + s2.length < fuel`. -/
theorem gen_on_intersection_sim (fuel k : Nat) {β : Type} (encP : β → DV α) (f : α → α → β) (ne : β → β → Bool)
    (m : String) (hm : ∀ a b, callAt Gen.DenseOn.fns fuel (k + 1) m [.val a, .val b] = .ok (encP (f a b)))
    (hpay : ∀ x, toPayload (encP x) = .ok (encP x)) (hne : ∀ x y, cmpDV .ne (encP x) (encP y) = .ok (ne x y))
    (s1 s2 : ASig α) (hfuel : s1.length + s2.length < fuel) :
    Exc.Sim (callAt Gen.DenseOn.fns fuel (k + 2) "intersection" [encSig s1, encSig s2, .fn m]) (interOn f ne s1 s2)
      fun res r => r = .list [encSigP encP res.1, encLast encP res.2.1, encSig res.2.2.1, encSig res.2.2.2] := by
  rw [callAt_fn _ _ _ _ Gen.DenseOn.fn_intersection _ (fns_at 3 rfl)]
  exact run_intersection (callAt Gen.DenseOn.fns fuel (k + 1)) fuel encP f ne m hm hpay hne
    (fun l => callAt_lib fuel (k + 1) (lib_at 9 rfl) _) (fun l => callAt_lib fuel (k + 1) (lib_at 0 rfl) _) s1 s2 hfuel

theorem gen_on_intersection' (fuel k : Nat) {β : Type} (encP : β → DV α) (f : α → α → β) (ne : β → β → Bool) (m : String)
    (hm : ∀ a b, callAt Gen.DenseOn.fns fuel (k + 1) m [.val a, .val b] = .ok (encP (f a b)))
    (hpay : ∀ x, toPayload (encP x) = .ok (encP x)) (hne : ∀ x y, cmpDV .ne (encP x) (encP y) = .ok (ne x y))
    (s1 s2 : ASig α) (hfuel : s1.length + s2.length < fuel) :
    callAt Gen.DenseOn.fns fuel (k + 2) "intersection" [encSig s1, encSig s2, .fn m] =
      GOnInter.encRes encP (interOn f ne s1 s2) := by
  rw [(gen_on_intersection_sim fuel k encP f ne m hm hpay hne s1 s2 hfuel).eq_map]
  cases interOn f ne s1 s2 with
  | error e => rfl
  | ok res => rfl

theorem gen_on_intersection (fuel k : Nat) : InterOnSpec α fuel k := by
  intro β encP f ne m hcall hpay hne s1 s2 hfuel
  have h := gen_on_intersection_sim fuel k encP f ne m hcall hpay hne s1 s2 (by omega)
  cases hr : interOn f ne s1 s2 with
  | error e => exact h.of_error hr
  | ok res => obtain ⟨r, hx, rfl⟩ := h.of_ok hr; exact hx

theorem GOnInter.encRes_ok {β : Type} (encP : β → DV α) (out : ASig β) (last : Last β) (r1 r2 : ASig α) :
    GOnInter.encRes encP (.ok (out, last, r1, r2)) =
      .ok (.list [encSigP encP out, encLast encP last, encSig r1, encSig r2]) := rfl

theorem GOnInter.encRes_error {β : Type} (encP : β → DV α) (e : PyErr) :
    GOnInter.encRes encP (.error e : Except PyErr (ASig β × Last β × ASig α × ASig α)) = .error e := rfl

theorem gen_on_intersection_ok (fuel k : Nat) {β : Type} (encP : β → DV α) (f : α → α → β) (ne : β → β → Bool) (m : String)
    (hm : ∀ a b, callAt Gen.DenseOn.fns fuel (k + 1) m [.val a, .val b] = .ok (encP (f a b)))
    (hpay : ∀ x, toPayload (encP x) = .ok (encP x)) (hne : ∀ x y, cmpDV .ne (encP x) (encP y) = .ok (ne x y))
    (s1 s2 : ASig α) (hfuel : s1.length + s2.length < fuel) (out : ASig β) (last : Last β) (r1 r2 : ASig α)
    (ho : interOn f ne s1 s2 = .ok (out, last, r1, r2)) :
    callAt Gen.DenseOn.fns fuel (k + 2) "intersection" [encSig s1, encSig s2, .fn m] =
      .ok (.list [encSigP encP out, encLast encP last, encSig r1, encSig r2]) := by
  obtain ⟨r, hx, rfl⟩ := (gen_on_intersection_sim fuel k encP f ne m hm hpay hne s1 s2 hfuel).of_ok ho
  exact hx

theorem gen_on_intersection_error (fuel k : Nat) {β : Type} (encP : β → DV α) (f : α → α → β) (ne : β → β → Bool)
    (m : String) (hm : ∀ a b, callAt Gen.DenseOn.fns fuel (k + 1) m [.val a, .val b] = .ok (encP (f a b)))
    (hpay : ∀ x, toPayload (encP x) = .ok (encP x)) (hne : ∀ x y, cmpDV .ne (encP x) (encP y) = .ok (ne x y))
    (s1 s2 : ASig α) (hfuel : s1.length + s2.length < fuel) (e : PyErr) (ho : interOn f ne s1 s2 = .error e) :
    callAt Gen.DenseOn.fns fuel (k + 2) "intersection" [encSig s1, encSig s2, .fn m] = .error e :=
  (gen_on_intersection_sim fuel k encP f ne m hm hpay hne s1 s2 hfuel).of_error ho

/-- the name of the method the operation classes hand to `intersection` for a point-wise binary operator -/
def GOnInter.binMethodName : Bin → Option String
  | .add => some "addition"
  | .sub => some "subtraction"
  | .mul => some "multiplication"
  | .div => some "division"
  | .pow => some "power"
  | .log => some "log"
  | .and => some "conjunction"
  | .or => some "disjunction"
  | .implies => some "implication"
  | .iff => some "iff"
  | .xor => some "xor"
  | _ => none

theorem gen_on_binMethod (fuel k : Nat) (op : Bin) (name : String) (h : GOnInter.binMethodName op = some name) (a b : α) :
    callAt Gen.DenseOn.fns fuel (k + 1) name [.val a, .val b] = .ok (.val (binMethod op a b) : DV α) := by
  cases op <;> simp [GOnInter.binMethodName] at h <;> subst h
  · exact gen_on_addition fuel k a b
  · exact gen_on_subtraction fuel k a b
  · exact gen_on_multiplication fuel k a b
  · exact gen_on_division fuel k a b
  · exact gen_on_power fuel k a b
  · exact gen_on_log fuel k a b
  · exact gen_on_conjunction fuel k a b
  · exact gen_on_disjunction fuel k a b
  · exact gen_on_implication fuel k a b
  · exact gen_on_iff fuel k a b
  · exact gen_on_xor fuel k a b

theorem GOnInter.toPayload_val (x : α) : toPayload (DV.val x : DV α) = .ok (.val x) := rfl

theorem GOnInter.toPayload_encPair (x : α × α) : toPayload (encPair x : DV α) = .ok (encPair x) := rfl

theorem GOnInter.cmpDV_ne_encPair (x y : α × α) : cmpDV .ne (encPair x : DV α) (encPair y) = .ok (pairNe x y) := by
  simp [cmpDV, encPair, pairNe]

/-- `intersection(l, r, m)` for a method `m` on values (`conjunction`, `subtraction`, …): `_append` compares with `!=`. -/
theorem gen_on_inter_val (fuel k : Nat) (m : String) (f : α → α → α)
    (hm : ∀ a b, callAt Gen.DenseOn.fns fuel (k + 1) m [.val a, .val b] = .ok (.val (f a b) : DV α))
    (l r : ASig α) (h : l.length + r.length < fuel) :
    callAt Gen.DenseOn.fns fuel (k + 2) "intersection" [encSig l, encSig r, .fn m] =
      GOnInter.encRes (fun x => DV.val x) (interOn f vne l r) :=
  gen_on_intersection' fuel k (fun x => DV.val x) f vne m hm toPayload_val cmpDV_ne_val l r h

/-- `intersection(l, r, split)` (the since / until classes) -/
theorem gen_on_inter_split (fuel k : Nat) (l r : ASig α) (h : l.length + r.length < fuel) :
    callAt Gen.DenseOn.fns fuel (k + 2) "intersection" [encSig l, encSig r, .fn "split"] =
      GOnInter.encRes encPair (interOn (fun a b => (a, b)) pairNe l r) :=
  gen_on_intersection' fuel k encPair (fun a b => (a, b)) pairNe "split" (gen_on_split fuel k)
    toPayload_encPair cmpDV_ne_encPair l r h

end Rtamt.Py.DnOn
