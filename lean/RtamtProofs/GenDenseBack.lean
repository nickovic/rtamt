/-
  The translated `always_timed_operation` / `eventually_timed_operation` (`Rtamt/Py/GeneratedDense.lean`) run under the
  semantics of `Rtamt/Py/Dn.lean` compute what the mirror `backTimed` of `Rtamt/Dense/Alg.lean` computes - values and
  exceptions, for every input list.
-/
import RtamtProofs.GenDenseFwd

namespace Rtamt.Py.Dn
open Rtamt Val Rtamt.Dense Rtamt.Dense.Alg

set_option linter.unusedSectionVars false

variable {α : Type} [Val α]

namespace GenBack
open Fwd (encSeg)

def encSegs (l : List (Seg α)) : DV α := .list (l.map encSeg)

def mkB : S :=
  (.ite (.bin .eq (.loc "i") (.bin .sub (.call1 "len" (.loc "input_list")) (.int 1))) (.setLoc "b" (.tup3 (.bin .sub (.idx (.idx (.loc "input_list") (.loc "i")) (.int 0)) (.loc "end")) .inf (.idx (.idx (.loc "input_list") (.loc "i")) (.int 1)))) (.setLoc "b" (.tup3 (.bin .sub (.idx (.idx (.loc "input_list") (.loc "i")) (.int 0)) (.loc "end")) (.bin .sub (.idx (.idx (.loc "input_list") (.bin .add (.loc "i") (.int 1))) (.int 0)) (.loc "begin")) (.idx (.idx (.loc "input_list") (.loc "i")) (.int 1)))))

open Stk (a_ b_) in
/-- towards time 0 the top of the stack is `out[0]`, and the near end of a segment is its `hi` -/
def code : Stk.Code :=
  ⟨.idx (.loc "out") (.int 0), .delIdx "out" (.int 0), fun e => .insert0 "out" e, .bin .gt (b_ 1) (a_ 1),
    .bin .gt (a_ 1) (b_ 1), .tup3 (b_ 0) (a_ 0) (b_ 2), .tup3 (b_ 1) (a_ 1) (a_ 2)⟩

def pushS (op1 op2 : BinOp) : S := Stk.push code op1 op2

def decI : S := (.setLoc "i" (.bin .sub (.loc "i") (.int 1)))

def outerBody (op1 op2 : BinOp) : S := (.seq mkB (.seq (pushS op1 op2) decI))

def outerCond : E := (.bin .ge (.loc "i") (.int 0))

def ansBody : S :=
  (.ite (.and_ (.bin .le (.idx (.loc "b") (.int 0)) (.int 0)) (.bin .gt (.idx (.loc "b") (.int 1)) (.int 0))) (.appendLoc "ans" (.list2 (.int 0) (.idx (.loc "b") (.int 2)))) (.ite (.bin .gt (.idx (.loc "b") (.int 0)) (.int 0)) (.appendLoc "ans" (.list2 (.idx (.loc "b") (.int 0)) (.idx (.loc "b") (.int 2)))) .skip))

def restS (op1 op2 : BinOp) : S :=
  (.seq (.while_ outerCond (outerBody op1 op2)) (.seq (.forEnum "i" "b" (.loc "out") false ansBody) (.ret (.loc "ans"))))

def alwPre (R : S) : S :=
  (.seq (.setLoc "prev" .emptyList) (.seq (.setLoc "residual_start" .inf) (.seq (.setLoc "max" .inf) (.seq (.setLoc "out" .emptyList) (.seq (.setLoc "input_list" (.loc "sample")) (.seq (.setLoc "ans" .emptyList) (.seq (.setLoc "i" (.bin .sub (.call1 "len" (.loc "input_list")) (.int 1))) (.seq (.setLoc "domain_end" .inf) R))))))))

def evPre (R : S) : S :=
  (.seq (.setLoc "out" .emptyList) (.seq (.setLoc "input_list" (.loc "sample")) (.seq (.setLoc "ans" .emptyList) (.seq (.setLoc "prev" .emptyList) (.seq (.setLoc "residual_start" (.neg .inf)) (.seq (.setLoc "max" (.neg .inf)) (.seq (.setLoc "i" (.bin .sub (.call1 "len" (.loc "input_list")) (.int 1))) (.seq (.setLoc "domain_end" .inf) R))))))))

def alwFull (R : S) : S := alwPre (.seq domEnd R)
def evFull (R : S) : S := evPre (.seq domEnd R)

theorem alw_body_eq : Gen.Dense.fn_always_timed_operation.body = alwFull (restS .gt .le) := rfl
theorem ev_body_eq : Gen.Dense.fn_eventually_timed_operation.body = evFull (restS .lt .ge) := rfl

@[simp] theorem resolve_nil (f : String) : resolve ([] : Env α) f = f := rfl

attribute [simp] resolve_cons

theorem evalBin_le_tm0 (x : Tm) : evalBin .le (.tm x : DV α) (.int 0) = .ok (.bool (Tm.le x Tm.zero)) := by
  simp [evalBin, isCmp, cmpDV, isTimeLike, toTm, cmpTm, Except.map, Tm.zero]

theorem evalBin_gt_tm0 (x : Tm) : evalBin .gt (.tm x : DV α) (.int 0) = .ok (.bool (Tm.lt Tm.zero x)) := by
  simp [evalBin, isCmp, cmpDV, isTimeLike, toTm, cmpTm, Except.map, Tm.zero]

theorem evalBin_sub_tm (x : Tm) (q : Rat) : evalBin .sub (.tm x : DV α) (.tm (.fin q)) = .ok (.tm (x.sub q)) :=
  (BegOK.tm q).evalBin_sub x

theorem evalBin_sub_int (i j : Int) : evalBin .sub (.int i : DV α) (.int j) = .ok (.int (i - j)) := rfl

theorem evalBin_add_int (i j : Int) : evalBin .add (.int i : DV α) (.int j) = .ok (.int (i + j)) := rfl

theorem evalBin_eq_int (i j : Int) : evalBin .eq (.int i : DV α) (.int j) = .ok (.bool (decide (i = j))) := by
  simp [evalBin, isCmp, cmpDV, cmpInt, Except.map]

theorem evalBin_ge_int (i j : Int) : evalBin .ge (.int i : DV α) (.int j) = .ok (.bool (decide (j ≤ i))) := by
  simp [evalBin, isCmp, cmpDV, cmpInt, Except.map]

/-- the segment of the sample `p` followed by the samples `post` -/
def segOf (a b : Rat) (p : Tm × α) (post : ASig α) : Seg α :=
  match post with
  | [] => ⟨p.1.sub b, .inf, p.2⟩
  | q :: _ => ⟨p.1.sub b, q.1.sub a, p.2⟩

theorem backSegs_cons (a b : Rat) (p : Tm × α) (post : ASig α) :
    backSegs a b (p :: post) = segOf a b p post :: backSegs a b post := by
  obtain ⟨t, v⟩ := p
  cases post with
  | nil => rfl
  | cons q post => obtain ⟨t', v'⟩ := q; rfl

/-- the segments from the last to the first: `rp` are the samples not yet visited, in reverse order -/
def revSegs (a b : Rat) : ASig α → ASig α → List (Seg α)
  | [], _ => []
  | p :: rp, post => segOf a b p post :: revSegs a b rp (p :: post)

theorem backSegs_reverse (a b : Rat) (rp : ASig α) : ∀ post : ASig α,
    (backSegs a b (rp.reverse ++ post)).reverse = (backSegs a b post).reverse ++ revSegs a b rp post := by
  induction rp with
  | nil => intro post; simp [revSegs]
  | cons p rp ih =>
      intro post
      have := ih (p :: post)
      simp only [List.reverse_cons, List.append_assoc, List.singleton_append]
      rw [this, backSegs_cons]
      simp [revSegs]

/-- what the output loop appends for one segment -/
def ansOf (g : Seg α) : Option (Tm × α) :=
  if Tm.le g.lo Tm.zero && Tm.lt Tm.zero g.hi then some (Tm.zero, g.v)
  else if Tm.lt Tm.zero g.lo then some (g.lo, g.v)
  else none

theorem backTimed_eq (w : α → α → Bool) (s : ASig α) (a b : Rat) :
    backTimed w s a b = (do
      let out ← (revSegs a b s.reverse []).foldlM (pushSegB w) []
      pure (out.filterMap ansOf)) := by
  have h := backSegs_reverse a b s.reverse []
  simp only [List.reverse_reverse, List.append_nil] at h
  unfold backTimed
  rw [h]
  simp only [backSegs, List.reverse_nil, List.nil_append]
  rfl

theorem mkB_step (call : Call α) (fuel : Nat) (env : Env α) (l1 : List (DV α)) (p : Tm × α) (post : ASig α)
    (a b : Rat)
    (hlen : ∀ l, call "len" [.list l] = .ok (.int l.length))
    (hr : resolve env "len" = "len")
    (hIn : getLoc "input_list" env = .ok (.list (l1 ++ encSmp p :: post.map encSmp)))
    (hi : getLoc "i" env = .ok (.int l1.length))
    (hb : ∃ xb, getLoc "begin" env = .ok xb ∧ BegOK xb a) (he : getLoc "end" env = .ok (.tm (.fin b))) :
    exec call fuel mkB env = .ok (setLoc "b" (encSeg (segOf a b p post)) env, none) := by
  obtain ⟨xb, hb, hxb⟩ := hb
  have hIi : evalE call env (.idx (.loc "input_list") (.loc "i")) = .ok (encSmp p) :=
    (evalE.idx (evalE.loc hIn) (evalE.loc hi)).trans (evalIdx.nat _ _ _ (by simp))
  have lo : evalE call env (.bin .sub (.idx (.idx (.loc "input_list") (.loc "i")) (.int 0)) (.loc "end"))
      = .ok (.tm (p.1.sub b)) := (evalE.bin (evalE.idxInt hIi) (evalE.loc he)).trans (evalBin_sub_tm _ _)
  have vv : evalE call env (.idx (.idx (.loc "input_list") (.loc "i")) (.int 1)) = .ok (.val p.2) := evalE.idxInt hIi
  have hc := (evalE.bin (op := .eq) (evalE.loc hi) (evalE_lenSub hlen hIn hr 1)).trans (evalBin_eq_int _ _)
  rw [mkB]
  cases post with
  | nil =>
      rw [show decide _ = true from by simp] at hc
      rw [exec.ite_true hc rfl]
      exact exec.setLoc ((evalE.tup3 lo rfl vv).trans rfl)
  | cons q post =>
      rw [show decide _ = false from by simp; omega] at hc
      have hI1 : evalE call env (.idx (.loc "input_list") (.bin .add (.loc "i") (.int 1))) = .ok (encSmp q) :=
        (evalE.idx (evalE.loc hIn) ((evalE.bin (evalE.loc hi) rfl).trans (evalBin_add_int _ _))).trans
          (evalIdx.nat (l1 ++ encSmp p :: encSmp q :: post.map encSmp) (l1.length + 1) (encSmp q) (by simp))
      rw [exec.ite_false hc rfl]
      exact exec.setLoc ((evalE.tup3 lo ((evalE.bin (evalE.idxInt hI1) (evalE.loc hb)).trans (hxb.evalBin_sub _)) vv).trans rfl)

open Stk (evalE_a evalE_b) in
theorem code_ok (call : Call α) : Stk.OK code (backDir (α := α)) (·.map encSeg) call where
  empty := fun stk => by simp
  top := fun hout _ => (evalE.idxInt (evalE.loc hout)).trans (evalIdx.cons0 _ _)
  top_nil := fun hout _ => (evalE.idxInt (evalE.loc hout)).trans evalIdx.nil0
  pop := fun hout _ => (exec.delIdx hout rfl).trans (by rw [List.map_cons, delAt_cons_zero]; rfl)
  push := fun h hout => exec.insert0 h hout
  nearLt := fun ha hb => (evalE.bin (evalE_b hb 1) (evalE_a ha 1)).trans (Fwd.cmpGtTm _ _)
  nearGt := fun ha hb => (evalE.bin (evalE_a ha 1) (evalE_b hb 1)).trans (Fwd.cmpGtTm _ _)
  seg1 := fun ha hb => (evalE.tup3 (evalE_b hb 0) (evalE_a ha 0) (evalE_b hb 2)).trans rfl
  seg2 := fun ha hb => (evalE.tup3 (evalE_b hb 1) (evalE_a ha 1) (evalE_a ha 2)).trans rfl

section loops
variable (w : α → α → Bool) (op1 op2 : BinOp)
variable (hop1 : ∀ x y : α, evalBin op1 (.val x : DV α) (.val y) = .ok (.bool (w x y)))
variable (hop2 : ∀ x y : α, evalBin op2 (.val x : DV α) (.val y) = .ok (.bool (!w x y)))

include hop1 hop2 in
theorem pushS_step (call : Call α) (fuel : Nat) (env : Env α) (out : List (Seg α)) (g : Seg α)
    (hint : ∀ x1 x2 y1 y2, call "intersects" [.tm x1, .tm x2, .tm y1, .tm y2] = .ok (.bool (intersects x1 x2 y1 y2)))
    (hr : resolve env "intersects" = "intersects") (hlen : resolve env "len" = "len") (hfuel : out.length ≤ fuel)
    (hout : getLoc "out" env = .ok (encSegs out)) (hb : getLoc "b" env = .ok (encSeg g)) :
    Runs (exec call fuel (pushS op1 op2) env) (pushSegB w out g) fun out' env' =>
      getLoc "out" env' = .ok (encSegs out') ∧ Frame ["a", "out"] env env' :=
  pushSegB_eq w out g ▸ Stk.push_spec (code_ok call) hop1 hop2 hint fuel hfuel hout hb hlen hr

/-- the locals the loops only read -/
def Stable (env : Env α) (L : List (DV α)) (a b : Rat) : Prop :=
  getLoc "input_list" env = .ok (.list L) ∧ (∃ xb, getLoc "begin" env = .ok xb ∧ BegOK xb a) ∧
    getLoc "end" env = .ok (.tm (.fin b)) ∧ resolve env "len" = "len" ∧ resolve env "intersects" = "intersects"

theorem Stable.frame {env env' : Env α} {L : List (DV α)} {a b : Rat} {vs : List String} (h : Stable env L a b)
    (hf : Frame vs env env') (hvs : ∀ x ∈ ["input_list", "begin", "end", "len", "intersects"], x ∉ vs := by decide +kernel) :
    Stable env' L a b :=
  ⟨(hf.getLoc (hvs _ (by simp))).trans h.1, h.2.1.imp fun _ hb => ⟨(hf.getLoc (hvs _ (by simp))).trans hb.1, hb.2⟩,
    (hf.getLoc (hvs _ (by simp))).trans h.2.2.1, (hf.resolve (hvs _ (by simp))).trans h.2.2.2.1,
    (hf.resolve (hvs _ (by simp))).trans h.2.2.2.2⟩

include hop1 hop2 in
theorem outerBody_step (call : Call α) (fuel : Nat) (env : Env α) (l1 : List (DV α)) (p : Tm × α) (post : ASig α)
    (a b : Rat) (out : List (Seg α))
    (hC : CallOK call)
    (hst : Stable env (l1 ++ encSmp p :: post.map encSmp) a b)
    (hi : getLoc "i" env = .ok (.int l1.length)) (hout : getLoc "out" env = .ok (encSegs out))
    (hfuel : out.length ≤ fuel) :
    Runs (exec call fuel (outerBody op1 op2) env) (pushSegB w out (segOf a b p post)) fun out' env' =>
      getLoc "out" env' = .ok (encSegs out') ∧ getLoc "i" env' = .ok (.int ((l1.length : Int) - 1)) ∧
        Frame ["b", "a", "out", "i"] env env' := by
  obtain ⟨s1, s2, s3, s4, s5⟩ := hst
  rw [outerBody, exec.seq_ok (mkB_step call fuel env l1 p post a b hC.len s4 s1 hi s2 s3)]
  refine Runs.seq_sim_right (pushS_step w op1 op2 hop1 hop2 call fuel _ out (segOf a b p post) hC.ints
    (by simpa using s5) (by simpa using s4) hfuel (by simpa using hout) (by simp)) ?_
  rintro out' env2 ⟨h2, h3⟩
  have hi2 : getLoc "i" env2 = .ok (.int l1.length) := by rw [h3.getLoc (k := "i") (by simp)]; simpa using hi
  exact ⟨(setLoc "i" (.int ((l1.length : Int) - 1)) env2, none), exec.setLoc ((evalE.bin (evalE.loc hi2) rfl).trans (evalBin_sub_int _ _)), rfl,
    by simpa using h2, by simp, Frame.set (Frame.trans (by frame_tac) (h3.mono (by simp))) (by simp) _⟩

theorem outerCond_eval (call : Call α) (env : Env α) (i : Int) (hi : getLoc "i" env = .ok (.int i)) :
    (do truthy (← evalE call env outerCond)) = .ok (decide (0 ≤ i)) := by
  rw [outerCond, evalE.bin (evalE.loc hi) rfl, evalBin_ge_int]
  rfl

include hop1 hop2 in
theorem outerLoop (call : Call α) (fuel : Nat) (a b : Rat) (hC : CallOK call) (s : ASig α) (env : Env α)
    (hfuel : s.length + 1 ≤ fuel) (hst : Stable env (s.map encSmp) a b)
    (hi : getLoc "i" env = .ok (.int ((s.length : Int) - 1))) (hout : getLoc "out" env = .ok (encSegs [])) :
    Runs (exec call fuel (.while_ outerCond (outerBody op1 op2)) env) ((revSegs a b s.reverse []).foldlM (pushSegB w) [])
      fun out' env' => getLoc "out" env' = .ok (encSegs out') ∧ Frame ["b", "a", "out", "i"] env env' := by
  refine Runs.while (fun st : ASig α × ASig α × List (Seg α) => (revSegs a b st.1 st.2.1).foldlM (pushSegB w) st.2.2)
    (fun st e => st.2.2.length + st.1.length ≤ fuel ∧ Stable e ((st.1.reverse ++ st.2.1).map encSmp) a b ∧
      getLoc "i" e = .ok (.int ((st.1.length : Int) - 1)) ∧ getLoc "out" e = .ok (encSegs st.2.2) ∧
      Frame ["b", "a", "out", "i"] env e)
    _ (fun st => st.1.length) ?_ (s.reverse, [], [])
    ⟨by simp; omega, by simpa using hst, by simpa using hi, hout, Frame.refl _ _⟩ (by simp; omega)
  rintro ⟨rp, post, out⟩ e ⟨hfu, hs, hi, ho, hF⟩
  dsimp only at hfu hs hi ho
  cases rp with
  | nil => exact ⟨_, outerCond_eval call e _ hi, fun _ => ⟨out, rfl, ho, hF⟩, fun h => by simp at h⟩
  | cons p rp =>
      have hi' : getLoc "i" e = .ok (.int ((rp.reverse.map encSmp).length : Int)) := by rw [hi]; simp
      refine ⟨_, outerCond_eval call e _ hi', fun h => by simp at h, fun _ =>
        ⟨_, pushSegB w out (segOf a b p post), fun o => (rp, p :: post, o), rfl, ?_⟩⟩
      refine (outerBody_step w op1 op2 hop1 hop2 call fuel e (rp.reverse.map encSmp) p post a b out hC
        (by simpa using hs) hi' ho (by omega)).mono ?_
      rintro out' env2 hp ⟨h2, h3, h4⟩
      have hl := pushSegB_length w _ _ _ hp
      exact ⟨⟨by simp at hfu ⊢; omega, by simpa using hs.frame h4, by simpa using h3, h2, hF.trans h4⟩, by simp⟩

theorem ansBody_step (call : Call α) (fuel : Nat) (env : Env α) (g : Seg α) (acc : ASig α)
    (hb : getLoc "b" env = .ok (encSeg g)) (hans : getLoc "ans" env = .ok (encSig acc)) :
    ∃ env', exec call fuel ansBody env = .ok (env', none) ∧
      getLoc "ans" env' = .ok (encSig (acc ++ (ansOf g).toList)) := by
  have c1 : evalE call env (.and_ (.bin .le (.idx (.loc "b") (.int 0)) (.int 0)) (.bin .gt (.idx (.loc "b") (.int 1)) (.int 0)))
      = .ok (.bool (Tm.le g.lo Tm.zero && Tm.lt Tm.zero g.hi)) := by
    rw [evalE.and_ ((evalE.bin (evalE_segIdx hb 0) rfl).trans (evalBin_le_tm0 _)) rfl]
    cases Tm.le g.lo Tm.zero
    · rfl
    · exact (evalE.bin (evalE_segIdx hb 1) rfl).trans (evalBin_gt_tm0 _)
  have c2 : evalE call env (.bin .gt (.idx (.loc "b") (.int 0)) (.int 0)) = .ok (.bool (Tm.lt Tm.zero g.lo)) :=
    (evalE.bin (evalE_segIdx hb 0) rfl).trans (evalBin_gt_tm0 _)
  rw [ansBody, ansOf]
  cases h1 : (Tm.le g.lo Tm.zero && Tm.lt Tm.zero g.hi) with
  | true =>
      rw [h1] at c1
      rw [exec.ite_true c1 rfl, exec.appendLoc (v := .smp Tm.zero (.val g.v))
        ((evalE.list2 rfl (evalE_segIdx hb 2)).trans rfl) hans]
      exact ⟨_, rfl, by simp [encSig, encSmp]⟩
  | false =>
      rw [h1] at c1
      rw [exec.ite_false c1 rfl]
      cases h2 : Tm.lt Tm.zero g.lo with
      | true =>
          rw [h2] at c2
          rw [exec.ite_true c2 rfl, exec.appendLoc (v := .smp g.lo (.val g.v))
            ((evalE.list2 (evalE_segIdx hb 0) (evalE_segIdx hb 2)).trans rfl) hans]
          exact ⟨_, rfl, by simp [encSig, encSmp]⟩
      | false =>
          rw [h2] at c2
          rw [exec.ite_false c2 rfl]
          exact ⟨env, rfl, by simpa using hans⟩

theorem ansLoop (call : Call α) (fuel : Nat) (out : List (Seg α)) (env : Env α)
    (hout : getLoc "out" env = .ok (encSegs out)) (hans : getLoc "ans" env = .ok (encSig [])) :
    ∃ env', exec call fuel (.forEnum "i" "b" (.loc "out") false ansBody) env = .ok (env', none) ∧
      getLoc "ans" env' = .ok (encSig (out.filterMap ansOf)) := by
  obtain ⟨env', _, h, acc, h1, h2⟩ := exec.forEnum_inv call fuel encSeg "b" "i" (.loc "out") ansBody out env (evalE.loc hout)
    (fun _ rest e => ∃ acc, getLoc "ans" e = .ok (encSig acc) ∧ acc ++ rest.filterMap ansOf = out.filterMap ansOf)
    (by
      rintro k g rest e ⟨acc, h1, h2⟩
      obtain ⟨env1, e1, e2⟩ := ansBody_step call fuel (setLoc "b" (encSeg g) (setLoc "i" (.int k) e)) g acc (by simp)
        (by simpa using h1)
      exact ⟨env1, e1, _, e2, by rw [← h2]; cases hg : ansOf g <;> simp [hg]⟩)
    ⟨[], hans, rfl⟩
  exact ⟨env', h, by rw [h1, ← h2]; simp⟩

include hop1 hop2 in
theorem rest_run (call : Call α) (fuel : Nat) (env : Env α) (s : ASig α) (a b : Rat)
    (hC : CallOK call)
    (hfuel : s.length + 1 ≤ fuel) (hst : Stable env (s.map encSmp) a b)
    (hi : getLoc "i" env = .ok (.int ((s.length : Int) - 1))) (hout : getLoc "out" env = .ok (encSegs []))
    (hans : getLoc "ans" env = .ok (encSig [])) :
    Rets (exec call fuel (restS op1 op2) env) (backTimed w s a b) encSig := by
  rw [backTimed_eq, restS]
  refine Runs.seq_sim (outerLoop w op1 op2 hop1 hop2 call fuel a b hC s env hfuel hst hi hout) ?_
  rintro out env1 - ⟨h2, h3⟩
  obtain ⟨env2, k1, k2⟩ := ansLoop call fuel out env1 h2 ((h3.getLoc (by decide)).trans hans)
  rw [exec.seq_ok k1]
  exact Rets.intro (exec.ret (evalE.loc k2))

end loops

def env0 (s : ASig α) (xb : DV α) (b : Rat) : Env α :=
  [("sample", encSig s), ("begin", xb), ("end", .tm (.fin b))]

/-- what the code after the initialisations relies on -/
def Init (env : Env α) (s : ASig α) (a b : Rat) : Prop :=
  Stable env (s.map encSmp) a b ∧ getLoc "i" env = .ok (.int ((s.length : Int) - 1)) ∧
    getLoc "out" env = .ok (encSegs []) ∧ getLoc "ans" env = .ok (encSig [])

theorem Init.frame {env env' : Env α} {s : ASig α} {a b : Rat} (h : Init env s a b)
    (hf : Frame ["domain_end"] env env') : Init env' s a b :=
  ⟨h.1.frame hf, (hf.getLoc (by decide)).trans h.2.1, (hf.getLoc (by decide)).trans h.2.2.1,
    (hf.getLoc (by decide)).trans h.2.2.2⟩

theorem alwPre_run (call : Call α) (fuel : Nat) (s : ASig α) (a b : Rat) (xb : DV α) (hxb : BegOK xb a)
    (hlen : ∀ l, call "len" [.list l] = .ok (.int l.length)) :
    ∃ env, (∀ R, exec call fuel (alwPre R) (env0 s xb b) = exec call fuel R env) ∧ Init env s a b := by
  apply Exists.intro
  refine ⟨fun R => ?_, ?_⟩
  · unfold alwPre
    rw [exec.seq_ok (exec.setLoc (v := .list []) rfl), exec.seq_ok (exec.setLoc (v := .uinf false) rfl),
      exec.seq_ok (exec.setLoc (v := .uinf false) rfl), exec.seq_ok (exec.setLoc (v := .list []) rfl),
      exec.seq_ok (exec.setLoc (v := encSig s) (evalE.loc (by simp [env0]))), exec.seq_ok (exec.setLoc (v := .list []) rfl),
      exec.seq_ok (exec.setLoc ((evalE_lenSub hlen (L := s.map encSmp) (by simp [encSig]) (by simp [env0]) 1).trans
        (by rw [List.length_map]))),
      exec.seq_ok (exec.setLoc (v := .uinf false) rfl)]
  · simp [Init, Stable, env0, encSig, encSegs, hxb]

theorem evPre_run (call : Call α) (fuel : Nat) (s : ASig α) (a b : Rat) (xb : DV α) (hxb : BegOK xb a)
    (hlen : ∀ l, call "len" [.list l] = .ok (.int l.length)) :
    ∃ env, (∀ R, exec call fuel (evPre R) (env0 s xb b) = exec call fuel R env) ∧ Init env s a b := by
  apply Exists.intro
  refine ⟨fun R => ?_, ?_⟩
  · unfold evPre
    rw [exec.seq_ok (exec.setLoc (v := .list []) rfl),
      exec.seq_ok (exec.setLoc (v := encSig s) (evalE.loc (by simp [env0]))), exec.seq_ok (exec.setLoc (v := .list []) rfl),
      exec.seq_ok (exec.setLoc (v := .list []) rfl), exec.seq_ok (exec.setLoc (v := .uinf true) rfl),
      exec.seq_ok (exec.setLoc (v := .uinf true) rfl),
      exec.seq_ok (exec.setLoc ((evalE_lenSub hlen (L := s.map encSmp) (by simp [encSig]) (by simp [env0]) 1).trans
        (by rw [List.length_map]))),
      exec.seq_ok (exec.setLoc (v := .uinf false) rfl)]
  · simp [Init, Stable, env0, encSig, encSegs, hxb]

theorem full_run (w : α → α → Bool) (op1 op2 : BinOp)
    (hop1 : ∀ x y : α, evalBin op1 (.val x : DV α) (.val y) = .ok (.bool (w x y)))
    (hop2 : ∀ x y : α, evalBin op2 (.val x : DV α) (.val y) = .ok (.bool (!w x y)))
    (call : Call α) (fuel : Nat) (s : ASig α) (a b : Rat) (xb : DV α)
    (hC : CallOK call)
    (hfuel : s.length + 1 ≤ fuel) (pre : S → S)
    (hpre : ∃ env, (∀ R, exec call fuel (pre R) (env0 s xb b) = exec call fuel R env) ∧ Init env s a b) :
    Rets (exec call fuel (pre (.seq domEnd (restS op1 op2))) (env0 s xb b)) (backTimed w s a b) encSig := by
  obtain ⟨env, h1, h2⟩ := hpre
  obtain ⟨env', k1, k2⟩ := domEnd_exec call fuel env s hC.len h2.1.2.2.2.1 h2.1.1
  rw [h1, exec.seq_ok k1]
  obtain ⟨g1, g2, g3, g4⟩ := h2.frame k2
  exact rest_run w op1 op2 hop1 hop2 call fuel env' s a b hC hfuel g1 g2 g3 g4

/-- `always_timed_operation(sample, begin, end)`, translated from the source, computes what the mirror `alwTimed`
    computes (values and `IndexError`), for every sample list, at every call depth, with fuel `len(sample) + 1`. -/
theorem gen_alw_timed_beg (fuel k : Nat) (s : ASig α) (a b : Rat) (x : DV α) (hx : BegOK x a)
    (hfuel : s.length + 1 ≤ fuel) :
    callAt Gen.Dense.fns fuel (k + 2) "always_timed_operation" [encSig s, x, .tm (.fin b)]
      = (alwTimed s a b).map encSig :=
  callAt_of_rets (fn := Gen.Dense.fn_always_timed_operation) (fns_at 28 rfl) rfl (alw_body_eq ▸
    full_run (α := α) gtW .gt .le Fwd.par_hist.hW Fwd.par_hist.hK _ fuel s a b x (callOK_callAt fuel k) hfuel alwPre
      (alwPre_run _ fuel s a b x hx (callAt_len fuel (k + 1))))

theorem _root_.Rtamt.Py.Dn.gen_alw_timed (fuel k : Nat) (s : ASig α) (a b : Rat) (hfuel : s.length + 1 ≤ fuel) :
    callAt Gen.Dense.fns fuel (k + 2) "always_timed_operation" [encSig s, .tm (.fin a), .tm (.fin b)]
      = (alwTimed s a b).map encSig :=
  gen_alw_timed_beg fuel k s a b _ (BegOK.tm a) hfuel

/-- the same with the integer literal `0` as `begin` (the call `always_timed_operation(out2, 0, begin)` of
    `until_timed_operation`) -/
theorem _root_.Rtamt.Py.Dn.gen_alw_timed_int0 (fuel k : Nat) (s : ASig α) (b : Rat) (hfuel : s.length + 1 ≤ fuel) :
    callAt Gen.Dense.fns fuel (k + 2) "always_timed_operation" [encSig s, .int 0, .tm (.fin b)]
      = (alwTimed s 0 b).map encSig :=
  gen_alw_timed_beg fuel k s 0 b _ BegOK.int0 hfuel

/-- `eventually_timed_operation(sample, begin, end)`, translated from the source, computes what the mirror `evTimed`
    computes. -/
theorem gen_ev_timed_beg (fuel k : Nat) (s : ASig α) (a b : Rat) (x : DV α) (hx : BegOK x a)
    (hfuel : s.length + 1 ≤ fuel) :
    callAt Gen.Dense.fns fuel (k + 2) "eventually_timed_operation" [encSig s, x, .tm (.fin b)]
      = (evTimed s a b).map encSig :=
  callAt_of_rets (fn := Gen.Dense.fn_eventually_timed_operation) (fns_at 29 rfl) rfl (ev_body_eq ▸
    full_run (α := α) ltW .lt .ge Fwd.par_once.hW Fwd.par_once.hK _ fuel s a b x (callOK_callAt fuel k) hfuel evPre
      (evPre_run _ fuel s a b x hx (callAt_len fuel (k + 1))))

theorem _root_.Rtamt.Py.Dn.gen_ev_timed (fuel k : Nat) (s : ASig α) (a b : Rat) (hfuel : s.length + 1 ≤ fuel) :
    callAt Gen.Dense.fns fuel (k + 2) "eventually_timed_operation" [encSig s, .tm (.fin a), .tm (.fin b)]
      = (evTimed s a b).map encSig :=
  gen_ev_timed_beg fuel k s a b _ (BegOK.tm a) hfuel

/-- the same with the integer literal `0` as `begin`; rtamt itself makes no such call -/
theorem _root_.Rtamt.Py.Dn.gen_ev_timed_int0 (fuel k : Nat) (s : ASig α) (b : Rat) (hfuel : s.length + 1 ≤ fuel) :
    callAt Gen.Dense.fns fuel (k + 2) "eventually_timed_operation" [encSig s, .int 0, .tm (.fin b)]
      = (evTimed s 0 b).map encSig :=
  gen_ev_timed_beg fuel k s 0 b _ BegOK.int0 hfuel

end GenBack

end Rtamt.Py.Dn
