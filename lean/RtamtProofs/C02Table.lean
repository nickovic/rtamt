/-
  C02, obligations about the current source tree: the construction visitor of the
  discrete-time online monitor (table regenerated from /repo on every run) registers an
  operator object for every past node class and raises RTAMTException on every future one.
-/
import RtamtProofs.C02
import Rtamt.Generated
import RtamtProofs.Lemmas.Instance

namespace Rtamt
open Val

theorem C02_table_supported :
    ∀ k ∈ onlineKinds, k ≠ .Constant →
      (Generated.onlineDiscrete.handles k = true ∧ Generated.onlineDiscrete.raises k = false) := by
  decide

/-- Every node class outside `onlineKinds` (the future operators) is rejected with RTAMTException. -/
theorem C02_table_future_rejected :
    ∀ k ∈ Kind.all, k ∉ onlineKinds → Generated.onlineDiscrete.raises k = true := by
  decide

variable {α : Type} [Val α] [LawfulVal α]

/-- C02 for the online monitor as it is in the working tree. -/
theorem C02_current_tree (σ : String → Nat → α) (n : Nat) (φ : F α)
    (hon : φ.online = true) (hwf : φ.wf = true) :
    runOnline Generated.onlineDiscrete.handles Generated.onlineDiscrete.raises φ (envs σ n)
      = .ok (tab n (rho σ n φ)) := by
  apply C02_run_eq_rho _ _ σ n φ hon hwf
  intro k hk hc
  apply C02_table_supported k _ hc
  have := List.all_eq_true.1 hon k hk
  simpa using this

/-- Non-vacuity: a nested past formula with a duplicated stateful sub-formula meets the hypotheses. -/
example :
    let s : F EReal := .tb1 .once 1 2 (.tmp1 .prev (.bin (.pred .ge) (.var "x") (.const 1)))
    let φ : F EReal := .bin .and s (.tmp2 .since s (.tb2 .since 0 3 (.var "y") s))
    φ.online = true ∧ φ.wf = true := by
  refine ⟨by decide, by decide⟩

end Rtamt
