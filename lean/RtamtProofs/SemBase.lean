/-
  Symbolic execution of `Rtamt/Py/Sem.lean`, the part every module about translated `Sem.lean` code uses: the two tactics
  (`py_simp` unfolds the interpreter, `py_step` rewrites with the step equations of `SemSteps.lean` and the store lemmas,
  tagged `sem_step` here), `okAnd` (a computation succeeds and its result satisfies `P`), reading a store after a write,
  and the call of a method.
-/
import Rtamt.Py.GeneratedOps
import RtamtProofs.SemSteps
import RtamtProofs.Lemmas.Assoc
import RtamtProofs.Lemmas.Deque

namespace Rtamt.Py
open Rtamt Val

variable {α : Type} [Val α]

def encVal (key : String) (p : α) : Store α := [(key, .num p)]

/-- Symbolic execution of loop-free method bodies by unfolding `exec`, `evalE` and the operators. -/
macro "py_simp" "[" ls:Lean.Parser.Tactic.simpLemma,* "]" : tactic =>
  `(tactic| simp [update, reset, construct, call, exec, evalE, evalBin, evalUn, coerce, getKey, setKey,
      List.lookup, bind, Except.bind, Except.map, pure, Except.pure, throw, throwThe, MonadExceptOf.throw, encVal, $ls,*])

def okAnd {ε σ : Type} (x : Except ε σ) (P : σ → Prop) : Prop := ∃ s, x = .ok s ∧ P s

@[simp] theorem okAnd_ok {ε σ : Type} (s : σ) (P : σ → Prop) : okAnd (.ok s : Except ε σ) P ↔ P s := by
  simp [okAnd]

@[simp] theorem okAnd_error {ε σ : Type} (e : ε) (P : σ → Prop) : okAnd (.error e : Except ε σ) P ↔ False := by
  simp [okAnd]

theorem getKey_nil {β : Type} (k : String) : getKey k ([] : List (String × β)) = .error .key := rfl

theorem getKey_cons_same {β : Type} (k : String) (v : β) (l : List (String × β)) :
    getKey k ((k, v) :: l) = .ok v := by
  simp [getKey, List.lookup]

theorem getKey_cons_ne {β : Type} (k k' : String) (v : β) (l : List (String × β)) (h : k ≠ k') :
    getKey k ((k', v) :: l) = getKey k l := by
  have : (k == k') = false := by simpa using h
  simp [getKey, List.lookup, this]

theorem setKey_eq {β : Type} (k : String) (v : β) (l : List (String × β)) : setKey k v l = Assoc.set k v l := by
  induction l with
  | nil => rfl
  | cons p l ih => simp only [setKey, Assoc.set, ih]

theorem lookup_setKey_same {β : Type} (k : String) (v : β) (l : List (String × β)) :
    List.lookup k (setKey k v l) = some v := by
  rw [setKey_eq, Assoc.lookup_set, if_pos rfl]

theorem lookup_setKey_ne {β : Type} (k k' : String) (v : β) (l : List (String × β)) (h : k ≠ k') :
    List.lookup k (setKey k' v l) = List.lookup k l := by
  rw [setKey_eq, Assoc.lookup_set, if_neg h]

/-- With `String.reduceEq` and `↓reduceIte`, `simp only` reads any local through any number of assignments to literal
    names. -/
theorem getKey_setKey_ite {β : Type} (k k' : String) (v : β) (l : List (String × β)) :
    getKey k (setKey k' v l) = if k = k' then .ok v else getKey k l := by
  unfold getKey
  rw [setKey_eq, Assoc.lookup_set]
  by_cases h : k = k'
  · rw [if_pos h, if_pos h]
  · rw [if_neg h, if_neg h]

theorem getKey_setKey_same {β : Type} (k : String) (v : β) (l : List (String × β)) :
    getKey k (setKey k v l) = .ok v := by
  rw [getKey_setKey_ite, if_pos rfl]

theorem getKey_setKey_ne {β : Type} (k k' : String) (v : β) (l : List (String × β)) (h : k ≠ k') :
    getKey k (setKey k' v l) = getKey k l := by
  rw [getKey_setKey_ite, if_neg h]

theorem natCast_lt_zero (k : Nat) : ((k : Int) < 0) ↔ False :=
  iff_false_intro (by omega)

theorem natCast_succ_lt_zero (k : Nat) : ((k : Int) + 1 < 0) ↔ False :=
  iff_false_intro (by omega)

theorem toNat_natCast_succ (k : Nat) : ((k : Int) + 1).toNat = k + 1 := by omega

omit [Val α] in
theorem idx_lt (l : List α) (k : Nat) (h : k < l.length) : idx l k = .ok l[k] := by
  simp [idx, List.getElem?_eq_getElem h]

omit [Val α] in
theorem dqAppend_full (c : Nat) (l : List α) (x : α) (h : l.length = c) :
    dqAppend c l x = dqPush l x := by
  simp [dqAppend, dqPush, h]

omit [Val α] in
theorem dqAppend_replicate (c k : Nat) (x : α) (h : k < c) :
    dqAppend c (List.replicate k x) x = List.replicate (k + 1) x := by
  simp [dqAppend, h, List.replicate_succ']

theorem call_some (m : Method) (self : Store α) (args : List (V α)) (e : E)
    (hlen : args.length = m.params.length) (hret : m.ret = some e) :
    call m self args = (exec m.body { self := self, loc := m.params.zip args } >>= fun env =>
      evalE env e >>= fun v => pure (env.self, v)) := by
  simp [call, hlen, hret]

theorem call_ok (m : Method) (self self' loc' : Store α) (args : List (V α)) (e : E) (v : V α)
    (hlen : args.length = m.params.length) (hret : m.ret = some e)
    (hbody : exec m.body { self := self, loc := m.params.zip args } = .ok ⟨self', loc'⟩)
    (hv : evalE ⟨self', loc'⟩ e = .ok v) :
    call m self args = .ok (self', v) := by
  rw [call_some m self args e hlen hret, hbody, ok_bind, hv]; rfl

theorem construct_ok (c : Class) (args : List (V α)) (v : Store α)
    (hlen : args.length = c.init.params.length) (hret : c.init.ret = none)
    (h : okAnd (exec c.init.body { self := [], loc := c.init.params.zip args }) (fun env => env.self = v)) :
    construct c args = .ok v := by
  obtain ⟨env, henv, rfl⟩ := h
  simp [construct, call, hlen, henv, hret, bind, Except.bind, pure, Except.pure, Except.map]

theorem reset_ok (c : Class) (s v : Store α) (hlen : c.reset.params = []) (hret : c.reset.ret = none)
    (h : okAnd (exec c.reset.body { self := s, loc := [] }) (fun env => env.self = v)) : reset c s = .ok v := by
  obtain ⟨env, henv, rfl⟩ := h
  simp [reset, call, hlen, henv, hret, bind, Except.bind, pure, Except.pure, Except.map]

attribute [sem_step] exec_skip exec_seq exec_setLoc ok_bind error_bind getKey_nil getKey_cons_same getKey_cons_ne
  getKey_setKey_same getKey_setKey_ne evalBin_add_int evalBin_sub_int evalBin_min_num evalBin_max_num evalIdx_deque

/-- Evaluation of straight-line code (everything but `for`) with the set `sem_step`.  Assignments and appends to an
    attribute are named here and not tagged: only the operation classes have them, the visitors (`off_step`) never. -/
macro "py_step" "[" ls:Lean.Parser.Tactic.simpLemma,* "]" : tactic =>
  `(tactic| simp [sem_step, exec_setAttr, exec_append_none, exec_append_some, evalE, evalIdx_dlist_zero,
      evalIdx_dlist_one, appendV_deque, appendV_dlist, setKey, pure, Except.pure, Except.map,
      natCast_lt_zero, natCast_succ_lt_zero, toNat_natCast_succ, $ls,*])

/-- No construct outside the translated subset occurs. -/
def E.supported : E → Bool
  | .unsupported _ => false
  | .un _ e => e.supported
  | .bin _ a b => a.supported && b.supported
  | .idx e i => e.supported && i.supported
  | .newDeque c => c.supported
  | .len e => e.supported
  | .slice e lo hi => e.supported && lo.supported && hi.supported
  | .rep e n => e.supported && n.supported
  | .compRange body _ lo hi => body.supported && lo.supported && hi.supported
  | .compList body _ it => body.supported && it.supported
  | .compZip body _ _ a b => body.supported && a.supported && b.supported
  | .agg _ e => e.supported
  | .reversed e => e.supported
  | .tuple a b => a.supported && b.supported
  | .ifExp c a b => c.supported && a.supported && b.supported
  | .sorted e => e.supported
  | .lastSnd e => e.supported
  | .loc _ | .attr _ | .pinf | .ninf | .int _ | .cmpc _ | .emptyList | .noneLit | .strLit _ => true

def S.supported : S → Bool
  | .unsupported _ => false
  | .skip => true
  | .raise _ => true
  | .reverseLoc _ => true
  | .seq a b => a.supported && b.supported
  | .for_ _ lo hi body => lo.supported && hi.supported && body.supported
  | .ite c t e => c.supported && t.supported && e.supported
  | .setLoc _ e | .setAttr _ e | .append _ _ e => e.supported
  | .forIn _ it body => it.supported && body.supported
  | .forDown _ hi lo body => hi.supported && lo.supported && body.supported
  | .appendLoc _ e => e.supported
  | .insertLoc _ pos e => pos.supported && e.supported
  | .forEnum _ _ it body => it.supported && body.supported
  | .unpack _ _ e => e.supported
  | .forPair _ _ it body => it.supported && body.supported
  | .setLastSnd _ e => e.supported

def Method.supported (m : Method) : Bool :=
  m.body.supported && (match m.ret with | some e => e.supported | none => true)

def Class.supported (c : Class) : Bool :=
  c.init.supported && c.reset.supported && c.update.supported &&
    (match c.sat with | some m => m.supported | none => true)

end Rtamt.Py
