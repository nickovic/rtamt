/-
  Encodings shared by the theorems about the translated explanation functions
  (`Rtamt/Py/GeneratedExpl.lean`, regenerated on every run from `rtamt/explanation/*/discrete_time/explanations.py`).
-/
import Rtamt.Py.RunExpl
import RtamtProofs.SemBase

namespace Rtamt.Py
open Rtamt Val

variable {α : Type} [Val α]

/-- The interval lists of the mirror (`Nat`) as Python lists of `[b, e]` (`int`). -/
def castI (I : Ivs) : IvsZ := I.map (fun p => ((p.1 : Int), (p.2 : Int)))
def encI (I : Ivs) : V α := encZ (castI I)

/-- `op_signal[i]`. -/
def atL (s : List α) (i : Nat) : α := s.getD i Val.zero

/-- All intervals end inside a signal of length `n` (so that `op_signal[i]` is defined for every index of the interval). -/
def InRange (n : Nat) (I : Ivs) : Prop := ∀ p ∈ I, p.2 < n

/-- `[min(begin + a, len - 1), min(end + b, len - 1)]` for every interval. -/
def fwdI (n a b : Nat) (I : Ivs) : Ivs := I.map (fun (x, y) => (min (x + a) (n - 1), min (y + b) (n - 1)))
/-- `[max(begin - b, 0), max(end - a, 0)]` for every interval. -/
def bwdI (a b : Nat) (I : Ivs) : Ivs := I.map (fun (x, y) => (x - b, y - a))

end Rtamt.Py
