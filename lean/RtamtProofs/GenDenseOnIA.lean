/-
  The interface-aware predicate of the dense-time ONLINE monitor, translated from the source
  (`Gen.DenseOn.IAPredicateOperation_init` / `IAPredicateOperation_update`: `__init__` / `update` of the class
  `PredicateOperation` of `rtamt/semantics/iastl/dense_time/online/predicate_operation.py`, the calls of the parent's
  `__init__` / `update` / `sat` replaced by the parent's bodies), against the `.predSat c` clause of the mirror `stepOn`
  (`Rtamt/Dense/AlgOn.lean`).

  The generated bodies are cut into named pieces; each loop (the inlined `update`, the inlined `sat`, the output loop) is
  run against its list function.  What `update` reads and never assigns (`roNames`: the attributes but
  `self.subtraction_output`, and `abs`, `len`) travels through the pieces as one fact, `IARead`, which a piece hands on by the
  frame rule (`IARead.frame_exec`, from one fact `…_keeps` about the piece; `IARead.frame` for the assignments between the
  pieces).
  The loop of the inlined `update` is that of `PredicateOperation.update` (`GOnBin.predFor_spec`).  The only step that can
  fail is the call of `self.sub.update`, so `update` does what `binUpdate` with the subtraction does (`gen_iapred_update_sim`), and returns
  `iaOut` of the difference signal.  `GOnIA.IAPredRel c st o` relates the object to the record `BinSt` of its nested
  `SubtractionOperation` (`iaPredRel_of_env` reads it off the final locals of a method); the main theorems give values and
  exceptions of `__init__` / `update`, also through `construct` / `updateObj` of the runner - the latter against the mirror
  clause `iaPredUpdate` (`gen_iapredop_updateObj_sim`) - with the fuel `GOnBin.binFuel st sl sr`.

  Finding: for `!=` the online `sat()` computes `False if d == 0 else True` (`satOn`), the mirror's `satOfDiff .ne` is
  `abs(d) > 0` (the offline visitor's test).  They agree on every double; for an abstract value type the law
  `SatNeLaw` (on differences) is needed - it follows from `hcmp` of C06 (`satNeLaw_of_hcmp`).  The kept positions
  (`rval != prev or i == len(input_list) - 1`) are those of `dedupGoK`.
-/
import RtamtProofs.GenDenseOnBin

namespace Rtamt.Py.DnOn.GOnIA
open Rtamt Val Rtamt.Dense Rtamt.Dense.Alg Rtamt.Dense.AlgOn Rtamt.Py.DnOn Rtamt.Py.DnOn.GOnBin

set_option linter.unusedSectionVars false

variable {α : Type} [Val α]

def opIs (c : Cmp) : E := .bin .eq (.loc "self.comparison_op") (.cmpc c)

/-- the loop of the inlined `update`: that of `PredicateOperation.update` with its locals renamed -/
def updLoop : S :=
  .forIn "update0$i" (.loc "update0$input_list")
    (predLoopBody "update0$i" "update0$out_val" "update0$sample_result" "update0$prev")

/-- `in_sample[1]` of the inlined `sat` -/
def sx : E := .idx (.loc "sat1$in_sample") (.int 1)

/-- `out_val = True if test else False` (or the other way round); `rval = rv` -/
def satBr (test : E) (yes : Bool) (rv : E) : S :=
  .seq (.ite test (.setLoc "sat1$out_val" (.boolLit yes)) (.setLoc "sat1$out_val" (.boolLit (!yes))))
    (.setLoc "sat1$rval" rv)

def satChain : S :=
  .ite (opIs .eq) (satBr (.bin .eq sx (.int 0)) true (.neg (.call1 "abs" sx)))
  (.ite (opIs .ne) (satBr (.bin .eq sx (.int 0)) false (.call1 "abs" sx))
  (.ite (opIs .le) (satBr (.bin .le sx (.int 0)) true (.neg sx))
  (.ite (opIs .lt) (satBr (.bin .lt sx (.int 0)) true (.neg sx))
  (.ite (opIs .ge) (satBr (.bin .ge sx (.int 0)) true sx)
  (.ite (opIs .gt) (satBr (.bin .gt sx (.int 0)) true sx)
    (.raise .rtamt))))))

/-- `if rval != prev or i == len(input_list) - 1: sample_result.append([in_sample[0], out_val])` -/
def satKeep : S :=
  .ite (.or_ (.bin .ne (.loc "sat1$rval") (.loc "sat1$prev"))
      (.bin .eq (.loc "sat1$i") (.bin .sub (.call1 "len" (.loc "sat1$input_list")) (.int 1))))
    (.appendLoc "sat1$sample_result" (.list2 (.idx (.loc "sat1$in_sample") (.int 0)) (.loc "sat1$out_val"))) .skip

def satLoopBody : S := .seq satChain (.seq satKeep (.setLoc "sat1$prev" (.loc "sat1$rval")))

/-- `sat_sample[i]` -/
def si : E := .idx (.loc "sat_sample") (.loc "i")

def outLoopBody : S :=
  .seq (.ite (.bin .eq (.idx si (.int 1)) (.boolLit true)) (.setLoc "sample" .inf) (.setLoc "sample" (.neg .inf)))
    (.appendLoc "out_sample" (.list2 (.idx si (.int 0)) (.loc "sample")))

def vacLoopBody : S :=
  .seq (.setLoc "sample" (.int 0)) (.appendLoc "out_sample" (.list2 (.idx si (.int 0)) (.loc "sample")))

def semIs (n : Int) : E := .bin .eq (.loc "self.semantics") (.int n)

def robCond : E :=
  .or_ (.and_ (semIs 1) (.not (.loc "self.out_vars"))) (.and_ (semIs 3) (.not (.loc "self.in_vars")))

def vacCond : E :=
  .or_ (.and_ (semIs 2) (.not (.loc "self.in_vars"))) (.and_ (semIs 4) (.not (.loc "self.out_vars")))

def outStmt : S :=
  .ite robCond (.forEnum "i" "$elem_i" (.loc "sat_sample") false outLoopBody)
    (.ite vacCond (.forEnum "i" "$elem_i" (.loc "sat_sample") false vacLoopBody)
      (.setLoc "out_sample" (.loc "samples")))

/-- from `sat_sample = …` on -/
def iaTail : S :=
  .seq (.setLoc "sat_sample" (.loc "sat1$sample_result")) (.seq (.setLoc "out_sample" .emptyList)
    (.seq outStmt (.ret (.loc "out_sample"))))

/-- the inlined `sat` -/
def iaSat : S :=
  .seq (.setLoc "sat1$sample_result" .emptyList) (.seq (.setLoc "sat1$input_list" (.loc "self.subtraction_output"))
    (.seq (.setLoc "sat1$prev" .nan)
      (.seq (.forEnum "sat1$i" "sat1$in_sample" (.loc "sat1$input_list") false satLoopBody) iaTail)))

/-- after the call of `self.sub.update` -/
def iaRest : S :=
  .seq (.setLoc "self.subtraction_output" (.loc "update0$input_list")) (.seq (.setLoc "update0$prev" .nan)
    (.seq updLoop (.seq (.setLoc "samples" (.loc "update0$sample_result")) iaSat)))

def iaBody : S :=
  .seq (.setLoc "update0$sample_result" .emptyList)
    (.seq (.mcall (some "update0$input_list") "self.sub" "update" [(.loc "sample_left"), (.loc "sample_right")]) iaRest)

theorem IA_body : Gen.DenseOn.IAPredicateOperation_update.body = iaBody := rfl

def iaInit : S :=
  .seq (.new "self.sub" "SubtractionOperation" []) (.seq (.setLoc "self.comparison_op" (.loc "comparison_op"))
    (.seq (.setLoc "self.subtraction_output" .emptyList) (.seq (.setLoc "self.semantics" (.loc "semantics"))
      (.seq (.setLoc "self.in_vars" (.loc "in_vars")) (.setLoc "self.out_vars" (.loc "out_vars"))))))

theorem IA_init_body : Gen.DenseOn.IAPredicateOperation_init.body = iaInit := rfl

/-- the names `update` reads and never assigns: the attributes but `self.subtraction_output`, and the two library functions -/
def roNames : List String :=
  ["self.sub", "self.comparison_op", "self.semantics", "self.in_vars", "self.out_vars", "abs", "len"]

/-! The pieces that are run as a whole assign none of them; `self.subtraction_output` is assigned once, at the head of
    `iaRest`, and `sat1$input_list` before the loop of `sat`. -/

theorem satLoopBody_keeps : ∀ x ∈ roNames, x ∉ mods satLoopBody := by decide +kernel
theorem satLoopBody_keeps_input : "sat1$input_list" ∉ mods satLoopBody := by decide +kernel
theorem updLoop_keeps : ∀ x ∈ roNames, x ∉ mods updLoop := by decide +kernel
theorem updLoop_keeps_output : "self.subtraction_output" ∉ mods updLoop := by decide +kernel
theorem iaSat_keeps_output : "self.subtraction_output" ∉ mods iaSat := by decide +kernel
theorem iaRest_keeps : ∀ x ∈ roNames, x ∉ mods iaRest := by decide +kernel
/-- nor are they among the locals set between the pieces -/
theorem satBind_keeps : ∀ x ∈ roNames, x ∉ ["sat1$in_sample", "sat1$i"] := by decide +kernel
theorem satInit_keeps : ∀ x ∈ roNames, x ∉ ["sat1$sample_result"] ++ ["sat1$prev", "sat1$input_list"] := by decide +kernel
theorem updInit_keeps : ∀ x ∈ roNames, x ∉ ["update0$prev", "self.subtraction_output"] := by decide +kernel
theorem samples_keeps : ∀ x ∈ roNames, x ∉ ["samples"] := by decide +kernel
/-- the names the loop `updLoop` reads and assigns -/
theorem updNames_nodup : ["self.comparison_op", "abs", "update0$i", "update0$out_val", "update0$sample_result",
    "update0$prev"].Nodup := by decide +kernel

/-- what the locals `env` of `update` hold under the names `roNames`; the subtraction object is in the state `st` -/
structure IARead (c : Cmp) (st : BinSt α) (vs : List (DV α)) (env : Env α) : Prop where
  sub : ∃ sub, getLoc "self.sub" env = .ok sub ∧ BinRel "SubtractionOperation" st sub
  cmp : getLoc "self.comparison_op" env = .ok (.cmp c)
  sem : getLoc "self.semantics" env = .ok (.int 1)
  inVars : getLoc "self.in_vars" env = .ok (.list vs)
  outVars : getLoc "self.out_vars" env = .ok (.list [])
  abs : getLoc "abs" env = .error .key
  len : getLoc "len" env = .error .key

section read
variable {c : Cmp} {st : BinSt α} {vs : List (DV α)} {env env' : Env α}

theorem IARead.frame {xs : List String} (h : IARead c st vs env) (f : Frame xs env env') (hxs : ∀ x ∈ roNames, x ∉ xs) :
    IARead c st vs env' := by
  simp only [roNames, List.forall_mem_cons] at hxs
  obtain ⟨m0, m1, m2, m3, m4, m5, m6, -⟩ := hxs
  exact ⟨f.getLoc m0 ▸ h.sub, f.getLoc m1 ▸ h.cmp, f.getLoc m2 ▸ h.sem, f.getLoc m3 ▸ h.inVars, f.getLoc m4 ▸ h.outVars,
    f.getLoc m5 ▸ h.abs, f.getLoc m6 ▸ h.len⟩

theorem IARead.frame_exec {call : Call α} {fuel : Nat} {s : S} {r : Ctl α} (h : IARead c st vs env)
    (hx : exec call fuel s env = .ok (env', r)) (hs : ∀ x ∈ roNames, x ∉ mods s) : IARead c st vs env' :=
  h.frame (exec_frame _ _ _ _ _ _ hx) hs

end read

/-- `out_val` of the translated `sat()`: `satOfDiff`, except that for `!=` the online class tests `False if d == 0 else True`
    where the mirror (as the offline visitor) has `abs(d) > 0` -/
def satOn : Cmp → α → Bool
  | .ne, d => !(numEq d Val.zero)
  | c, d => satOfDiff c d

theorem satOn_of_ne {c : Cmp} (h : c ≠ .ne) (d : α) : satOn c d = satOfDiff c d := by
  cases c <;> first | rfl | exact absurd rfl h

/-- `rval != prev` (`prev` is `nan` before the first sample) -/
def keepB (prev : Option α) (r : α) : Bool :=
  match prev with
  | none => true
  | some x => vne r x

/-- the loop of `sat()`: the verdicts at the positions where the robustness changes, and at the last -/
def satGo (c : Cmp) : Option α → ASig α → List (Tm × Bool)
  | _, [] => []
  | _, [p] => [(p.1, satOn c p.2)]
  | prev, p :: q :: rest =>
      (if keepB prev (cmpOfDiff c p.2) then [(p.1, satOn c p.2)] else []) ++
        satGo c (some (cmpOfDiff c p.2)) (q :: rest)

def infOf (b : Bool) : α := if b then Val.pinf else Val.ninf

/-- what the translated `update` returns for the difference signal `d` -/
def iaOut (c : Cmp) (d : ASig α) : ASig α := (satGo c none d).map (fun p => (p.1, infOf p.2))

theorem satGo_eq (c : Cmp) : ∀ (d : ASig α) (prev : Option α), (∀ p ∈ d, satOn c p.2 = satOfDiff c p.2) →
    satGo c prev d = (dedupGoK (fun (x : α × Bool) => x.1) prev
      (d.map (fun p => (p.1, (cmpOfDiff c p.2, satOfDiff c p.2))))).map (fun p => (p.1, p.2.2)) := by
  intro d
  induction d with
  | nil => intro prev _; rfl
  | cons p d ih =>
      intro prev h
      cases d with
      | nil => simp [satGo, dedupGoK, h p (by simp)]
      | cons q rest =>
          have h1 := ih (some (cmpOfDiff c p.2)) (fun x hx => h x (by simp [hx]))
          simp only [satGo, List.map_cons, dedupGoK, List.map_append] at h1 ⊢
          rw [h1, h p (by simp)]
          cases prev with
          | none => simp [keepB]
          | some x => cases hv : vne (cmpOfDiff c p.2) x <;> simp [keepB, hv]

theorem iaOut_eq (c : Cmp) (d : ASig α) (h : ∀ p ∈ d, satOn c p.2 = satOfDiff c p.2) :
    iaOut c d = (dedupGoK (fun (x : α × Bool) => x.1) none
      (d.map (fun p => (p.1, (cmpOfDiff c p.2, satOfDiff c p.2))))).map
        (fun p => (p.1, if p.2.2 then Val.pinf else Val.ninf)) := by
  unfold iaOut
  rw [satGo_eq c d none h, List.map_map]
  rfl

/-- a list of `[t, verdict]` -/
def encB (s : List (Tm × Bool)) : DV α := encSigP (fun b : Bool => DV.bool b) s

section loops
variable (call : Call α) (fuel : Nat)

/-- `if self.comparison_op == c': t else: e` -/
theorem exec_ite_opIs {env : Env α} {c : Cmp} (hc : getLoc "self.comparison_op" env = .ok (.cmp c)) (c' : Cmp) (t e : S) :
    exec call fuel (.ite (opIs c') t e) env = if c = c' then exec call fuel t env else exec call fuel e env := by
  rw [exec.ite (c := opIs c') (evalE_isCmp call hc c') rfl]
  by_cases h : c = c' <;> simp [h]

theorem evalE_abs {env : Env α} {e : E} {y : α} (habs : ∀ x : α, call "abs" [.val x] = .ok (.val (Val.abs x)))
    (hres : getLoc "abs" env = .error .key) (h : evalE call env e = .ok (.val y)) :
    evalE call env (.call1 "abs" e) = .ok (.val (Val.abs y)) := by
  rw [evalE.call1 h, resolve_of_key hres]; exact habs y

theorem cmpDV_val_int0 (op : BinOp) (x : α) : cmpDV op (.val x) (.int 0) = cmpVal op x Val.zero := by
  simp [cmpDV, isTimeLike, isValLike, toVal]

/-- `out_val = (test == yes)`, then `rval = rv` -/
theorem satBr_spec {test rv : E} {yes b out : Bool} {v : DV α} (env : Env α)
    (ht : evalE call env test = .ok (.bool b)) (ho : (b == yes) = out)
    (hv : evalE call (setLoc "sat1$out_val" (.bool out) env) rv = .ok v) :
    exec call fuel (satBr test yes rv) env =
      .ok (setLoc "sat1$rval" v (setLoc "sat1$out_val" (.bool out) env), .none) := by
  subst ho
  have h1 : exec call fuel (.ite test (.setLoc "sat1$out_val" (.boolLit yes)) (.setLoc "sat1$out_val" (.boolLit (!yes)))) env =
      .ok (setLoc "sat1$out_val" (.bool (b == yes)) env, .none) := by
    rw [exec.ite ht rfl]
    cases b <;> cases yes <;> exact exec.setLoc (fuel := fuel) rfl
  unfold satBr
  rw [exec.seq_ok h1]
  exact exec.setLoc hv

/-- `in_sample[1] op 0` -/
theorem evalE_sx_cmp {env : Env α} {t : Tm} {x : α} (hi : getLoc "sat1$in_sample" env = .ok (.smp t (.val x)))
    {op : BinOp} {r : Bool} (hop : isCmp op = true) (h : cmpVal op x Val.zero = .ok r) :
    evalE call env (.bin op sx (.int 0)) = .ok (.bool r) := by
  simp [sx, evalE, hi, evalIdx.smp1, evalBin, hop, cmpDV_val_int0, h, Except.map]

theorem satChain_spec (habs : ∀ x : α, call "abs" [.val x] = .ok (.val (Val.abs x))) (env : Env α) (c : Cmp)
    (t : Tm) (x : α)
    (hc : getLoc "self.comparison_op" env = .ok (.cmp c)) (hi : getLoc "sat1$in_sample" env = .ok (.smp t (.val x)))
    (hres : getLoc "abs" env = .error .key) :
    exec call fuel satChain env =
      .ok (setLoc "sat1$rval" (.val (cmpOfDiff c x)) (setLoc "sat1$out_val" (.bool (satOn c x)) env), .none) := by
  have hx (w : DV α) : evalE call (setLoc "sat1$out_val" w env) sx = .ok (.val x) :=
    evalE.payload (evalE.loc (by simpa using hi))
  have ha (w : DV α) := evalE_abs call habs (env := setLoc "sat1$out_val" w env) (by simpa using hres) (hx w)
  cases c <;> simp only [satChain, exec_ite_opIs call fuel hc, reduceCtorEq, ↓reduceIte]
  · exact satBr_spec call fuel env (evalE_sx_cmp call hi rfl rfl) (beq_true _) (evalE.neg (hx _))
  · exact satBr_spec call fuel env (evalE_sx_cmp call hi rfl rfl) (beq_true _) (evalE.neg (hx _))
  · exact satBr_spec call fuel env (evalE_sx_cmp call hi rfl rfl) (beq_true _) (hx _)
  · exact satBr_spec call fuel env (evalE_sx_cmp call hi rfl rfl) (beq_true _) (hx _)
  · exact satBr_spec call fuel env (evalE_sx_cmp call hi rfl rfl) (beq_true _) (evalE.neg (ha _))
  · exact satBr_spec call fuel env (evalE_sx_cmp call hi rfl rfl) (beq_false _) (ha _)

theorem cmpDV_ne_prev (r : α) (prev : Option α) : cmpDV .ne (.val r) (encPrev prev) = .ok (keepB prev r) := by
  cases prev with
  | none => simp [encPrev, cmpDV, isCmp, keepB]
  | some p => simp [encPrev, keepB, cmpDV_ne_val]

theorem cmpDV_eq_int (a b : Int) : cmpDV (α := α) .eq (.int a) (.int b) = .ok (decide (a = b)) := by
  simp [cmpDV, cmpInt]

theorem decide_last (k n : Nat) : decide ((k : Int) = (n : Int) - 1) = decide (k + 1 = n) :=
  decide_eq_decide.mpr (by omega)

/-- `rval != prev or i == len(input_list) - 1` -/
theorem evalE_keepCond (hlen : ∀ l : List (DV α), call "len" [.list l] = .ok (.int l.length)) {env : Env α} {r : α}
    {prev : Option α} {k : Nat} {L : List (DV α)} (hr : getLoc "sat1$rval" env = .ok (.val r))
    (hp : getLoc "sat1$prev" env = .ok (encPrev prev)) (hk : getLoc "sat1$i" env = .ok (.int k))
    (hL : getLoc "sat1$input_list" env = .ok (.list L)) (hresl : getLoc "len" env = .error .key) :
    evalE call env (.or_ (.bin .ne (.loc "sat1$rval") (.loc "sat1$prev"))
        (.bin .eq (.loc "sat1$i") (.bin .sub (.call1 "len" (.loc "sat1$input_list")) (.int 1)))) =
      .ok (.bool (keepB prev r || decide (k + 1 = L.length))) := by
  have hl : evalE call env (.call1 "len" (.loc "sat1$input_list")) = .ok (.int L.length) := by
    rw [evalE.call1 (evalE.loc hL), resolve_of_key hresl]; exact hlen L
  refine evalE.or_bool ?_ ?_
  · rw [evalE.bin (evalE.loc hr) (evalE.loc hp)]
    simp [evalBin, isCmp, cmpDV_ne_prev, Except.map]
  · rw [evalE.bin (evalE.loc hk) ((evalE.bin hl (by rw [evalE])).trans rfl)]
    simp [evalBin, isCmp, cmpDV_eq_int, Except.map, decide_last]

theorem satLoopBody_spec (habs : ∀ x : α, call "abs" [.val x] = .ok (.val (Val.abs x)))
    (hlen : ∀ l : List (DV α), call "len" [.list l] = .ok (.int l.length)) (env : Env α) (c : Cmp)
    (acc : List (Tm × Bool)) (prev : Option α) (t : Tm) (x : α) (k : Nat) (L : List (DV α))
    {st : BinSt α} {vs : List (DV α)} (h : IARead c st vs env) (hi : getLoc "sat1$in_sample" env = .ok (.smp t (.val x)))
    (hk : getLoc "sat1$i" env = .ok (.int k)) (hL : getLoc "sat1$input_list" env = .ok (.list L))
    (hp : getLoc "sat1$prev" env = .ok (encPrev prev)) (hr : getLoc "sat1$sample_result" env = .ok (encB acc)) :
    ∃ env', exec call fuel satLoopBody env = .ok (env', .none) ∧
      getLoc "sat1$sample_result" env' = .ok (encB (acc ++
        if keepB prev (cmpOfDiff c x) || decide (k + 1 = L.length) then [(t, satOn c x)] else [])) ∧
      getLoc "sat1$prev" env' = .ok (encPrev (some (cmpOfDiff c x))) := by
  unfold satLoopBody
  rw [exec.seq_ok (satChain_spec call fuel habs env c t x h.cmp hi h.abs)]
  generalize henv1 : setLoc "sat1$rval" (DV.val (cmpOfDiff c x))
    (setLoc "sat1$out_val" (DV.bool (satOn c x)) env) = env1
  have g1 : ∀ k', k' ≠ "sat1$rval" → k' ≠ "sat1$out_val" → getLoc k' env1 = getLoc k' env := by
    intro k' h1 h2; rw [← henv1]; simp [h1, h2]
  have grv : getLoc "sat1$rval" env1 = .ok (.val (cmpOfDiff c x)) := by rw [← henv1]; simp
  have gov : getLoc "sat1$out_val" env1 = .ok (.bool (satOn c x)) := by rw [← henv1]; simp
  have hcond := evalE_keepCond call hlen grv (by simpa [g1] using hp) (by simpa [g1] using hk) (by simpa [g1] using hL)
    (by simpa [g1] using h.len)
  have hr1 : getLoc "sat1$sample_result" env1 = .ok (encB acc) := by simpa [g1] using hr
  have hkeep : exec call fuel satKeep env1 = .ok (setLoc "sat1$sample_result" (encB (acc ++
      if keepB prev (cmpOfDiff c x) || decide (k + 1 = L.length) then [(t, satOn c x)] else [])) env1, .none) := by
    unfold satKeep
    rw [exec.ite hcond rfl]
    cases (keepB prev (cmpOfDiff c x) || decide (k + 1 = L.length)) with
    | false => simpa using exec.skip_set (call := call) (fuel := fuel) hr1
    | true =>
        have hi1 : getLoc "sat1$in_sample" env1 = .ok (.smp t (.val x)) := by simpa [g1] using hi
        simpa [encB, encSigP] using exec.appendLoc (call := call) (fuel := fuel)
          ((evalE.list2 (evalE.time (evalE.loc hi1)) (evalE.loc gov)).trans rfl) hr1
  exact ⟨_, (exec.seq_ok hkeep).trans (exec.setLoc (v := .val (cmpOfDiff c x)) (by simp [evalE, grv])), by simp,
    by simp [encPrev]⟩

theorem satFor_spec (habs : ∀ x : α, call "abs" [.val x] = .ok (.val (Val.abs x)))
    (hlen : ∀ l : List (DV α), call "len" [.list l] = .ok (.int l.length)) (c : Cmp) (d : ASig α)
    {st : BinSt α} {vs : List (DV α)} (env : Env α) (h : IARead c st vs env)
    (hL : getLoc "sat1$input_list" env = .ok (.list (d.map encSmp))) (hp : getLoc "sat1$prev" env = .ok (encPrev none))
    (hr : getLoc "sat1$sample_result" env = .ok (encB [])) :
    ∃ env', exec call fuel (.forEnum "sat1$i" "sat1$in_sample" (.loc "sat1$input_list") false satLoopBody) env
        = .ok (env', .none) ∧
      getLoc "sat1$sample_result" env' = .ok (encB (satGo c none d)) ∧ IARead c st vs env' := by
  obtain ⟨env', _, hx, -, h', -, acc, prev, -, hr', he⟩ := exec.forEnum_inv call fuel encSmp "sat1$in_sample" "sat1$i"
    (.loc "sat1$input_list") satLoopBody d env (evalE.loc hL)
    (fun k rest env => k + rest.length = d.length ∧ IARead c st vs env ∧
      getLoc "sat1$input_list" env = .ok (.list (d.map encSmp)) ∧ ∃ acc prev,
        getLoc "sat1$prev" env = .ok (encPrev prev) ∧ getLoc "sat1$sample_result" env = .ok (encB acc) ∧
        acc ++ satGo c prev rest = satGo c none d)
    (by
      rintro k ⟨t, x⟩ rest env ⟨hkl, h, hL, acc, prev, hp, hr, he⟩
      have hF := frame_setLoc2 "sat1$in_sample" "sat1$i" (encSmp (t, x)) (.int k) env
      have h0 := h.frame hF satBind_keeps
      have hL0 := (hF.getLoc (by simp)).trans hL
      obtain ⟨env1, hb, r1, p1⟩ := satLoopBody_spec call fuel habs hlen _ c acc prev t x k (d.map encSmp) h0
        (by simp [encSmp]) (by simp) hL0 ((hF.getLoc (by simp)).trans hp) ((hF.getLoc (by simp)).trans hr)
      refine ⟨env1, hb, by simp only [List.length_cons] at hkl; omega, h0.frame_exec hb satLoopBody_keeps,
        ((exec_frame _ _ _ _ _ _ hb).getLoc satLoopBody_keeps_input).trans hL0, _, _, p1, r1, ?_⟩
      rw [← he, List.append_assoc]
      congr 1
      cases rest with
      | nil =>
          have : k + 1 = d.length := by simpa using hkl
          simp [satGo, this]
      | cons q rest' =>
          have : ¬ (k + 1 = d.length) := by simp only [List.length_cons] at hkl; omega
          simp [satGo, this])
    ⟨by simp, h, hL, [], none, hp, hr, rfl⟩
  exact ⟨env', hx, by rw [← he]; simpa [satGo] using hr', h'⟩

def encBS (s : List (Tm × Bool)) : List (DV α) := s.map (fun p => DV.smp p.1 (DV.bool p.2))

theorem encB_eq (s : List (Tm × Bool)) : (encB s : DV α) = .list (encBS s) := rfl

theorem outLoopBody_spec (env : Env α) (L : List (DV α)) (k : Nat) (t : Tm) (b : Bool) (acc : ASig α)
    (hs : getLoc "sat_sample" env = .ok (.list L)) (hi : getLoc "i" env = .ok (.int k))
    (hk : L[k]? = some (.smp t (.bool b))) (ho : getLoc "out_sample" env = .ok (encSig acc)) :
    exec call fuel outLoopBody env =
      .ok (setLoc "out_sample" (encSig (acc ++ [(t, infOf b)])) (setLoc "sample" (.uinf (!b)) env), .none) := by
  have hsi {env' : Env α} (hs : getLoc "sat_sample" env' = .ok (.list L)) (hi : getLoc "i" env' = .ok (.int k)) :
      evalE call env' si = .ok (.smp t (.bool b)) :=
    (evalE.idx (evalE.loc hs) (evalE.loc hi)).trans (evalIdx.nat _ _ _ hk)
  have hc : evalE call env (.bin .eq (.idx si (.int 1)) (.boolLit true)) = .ok (.bool b) := by
    rw [evalE.bin (evalE.payload (hsi hs hi)) (by rw [evalE])]
    simp [evalBin, isCmp, cmpDV, Except.map]
  have h1 : exec call fuel (.ite (.bin .eq (.idx si (.int 1)) (.boolLit true)) (.setLoc "sample" .inf)
      (.setLoc "sample" (.neg .inf))) env = .ok (setLoc "sample" (.uinf (!b)) env, .none) := by
    rw [exec.ite hc rfl]
    cases b <;> exact exec.setLoc (fuel := fuel) rfl
  unfold outLoopBody
  rw [exec.seq_ok h1]
  refine (exec.appendLoc (v := .smp t (.val (infOf b))) (l := acc.map encSmp) ?_
    (by rw [getLoc_setLoc_ne _ _ _ _ (by simp)]; exact ho)).trans (by simp [encSig, encSmp])
  rw [evalE.list2 (evalE.time (hsi (env' := setLoc "sample" (.uinf (!b)) env) (by simpa using hs) (by simpa using hi)))
    (evalE.loc (getLoc_setLoc_same _ _ _))]
  cases b <;> rfl

/-- `for i, _ in enumerate(sat_sample): …` turns the verdicts `s` into `±inf` -/
theorem outFor_spec (s : List (Tm × Bool)) (env : Env α) (hs : getLoc "sat_sample" env = .ok (.list (encBS s)))
    (ho : getLoc "out_sample" env = .ok (encSig ([] : ASig α))) :
    ∃ env', exec call fuel (.forEnum "i" "$elem_i" (.loc "sat_sample") false outLoopBody) env = .ok (env', .none) ∧
      getLoc "out_sample" env' = .ok (encSig (s.map fun p => (p.1, (infOf p.2 : α)))) := by
  obtain ⟨env', _, hx, pre, rfl, -, -, ho'⟩ := exec.forEnum_inv call fuel (fun p : Tm × Bool => DV.smp p.1 (.bool p.2))
    "$elem_i" "i" (.loc "sat_sample") outLoopBody s env (evalE.loc hs)
    (fun k rest env => ∃ pre, s = pre ++ rest ∧ k = pre.length ∧ getLoc "sat_sample" env = .ok (.list (encBS s)) ∧
      getLoc "out_sample" env = .ok (encSig (pre.map fun p => (p.1, (infOf p.2 : α)))))
    (by
      rintro k ⟨t, b⟩ rest env ⟨pre, rfl, rfl, hs, ho⟩
      refine ⟨_, outLoopBody_spec call fuel _ _ pre.length t b _ (by simpa using hs) (by simp) (by simp [encBS])
        (by simpa using ho), pre ++ [(t, b)], by simp, by simp, by simpa using hs, by simp⟩)
    ⟨[], rfl, rfl, hs, ho⟩
  exact ⟨env', hx, by simpa using ho'⟩

variable {st : BinSt α} {vs : List (DV α)}

/-- from `sat_sample = …` on: output robustness with `out_vars` empty, `±inf` by the verdict -/
theorem iaTail_spec {c : Cmp} (s : List (Tm × Bool)) (env : Env α)
    (hs : getLoc "sat1$sample_result" env = .ok (encB s)) (h : IARead c st vs env) :
    ∃ env', exec call fuel iaTail env = .ok (env', .ret (encSig (s.map (fun p => (p.1, (infOf p.2 : α)))))) := by
  generalize henv2 : setLoc "out_sample" (DV.list []) (setLoc "sat_sample" (encB s) env) = env2
  have ss2 : getLoc "sat_sample" env2 = .ok (.list (encBS s)) := by rw [← henv2]; simp [encB_eq]
  have hrob : evalE call env2 robCond = .ok (.bool true) := by
    rw [← henv2]
    simp [robCond, semIs, evalE, h.sem, h.outVars, evalBin, isCmp, cmpDV_eq_int, Except.map, truthy]
  obtain ⟨env3, hx3, r3⟩ := outFor_spec call fuel s env2 ss2 (by rw [← henv2]; simp [encSig])
  have h3 : exec call fuel outStmt env2 = .ok (env3, .none) := by
    unfold outStmt
    rw [exec.ite_true hrob rfl]
    exact hx3
  refine ⟨env3, ?_⟩
  unfold iaTail
  rw [exec.seq_setLoc (v := encB s) (evalE.loc hs), exec.seq_setLoc (v := .list []) rfl, henv2, exec.seq_ok h3]
  exact exec.ret (evalE.loc r3)

theorem iaSat_spec (habs : ∀ x : α, call "abs" [.val x] = .ok (.val (Val.abs x)))
    (hlen : ∀ l : List (DV α), call "len" [.list l] = .ok (.int l.length)) (c : Cmp) (d : ASig α) (env : Env α)
    (h : IARead c st vs env) (hso : getLoc "self.subtraction_output" env = .ok (encSig d)) :
    ∃ env', exec call fuel iaSat env = .ok (env', .ret (encSig (iaOut c d))) := by
  generalize henv3 : setLoc "sat1$prev" DV.nan (setLoc "sat1$input_list" (encSig d)
    (setLoc "sat1$sample_result" (DV.list []) env)) = env3
  have h3 : IARead c st vs env3 := henv3 ▸ h.frame ((frame_setLoc _ _ env).append (frame_setLoc2 _ _ _ _ _)) satInit_keeps
  have il3 : getLoc "sat1$input_list" env3 = .ok (.list (d.map encSmp)) := by rw [← henv3]; simp [encSig]
  obtain ⟨env4, hx4, r4, h4⟩ := satFor_spec call fuel habs hlen c d env3 h3 il3
    (by rw [← henv3]; simp [encPrev]) (by rw [← henv3]; simp [encB, encSigP])
  obtain ⟨env5, hx5⟩ := iaTail_spec call fuel (satGo c none d) env4 r4 h4
  refine ⟨env5, ?_⟩
  unfold iaSat
  rw [exec.seq_setLoc (v := .list []) rfl, exec.seq_setLoc (v := encSig d) (evalE.loc (by simpa using hso)),
    exec.seq_setLoc (v := .nan) rfl, henv3, exec.seq_ok hx4]
  exact hx5

theorem iaRest_spec (habs : ∀ x : α, call "abs" [.val x] = .ok (.val (Val.abs x)))
    (hlen : ∀ l : List (DV α), call "len" [.list l] = .ok (.int l.length)) (c : Cmp) (d : ASig α) (env : Env α)
    (h : IARead c st vs env) (hil : getLoc "update0$input_list" env = .ok (encSig d))
    (hsr : getLoc "update0$sample_result" env = .ok (encSig ([] : ASig α))) :
    ∃ env', exec call fuel iaRest env = .ok (env', .ret (encSig (iaOut c d))) ∧ IARead c st vs env' ∧
      getLoc "self.subtraction_output" env' = .ok (encSig d) := by
  generalize henv2 : setLoc "update0$prev" DV.nan (setLoc "self.subtraction_output" (encSig d) env) = env2
  have h2 : IARead c st vs env2 := henv2 ▸ h.frame (frame_setLoc2 _ _ _ _ env) updInit_keeps
  obtain ⟨env3, h3, r3⟩ := predFor_spec call fuel habs updNames_nodup c d env2 [] h2.cmp
    (il := "update0$input_list") (by rw [← henv2]; simpa using hil) (by rw [← henv2]; simpa using hsr) h2.abs
  generalize henv4 : setLoc "samples" (encSig ([] ++ d.map fun p => (p.1, cmpOfDiff c p.2))) env3 = env4
  have h4 : IARead c st vs env4 := henv4 ▸ (h2.frame_exec h3 updLoop_keeps).frame (frame_setLoc "samples" _ env3) samples_keeps
  have so4 : getLoc "self.subtraction_output" env4 = .ok (encSig d) := by
    rw [← henv4]
    simpa [← henv2] using (exec_frame _ _ _ _ _ _ h3).getLoc updLoop_keeps_output
  obtain ⟨env5, hx5⟩ := iaSat_spec call fuel habs hlen c d env4 h4 so4
  have hx : exec call fuel iaRest env = .ok (env5, .ret (encSig (iaOut c d))) := by
    unfold iaRest updLoop
    rw [exec.seq_setLoc (v := encSig d) (evalE.loc hil), exec.seq_setLoc (v := .nan) rfl, henv2, exec.seq_ok h3,
      exec.seq_setLoc (v := encSig ([] ++ d.map fun p => (p.1, cmpOfDiff c p.2))) (evalE.loc r3), henv4]
    exact hx5
  exact ⟨env5, hx, h.frame_exec hx iaRest_keeps, ((exec_frame _ _ _ _ _ _ hx5).getLoc iaSat_keeps_output).trans so4⟩

end loops

/-! ### the values `binUpdate f` returns are values of `f` -/

section range
variable {β : Type} (P : β → Prop)

def LastP : Last β → Prop
  | .item _ v => P v
  | _ => True

theorem appendD_range (ne : β → β → Bool) (out : ASig β) (item : Tm × β) (ho : ∀ p ∈ out, P p.2) (hi : P item.2) :
    ∀ p ∈ appendD ne out item, P p.2 := by
  unfold appendD
  split
  · intro p hp; simp at hp; subst hp; exact hi
  · split
    · intro p hp
      rcases List.mem_append.mp hp with h | h
      · exact ho p h
      · simp at h; subst h; exact hi
    · exact ho

theorem onLoop_range (f : α → α → β) (ne : β → β → Bool) (hP : ∀ a b, P (f a b)) (l1 l2 : ASig α) (out : ASig β)
    (last : Last β) :
    (∀ p ∈ out, P p.2) → LastP P last → ∀ res, onLoop f ne l1 l2 out last = .ok res →
      (∀ p ∈ res.1, P p.2) ∧ LastP P res.2.1 := by
  fun_induction onLoop f ne l1 l2 out last <;> intro ho hl res h
  -- the two branches that end the loop: the last returns `out` and `last` as they are, the one before it raises
  all_goals first
    | (cases h; exact ⟨ho, hl⟩)
    | (cases h; done)
    | skip
  -- the thirteen that go round: `out` is kept or gets a value of `f` appended, `last` is kept, a value of `f`, or `.nil`
  all_goals
    rename_i ih
    refine ih ?_ ?_ res h
    · first | exact ho | exact appendD_range P ne _ _ ho (hP _ _)
    · first | exact hl | exact hP _ _ | exact True.intro

theorem tail1_range (f : α → α → β) (ne : β → β → Bool) (hP : ∀ a b, P (f a b)) (p2 : Tm) (v2 : α) (l1 : ASig α)
    (out : ASig β) (last : Last β) :
    (∀ p ∈ out, P p.2) → LastP P last →
      (∀ p ∈ (tail1 f ne p2 v2 l1 out last).1, P p.2) ∧ LastP P (tail1 f ne p2 v2 l1 out last).2 := by
  fun_induction tail1 f ne p2 v2 l1 out last <;> intro ho hl
  -- a branch returns `out` with `last` or with a value of `f`, or goes round with `out` kept or extended by a value of `f`
  all_goals first
    | exact ⟨ho, hl⟩
    | exact ⟨ho, hP _ _⟩
    | (rename_i ih
       refine ih ?_ ?_
       · first | exact ho | exact appendD_range P ne _ _ ho (hP _ _)
       · first | exact hP _ _ | exact True.intro)

theorem tail2_range (f : α → α → β) (ne : β → β → Bool) (hP : ∀ a b, P (f a b)) (p1 : Tm) (v1 : α) (l2 : ASig α)
    (out : ASig β) (last : Last β) :
    (∀ p ∈ out, P p.2) → LastP P last →
      (∀ p ∈ (tail2 f ne p1 v1 l2 out last).1, P p.2) ∧ LastP P (tail2 f ne p1 v1 l2 out last).2 := by
  fun_induction tail2 f ne p1 v1 l2 out last <;> intro ho hl
  -- a branch returns `out` with `last` or with a value of `f`, or goes round with `out` kept or extended by a value of `f`
  all_goals first
    | exact ⟨ho, hl⟩
    | exact ⟨ho, hP _ _⟩
    | (rename_i ih
       refine ih ?_ ?_
       · first | exact ho | exact appendD_range P ne _ _ ho (hP _ _)
       · first | exact hP _ _ | exact True.intro)

theorem interOn_range (f : α → α → β) (ne : β → β → Bool) (hP : ∀ a b, P (f a b)) (s1 s2 : ASig α)
    (res : ASig β × Last β × ASig α × ASig α) (h : interOn f ne s1 s2 = .ok res) :
    (∀ p ∈ res.1, P p.2) ∧ LastP P res.2.1 := by
  unfold interOn at h
  split at h
  · cases h; exact ⟨by simp, True.intro⟩
  · cases h; exact ⟨by simp, True.intro⟩
  · rename_i p1 v1 t1 p2 v2 t2
    simp only [Exc.bind_eq_ok] at h
    obtain ⟨a, ha, h⟩ := h
    have h0 : LastP P (if (p1 == p2) = true then Last.item p1 (f v1 v2) else Last.nil) := by
      split
      · exact hP _ _
      · exact True.intro
    have hl := onLoop_range P f ne hP _ _ [] _ (by simp) h0 a ha
    split at h
    · cases h; exact tail1_range P f ne hP _ _ _ _ _ hl.1 hl.2
    · cases h; exact tail2_range P f ne hP _ _ _ _ _ hl.1 hl.2
    · cases h; exact hl

theorem binUpdate_range (P : α → Prop) (f : α → α → α) (hP : ∀ a b, P (f a b)) (st : BinSt α) (sl sr : ASig α)
    (st' : BinSt α) (d : ASig α) (h : binUpdate f st sl sr = .ok (st', d)) : ∀ p ∈ d, P p.2 := by
  rw [binUpdate_eq] at h
  cases hI : interOn f vne (joinBuf st.buf1 sl) (joinBuf st.buf2 sr) with
  | error e => rw [hI] at h; cases h
  | ok res =>
    obtain ⟨result, last, left, right⟩ := res
    rw [hI] at h
    have hr := interOn_range P f vne hP _ _ _ hI
    have hadd : ∀ p ∈ addLast result last, P p.2 := by
      cases last with
      | nil => exact hr.1
      | item t v =>
          simp only [addLast]
          split
          · intro p hp; simp at hp; subst hp; exact hr.2
          · split
            · intro p hp
              rcases List.mem_append.mp hp with h' | h'
              · exact hr.1 p h'
              · simp at h'; subst h'; exact hr.2
            · exact hr.1
    have hdrop : ∀ p ∈ dropFirst st.lastOut (addLast result last), P p.2 := by
      unfold dropFirst
      split
      · split
        · rename_i heq _
          intro p hp; exact hadd p (by rw [heq]; simp [hp])
        · exact hadd
      · exact hadd
    cases h; exact hdrop

end range

/-- the two readings of the verdict of `!=` agree on differences -/
def SatNeLaw (α : Type) [Val α] : Prop :=
  ∀ a b : α, satOn Cmp.ne (Val.sub a b) = satOfDiff Cmp.ne (Val.sub a b)

/-- `hcmp` of C06 (the verdict read off the difference is the comparison) implies it -/
theorem satNeLaw_of_hcmp (hcmp : ∀ (c : Cmp) (a b : α), satOfDiff c (Val.sub a b) = c.holds a b) : SatNeLaw α := by
  intro a b
  have h1 := hcmp .eq a b
  have h2 := hcmp .ne a b
  simp only [satOfDiff, Cmp.holds] at h1 h2
  simp only [satOn, numEq, satOfDiff, h1, h2]
  cases Val.lt a b <;> cases Val.lt b a <;> rfl

/-- so does `0 < abs d ↔ d < 0 ∨ 0 < d` -/
theorem satNeLaw_of_abs (habs : ∀ d : α, Val.lt Val.zero (Val.abs d) = (Val.lt d Val.zero || Val.lt Val.zero d)) :
    SatNeLaw α := by
  intro a b
  simp only [satOn, numEq, satOfDiff, habs]
  cases Val.lt (Val.sub a b) Val.zero <;> cases Val.lt Val.zero (Val.sub a b) <;> rfl

/-- on the difference signal the two readings of the verdict agree: by the law for `!=`, by `rfl` otherwise -/
theorem hsat_of_law (c : Cmp) (hne : c = .ne → SatNeLaw α) (st : BinSt α) (sl sr : ASig α) (st' : BinSt α) (d : ASig α)
    (h : binUpdate (fun a b => Val.sub a b) st sl sr = .ok (st', d)) : ∀ p ∈ d, satOn c p.2 = satOfDiff c p.2 := by
  by_cases hc : c = .ne
  · subst hc
    exact binUpdate_range (fun x => satOn Cmp.ne x = satOfDiff Cmp.ne x) _ (hne rfl) st sl sr st' d h
  · intro p _; exact satOn_of_ne hc p.2

theorem call_len (fuel k : Nat) (l : List (DV α)) :
    callAt Gen.DenseOn.fns fuel k "len" [.list l] = .ok (.int l.length : DV α) := by
  rw [callAt_lib _ _ (lib_at 0 rfl)]; rfl

/-- the object `o` is the interface-aware `PredicateOperation(c, OUTPUT_ROBUSTNESS, in_vars, [])` whose subtraction object is
    in the state `st` -/
def IAPredRel (c : Cmp) (st : BinSt α) (o : DV α) : Prop :=
  ∃ store sub, o = .obj "IAPredicateOperation" store ∧
    store.lookup "self.sub" = some sub ∧ BinRel "SubtractionOperation" st sub ∧
    store.lookup "self.comparison_op" = some (.cmp c) ∧
    (∃ d : ASig α, store.lookup "self.subtraction_output" = some (encSig d)) ∧
    store.lookup "self.semantics" = some (.int 1) ∧
    (∃ vs : List (DV α), store.lookup "self.in_vars" = some (.list vs)) ∧
    store.lookup "self.out_vars" = some (.list []) ∧
    SelfKeys store

theorem isMethod_IAPredicate_init : IsMethod "IAPredicateOperation.__init__" Gen.DenseOn.IAPredicateOperation_init
    ["comparison_op", "semantics", "in_vars", "out_vars"] :=
  ⟨fns_at 72 rfl, rfl, rfl, by decide +kernel⟩
theorem isMethod_IAPredicate_update : IsMethod "IAPredicateOperation.update" Gen.DenseOn.IAPredicateOperation_update
    ["sample_left", "sample_right"] :=
  ⟨fns_at 73 rfl, rfl, rfl, params_nonself⟩
theorem name_IAPredicate_init : "IAPredicateOperation" ++ ".__init__" = "IAPredicateOperation.__init__" := by decide +kernel
theorem name_IAPredicate_update : "IAPredicateOperation" ++ ".update" = "IAPredicateOperation.update" := by decide +kernel

/-- what the body of `update` leaves behind, `p.2` being the difference signal -/
def IAPost (c : Cmp) (vs : List (DV α)) (p : BinSt α × ASig α) (env : Env α) (v : DV α) : Prop :=
  v = encSig (iaOut c p.2) ∧ IARead c p.1 vs env ∧ getLoc "self.subtraction_output" env = .ok (encSig p.2)

theorem iaPredRel_of_env {c : Cmp} {st : BinSt α} {vs : List (DV α)} {d : ASig α} {env : Env α} {sub : DV α}
    (gs : getLoc "self.sub" env = .ok sub) (hrel : BinRel "SubtractionOperation" st sub)
    (gc : getLoc "self.comparison_op" env = .ok (.cmp c)) (gso : getLoc "self.subtraction_output" env = .ok (encSig d))
    (gsem : getLoc "self.semantics" env = .ok (.int 1)) (giv : getLoc "self.in_vars" env = .ok (.list vs))
    (gov : getLoc "self.out_vars" env = .ok (.list [])) :
    IAPredRel c st (.obj "IAPredicateOperation" (env.filter selfP)) :=
  ⟨_, sub, rfl, lookup_filter_get self_sub gs, hrel, lookup_filter_get self_comparison_op gc,
    ⟨d, lookup_filter_get self_subtraction_output gso⟩, lookup_filter_get (by decide +kernel) gsem,
    ⟨vs, lookup_filter_get (by decide +kernel) giv⟩, lookup_filter_get (by decide +kernel) gov, selfKeys_filter _⟩

end Rtamt.Py.DnOn.GOnIA

namespace Rtamt.Py.DnOn
open Rtamt Val Rtamt.Dense Rtamt.Dense.Alg Rtamt.Dense.AlgOn GOnBin GOnIA

variable {α : Type} [Val α]

/-- the mirror clause: what `stepOn` does at a node `.bin (.predSat c)` once the operands have been stepped -/
def iaPredUpdate (c : Cmp) (st : BinSt α) (sl sr : ASig α) : Except PyErr (BinSt α × ASig α) := do
  let (st', d) ← binUpdate (fun a b => Val.sub a b) st sl sr
  let both := dedupGoK (fun (x : α × Bool) => x.1) none (d.map (fun p => (p.1, (cmpOfDiff c p.2, satOfDiff c p.2))))
  pure (st', both.map (fun p => (p.1, if p.2.2 then Val.pinf else Val.ninf)))

theorem stepOn_predSat (cfg : DCfg) (inp : String → ASig α) (c : Cmp) (φ ψ : F α) (st : BinSt α) (l r : OnSt α) :
    stepOn cfg inp (.bin (.predSat c) φ ψ) (.bin st l r) = (do
      let (l', sl) ← stepOn cfg inp φ l
      let (r', sr) ← stepOn cfg inp ψ r
      let (st', out) ← iaPredUpdate c st sl sr
      pure (.bin st' l' r', out)) := by
  rw [stepOn]
  cases h1 : stepOn cfg inp φ l with
  | error e => rfl
  | ok a =>
      cases h2 : stepOn cfg inp ψ r with
      | error e => rfl
      | ok b =>
          simp only [ok_bind, iaPredUpdate]
          cases h3 : binUpdate (fun a b => Val.sub a b) st a.2 b.2 with
          | error e => rfl
          | ok r => rfl

/-- `PredicateOperation(c, Semantics.OUTPUT_ROBUSTNESS, in_vars, [])` of the interface-aware package: the nested
    `SubtractionOperation()` is in the initial state -/
theorem gen_iapred_init (fuel k : Nat) (c : Cmp) (vs : List (DV α)) :
    ∃ o : DV α, callAt Gen.DenseOn.fns fuel (k + 2) "IAPredicateOperation.__init__"
        [.obj "IAPredicateOperation" [], .cmp c, .int 1, .list vs, .list []] = .ok (.list [o, .none]) ∧
      IAPredRel c {} o := by
  obtain ⟨sub, hsub, hrel⟩ := gen_bin_init (α := α) fuel k "SubtractionOperation" initClass_Subtraction
  have hx : ∃ env', exec (callAt (α := α) Gen.DenseOn.fns fuel (k + 1)) fuel Gen.DenseOn.IAPredicateOperation_init.body
      ([] ++ ["comparison_op", "semantics", "in_vars", "out_vars"].zip [DV.cmp c, .int 1, .list vs, .list []]) =
        .ok (env', .none) ∧ IAPredRel c {} (.obj "IAPredicateOperation" (env'.filter selfP)) := by
    rw [IA_init_body]
    unfold iaInit
    rw [exec.seq_ok (exec_new_ok (t := "self.sub") (args := []) rfl rfl hsub),
      exec.seq_setLoc (v := .cmp c) (by simp [evalE]), exec.seq_setLoc (v := .list []) rfl,
      exec.seq_setLoc (v := .int 1) (by simp [evalE]), exec.seq_setLoc (v := .list vs) (by simp [evalE])]
    exact ⟨_, exec.setLoc (v := .list []) (by simp [evalE]), iaPredRel_of_env (d := []) (vs := vs) (by simp) hrel (by simp)
      (by simp [encSig]) (by simp) (by simp) (by simp)⟩
  obtain ⟨env', hx, hr⟩ := hx
  exact ⟨_, method_none isMethod_IAPredicate_init rfl hx, hr⟩

/-- the same through `construct` (call depth `depth = 7`): what `initOnG` builds at a node `.bin (.predSat c)` -/
theorem gen_iapred_construct (fuel : Nat) (c : Cmp) (vs : List (DV α)) :
    ∃ o : DV α, construct fuel "IAPredicateOperation" [.cmp c, .int 1, .list vs, .list []] = .ok o ∧
      IAPredRel c {} o :=
  construct_of_init name_IAPredicate_init (gen_iapred_init fuel 5 c vs)

theorem gen_iapred_update_sim (fuel k : Nat) (c : Cmp) (hI : InterOnSpec α fuel k)
    (hm : ∀ a b, callAt Gen.DenseOn.fns fuel (k + 1) "subtraction" [.val a, .val b] = .ok (.val (Val.sub a b) : DV α))
    (st : BinSt α) (o : DV α) (hrel : IAPredRel c st o) (sl sr : ASig α) (hfuel : binFuel st sl sr ≤ fuel) :
    Exc.Sim (callAt Gen.DenseOn.fns fuel (k + 4) "IAPredicateOperation.update" [o, encSig sl, encSig sr])
      (binUpdate (fun a b => Val.sub a b) st sl sr)
      fun p r => ∃ o', r = .list [o', encSig (iaOut c p.2)] ∧ IAPredRel c p.1 o' := by
  obtain ⟨store, sub, rfl, hsub, hrelsub, hcmp, -, hsem, ⟨vs, hiv⟩, hov, hk⟩ := hrel
  obtain ⟨e1, e2, _, e4, e5⟩ := update_locals store hk (encSig sl) (encSig sr)
  have hcall := subUpdate_sim fuel k hI hm "update0$input_list" (setLoc "update0$sample_result" (.list [])
      (store ++ [("sample_left", encSig sl), ("sample_right", encSig sr)])) st sub sl sr
    (by simpa using getLoc_append_left hsub) hrelsub (by simpa using e1) (by simpa using e2) hfuel
  have hbody : Exc.Sim (exec (callAt (α := α) Gen.DenseOn.fns fuel (k + 3)) fuel iaBody
      (store ++ [("sample_left", encSig sl), ("sample_right", encSig sr)])) (binUpdate (fun a b => Val.sub a b) st sl sr)
      fun p r => ∃ v, r.2 = .ret v ∧ IAPost c vs p r.1 v := by
    unfold iaBody
    rw [exec.seq_setLoc (v := .list []) rfl]
    refine exec.seq_sim_right hcall ?_
    rintro ⟨st', d⟩ ⟨env2, c2⟩ ⟨hc2, sub', hrel', henv2⟩
    dsimp only at henv2
    have h2 : IARead c st' vs env2 := by
      rw [henv2]
      exact ⟨⟨sub', by simp, hrel'⟩, by simpa using getLoc_append_left hcmp, by simpa using getLoc_append_left hsem,
        by simpa using getLoc_append_left hiv, by simpa using getLoc_append_left hov, by simpa using e4,
        by simpa using e5⟩
    obtain ⟨env3, hx3, h3, so3⟩ := iaRest_spec (callAt (α := α) Gen.DenseOn.fns fuel (k + 3)) fuel
      (call_abs fuel (k + 3)) (call_len fuel (k + 3)) c d env2 h2 (by rw [henv2]; simp) (by rw [henv2]; simp [encSig])
    exact ⟨hc2, (env3, .ret _), hx3, _, rfl, rfl, h3, so3⟩
  rw [← IA_body] at hbody
  refine (method_sim (args := [encSig sl, encSig sr]) isMethod_IAPredicate_update rfl hbody).mono ?_
  rintro p r ⟨env', v, rfl, rfl, ⟨⟨sub', gs, hrel'⟩, gc, gsem, giv, gov, -, -⟩, gso⟩
  exact ⟨_, rfl, iaPredRel_of_env gs hrel' gc gso gsem giv gov⟩

theorem gen_iapred_update (fuel k : Nat) (c : Cmp) (hI : InterOnSpec α fuel k)
    (hm : ∀ a b, callAt Gen.DenseOn.fns fuel (k + 1) "subtraction" [.val a, .val b] = .ok (.val (Val.sub a b) : DV α))
    (st : BinSt α) (o : DV α) (hrel : IAPredRel c st o) (sl sr : ASig α) (hfuel : binFuel st sl sr ≤ fuel) :
    match binUpdate (fun a b => Val.sub a b) st sl sr with
    | .ok (st', d) =>
        ∃ o', callAt Gen.DenseOn.fns fuel (k + 4) "IAPredicateOperation.update" [o, encSig sl, encSig sr] =
            .ok (.list [o', encSig (iaOut c d)]) ∧ IAPredRel c st' o'
    | .error e =>
        callAt Gen.DenseOn.fns fuel (k + 4) "IAPredicateOperation.update" [o, encSig sl, encSig sr] = .error e := by
  have h := gen_iapred_update_sim fuel k c hI hm st o hrel sl sr hfuel
  cases hb : binUpdate (fun a b => Val.sub a b) st sl sr with
  | error e => exact h.of_error hb
  | ok p => obtain ⟨r, hr, o', rfl, ho⟩ := h.of_ok hb; exact ⟨o', hr, ho⟩

/-- the same through `updateObj` (call depth `depth = 7`), against the mirror clause `iaPredUpdate` (`stepOn` at
    `.predSat c`: `stepOn_predSat`), whose last step (the verdicts read by `satOfDiff`) has no counterpart in the run.
    Why `hne`: on the difference signal the verdict `satOn` of the online `sat()` has to be `satOfDiff`, which holds by `rfl`
    for every operator but `!=` (`satOn_of_ne`); there it is a law of the value type (`GOnIA.SatNeLaw`: on differences,
    `(0 < abs d) = not (d == 0)`; it follows from `hcmp` of C06, `GOnIA.satNeLaw_of_hcmp`) -/
theorem gen_iapredop_updateObj_sim (fuel : Nat) (c : Cmp) (hne : c = .ne → SatNeLaw α) (st : BinSt α) (o : DV α)
    (hrel : IAPredRel c st o) (sl sr : ASig α) (hfuel : binFuel st sl sr ≤ fuel) (hI : InterOnSpec α fuel 3) :
    Exc.Sim (updateObj fuel o [sl, sr]) (iaPredUpdate c st sl sr) fun p r => r.2 = p.2 ∧ IAPredRel c p.1 r.1 := by
  have hcall := gen_iapred_update_sim fuel 3 c hI (gen_on_subtraction fuel 3) st o hrel sl sr hfuel
  obtain ⟨store, sub, rfl, -⟩ := hrel
  refine (updateObj_sim_out (argsS := [sl, sr]) (out := fun p => iaOut c p.2) name_IAPredicate_update hcall).bind_left ?_
  intro p r hb h
  obtain ⟨st', d⟩ := p
  exact .ok rfl ⟨h.1.trans (iaOut_eq c d (hsat_of_law c hne st sl sr st' d hb)), h.2⟩

theorem gen_iapredop_updateObj (fuel : Nat) (c : Cmp) (hne : c = .ne → SatNeLaw α)
    (st : BinSt α) (o : DV α) (hrel : IAPredRel c st o) (sl sr : ASig α) (hfuel : binFuel st sl sr ≤ fuel)
    (hI : InterOnSpec α fuel 3) :
    match iaPredUpdate c st sl sr with
    | .ok (st', out) => ∃ o', updateObj fuel o [sl, sr] = .ok (o', out) ∧ IAPredRel c st' o'
    | .error e => updateObj fuel o [sl, sr] = .error e := by
  have h := gen_iapredop_updateObj_sim fuel c hne st o hrel sl sr hfuel hI
  cases hb : iaPredUpdate c st sl sr with
  | error e => exact h.of_error hb
  | ok p => obtain ⟨⟨o', _⟩, hr, rfl, ho⟩ := h.of_ok hb; exact ⟨o', hr, ho⟩

end Rtamt.Py.DnOn
