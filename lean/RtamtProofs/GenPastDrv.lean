/-
  The driver of the pastifier as translated from the Python source (`Rtamt/Py/GeneratedPastDrv.lean`, regenerated on every
  run from `rtamt/pastifier/stl/pastifier.py`: `StlPastifier.pastify`, `normalize_units`, `visit`) denotes the mirror
  `Rtamt/Discrete/PastifySpecs.lean` (`SIv.norm`, `SF.normalise`, `pastifySpecs`).

    * `genPastDrv_normalize` / `genPastDrv_normalizeG`: the translated `normalize_units` rescales every timed node it reaches to
      `SIv.norm` of what it was — once, however many paths lead to the node (sharing is explicit: equal locations) —, the surface
      tree afterwards is `SF.normalise` of the surface tree before, and a second run changes nothing;
    * `genPastDrv_pastify` / `genPastDrv_pastifyG`: the translated `pastify()` = `pastifySpecs`: every assertion with ITS OWN horizon,
      RTAMTException iff some assertion has an unbounded future operator; the names of the assertions are re-pointed
      (`namesAfter`), `genPastDrv_names`: afterwards the name of every assertion points at its pastified formula;
    * `genPastDrv_supported`: the three bodies lie inside the translated subset;
    * `drv_not_cleared_twice`: the model exhibits the seeded bug "unit strings not cleared".

  The calls `h.visit(spec, None)` and `StlAstVisitor.visit(self, spec, horizon)` are calls into the translated visitors:
  `genHor_eval` (`GenHor.lean`) and `genPast_visit` (`GenPast.lean`) are used for them.

  The loops of `pastify()` go by induction on the part of `ast.specs` that is done (`foldlM_triVals_snoc`): the invariant speaks
  of the state the loop started in, so the induction hypothesis is used as it stands.  What a loop leaves of the locals is a
  `Frame`.  The second loop carries in its invariant what the third needs of the dictionary (every identity holds the horizon of
  its assertion); what the third needs of an assertion is the one predicate `Ready`.
-/
import Rtamt.Py.RunPastDrv
import Rtamt.Discrete.PastifySpecs
import RtamtProofs.GenPast
import RtamtProofs.GenHor
import Mathlib.Algebra.Order.Field.Rat
import Mathlib.Data.List.Induction

set_option linter.unusedSectionVars false

namespace Rtamt.Py.PDrv
open Rtamt Rtamt.Py Val

variable {α : Type} [Val α]

/- The one-step equations are `id rfl`, not `rfl`: see the note at `ok_bind` in `SemSteps.lean`. -/

section exec
variable (cs : String → List (DV α) → DState α → Except PyErr (DV α × DState α))

theorem exec_skip (st : DState α) (loc : Locals α) : execDS cs .skip st loc = .ok (st, loc) := id rfl
theorem exec_seq (a b : DS) (st : DState α) (loc : Locals α) :
    execDS cs (.seq a b) st loc = (execDS cs a st loc >>= fun p => execDS cs b p.1 p.2) := id rfl
theorem exec_ite (c : DE) (t e : DS) (st : DState α) (loc : Locals α) :
    execDS cs (.ite c t e) st loc = (evalDE st loc c >>= fun v => match v with
      | .bool true => execDS cs t st loc
      | .bool false => execDS cs e st loc
      | _ => throw .type) := id rfl
theorem exec_setLoc (x : String) (e : DE) (st : DState α) (loc : Locals α) :
    execDS cs (.setLoc x e) st loc = (evalDE st loc e >>= fun v => .ok (st, setKey x v loc)) := id rfl
theorem exec_setAttr (o v : DE) (f : String) (st : DState α) (loc : Locals α) :
    execDS cs (.setAttr o f v) st loc =
      (evalDE st loc o >>= fun ov => evalDE st loc v >>= fun vv => setAttrD st ov f vv >>= fun s => .ok (s, loc)) := id rfl
theorem exec_forIn (x : String) (e : DE) (body : DS) (st : DState α) (loc : Locals α) :
    execDS cs (.forIn x e body) st loc = (evalDE st loc e >>= fun v => match v with
      | .list l => l.foldlM (fun (p : DState α × Locals α) v => execDS cs body p.1 (setKey x v p.2)) (st, loc)
      | _ => throw .type) := id rfl
theorem exec_callSelf (tgt : Option String) (m : String) (args : List DE) (st : DState α) (loc : Locals α) :
    execDS cs (.call tgt .self_ m args) st loc = (evalArgs st loc args >>= fun vs => cs m vs st >>= fun r =>
      pure (r.2, match tgt with | some x => setKey x r.1 loc | Option.none => loc)) := id rfl
end exec

section ev
variable (st : DState α) (loc : Locals α)
theorem ev_loc (x : String) : evalDE st loc (.loc x) = getKey x loc := id rfl
theorem ev_self : evalDE st loc .self_ = .ok .selfObj := id rfl
theorem ev_none : evalDE st loc .none_ = .ok .none := id rfl
theorem ev_int (n : Int) : evalDE st loc (.int n) = .ok (.int n) := id rfl
theorem ev_str (s : String) : evalDE st loc (.str s) = .ok (.str s) := id rfl
theorem ev_emptyList : evalDE st loc .emptyList = .ok (.list []) := id rfl
theorem ev_emptyDict : evalDE st loc .emptyDict = .ok (.dict []) := id rfl
theorem ev_attr (e : DE) (f : String) : evalDE st loc (.attr e f) = (evalDE st loc e >>= fun v => attrD st v f) := id rfl
theorem ev_index (e k : DE) : evalDE st loc (.index e k) = (evalDE st loc e >>= fun a => evalDE st loc k >>= fun b => indexD a b) := id rfl
theorem ev_len (e : DE) : evalDE st loc (.len e) = (evalDE st loc e >>= fun v => match v with
    | .str s => pure (.int s.length) | .list l => pure (.int l.length) | _ => throw .type) := id rfl
theorem ev_frac (e : DE) : evalDE st loc (.frac e) = (evalDE st loc e >>= fun v => numOf v >>= fun q => pure (.rat q)) := id rfl
theorem ev_isInst (e : DE) (cls : String) : evalDE st loc (.isInst e cls) = (evalDE st loc e >>= fun v => match v with
    | .node _ t => if cls = "Interval" then pure (.bool t.loc?.isSome) else throw .other | _ => throw .other) := id rfl
theorem ev_mul (a b : DE) : evalDE st loc (.mul a b) = (evalDE st loc a >>= fun va => numOf va >>= fun x =>
    evalDE st loc b >>= fun vb => numOf vb >>= fun y => pure (.rat (x * y))) := id rfl
theorem ev_div (a b : DE) : evalDE st loc (.div a b) = (evalDE st loc a >>= fun va => numOf va >>= fun x =>
    evalDE st loc b >>= fun vb => numOf vb >>= fun y => if y = 0 then throw .value else pure (.rat (x / y))) := id rfl
theorem ev_eq (a b : DE) : evalDE st loc (.eq a b) = (evalDE st loc a >>= fun va => evalDE st loc b >>= fun vb => match va, vb with
    | .int x, .int y => pure (.bool (x == y)) | _, _ => throw .other) := id rfl
theorem ev_gt (a b : DE) : evalDE st loc (.gt a b) = (evalDE st loc a >>= fun va => evalDE st loc b >>= fun vb => match va, vb with
    | .int x, .int y => pure (.bool (decide (y < x))) | _, _ => throw .type) := id rfl

theorem attr_self_ast (h : st.selfAst = true) : attrD st .selfObj "ast" = .ok .astObj := by simp [attrD, h]; rfl
theorem attr_ast_unit : attrD st .astObj "unit" = .ok (.str st.unit) := rfl
theorem attr_ast_U : attrD st .astObj "U" = .ok .utable := rfl
theorem attr_ast_specs : attrD st .astObj "specs" = .ok (.list st.specs) := rfl
theorem attr_ast_names : attrD st .astObj "phi_name_to_node_dict" = .ok .namesObj := rfl
theorem attr_h_horizons : attrD st .hObj "horizons" = .ok .hTable := rfl
theorem attr_node_children (id) (t : NT α) : attrD st (.node id t) "children" = .ok (.list (t.children.map (.node Option.none))) := rfl
theorem attr_node_begin (id) (t : NT α) (l) (h : t.loc? = some l) : attrD st (.node id t) "begin" = .ok (.rat (st.store l).b) := by simp [attrD, h]; rfl
theorem attr_node_end (id) (t : NT α) (l) (h : t.loc? = some l) : attrD st (.node id t) "end" = .ok (.rat (st.store l).e) := by simp [attrD, h]; rfl
theorem attr_node_bu (id) (t : NT α) (l) (h : t.loc? = some l) : attrD st (.node id t) "begin_unit" = .ok (.str (st.store l).bu) := by simp [attrD, h]; rfl
theorem attr_node_eu (id) (t : NT α) (l) (h : t.loc? = some l) : attrD st (.node id t) "end_unit" = .ok (.str (st.store l).eu) := by simp [attrD, h]; rfl
end ev

/-- The state while `pastify()` runs its first loop (`self.ast` assigned, no horizon visitor yet). -/
def rawSt (s : Nat → IvRaw) (un : String) (sp : List (DV α)) (nm : List (String × DV α)) (sh : Bool) : DState α :=
  { store := s, unit := un, specs := sp, names := nm, selfAst := true, hVisited := Option.none, subHor := sh }

def mkSt (σ : Nat → SIv) (u : TUnit) (sp : List (DV α)) (nm : List (String × DV α)) (sh : Bool) : DState α :=
  rawSt (fun l => rawOf (σ l)) (unitStr u) sp nm sh

def upd (σ : Nat → SIv) (l : Nat) (i : SIv) : Nat → SIv := fun k => if k = l then i else σ k

theorem setIv_raw (σ : Nat → SIv) (l : Nat) (i : SIv) :
    setIv (fun k => rawOf (σ k)) l (rawOf i) = fun k => rawOf (upd σ l i k) := by
  funext k; by_cases h : k = l <;> simp [setIv, upd, h]

theorem setIv_setIv (s : Nat → IvRaw) (l : Nat) (a b : IvRaw) : setIv (setIv s l a) l b = setIv s l b := by
  funext k; by_cases h : k = l <;> simp [setIv, h]

theorem setIv_same (s : Nat → IvRaw) (l : Nat) (a : IvRaw) : setIv s l a l = a := by simp [setIv]

theorem unitNanos_unitStr (u : TUnit) : unitNanos? (unitStr u) = some (u.nanos : Int) := by
  cases u <;> rfl

theorem index_U (u : TUnit) : indexD (α := α) .utable (.str (unitStr u)) = .ok (.int (u.nanos : Int)) := by
  simp [indexD, unitNanos_unitStr]; rfl

section raw
variable (s : Nat → IvRaw) (un : String) (sp : List (DV α)) (nm : List (String × DV α)) (sh : Bool)
theorem r_self_ast : attrD (rawSt s un sp nm sh) .selfObj "ast" = .ok .astObj := rfl
theorem r_ast_unit : attrD (rawSt s un sp nm sh) .astObj "unit" = .ok (.str un) := rfl
theorem r_ast_U : attrD (rawSt s un sp nm sh) .astObj "U" = .ok .utable := rfl
theorem r_ast_specs : attrD (rawSt s un sp nm sh) .astObj "specs" = .ok (.list sp) := rfl
end raw

section rawNode
variable {s : Nat → IvRaw} {un : String} {sp : List (DV α)} {nm : List (String × DV α)} {sh : Bool}
  {id : Option Nat} {t : NT α} {l : Nat} (h : t.loc? = some l)
include h
theorem r_node_begin : attrD (rawSt s un sp nm sh) (.node id t) "begin" = .ok (.rat (s l).b) := attr_node_begin _ id t l h
theorem r_node_end : attrD (rawSt s un sp nm sh) (.node id t) "end" = .ok (.rat (s l).e) := attr_node_end _ id t l h
theorem r_node_bu : attrD (rawSt s un sp nm sh) (.node id t) "begin_unit" = .ok (.str (s l).bu) := attr_node_bu _ id t l h
theorem r_node_eu : attrD (rawSt s un sp nm sh) (.node id t) "end_unit" = .ok (.str (s l).eu) := attr_node_eu _ id t l h
theorem r_set_begin (q : Rat) : setAttrD (rawSt s un sp nm sh) (.node id t) "begin" (.rat q)
    = .ok (rawSt (setIv s l { s l with b := q }) un sp nm sh) := by simp [setAttrD, h, numOf]; rfl
theorem r_set_end (q : Rat) : setAttrD (rawSt s un sp nm sh) (.node id t) "end" (.rat q)
    = .ok (rawSt (setIv s l { s l with e := q }) un sp nm sh) := by simp [setAttrD, h, numOf]; rfl
theorem r_set_bu (x : String) : setAttrD (rawSt s un sp nm sh) (.node id t) "begin_unit" (.str x)
    = .ok (rawSt (setIv s l { s l with bu := x }) un sp nm sh) := by simp [setAttrD, h]; rfl
theorem r_set_eu (x : String) : setAttrD (rawSt s un sp nm sh) (.node id t) "end_unit" (.str x)
    = .ok (rawSt (setIv s l { s l with eu := x }) un sp nm sh) := by simp [setAttrD, h]; rfl
end rawNode

theorem unitStr_len_pos (u : TUnit) : (0 : Int) < (unitStr u).length := by cases u <;> decide
theorem nanos_rat_ne (u : TUnit) : (u.nanos : Rat) ≠ 0 := by cases u <;> simp [TUnit.nanos]

theorem SIv.norm_eq (u : TUnit) (i : SIv) :
    i.norm u = ⟨i.b * ((i.units u).1.nanos : Rat) / (u.nanos : Rat), i.e * ((i.units u).2.nanos : Rat) / (u.nanos : Rat), none, none⟩ := rfl

section rawEv
variable {s : Nat → IvRaw} {u : TUnit} {sp : List (DV α)} {nm : List (String × DV α)} {sh : Bool} {loc : Locals α}

theorem ev_ast_unit : evalDE (rawSt s (unitStr u) sp nm sh) loc (.attr (.attr .self_ "ast") "unit") = .ok (.str (unitStr u)) := rfl

theorem ev_U {e : DE} {w : TUnit} (he : evalDE (rawSt s (unitStr u) sp nm sh) loc e = .ok (.str (unitStr w))) :
    evalDE (rawSt s (unitStr u) sp nm sh) loc (.index (.attr (.attr .self_ "ast") "U") e) = .ok (.int w.nanos) := by
  rw [ev_index, ev_attr, ev_attr, ev_self, ok_bind, r_self_ast, ok_bind, r_ast_U, ok_bind, he, ok_bind, index_U]

theorem ev_scaled {e x : DE} {q : Rat} {w : TUnit} (he : evalDE (rawSt s (unitStr u) sp nm sh) loc e = .ok (.rat q))
    (hx : evalDE (rawSt s (unitStr u) sp nm sh) loc x = .ok (.str (unitStr w))) :
    evalDE (rawSt s (unitStr u) sp nm sh) loc
        (.div (.mul (.frac e) (.index (.attr (.attr .self_ "ast") "U") x))
          (.index (.attr (.attr .self_ "ast") "U") (.attr (.attr .self_ "ast") "unit")))
      = .ok (.rat (q * (w.nanos : Rat) / (u.nanos : Rat))) := by
  rw [ev_div, ev_mul, ev_frac, he, ev_U hx, ev_U ev_ast_unit]
  simp only [ok_bind, numOf, pure, Except.pure]
  rw [if_neg (by exact_mod_cast nanos_rat_ne u)]
  simp
end rawEv

/-- `if len(b_unit) == 0: … elif len(e_unit) == 0: …`: a missing unit is taken from the other bound, or from the
    specification when both are missing. -/
def resolveUnits : DS :=
  .ite (.eq (.len (.loc "b_unit")) (.int 0))
    (.ite (.gt (.len (.loc "e_unit")) (.int 0)) (.setLoc "b_unit" (.loc "e_unit"))
      (.seq (.setLoc "b_unit" (.attr (.attr .self_ "ast") "unit")) (.setLoc "e_unit" (.attr (.attr .self_ "ast") "unit"))))
    (.ite (.eq (.len (.loc "e_unit")) (.int 0)) (.setLoc "e_unit" (.loc "b_unit")) .skip)

/-- `node.f = Fraction(node.f) * U[x] / U[self.ast.unit]` -/
def scale (f x : String) : DS :=
  .setAttr (.loc "node") f (.div (.mul (.frac (.attr (.loc "node") f)) (.index (.attr (.attr .self_ "ast") "U") (.loc x)))
    (.index (.attr (.attr .self_ "ast") "U") (.attr (.attr .self_ "ast") "unit")))

/-- `normalize_units(node)` is two statements: `if isinstance(node, Interval): …`, and the loop over `node.children`. -/
def ivPart : DS := .ite (.isInst (.loc "node") "Interval")
    (.seq (.setLoc "b_unit" (.attr (.loc "node") "begin_unit")) (.seq (.setLoc "e_unit" (.attr (.loc "node") "end_unit"))
      (.seq resolveUnits (.seq (scale "begin" "b_unit") (.seq (scale "end" "e_unit")
        (.seq (.setAttr (.loc "node") "begin_unit" (.str "")) (.setAttr (.loc "node") "end_unit" (.str ""))))))))
    .skip

def loopPart : DS := .forIn "child" (.attr (.loc "node") "children") (.call none .self_ "normalize_units" [.loc "child"])

theorem body_eq : Gen.PastDrv.normalize_units.body = .seq ivPart loopPart := rfl

theorem ev_len_str (st : DState α) (loc : Locals α) (e : DE) (x : String) (h : evalDE st loc e = .ok (.str x)) :
    evalDE st loc (.len e) = .ok (.int x.length) := by rw [ev_len, h]; rfl

section rawExec
variable {cs : String → List (DV α) → DState α → Except PyErr (DV α × DState α)}
variable {s : Nat → IvRaw} {u : TUnit} {sp : List (DV α)} {nm : List (String × DV α)} {sh : Bool} {loc : Locals α}

theorem exec_resolveUnits (i : SIv) (hb : getKey "b_unit" loc = .ok (.str (optUnitStr i.bu)))
    (he : getKey "e_unit" loc = .ok (.str (optUnitStr i.eu))) :
    ∃ loc', execDS cs resolveUnits (rawSt s (unitStr u) sp nm sh) loc = .ok (rawSt s (unitStr u) sp nm sh, loc') ∧
      getKey "b_unit" loc' = .ok (.str (unitStr (i.units u).1)) ∧ getKey "e_unit" loc' = .ok (.str (unitStr (i.units u).2)) ∧
      getKey "node" loc' = getKey "node" loc := by
  have hne : ("b_unit" : String) ≠ "e_unit" := by decide
  have lb := ev_len_str (rawSt s (unitStr u) sp nm sh) loc (.loc "b_unit") _ hb
  have le := ev_len_str (rawSt s (unitStr u) sp nm sh) loc (.loc "e_unit") _ he
  have hz : (((("" : String).length : Nat) : Int) == 0) = true := rfl
  have hz' : decide ((0 : Int) < (("" : String).length : Nat)) = false := rfl
  rcases i with ⟨b, e, _ | bu, _ | eu⟩ <;>
    simp only [optUnitStr, resolveUnits, exec_ite, ev_eq, ev_gt, lb, le, ev_int, ok_bind, hz, hz', decide_eq_true (unitStr_len_pos _), beq_false_of_ne (unitStr_len_pos _).ne', exec_seq,
      exec_setLoc, exec_skip, ev_ast_unit, ev_loc, hb, he, pure, Except.pure]
  · exact ⟨_, rfl, by rw [getKey_setKey_ne _ _ _ _ hne, getKey_setKey_same]; rfl, by rw [getKey_setKey_same]; rfl,
      by simp [getKey_setKey_ne]⟩
  · exact ⟨_, rfl, by rw [getKey_setKey_same]; rfl, by rw [getKey_setKey_ne _ _ _ _ hne.symm, he]; rfl, by simp [getKey_setKey_ne]⟩
  · exact ⟨_, rfl, by rw [getKey_setKey_ne _ _ _ _ hne, hb]; rfl, by rw [getKey_setKey_same]; rfl, by simp [getKey_setKey_ne]⟩
  · exact ⟨_, rfl, hb, he, rfl⟩

theorem exec_scale {f x : String} {nd : DV α} {q : Rat} {w : TUnit} {st' : DState α} (hn : getKey "node" loc = .ok nd)
    (hx : getKey x loc = .ok (.str (unitStr w))) (hget : attrD (rawSt s (unitStr u) sp nm sh) nd f = .ok (.rat q))
    (hset : setAttrD (rawSt s (unitStr u) sp nm sh) nd f (.rat (q * (w.nanos : Rat) / (u.nanos : Rat))) = .ok st') :
    execDS cs (scale f x) (rawSt s (unitStr u) sp nm sh) loc = .ok (st', loc) := by
  rw [scale, exec_setAttr, ev_loc, hn, ok_bind,
    ev_scaled (e := .attr (.loc "node") f) (by rw [ev_attr, ev_loc, hn, ok_bind, hget]) (by rw [ev_loc, hx]), ok_bind, hset]
  rfl

end rawExec

theorem iv_timed_raw (cs) (id : Option Nat) (t : NT α) (l : Nat) (ht : t.loc? = some l) (s : Nat → IvRaw) (i : SIv) (hs : s l = rawOf i)
    (u : TUnit) sp nm sh :
    ∃ loc', execDS cs ivPart (rawSt (α := α) s (unitStr u) sp nm sh) [("node", .node id t)]
        = .ok (rawSt (setIv s l (rawOf (i.norm u))) (unitStr u) sp nm sh, loc') ∧ getKey "node" loc' = .ok (.node id t) := by
  have hbe : ("b_unit" : String) ≠ "e_unit" := by decide
  have hnb : ("node" : String) ≠ "b_unit" := by decide
  have hne : ("node" : String) ≠ "e_unit" := by decide
  obtain ⟨loc', h1, hb, he, hfr⟩ := exec_resolveUnits (cs := cs) (s := s) (u := u) (sp := sp) (nm := nm) (sh := sh)
    (loc := setKey "e_unit" (.str (optUnitStr i.eu)) (setKey "b_unit" (.str (optUnitStr i.bu)) [("node", DV.node id t)])) i
    (by rw [getKey_setKey_ne _ _ _ _ hbe, getKey_setKey_same]) (getKey_setKey_same _ _ _)
  have hn : getKey "node" loc' = .ok (.node id t) := by
    rw [hfr, getKey_setKey_ne _ _ _ _ hne, getKey_setKey_ne _ _ _ _ hnb, getKey_cons_same]
  refine ⟨loc', ?_, hn⟩
  have hs' : (s l).bu = optUnitStr i.bu ∧ (s l).eu = optUnitStr i.eu ∧ (s l).b = i.b ∧ (s l).e = i.e := by rw [hs]; exact ⟨rfl, rfl, rfl, rfl⟩
  rw [ivPart, exec_ite, ev_isInst, ev_loc, getKey_cons_same, ok_bind]
  simp only [ht, if_true, Option.isSome_some, pure, Except.pure, ok_bind]
  -- b_unit = node.begin_unit; e_unit = node.end_unit
  rw [exec_seq, exec_setLoc, ev_attr, ev_loc, getKey_cons_same, ok_bind, r_node_bu ht, ok_bind, hs'.1, ok_bind]
  rw [exec_seq, exec_setLoc, ev_attr, ev_loc, getKey_setKey_ne _ _ _ _ hnb, getKey_cons_same, ok_bind,
    r_node_eu ht, ok_bind, hs'.2.1, ok_bind]
  rw [exec_seq, h1, ok_bind]
  -- the four assignments
  rw [exec_seq, exec_scale hn hb (r_node_begin ht) (r_set_begin ht _), ok_bind]
  rw [exec_seq, exec_scale hn he (r_node_end ht) (r_set_end ht _), ok_bind]
  rw [exec_seq, exec_setAttr, ev_loc, hn, ok_bind, ev_str, ok_bind, r_set_bu ht, ok_bind, ok_bind]
  rw [exec_setAttr, ev_loc, hn, ok_bind, ev_str, ok_bind, r_set_eu ht, ok_bind]
  simp only [setIv_setIv, setIv_same, hs'.2.2.1, hs'.2.2.2, SIv.norm_eq, rawOf, optUnitStr]

/-- What the traversal of `normalize_units` does to the attributes: the timed nodes in the order they are reached. -/
def normLocs (u : TUnit) : List Nat → (Nat → SIv) → (Nat → SIv)
  | [], σ => σ
  | l :: r, σ => normLocs u r (upd σ l ((σ l).norm u))

theorem normLocs_append (u : TUnit) (a b : List Nat) (σ : Nat → SIv) :
    normLocs u (a ++ b) σ = normLocs u b (normLocs u a σ) := by
  induction a generalizing σ with
  | nil => rfl
  | cons l r ih => simp [normLocs, ih]

theorem iv_untimed (cs) (id : Option Nat) (t : NT α) (ht : t.loc? = none) (st : DState α) :
    execDS cs ivPart st [("node", .node id t)] = .ok (st, [("node", .node id t)]) := by
  simp [ivPart, exec_ite, exec_skip, ev_isInst, ev_loc, getKey_cons_same, ok_bind, ht, pure, Except.pure]

theorem iv_any (cs) (id : Option Nat) (t : NT α) (σ : Nat → SIv) (u : TUnit) sp nm sh :
    ∃ loc', execDS cs ivPart (mkSt (α := α) σ u sp nm sh) [("node", .node id t)]
        = .ok (mkSt (normLocs u t.loc?.toList σ) u sp nm sh, loc') ∧ getKey "node" loc' = .ok (.node id t) := by
  cases ht : t.loc? with
  | none => exact ⟨_, iv_untimed cs id t ht _, getKey_cons_same _ _ _⟩
  | some l =>
    obtain ⟨loc', h1, h2⟩ := iv_timed_raw cs id t l ht (fun k => rawOf (σ k)) (σ l) rfl u sp nm sh
    refine ⟨loc', ?_, h2⟩
    rw [mkSt, h1, setIv_raw]
    rfl

theorem evalArgs_loc (st : DState α) (loc : Locals α) (x : String) :
    evalArgs st loc [.loc x] = (getKey x loc >>= fun v => pure [v]) := by
  simp only [evalArgs, ev_loc]
  cases getKey x loc <;> rfl

def Frame {β : Type} (W : List String) (l l' : List (String × β)) : Prop := ∀ y, y ∉ W → getKey y l' = getKey y l

theorem Frame.refl {β : Type} (W : List String) (l : List (String × β)) : Frame W l l := fun _ _ => rfl

theorem Frame.set {β : Type} {W : List String} {l l' : List (String × β)} (h : Frame W l l') {x : String} (hx : x ∈ W) (v : β) :
    Frame W l (setKey x v l') := fun y hy => by
  rw [getKey_setKey_ne _ _ _ _ (fun e : y = x => hy (e ▸ hx)), h y hy]

theorem Frame.trans {β : Type} {W : List String} {l l' l'' : List (String × β)} (h : Frame W l l') (h' : Frame W l' l'') :
    Frame W l l'' := fun y hy => (h' y hy).trans (h y hy)

/-- A loop `for x in vals: self.normalize_units(x)`. -/
theorem loop_norm (cs) (u : TUnit) (sp : List (DV α)) nm sh (x : String) {β : Type} (vals : List β) (id : β → Option Nat) (tr : β → NT α)
    (hk : ∀ p ∈ vals, ∀ σ', cs "normalize_units" [.node (id p) (tr p)] (mkSt σ' u sp nm sh)
        = .ok (.none, mkSt (normLocs u (tr p).locs σ') u sp nm sh)) (σ : Nat → SIv) (loc : Locals α) :
    ∃ loc', (vals.map (fun p => DV.node (id p) (tr p))).foldlM
        (fun (p : DState α × Locals α) v => execDS cs (.call none .self_ "normalize_units" [.loc x]) p.1 (setKey x v p.2))
        (mkSt σ u sp nm sh, loc)
      = .ok (mkSt (normLocs u (vals.flatMap (fun p => (tr p).locs)) σ) u sp nm sh, loc') ∧ Frame [x] loc loc' := by
  induction vals generalizing σ loc with
  | nil => exact ⟨loc, rfl, Frame.refl _ _⟩
  | cons p r ih =>
    have hp := hk p (by simp) σ
    obtain ⟨loc', h1, h2⟩ := ih (fun q hq => hk q (by simp [hq])) (normLocs u (tr p).locs σ) (setKey x (.node (id p) (tr p)) loc)
    refine ⟨loc', ?_, ((Frame.refl [x] loc).set (by simp) _).trans h2⟩
    have hstep : execDS cs (.call none .self_ "normalize_units" [.loc x]) (mkSt σ u sp nm sh) (setKey x (.node (id p) (tr p)) loc)
        = .ok (mkSt (normLocs u (tr p).locs σ) u sp nm sh, setKey x (.node (id p) (tr p)) loc) := by
      simp only [exec_callSelf, evalArgs_loc, getKey_setKey_same, ok_bind, pure, Except.pure, hp]
    rw [List.map_cons, List.foldlM_cons, hstep, ok_bind, List.flatMap_cons, normLocs_append]
    exact h1

theorem children_depth (t c : NT α) (h : c ∈ t.children) : c.depth < t.depth := by
  cases t <;> simp [NT.children] at h <;> (try rcases h with rfl | rfl) <;> simp [NT.depth] <;> omega

theorem locs_eq (t : NT α) : t.locs = t.loc?.toList ++ t.children.flatMap NT.locs := by
  cases t <;> simp [NT.locs, NT.loc?, NT.children]

theorem lookup_normalize : Gen.PastDrv.methods.lookup "normalize_units" = some Gen.PastDrv.normalize_units := by rfl
theorem lookup_pastify : Gen.PastDrv.methods.lookup "pastify" = some Gen.PastDrv.pastify := by rfl
theorem lookup_visit : Gen.PastDrv.methods.lookup "visit" = some Gen.PastDrv.visit := by rfl

theorem callM_succ (fuel : Nat) (name : String) (m : DMethod) (h : Gen.PastDrv.methods.lookup name = some m) (args : List (DV α)) (st : DState α) :
    callM Gen.PastDrv.methods (fuel + 1) name args st = (bindParams m args >>= fun loc =>
      execDS (callM Gen.PastDrv.methods fuel) m.body st loc >>= fun p =>
        match m.ret with
        | some e => evalDE p.1 p.2 e >>= fun v => pure (v, p.1)
        | Option.none => pure (.none, p.1)) := by
  simp only [callM, h]
  rfl

/-- `normalize_units(node)` with a sufficient recursion budget: every timed node reached is rescaled, in traversal order. -/
theorem norm_call (fuel : Nat) (t : NT α) (hf : t.depth < fuel) (id : Option Nat) (σ : Nat → SIv) (u : TUnit) sp nm sh :
    callM Gen.PastDrv.methods fuel "normalize_units" [.node id t] (mkSt (α := α) σ u sp nm sh)
      = .ok (.none, mkSt (normLocs u t.locs σ) u sp nm sh) := by
  induction fuel generalizing t id σ with
  | zero => omega
  | succ fuel ih =>
    obtain ⟨loc1, h1, h2⟩ := iv_any (callM Gen.PastDrv.methods fuel) id t σ u sp nm sh
    obtain ⟨loc2, h3, _⟩ := loop_norm (callM Gen.PastDrv.methods fuel) u sp nm sh "child" t.children (fun _ => Option.none) (fun c => c)
      (fun c hc σ' => ih c (by have := children_depth t c hc; omega) _ σ') (normLocs u t.loc?.toList σ) loc1
    rw [callM_succ fuel _ _ lookup_normalize]
    have hb : bindParams Gen.PastDrv.normalize_units [DV.node id t] = .ok [("node", DV.node id t)] := rfl
    rw [hb, ok_bind, body_eq, exec_seq, h1, ok_bind, loopPart, exec_forIn, ev_attr, ev_loc]
    simp only [h2, ok_bind, attr_node_children]
    rw [h3, ok_bind, locs_eq, normLocs_append]
    rfl

/-! ### the unit normalisation is idempotent, so sharing is harmless -/

/-- After the first normalisation the unit strings are empty and the conversion of a unit-less bound into the default unit
    is the identity. -/
theorem SIv.norm_idem (u : TUnit) (i : SIv) : (i.norm u).norm u = i.norm u := by
  have h := nanos_rat_ne u
  simp [SIv.norm, SIv.toDefault, SIv.durNs, SIv.units, h]

theorem normLocs_eq (u : TUnit) (L : List Nat) (σ : Nat → SIv) :
    normLocs u L σ = fun l => if l ∈ L then (σ l).norm u else σ l := by
  induction L generalizing σ with
  | nil => simp [normLocs]
  | cons a r ih =>
    rw [normLocs, ih]
    funext l
    by_cases h1 : l = a
    · subst h1
      by_cases h2 : l ∈ r <;> simp [upd, h2, SIv.norm_idem]
    · by_cases h2 : l ∈ r <;> simp [upd, h1, h2]

/-- However often (at least once) a node is reached, its attributes end up normalised once. -/
theorem normLocs_idem (u : TUnit) (L : List Nat) (σ : Nat → SIv) : normLocs u L (normLocs u L σ) = normLocs u L σ := by
  simp only [normLocs_eq]
  funext l
  by_cases h : l ∈ L <;> simp [h, SIv.norm_idem]

/-- The surface tree after the traversal is the normalised surface tree, whatever else was normalised with it
    (other assertions sharing nodes with this one). -/
theorem toSF_normLocs (u : TUnit) (L : List Nat) (σ : Nat → SIv) (t : NT α) (h : ∀ l ∈ t.locs, l ∈ L) :
    t.toSF (normLocs u L σ) = (t.toSF σ).normalise u := by
  rw [normLocs_eq]
  induction t with
  | var x => rfl
  | const c => rfl
  | _ => simp_all [NT.toSF, SF.normalise, NT.locs, or_imp, forall_and]

/-- The tree the visitors read off the store is the surface tree with its numbers read as naturals. -/
theorem toF_raw (σ : Nat → SIv) (t : NT α) : t.toF? (fun l => rawOf (σ l)) = (t.toSF σ).toF? := by
  induction t with
  | tb1 op a φ ih => simp only [NT.toF?, NT.toSF, SF.toF?, ih]; rfl
  | tb2 op a φ ψ ih1 ih2 => simp only [NT.toF?, NT.toSF, SF.toF?, ih1, ih2]; rfl
  | _ => simp_all only [NT.toF?, NT.toSF, SF.toF?]

/-- **`normalize_units`.**  The translated method, run on a node `t` of a specification whose `Interval` attributes are `σ`
    (shared nodes = equal locations), with any sufficient recursion budget: it succeeds; the attributes of every timed
    node reached are the mirror's `SIv.norm` of what they were — once, however many paths lead to the node —; the surface tree of `t`
    afterwards is `SF.normalise` of the surface tree before; and running it again changes nothing. -/
theorem genPastDrv_normalize (t : NT α) (σ : Nat → SIv) (u : TUnit) (sp : List (DV α)) (nm : List (String × DV α)) (sh : Bool)
    (fuel : Nat) (hf : t.depth < fuel) (id : Option Nat) :
    let σ' : Nat → SIv := fun l => if l ∈ t.locs then (σ l).norm u else σ l
    callDrv fuel "normalize_units" [.node id t] (mkSt σ u sp nm sh) = .ok (.none, mkSt σ' u sp nm sh) ∧
    t.toSF σ' = (t.toSF σ).normalise u ∧
    callDrv fuel "normalize_units" [.node id t] (mkSt σ' u sp nm sh) = .ok (.none, mkSt σ' u sp nm sh) := by
  intro σ'
  have hσ : σ' = normLocs u t.locs σ := (normLocs_eq u t.locs σ).symm
  refine ⟨?_, ?_, ?_⟩
  · rw [hσ]; exact norm_call fuel t hf id σ u sp nm sh
  · rw [hσ]; exact toSF_normLocs u t.locs σ t (fun _ h => h)
  · rw [hσ, callDrv, norm_call fuel t hf id _ u sp nm sh, normLocs_idem]

theorem genPastDrv_normalizeG (t : NT α) (σ : Nat → SIv) (u : TUnit) (sp : List (DV α)) (nm : List (String × DV α)) (sh : Bool) :
    normalizeG t (mkSt σ u sp nm sh) = .ok (mkSt (fun l => if l ∈ t.locs then (σ l).norm u else σ l) u sp nm sh) := by
  rw [normalizeG, (genPastDrv_normalize t σ u sp nm sh (t.depth + 1) (by omega) Option.none).1]
  rfl

theorem genPastDrv_supported :
    Gen.PastDrv.pastify.supported = true ∧ Gen.PastDrv.normalize_units.supported = true ∧ Gen.PastDrv.visit.supported = true := by
  decide +kernel

/-- The state after `h = StlHorizon()`: `vis` are the assertions `h` has visited. -/
def st2 (s : Nat → IvRaw) (un : String) (sp : List (DV α)) (nm : List (String × DV α)) (vis : List Nat) (sh : Bool) : DState α :=
  { store := s, unit := un, specs := sp, names := nm, selfAst := true, hVisited := some vis, subHor := sh }

section steps
variable (cs : String → List (DV α) → DState α → Except PyErr (DV α × DState α))

theorem exec_callLoc (tgt : Option String) (l m : String) (hm : m ≠ "append") (args : List DE) (st : DState α) (loc : Locals α) :
    execDS cs (.call tgt (.loc l) m args) st loc = (evalArgs st loc args >>= fun vs => getKey l loc >>= fun r =>
      callOther st (some r) "" m vs >>= fun r => pure (r.2, match tgt with | some x => setKey x r.1 loc | Option.none => loc)) := by
  simp only [execDS, hm, if_false]
  rfl

theorem exec_append (l : String) (e : DE) (st : DState α) (loc : Locals α) :
    execDS cs (.call Option.none (.loc l) "append" [e]) st loc = (evalArgs st loc [e] >>= fun vs => getKey l loc >>= fun lv =>
      match lv, vs with
      | .list xs, [v] => pure (st, setKey l (.list (xs ++ [v])) loc)
      | _, _ => throw .other) := by
  simp only [execDS, if_true]
  cases evalArgs st loc [e] with
  | error _ => rfl
  | ok vs =>
    cases getKey l loc with
    | error _ => rfl
    | ok lv => cases lv <;> first | rfl | (rcases vs with _ | ⟨v, _ | _⟩ <;> rfl)

theorem exec_callGlob (tgt : Option String) (c m : String) (args : List DE) (st : DState α) (loc : Locals α) :
    execDS cs (.call tgt (.glob c) m args) st loc = (evalArgs st loc args >>= fun vs =>
      callOther st Option.none c m vs >>= fun r => pure (r.2, match tgt with | some x => setKey x r.1 loc | Option.none => loc)) := id rfl

theorem exec_callAttr (tgt : Option String) (e : DE) (f m : String) (args : List DE) (st : DState α) (loc : Locals α) :
    execDS cs (.call tgt (.attr e f) m args) st loc = (evalArgs st loc args >>= fun vs => evalDE st loc (.attr e f) >>= fun r =>
      callOther st (some r) "" m vs >>= fun r => pure (r.2, match tgt with | some x => setKey x r.1 loc | Option.none => loc)) := id rfl

theorem exec_setItem (x : String) (k v : DE) (st : DState α) (loc : Locals α) :
    execDS cs (.setItem x k v) st loc = (getKey x loc >>= fun a => evalDE st loc k >>= fun b => evalDE st loc v >>= fun c =>
      match a, b, c with
      | .dict d, .node (some i) _, .int n => pure (st, setKey x (.dict (setIdx i n d)) loc)
      | _, _, _ => throw .other) := id rfl
end steps

section other
variable (s : Nat → IvRaw) (un : String) (sp : List (DV α)) (nm : List (String × DV α)) (vis : List Nat) (sh : Bool)

theorem other_new (st : DState α) : callOther st Option.none "StlHorizon" "()" [] = .ok (.hObj, { st with hVisited := some [] }) := rfl

theorem other_hvisit (i : Nat) (t : NT α) :
    callOther (st2 s un sp nm vis sh) (some .hObj) "" "visit" [.node (some i) t, .none]
      = (fOf s t >>= fun φ => horG φ >>= fun n => pure (.int n, st2 s un sp nm (i :: vis) sh)) := rfl

theorem other_super (i : Nat) (t : NT α) (R : Int) (hi : i ∈ vis) :
    callOther (st2 s un sp nm vis true) Option.none "StlAstVisitor" "visit" [.selfObj, .node (some i) t, .int R]
      = (fOf s t >>= fun φ => pastG φ R >>= fun ψ => pure (.fml ψ, st2 s un sp nm vis true)) := by
  simp [callOther, st2, hi]

theorem s2_self_ast : attrD (st2 s un sp nm vis sh) .selfObj "ast" = .ok .astObj := rfl
theorem s2_ast_specs : attrD (st2 s un sp nm vis sh) .astObj "specs" = .ok (.list sp) := rfl

theorem ev_keysWhereEq (st : DState α) (loc : Locals α) (d v : DE) :
    evalDE st loc (.keysWhereEq d v) = (evalDE st loc d >>= fun a => evalDE st loc v >>= fun b => match a, b with
      | .namesObj, .node (some i) _ => pure (.list ((st.names.filter (fun p => isNode i p.2)).map (fun p => .str p.1)))
      | _, _ => throw .other) := id rfl
theorem ev_constDict (st : DState α) (loc : Locals α) (k v : DE) :
    evalDE st loc (.constDict k v) = (evalDE st loc k >>= fun a => match a with
      | .list l => (match strsOf l with
          | some ks => evalDE st loc v >>= fun w => pure (.sdict ks w)
          | Option.none => throw .other)
      | _ => throw .type) := id rfl
theorem s2_names : (st2 s un sp nm vis sh).names = nm := rfl

/-- The re-pointing in `visit`: every name that pointed at the visited node points at its translation. -/
def repoint (nm : List (String × DV α)) (i : Nat) (v : DV α) : List (String × DV α) :=
  ((nm.filter (fun p => isNode i p.2)).map (fun p => p.1)).foldl (fun d k => setKey k v d) nm

theorem other_update (ks : List String) (v : DV α) :
    callOther (st2 s un sp nm vis sh) (some .namesObj) "" "update" [.sdict ks v]
      = .ok (.none, st2 s un sp (ks.foldl (fun d k => setKey k v d) nm) vis sh) := rfl
end other

theorem strsOf_map (l : List String) : strsOf (l.map (fun k => (DV.str k : DV α))) = some l := by
  induction l with
  | nil => rfl
  | cons a r ih => simp [strsOf, ih]

theorem fOf_some (s : Nat → IvRaw) (t : NT α) (φ : F α) (h : t.toF? s = some φ) : fOf s t = .ok φ := by
  simp [fOf, h]

theorem horG_eq (φ : F α) : horG φ = if φ.bounded then .ok ((hor φ : Nat) : Int) else .error .rtamt := by
  rw [genHor_eval, hor?_eq]
  cases φ.bounded <;> rfl

theorem setIdx_eq (i : Nat) (n : Int) (d : List (Nat × Int)) : setIdx i n d = Assoc.set i n d := by
  induction d with
  | nil => rfl
  | cons a r ih => simp only [setIdx, Assoc.set, ih]

section loops
variable {s : Nat → IvRaw} {un : String} {sp : List (DV α)} {nm : List (String × DV α)} {vis : List Nat}

/-- The overriding `visit(node, horizon)` on an assertion: the translated visitors, then the re-pointing of its names. -/
theorem visit_call (fuel : Nat) {i : Nat} {t : NT α} {φ : F α} (hφ : t.toF? s = some φ) (hb : φ.bounded = true)
    (hpl : plainP φ = true) (hi : i ∈ vis) (R : Int) :
    callM Gen.PastDrv.methods (fuel + 1) "visit" [.node (some i) t, .int R] (st2 s un sp nm vis true)
      = .ok (.fml (past R.toNat φ), st2 s un sp (repoint nm i (.fml (past R.toNat φ))) vis true) := by
  rw [callM_succ fuel _ _ lookup_visit]
  have hb' : bindParams Gen.PastDrv.visit [DV.node (some i) t, DV.int R]
      = .ok [("node", DV.node (some i) t), ("args", .list [.int R]), ("kwargs", .kwargs)] := rfl
  rw [hb', ok_bind]
  have e1 : evalArgs (st2 s un sp nm vis true) [("node", DV.node (some i) t), ("args", .list [.int R]), ("kwargs", .kwargs)]
      [.self_, .loc "node", .star (.loc "args"), .dstar (.loc "kwargs")] = .ok [.selfObj, .node (some i) t, .int R] := by
    simp [evalArgs, ev_loc, ev_self, getKey_cons_same, getKey_cons_ne, ok_bind, pure, Except.pure]
  simp only [Gen.PastDrv.visit]
  -- out = StlAstVisitor.visit(self, node, *args, **kwargs)
  rw [exec_seq, exec_callGlob, e1, ok_bind, other_super _ _ _ _ _ _ _ _ hi, fOf_some _ _ _ hφ, ok_bind, genPast_visit φ hb hpl,
    ok_bind]
  simp only [pure, Except.pure, ok_bind]
  -- d = self.ast.phi_name_to_node_dict; keys = [k for k, w in d.items() if w == node]; d.update({k: out for k in keys})
  have hs : strsOf (List.map (fun p => (DV.str p.1 : DV α)) (List.filter (fun p => isNode i p.2) nm))
      = some ((List.filter (fun p => isNode i p.2) nm).map (fun p => p.1)) := by
    rw [← strsOf_map (α := α), List.map_map]; rfl
  simp only [exec_seq, exec_setLoc, exec_callAttr, evalArgs, ev_loc, ev_self, ev_attr, ev_keysWhereEq, ev_constDict,
    getKey_setKey_same, getKey_setKey_ne _ _ _ _ (show ("node" : String) ≠ "d" by decide),
    getKey_setKey_ne _ _ _ _ (show ("node" : String) ≠ "out" by decide), getKey_setKey_ne _ _ _ _ (show ("out" : String) ≠ "keys" by decide),
    getKey_setKey_ne _ _ _ _ (show ("out" : String) ≠ "d" by decide), getKey_cons_same, s2_self_ast, attr_ast_names, s2_names, hs,
    other_update, ok_bind, pure, Except.pure]
  rfl

def L2 : DS := (.seq (.call (some "horizon") (.loc "h") "visit" [(.loc "spec"), .none_]) (.seq (.setAttr .self_ "subformula_horizons" (.attr (.loc "h") "horizons")) (.setItem "horizons" (.loc "spec") (.loc "horizon"))))

def L3 : DS := (.seq (.setLoc "horizon" (.index (.loc "horizons") (.loc "spec"))) (.seq (.call (some "pastified_spec") .self_ "visit" [(.loc "spec"), (.loc "horizon")]) (.call none (.loc "pastified_specs") "append" [(.loc "pastified_spec")])))

theorem setAttr_subHor (s : Nat → IvRaw) (un : String) (sp : List (DV α)) nm vis sh :
    setAttrD (st2 s un sp nm vis sh) .selfObj "subformula_horizons" .hTable = .ok (st2 s un sp nm vis true) := rfl

/-- One round of the second loop. -/
theorem step2 (cs) (sh) {loc : Locals α} {i : Nat} {t : NT α} {φ : F α} (hφ : t.toF? s = some φ) {d : List (Nat × Int)}
    (h1 : getKey "spec" loc = .ok (.node (some i) t)) (h2 : getKey "h" loc = .ok .hObj) (h3 : getKey "horizons" loc = .ok (.dict d)) :
    execDS cs L2 (st2 s un sp nm vis sh) loc =
      if φ.bounded then .ok (st2 s un sp nm (i :: vis) true,
        setKey "horizons" (.dict (setIdx i (hor φ) d)) (setKey "horizon" (.int (hor φ)) loc))
      else .error .rtamt := by
  have e1 : evalArgs (st2 s un sp nm vis sh) loc [.loc "spec", .none_] = .ok [.node (some i) t, .none] := by
    simp [evalArgs, ev_loc, ev_none, h1, ok_bind, pure, Except.pure]
  -- horizon = h.visit(spec, None)
  rw [L2, exec_seq, exec_callLoc cs _ _ _ (by decide), e1, ok_bind, h2, ok_bind, other_hvisit, fOf_some _ _ _ hφ, ok_bind,
    horG_eq]
  cases hb : φ.bounded
  · rfl
  · simp only [if_true, ok_bind, pure, Except.pure]
    have hh : ("h" : String) ≠ "horizon" := by decide
    have hs : ("spec" : String) ≠ "horizon" := by decide
    have hz : ("horizons" : String) ≠ "horizon" := by decide
    -- self.subformula_horizons = h.horizons; horizons[spec] = horizon
    rw [exec_seq, exec_setAttr, ev_self, ok_bind, ev_attr, ev_loc, getKey_setKey_ne _ _ _ _ hh, h2, ok_bind, attr_h_horizons,
      ok_bind, setAttr_subHor, ok_bind, ok_bind]
    rw [exec_setItem, getKey_setKey_ne _ _ _ _ hz, h3, ok_bind, ev_loc, getKey_setKey_ne _ _ _ _ hs, h1, ok_bind, ev_loc,
      getKey_setKey_same, ok_bind]
    rfl

/-- The assertions with the trees the visitors see: identity, node, tree. -/
abbrev Tri (α : Type) := Nat × NT α × F α

def triVals (T : List (Tri α)) : List (DV α) := T.map (fun p => DV.node (some p.1) p.2.1)

/-- A loop `for spec in ast.specs` with the part `r` of the assertions done and `a` next. -/
theorem foldlM_triVals_snoc {β : Type} (f : β → DV α → Except PyErr β) (r : List (Tri α)) (a : Tri α) (q : β) :
    (triVals (r ++ [a])).foldlM f q = ((triVals r).foldlM f q >>= fun q' => f q' (.node (some a.1) a.2.1)) := by
  simp only [triVals, List.map_append, List.foldlM_append, List.map_cons, List.map_nil, List.foldlM_cons, List.foldlM_nil, bind_pure]

/-- The second loop, by induction on the part of the list that is done: the dictionary holds, under the identity of every assertion,
    the horizon of that assertion (equal identities = the same object = the same tree); RTAMTException at the first assertion with
    an unbounded future operator. -/
theorem loop2 (cs) (T : List (Tri α)) (hF : ∀ p ∈ T, p.2.1.toF? s = some p.2.2)
    (hid : ∀ p ∈ T, ∀ q ∈ T, p.1 = q.1 → p.2.2 = q.2.2) (sh : Bool) (loc : Locals α)
    (h2 : getKey "h" loc = .ok .hObj) (h3 : getKey "horizons" loc = .ok (.dict [])) :
    ∃ loc' d, (triVals T).foldlM (fun (p : DState α × Locals α) v => execDS cs L2 p.1 (setKey "spec" v p.2)) (st2 s un sp nm vis sh, loc)
        = (if T.all (fun p => p.2.2.bounded) then .ok (st2 s un sp nm ((T.map (fun p => p.1)).reverse ++ vis) (sh || !T.isEmpty), loc')
           else .error .rtamt) ∧
      (T.all (fun p => p.2.2.bounded) = true → getKey "horizons" loc' = .ok (.dict d) ∧
        (∀ p ∈ T, d.lookup p.1 = some ((hor p.2.2 : Nat) : Int)) ∧ Frame ["spec", "horizon", "horizons"] loc loc') := by
  induction T using List.reverseRecOn with
  | nil => exact ⟨loc, [], by simp [triVals, pure, Except.pure], fun _ => ⟨h3, by simp, Frame.refl _ _⟩⟩
  | append_singleton r a ih =>
    obtain ⟨loc', d, e1, e2⟩ := ih (fun q hq => hF q (by simp [hq])) (fun p hp q hq => hid p (by simp [hp]) q (by simp [hq]))
    have hne : (sh || !(r ++ [a]).isEmpty) = true := by simp
    have hall : (r ++ [a]).all (fun p => p.2.2.bounded) = (r.all (fun p => p.2.2.bounded) && a.2.2.bounded) := by simp
    have hvis : ((r ++ [a]).map (fun p => p.1)).reverse ++ vis = a.1 :: ((r.map (fun p => p.1)).reverse ++ vis) := by simp
    rw [foldlM_triVals_snoc, e1, hall, hne, hvis]
    cases hr : r.all (fun p => p.2.2.bounded)
    · exact ⟨loc', d, rfl, fun h => by simp at h⟩
    · obtain ⟨e3, e4, e5⟩ := e2 hr
      rw [if_pos rfl, ok_bind, step2 cs _ (hF a (by simp)) (d := d) (getKey_setKey_same "spec" (.node (some a.1) a.2.1) loc')
        (by rw [getKey_setKey_ne _ _ _ _ (by decide), e5 "h" (by decide), h2]) (by rw [getKey_setKey_ne _ _ _ _ (by decide), e3])]
      cases hb : a.2.2.bounded
      · exact ⟨loc', d, rfl, fun h => by simp at h⟩
      · refine ⟨_, setIdx a.1 (hor a.2.2 : Nat) d, rfl, fun _ => ⟨getKey_setKey_same _ _ _, ?_,
          ((e5.set (x := "spec") (by decide) _).set (x := "horizon") (by decide) _).set (x := "horizons") (by decide) _⟩⟩
        -- the dictionary: the identity of `a` now holds the horizon of `a`, which is that of every assertion of this identity
        intro p hp
        by_cases e : p.1 = a.1
        · rw [e, setIdx_eq, Assoc.lookup_set, if_pos rfl, hid p hp a (by simp) e]
        · rw [setIdx_eq, Assoc.lookup_set, if_neg e]
          refine e4 p ((List.mem_append.1 hp).resolve_right ?_)
          rintro h
          exact e (by rw [List.mem_singleton.1 h])

theorem indexD_dict (d : List (Nat × Int)) (i : Nat) (t : NT α) (n : Int) (h : d.lookup i = some n) :
    indexD (.dict d) (.node (some i) t) = .ok (.int n) := by
  simp [indexD, h]; rfl

/-- What the third loop needs of an assertion: its tree as the visitors see it, bounded and plain; `h` has visited it; the dictionary
    holds its horizon under its identity. -/
def Ready (s : Nat → IvRaw) (vis : List Nat) (d : List (Nat × Int)) (p : Tri α) : Prop :=
  p.2.1.toF? s = some p.2.2 ∧ p.2.2.bounded = true ∧ plainP p.2.2 = true ∧ p.1 ∈ vis ∧ d.lookup p.1 = some ((hor p.2.2 : Nat) : Int)

/-- One round of the third loop. -/
theorem step3 (fuel : Nat) {loc : Locals α} {p : Tri α} {d : List (Nat × Int)} (hp : Ready s vis d p) {acc : List (DV α)}
    (h1 : getKey "spec" loc = .ok (.node (some p.1) p.2.1)) (h3 : getKey "horizons" loc = .ok (.dict d))
    (h4 : getKey "pastified_specs" loc = .ok (.list acc)) :
    execDS (callM Gen.PastDrv.methods (fuel + 1)) L3 (st2 s un sp nm vis true) loc =
      .ok (st2 s un sp (repoint nm p.1 (.fml (pastify p.2.2))) vis true,
        setKey "pastified_specs" (.list (acc ++ [.fml (pastify p.2.2)]))
          (setKey "pastified_spec" (.fml (pastify p.2.2)) (setKey "horizon" (.int (hor p.2.2 : Nat)) loc))) := by
  obtain ⟨hφ, hb, hpl, hi, hd⟩ := hp
  have hv := visit_call (un := un) (sp := sp) (nm := nm) fuel hφ hb hpl hi ((hor p.2.2 : Nat) : Int)
  rw [Int.toNat_natCast] at hv
  have e1 : evalArgs (st2 s un sp nm vis true) (setKey "horizon" (.int (hor p.2.2 : Nat)) loc) [.loc "spec", .loc "horizon"]
      = .ok [.node (some p.1) p.2.1, .int (hor p.2.2 : Nat)] := by
    simp [evalArgs, ev_loc, getKey_setKey_same, getKey_setKey_ne, h1, ok_bind, pure, Except.pure]
  have ha : ∀ v, getKey "pastified_specs" (setKey "pastified_spec" v (setKey "horizon" (.int (hor p.2.2 : Nat)) loc))
      = .ok (.list acc) := fun v => by
    simp [getKey_setKey_ne, h4]
  -- horizon = horizons[spec]
  rw [L3, exec_seq, exec_setLoc, ev_index, ev_loc, h3, ok_bind, ev_loc, h1, ok_bind, indexD_dict _ _ _ _ hd, ok_bind, ok_bind]
  -- pastified_spec = self.visit(spec, horizon); pastified_specs.append(pastified_spec)
  rw [exec_seq, exec_callSelf, e1, ok_bind, hv, ok_bind]
  simp only [pure, Except.pure, ok_bind]
  rw [exec_append, evalArgs_loc, getKey_setKey_same, ok_bind]
  simp only [pure, Except.pure, ok_bind]
  rw [ha, ok_bind]
  rfl

def namesAfter (T : List (Tri α)) (nm : List (String × DV α)) : List (String × DV α) :=
  T.foldl (fun nm p => repoint nm p.1 (.fml (pastify p.2.2))) nm

/-- The third loop, by induction on the part of the list that is done: every assertion is rebuilt with the horizon stored under
    ITS identity. -/
theorem loop3 (fuel : Nat) (d : List (Nat × Int)) (T : List (Tri α)) (hR : ∀ p ∈ T, Ready s vis d p) (acc : List (DV α)) (loc : Locals α)
    (h3 : getKey "horizons" loc = .ok (.dict d)) (h4 : getKey "pastified_specs" loc = .ok (.list acc)) :
    ∃ loc', (triVals T).foldlM (fun (p : DState α × Locals α) v => execDS (callM Gen.PastDrv.methods (fuel + 1)) L3 p.1 (setKey "spec" v p.2))
          (st2 s un sp nm vis true, loc)
        = .ok (st2 s un sp (namesAfter T nm) vis true, loc') ∧
      getKey "pastified_specs" loc' = .ok (.list (acc ++ T.map (fun p => .fml (pastify p.2.2)))) ∧
      Frame ["spec", "horizon", "pastified_spec", "pastified_specs"] loc loc' := by
  induction T using List.reverseRecOn with
  | nil => exact ⟨loc, rfl, by simpa using h4, Frame.refl _ _⟩
  | append_singleton r a ih =>
    obtain ⟨loc', e1, e2, e3⟩ := ih (fun q hq => hR q (by simp [hq]))
    have hnm : namesAfter (r ++ [a]) nm = repoint (namesAfter r nm) a.1 (.fml (pastify a.2.2)) := by simp [namesAfter]
    rw [foldlM_triVals_snoc, e1, ok_bind, step3 fuel (hR a (by simp)) (getKey_setKey_same "spec" (.node (some a.1) a.2.1) loc')
      (by rw [getKey_setKey_ne _ _ _ _ (by decide), e3 _ (by decide), h3]) (by rw [getKey_setKey_ne _ _ _ _ (by decide), e2]),
      hnm, List.map_append, ← List.append_assoc]
    exact ⟨_, rfl, getKey_setKey_same _ _ _, (((e3.set (x := "spec") (by decide) _).set (x := "horizon") (by decide) _).set
      (x := "pastified_spec") (by decide) _).set (x := "pastified_specs") (by decide) _⟩

end loops

theorem L2_def : (.seq (.call (some "horizon") (.loc "h") "visit" [(.loc "spec"), .none_]) (.seq (.setAttr .self_ "subformula_horizons" (.attr (.loc "h") "horizons")) (.setItem "horizons" (.loc "spec") (.loc "horizon")))) = L2 := rfl
theorem L3_def : (.seq (.setLoc "horizon" (.index (.loc "horizons") (.loc "spec"))) (.seq (.call (some "pastified_spec") .self_ "visit" [(.loc "spec"), (.loc "horizon")]) (.call none (.loc "pastified_specs") "append" [(.loc "pastified_spec")]))) = L3 := rfl

/-- The assertions of a specification whose trees (after the unit normalisation) are `φ`. -/
def asrts (T : List (Tri α)) : List (Asrt α) := T.map (fun p => (p.1, p.2.1))

def allLocs (T : List (Tri α)) : List Nat := T.flatMap (fun p => p.2.1.locs)

/-- The state `pastify()` leaves behind. -/
def finalState (σ : Nat → SIv) (u : TUnit) (T : List (Tri α)) (names : List (String × DV α)) : DState α :=
  st2 (fun l => rawOf (normLocs u (allLocs T) σ l)) (unitStr u) (T.map (fun p => .fml (pastify p.2.2))) (namesAfter T names)
    ((T.map (fun p => p.1)).reverse) (!T.isEmpty)

theorem pastify_call (f : Nat) (σ : Nat → SIv) (u : TUnit) (T : List (Tri α)) (names : List (String × DV α))
    (hf : ∀ p ∈ T, p.2.1.depth < f + 1)
    (hF : ∀ p ∈ T, p.2.1.toF? (fun l => rawOf (normLocs u (allLocs T) σ l)) = some p.2.2)
    (hid : ∀ p ∈ T, ∀ q ∈ T, p.1 = q.1 → p.2.2 = q.2.2)
    (hP : ∀ p ∈ T, plainP p.2.2 = true) :
    callM Gen.PastDrv.methods (f + 2) "pastify" [.astObj] (initState σ u (asrts T) names)
      = if T.all (fun p => p.2.2.bounded) then .ok (.astObj, finalState σ u T names) else .error .rtamt := by
  by_cases hT : T = []
  · subst hT; rfl
  have hemp : (!T.isEmpty) = true := by cases T with | nil => exact absurd rfl hT | cons _ _ => rfl
  rw [callM_succ (f + 1) _ _ lookup_pastify]
  have hb' : bindParams Gen.PastDrv.pastify [(DV.astObj : DV α)] = .ok [("ast", DV.astObj)] := rfl
  rw [hb', ok_bind]
  -- first loop
  have htri : specVals (asrts T) = triVals T := by simp [specVals, asrts, triVals, List.map_map, Function.comp_def]
  obtain ⟨loc1, e1, fr1⟩ := loop_norm (callM Gen.PastDrv.methods (f + 1)) u (triVals T) names false "spec" T (fun p => some p.1)
    (fun p => p.2.1) (fun q hq σ' => norm_call (f + 1) q.2.1 (hf q hq) _ σ' u _ names false) σ [("ast", DV.astObj)]
  rw [← triVals, ← allLocs] at e1
  have hast1 : getKey "ast" loc1 = .ok (DV.astObj : DV α) := by rw [fr1 "ast" (by decide)]; rfl
  have hinit : setAttrD (initState σ u (asrts T) names) DV.selfObj "ast" (DV.astObj : DV α)
      = .ok (mkSt σ u (triVals T) names false) := by rw [← htri]; rfl
  simp only [Gen.PastDrv.pastify, exec_seq, exec_setAttr, exec_forIn, exec_setLoc, exec_callGlob, ev_self, ev_loc, ev_attr, ev_emptyDict,
    ev_emptyList, getKey_cons_same, ok_bind, hinit, pure, Except.pure, L2_def, L3_def]
  have hsp1 : attrD (mkSt σ u (triVals T) names false) DV.astObj "specs" = .ok (.list (triVals T)) := rfl
  rw [hsp1]
  simp only [ok_bind, e1]
  -- h = StlHorizon(); horizons = dict()
  have hargs : ∀ (st : DState α) (loc : Locals α), evalArgs st loc [] = .ok [] := fun _ _ => rfl
  have hnew : callOther (mkSt (normLocs u (allLocs T) σ) u (triVals T) names false) Option.none "StlHorizon" "()" []
      = .ok (DV.hObj, st2 (fun l => rawOf (normLocs u (allLocs T) σ l)) (unitStr u) (triVals T) names [] false) := rfl
  simp only [hargs, hnew, ok_bind, getKey_setKey_ne _ _ _ _ (show "ast" ≠ "horizons" by decide),
    getKey_setKey_ne _ _ _ _ (show "ast" ≠ "h" by decide), hast1, s2_ast_specs]
  -- second loop
  obtain ⟨loc2, d, e2, h2⟩ := loop2 (un := unitStr u) (sp := triVals T) (nm := names) (vis := []) (callM Gen.PastDrv.methods (f + 1))
    T hF hid false (setKey "horizons" (DV.dict []) (setKey "h" DV.hObj loc1))
    (by simp [getKey_setKey_ne, getKey_setKey_same]) (getKey_setKey_same _ _ _)
  rw [e2]
  cases hall : T.all (fun p => p.2.2.bounded)
  · rfl
  · obtain ⟨hd2, hD, fr2⟩ := h2 hall
    have hast2 : getKey "ast" loc2 = .ok (DV.astObj : DV α) := by
      rw [fr2 "ast" (by decide), getKey_setKey_ne _ _ _ _ (by decide), getKey_setKey_ne _ _ _ _ (by decide), hast1]
    simp only [if_true, ok_bind, Bool.false_or, hemp, List.append_nil, getKey_setKey_ne _ _ _ _ (show "ast" ≠ "pastified_specs" by decide), hast2,
      s2_ast_specs]
    -- third loop
    obtain ⟨loc3, e3, hp3, fr3⟩ := loop3 (un := unitStr u) (sp := triVals T) (vis := (T.map (fun p => p.1)).reverse) (nm := names) f
      d T (fun p hp => ⟨hF p hp, List.all_eq_true.1 hall p hp, hP p hp, List.mem_reverse.2 (List.mem_map.2 ⟨p, hp, rfl⟩), hD p hp⟩)
      [] (setKey "pastified_specs" (DV.list []) loc2) (by simp [getKey_setKey_ne, hd2]) (getKey_setKey_same _ _ _)
    have hast3 : getKey "ast" loc3 = .ok (DV.astObj : DV α) := by
      rw [fr3 "ast" (by decide), getKey_setKey_ne _ _ _ _ (by decide), hast2]
    rw [e3]
    -- ast.specs = pastified_specs; ast.phi_name_to_node_dict = self.ast.phi_name_to_node_dict; return ast
    have hset : ∀ (s : Nat → IvRaw) (un : String) (sp l : List (DV α)) nm vis sh,
        setAttrD (st2 s un sp nm vis sh) DV.astObj "specs" (DV.list l) = .ok (st2 s un l nm vis sh) := fun _ _ _ _ _ _ _ => rfl
    have hset2 : ∀ st : DState α, setAttrD st DV.astObj "phi_name_to_node_dict" DV.namesObj = .ok st := fun _ => rfl
    simp only [ok_bind, hast3, hp3, List.nil_append, s2_self_ast, attr_ast_names, hset, hset2, finalState, hemp]

theorem mapM_tri (u : TUnit) (σ : Nat → SIv) (T : List (Tri α))
    (hN : ∀ p ∈ T, ((p.2.1.toSF σ).normalise u).toF? = some p.2.2) :
    (T.map (fun p => p.2.1.toSF σ)).mapM (fun φ => (φ.normalise u).toF?) = some (T.map (fun p => p.2.2)) := by
  induction T with
  | nil => rfl
  | cons a r ih =>
    rw [List.map_cons, List.mapM_cons, hN a (by simp), ih (fun p hp => hN p (by simp [hp]))]
    rfl

theorem pastifySpecs_tri (u : TUnit) (σ : Nat → SIv) (T : List (Tri α))
    (hN : ∀ p ∈ T, ((p.2.1.toSF σ).normalise u).toF? = some p.2.2) :
    pastifySpecs u (T.map (fun p => p.2.1.toSF σ)) =
      if T.all (fun p => p.2.2.bounded) then .ok (T.map (fun p => pastify p.2.2)) else .error .rtamt := by
  simp only [pastifySpecs, mapM_tri u σ T hN, pastifyAll, List.all_map, List.map_map, Function.comp_def]
  rfl

/-- **`pastify()`.**  The translated driver, run on a freshly parsed specification: assertions `T` (identity, node, and the
    tree `φ` that the unit normalisation makes of the node — `hN`: its bounds are natural numbers of default units), `Interval`
    attributes `σ` (shared nodes = equal locations), default unit `u`, any name dictionary, any recursion budget beyond the
    depth of the trees.  Equal identities mean the same object (`hid`).

    * The call equals the mirror `pastifySpecs` on the surface trees: `RTAMTException` exactly when the mirror raises, otherwise the
      state `finalState`, whose `ast.specs` are the mirror's formulas: every assertion pastified with ITS OWN horizon
      (`past (hor φ) φ` of ITS normalised tree);
    * the exception is raised iff some assertion has an unbounded future operator;
    * the `Interval` attributes afterwards: every node reached from some assertion normalised exactly once. -/
theorem genPastDrv_pastify (f : Nat) (σ : Nat → SIv) (u : TUnit) (T : List (Tri α)) (names : List (String × DV α))
    (hf : ∀ p ∈ T, p.2.1.depth < f + 1)
    (hN : ∀ p ∈ T, ((p.2.1.toSF σ).normalise u).toF? = some p.2.2)
    (hid : ∀ p ∈ T, ∀ q ∈ T, p.1 = q.1 → p.2.2 = q.2.2)
    (hP : ∀ p ∈ T, plainP p.2.2 = true) :
    callDrv (f + 2) "pastify" [.astObj] (initState σ u (asrts T) names)
        = (match pastifySpecs u (T.map (fun p => p.2.1.toSF σ)) with
           | .ok _ => .ok (.astObj, finalState σ u T names)
           | .error e => .error e) ∧
    (∀ l, pastifySpecs u (T.map (fun p => p.2.1.toSF σ)) = .ok l → (finalState σ u T names).specs = l.map DV.fml) ∧
    (pastifySpecs u (T.map (fun p => p.2.1.toSF σ)) = .error .rtamt ↔ ∃ p ∈ T, p.2.2.bounded = false) ∧
    (finalState σ u T names).store = fun l => rawOf (if l ∈ allLocs T then (σ l).norm u else σ l) := by
  have hF : ∀ p ∈ T, p.2.1.toF? (fun l => rawOf (normLocs u (allLocs T) σ l)) = some p.2.2 := by
    intro p hp
    rw [toF_raw, toSF_normLocs u (allLocs T) σ p.2.1 (fun l hl => List.mem_flatMap.2 ⟨p, hp, hl⟩), hN p hp]
  have hmain := pastify_call f σ u T names hf hF hid hP
  rw [pastifySpecs_tri u σ T hN]
  refine ⟨?_, ?_, ?_, ?_⟩
  · rw [callDrv, hmain]
    cases T.all (fun p => p.2.2.bounded) <;> rfl
  · intro l hl
    split at hl
    · obtain rfl := Except.ok.inj hl
      simp [finalState, st2, List.map_map, Function.comp_def]
    · cases hl
  · have : (∃ p ∈ T, p.2.2.bounded = false) ↔ ¬ T.all (fun p => p.2.2.bounded) = true := by simp
    rw [this]
    split <;> simp [*]
  · simp only [finalState, st2, normLocs_eq]

theorem depth_le_maxDepth (l : List (Asrt α)) : ∀ p ∈ l, p.2.depth ≤ maxDepth l := by
  induction l with
  | nil => simp
  | cons a r ih =>
    intro p hp
    rcases List.mem_cons.1 hp with rfl | h
    · exact le_max_left _ _
    · exact (ih p h).trans (le_max_right _ _)

/-- The runner `pastifyG` (budget: the depth of the deepest assertion + 2). -/
theorem genPastDrv_pastifyG (σ : Nat → SIv) (u : TUnit) (T : List (Tri α)) (names : List (String × DV α))
    (hN : ∀ p ∈ T, ((p.2.1.toSF σ).normalise u).toF? = some p.2.2)
    (hid : ∀ p ∈ T, ∀ q ∈ T, p.1 = q.1 → p.2.2 = q.2.2)
    (hP : ∀ p ∈ T, plainP p.2.2 = true) :
    pastifyG σ u (asrts T) names = (pastifySpecs u (T.map (fun p => p.2.1.toSF σ))).map (fun _ => finalState σ u T names) := by
  have hd : ∀ p ∈ T, p.2.1.depth < maxDepth (asrts T) + 1 := fun p hp =>
    Nat.lt_succ_of_le (depth_le_maxDepth _ (p.1, p.2.1) (List.mem_map.2 ⟨p, hp, rfl⟩))
  rw [pastifyG, (genPastDrv_pastify (maxDepth (asrts T)) σ u T names hd hN hid hP).1]
  cases pastifySpecs u (T.map (fun p => p.2.1.toSF σ)) <;> rfl

theorem lookup_foldl_setKey {β : Type} (v : β) (n : String) (ks : List String) (nm : List (String × β)) :
    (ks.foldl (fun d k => setKey k v d) nm).lookup n = if n ∈ ks then some v else nm.lookup n := by
  induction ks generalizing nm with
  | nil => simp
  | cons k r ih =>
    rw [List.foldl_cons, ih]
    by_cases h1 : n ∈ r
    · simp [h1]
    · by_cases h2 : n = k
      · subst h2; simp [h1, lookup_setKey_same]
      · simp [h1, h2, lookup_setKey_ne _ _ _ _ h2]

theorem nodup_setKey {β : Type} (k : String) (v : β) (nm : List (String × β)) (h : (nm.map (fun p => p.1)).Nodup) :
    ((setKey k v nm).map (fun p => p.1)).Nodup := by
  rw [setKey_eq, Assoc.keys_set]
  split
  · exact h
  · rename_i hk
    exact List.nodup_append.2 ⟨h, by simp, by intro a ha b hb; simp at hb; subst hb; exact fun e => hk (e ▸ ha)⟩

theorem nodup_repoint (nm : List (String × DV α)) (i : Nat) (v : DV α) (h : (nm.map (fun p => p.1)).Nodup) :
    ((repoint nm i v).map (fun p => p.1)).Nodup := by
  unfold repoint
  generalize (nm.filter (fun p => isNode i p.2)).map (fun p => p.1) = ks
  induction ks generalizing nm with
  | nil => exact h
  | cons k r ih => exact ih _ (nodup_setKey k v nm h)

theorem mem_filter_keys (P : DV α → Bool) (n : String) (nm : List (String × DV α)) (h : (nm.map (fun p => p.1)).Nodup) :
    n ∈ (nm.filter (fun p => P p.2)).map (fun p => p.1) ↔ ∃ w, nm.lookup n = some w ∧ P w = true := by
  induction nm with
  | nil => simp
  | cons a r ih =>
    obtain ⟨k, w⟩ := a
    simp only [List.map_cons, List.nodup_cons] at h
    have ih := ih h.2
    by_cases hn : n = k
    · subst hn
      have hnot : n ∉ (r.filter (fun p => P p.2)).map (fun p => p.1) := by
        intro hm
        obtain ⟨q, hq, rfl⟩ := List.mem_map.1 hm
        exact h.1 (List.mem_map.2 ⟨q, (List.mem_filter.1 hq).1, rfl⟩)
      cases hP : P w <;> simp [List.filter, hP, List.lookup, hnot]
    · have hb : (n == k) = false := by simpa using hn
      cases hP : P w <;> simp [List.filter, hP, List.lookup, hb, hn, ih]

theorem lookup_repoint (nm : List (String × DV α)) (i : Nat) (v : DV α) (n : String) (h : (nm.map (fun p => p.1)).Nodup) :
    (repoint nm i v).lookup n = match nm.lookup n with
      | some w => if isNode i w then some v else some w
      | Option.none => Option.none := by
  rw [repoint, lookup_foldl_setKey]
  have hm := mem_filter_keys (isNode i) n nm h
  cases hl : nm.lookup n with
  | none => simp [hm, hl]
  | some w => cases hw : isNode i w <;> simp [hm, hl, hw]

theorem namesAfter_fml (T : List (Tri α)) (nm : List (String × DV α)) (h : (nm.map (fun p => p.1)).Nodup) (n : String) (ψ : F α)
    (hl : nm.lookup n = some (.fml ψ)) : (namesAfter T nm).lookup n = some (.fml ψ) := by
  induction T generalizing nm with
  | nil => exact hl
  | cons a r ih =>
    exact ih _ (nodup_repoint nm a.1 _ h) (by rw [lookup_repoint _ _ _ _ h, hl]; rfl)

/-- After `pastify()` the name of every assertion points at its pastified formula (names are the keys of a dictionary: no
    duplicates; equal identities = the same object).  Not covered by the model: a name that pointed at an assertion which is also
    a proper sub-node of an EARLIER assertion in the list is re-pointed by the recursive `self.visit` inside the visitors to the
    translation made there (the parser never produces that order: a sub-specification is declared before it is used). -/
theorem genPastDrv_names (T : List (Tri α)) (hid : ∀ p ∈ T, ∀ q ∈ T, p.1 = q.1 → p.2.2 = q.2.2)
    (nm : List (String × DV α)) (h : (nm.map (fun p => p.1)).Nodup) (n : String) (p : Tri α) (hp : p ∈ T) (t0 : NT α)
    (hl : nm.lookup n = some (.node (some p.1) t0)) :
    (namesAfter T nm).lookup n = some (.fml (pastify p.2.2)) := by
  induction T generalizing nm with
  | nil => simp at hp
  | cons a r ih =>
    have hid' : ∀ p ∈ r, ∀ q ∈ r, p.1 = q.1 → p.2.2 = q.2.2 := fun p hp q hq => hid p (by simp [hp]) q (by simp [hq])
    have hnd := nodup_repoint nm a.1 (.fml (pastify a.2.2)) h
    have hlk := lookup_repoint nm a.1 (.fml (pastify a.2.2)) n h
    rw [hl] at hlk
    by_cases e : p.1 = a.1
    · have hφ : p.2.2 = a.2.2 := hid p hp a (by simp) e
      have : isNode a.1 (DV.node (some p.1) t0 : DV α) = true := by simp [isNode, e]
      simp only [this, if_true] at hlk
      rw [hφ]
      exact namesAfter_fml r _ hnd n _ hlk
    · have : isNode a.1 (DV.node (some p.1) t0 : DV α) = false := by simp [isNode, e]
      simp only [this] at hlk
      rcases List.mem_cons.1 hp with rfl | hp'
      · exact absurd rfl e
      · exact ih hid' _ hnd hp' hlk

/-! ### what the explicit sharing is good for -/

/-- `normalize_units` with the seeded bug "unit strings not cleared" (the last two assignments of the `Interval` branch removed). -/
def normalizeNotCleared : DMethod :=
  { params := ["node"], vararg := none, kwarg := none, body := (.seq (.ite (.isInst (.loc "node") "Interval") (.seq (.setLoc "b_unit" (.attr (.loc "node") "begin_unit")) (.seq (.setLoc "e_unit" (.attr (.loc "node") "end_unit")) (.seq (.ite (.eq (.len (.loc "b_unit")) (.int 0)) (.ite (.gt (.len (.loc "e_unit")) (.int 0)) (.setLoc "b_unit" (.loc "e_unit")) (.seq (.setLoc "b_unit" (.attr (.attr .self_ "ast") "unit")) (.setLoc "e_unit" (.attr (.attr .self_ "ast") "unit")))) (.ite (.eq (.len (.loc "e_unit")) (.int 0)) (.setLoc "e_unit" (.loc "b_unit")) .skip)) (.seq (.setAttr (.loc "node") "begin" (.div (.mul (.frac (.attr (.loc "node") "begin")) (.index (.attr (.attr .self_ "ast") "U") (.loc "b_unit"))) (.index (.attr (.attr .self_ "ast") "U") (.attr (.attr .self_ "ast") "unit")))) (.setAttr (.loc "node") "end" (.div (.mul (.frac (.attr (.loc "node") "end")) (.index (.attr (.attr .self_ "ast") "U") (.loc "e_unit"))) (.index (.attr (.attr .self_ "ast") "U") (.attr (.attr .self_ "ast") "unit")))))))) .skip) (.forIn "child" (.attr (.loc "node") "children") (.call none .self_ "normalize_units" [(.loc "child")]))), ret := none }

/-- `always[0,2000ms] x` with default unit `s`, reached along two paths (e.g. `a = always[0:2000ms](x)`, `b = a and a`). -/
def sharedTwice : NT Float := .bin .and (.tb1 .alw 0 (.var "x")) (.tb1 .alw 0 (.var "x"))

def endAfter (ms : List (String × DMethod)) : Option Rat :=
  match callM ms 3 "normalize_units" [.node none sharedTwice]
      (mkSt (α := Float) (fun _ => ⟨0, 2000, none, some .ms⟩) .s [] [] false) with
  | .ok (_, st) => some (st.store 0).e
  | .error _ => none

/-- The model exhibits the seeded bug: without the clearing of the unit strings the shared node is rescaled twice
    (`2000ms` -> `2` -> `1/500`); the translated method leaves `2`. -/
theorem drv_not_cleared_twice : endAfter [("normalize_units", normalizeNotCleared)] = some (1 / 500) ∧ endAfter Gen.PastDrv.methods = some 2 := by
  constructor <;> decide +kernel

end Rtamt.Py.PDrv
