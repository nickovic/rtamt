/-
  The translated operation classes denote the hand-written mirrors.

  `Rtamt/Py/GeneratedOps.lean` is produced on every run by `harness/py2lean.py` from the Python source of
  `rtamt/semantics/{stl,arithmetic}/discrete_time/online/*_operation.py`; `Rtamt/Py/Sem.lean` gives the
  Python subset its meaning.  The theorems below state, for every class, that `__init__`, `update` and
  `reset` of the translated class act on the attribute store exactly as `initT* / stepT* / resetT*`
  (`Rtamt/Discrete/Online.lean`) act on the mirror state — the functions all theorems about the online
  monitor (C02, C03, C09, C10, C12, C17) are stated on — and that the point-wise classes compute
  `Un.app` / `Bin.app` / `Cmp.app` / `Cmp.holds` (`Rtamt/Syntax.lean`).

  For a class with state the three statements have one form each (`Constructs`, `Updates`, `Resets`): the class stands at
  an operator node `χ`, whose operation object in the mirror is `initNode χ`, `stepNode χ`, `resetNode χ`, and a relation
  `rel` says which attribute store stands for which mirror state (`valRel`: one float; `bufRel`, `buf2Rel`: full deques).
  `Updates` is an agreement of outcomes (`simE`): the same value and related states, or the same exception.
  Together they are `Implements cls args rel χ`, which is all `GenOn.lean` uses; a class without state enters by
  `implements_stateless`.

  Side conditions, all discharged by the callers' hypotheses elsewhere: bounded operators are used with
  `a ≤ b` (`F.wf`, enforced by the parser) and their deques are full (`l.length = b + 1`, part of `bufRel` / `buf2Rel`:
  established by `__init__`, preserved by `update` and `reset`).  `SqrtOperation` raises on negative
  input, which the mirror does not model (DESIGN §2.1: domain errors).

  Ways of running a body.  For the classes with one float both sides are closed terms up to the floats, and `rfl` runs
  them; the `update` of a point-wise class is one assignment (`call_setLoc`) and `rfl` evaluates its expression.
  `py_simp` unfolds the interpreter itself: enough for a body of a statement or two where everything evaluates away.
  `py_step` rewrites with the step equations of `SemSteps.lean` and the store lemmas of `SemBase.lean` (the set
  `sem_step`) and leaves `evalBin`, `evalIdx`, `appendV` folded: for the bodies with deques and loops, whose stores hold
  variables.  A loop of `update` runs in lock-step with
  the fold of the mirror (`sim_for`, `GenOffLemmas.lean`), exceptions included, so that nothing has to be known about
  whether the mirror succeeds; the loops of `__init__` and `reset` only fill the deques, and their statements are phrased
  with `okAnd`.
-/
import RtamtProofs.GenOffLemmas
import RtamtProofs.Lemmas.NodeOnline

namespace Rtamt.Py
open Rtamt Val

variable {α : Type} [Val α]

def encBuf (a b : Nat) (l : List α) : Store α :=
  [("begin", .int a), ("end", .int b), ("buffer", .deque (b + 1) l)]

def encBuf2 (a b : Nat) (l r : List α) : Store α :=
  [("begin", .int a), ("end", .int b),
   ("buffer_sample_left", .deque (b + 1) l), ("buffer_sample_right", .deque (b + 1) r)]

def encPrec (a b : Nat) (l r : List α) : Store α :=
  [("begin", .int a), ("end", .int b), ("buffer", .dlist [(b + 1, l), (b + 1, r)])]

def _root_.Rtamt.F.arity : F α → Nat
  | .bin .. | .tmp2 .. | .tb2 .. => 2
  | _ => 1

def unitRel (σ0 : Store α) (s : St α) (σ : Store α) : Prop := s = .unit ∧ σ = σ0

def valRel (k : String) (s : St α) (σ : Store α) : Prop := ∃ p, s = .val p ∧ σ = encVal k p

def bufRel (a b : Nat) (s : St α) (σ : Store α) : Prop := ∃ l, l.length = b + 1 ∧ s = .buf l ∧ σ = encBuf a b l

def buf2Rel (b : Nat) (enc : List α → List α → Store α) (s : St α) (σ : Store α) : Prop :=
  ∃ l r, l.length = b + 1 ∧ r.length = b + 1 ∧ s = .buf2 l r ∧ σ = enc l r

def Constructs (cls : Class) (args : List (V α)) (rel : St α → Store α → Prop) (χ : F α) : Prop :=
  ∃ σ, construct cls args = .ok σ ∧ rel (initNode χ) σ

def Updates (cls : Class) (rel : St α → Store α → Prop) (χ : F α) : Prop :=
  ∀ {s σ} (vs : List α), rel s σ → vs.length = χ.arity →
    simE (fun q p => q.2 = .num p.2 ∧ rel p.1 q.1) (update cls σ (vs.map .num)) (stepNode χ s vs)

def Resets (cls : Class) (rel : St α → Store α → Prop) (χ : F α) : Prop :=
  ∀ {s σ}, rel s σ → ∃ σ', reset cls σ = .ok σ' ∧ rel (resetNode χ s) σ'

structure Implements (cls : Class) (args : List (V α)) (rel : St α → Store α → Prop) (χ : F α) : Prop where
  init : Constructs cls args rel χ
  update : Updates cls rel χ
  reset : Resets cls rel χ

theorem implements_stateless {cls : Class} {args : List (V α)} {σ0 : Store α} {χ : F α}
    (h0 : initNode χ = .unit) (hrst : ∀ s, resetNode χ s = s)
    (hc : construct cls args = .ok σ0) (hr : reset cls σ0 = .ok σ0)
    (hu : ∀ vs : List α, vs.length = χ.arity →
      ∃ o, stepNode χ .unit vs = .ok (.unit, o) ∧ update cls σ0 (vs.map .num) = .ok (σ0, .num o)) :
    Implements cls args (unitRel σ0) χ where
  init := ⟨_, hc, h0, rfl⟩
  update := by
    rintro _ _ vs ⟨rfl, rfl⟩ hvs
    obtain ⟨o, h1, h2⟩ := hu vs hvs
    rw [h1, h2]
    exact ⟨rfl, rfl, rfl⟩
  reset := by
    rintro _ _ ⟨rfl, rfl⟩
    exact ⟨_, hr, hrst _, rfl⟩

/-- A method `r = e; return r`. -/
theorem call_setLoc (ps : List String) (r : String) (e : E) (σ : Store α) (args : List (V α))
    (hlen : args.length = ps.length) :
    call ⟨ps, .setLoc r e, some (.loc r)⟩ σ args = evalE ⟨σ, ps.zip args⟩ e >>= fun v => pure (σ, v) := by
  rw [call_some _ _ _ _ hlen rfl]
  simp only [exec_setLoc, bind_assoc, ok_bind, evalE_loc, getKey_setKey_same]

/-- The class and the attribute name of the untimed past / event operators. -/
def classT1 : T1 → Option (Class × String)
  | .rise => some (Gen.RiseOperation, "prev")
  | .fall => some (Gen.FallOperation, "prev")
  | .prev => some (Gen.PreviousOperation, "prev")
  | .sprev => some (Gen.StrongPreviousOperation, "prev")
  | .once => some (Gen.OnceOperation, "prev_out")
  | .hist => some (Gen.HistoricallyOperation, "prev_out")
  | _ => none

def stVal : St α → Option α
  | .val p => some p
  | _ => none

theorem gen_T1_construct (op : T1) (c : Class) (k : String) (h : classT1 op = some (c, k)) (φ : F α) :
    Constructs c [] (valRel k) (.tmp1 op φ) := by
  -- up to the float the two sides are closed terms: the translated body and the mirror are run by `rfl`
  cases op <;> cases h <;> exact ⟨_, rfl, _, rfl, rfl⟩

theorem gen_T1_update (op : T1) (c : Class) (k : String) (h : classT1 op = some (c, k)) (φ : F α) :
    Updates c (valRel k) (.tmp1 op φ) := by
  rintro _ _ vs ⟨p, rfl, rfl⟩ hvs
  match vs, hvs with
  | [x], _ =>
  cases op <;> cases h <;> exact ⟨rfl, _, rfl, rfl⟩

theorem gen_T1_reset (op : T1) (c : Class) (k : String) (h : classT1 op = some (c, k)) (φ : F α) :
    Resets c (valRel k) (.tmp1 op φ) := by
  rintro _ _ ⟨p, rfl, rfl⟩
  cases op <;> cases h <;> exact ⟨_, rfl, _, rfl, rfl⟩

/-- The unbounded future classes exist in the package (the online interpreter never constructs them). -/
theorem gen_Always_update (p x : α) :
    update Gen.AlwaysOperation (encVal "prev_out" p) [.num x]
      = .ok (encVal "prev_out" (pmin x p), .num (pmin x p)) := by
  rfl

theorem gen_Eventually_update (p x : α) :
    update Gen.EventuallyOperation (encVal "prev_out" p) [.num x]
      = .ok (encVal "prev_out" (pmax x p), .num (pmax x p)) := by
  rfl

theorem gen_Since_construct (φ ψ : F α) :
    Constructs Gen.SinceOperation [] (valRel "prev_out") (.tmp2 .since φ ψ) := by
  exact ⟨_, rfl, _, rfl, rfl⟩

theorem gen_Since_update (φ ψ : F α) : Updates Gen.SinceOperation (valRel "prev_out") (.tmp2 .since φ ψ) := by
  rintro _ _ vs ⟨p, rfl, rfl⟩ hvs
  match vs, hvs with
  | [l, r], _ => py_simp [stepNode, stepT2, valRel, Gen.SinceOperation, sinceStep]

theorem gen_Since_reset (φ ψ : F α) : Resets Gen.SinceOperation (valRel "prev_out") (.tmp2 .since φ ψ) := by
  rintro _ _ ⟨p, rfl, rfl⟩
  exact ⟨_, rfl, _, rfl, rfl⟩

/-- `k` appends of `x` to a deque of capacity `c`: the loop of `__init__`, which is the whole of `reset`. -/
def fill (c : Nat) (x : α) (l : List α) : Nat → List α
  | 0 => l
  | k + 1 => dqAppend c (fill c x l k) x

omit [Val α] in
theorem fill_nil (c : Nat) (x : α) (k : Nat) (h : k ≤ c) : fill c x [] k = List.replicate k x := by
  induction k with
  | zero => rfl
  | succ k ih => rw [fill, ih (by omega), dqAppend_replicate _ _ _ (by omega)]

omit [Val α] in
theorem fill_full (c : Nat) (x : α) (l : List α) (k : Nat) (h : l.length = c) : fill c x l k = pushN l x k := by
  induction k with
  | zero => rfl
  | succ k ih => rw [fill, ih, dqAppend_full _ _ _ (by rw [pushN_length, h]), pushN_succ]

theorem okAnd_fillLoop (enc : Nat → Store α) (n : Nat) {i : String} {hi : E} {body : S} {env : Env α}
    (hhi : evalE env hi = .ok (.int n)) (h0 : env.self = enc 0)
    (hstep : ∀ k (s : Env α), s.self = enc k →
      okAnd (exec body { s with loc := setKey i (.int (k : Nat)) s.loc }) (fun s' => s'.self = enc (k + 1))) :
    okAnd (exec (.for_ i (.int 0) hi body) env) (fun s => s.self = enc n) := by
  have h := sim_for (fun k s (_ : Unit) => s.self = enc k) (fun _ _ => pure ()) () 0 n n (evalE_int env 0) hhi (by omega) h0
    fun k _ _ s _ hs => by
      obtain ⟨s', e, h'⟩ := hstep k s hs
      rw [e]
      exact h'
  rw [List.foldlM_pure, Nat.zero_add] at h
  cases hx : exec (.for_ i (.int 0) hi body) env with
  | error e => rw [hx] at h; exact h.elim
  | ok s => rw [hx] at h; exact ⟨s, rfl, h⟩

theorem toNat_win {a b : Nat} (hab : a ≤ b) : ((b : Int) - a + 1 - (0 : Nat)).toNat = b - a + 1 := by
  omega

def classTB1 : TB1 → Option Class
  | .once => some Gen.OnceTimedOperation
  | .hist => some Gen.HistoricallyTimedOperation
  | _ => none

/-- `for i in range(end + 1): val = e0; self.buffer.append(val)`: the end of `__init__`, and all of `reset`. -/
theorem buf_fill (e0 : E) (x : α) (he : ∀ env : Env α, evalE env e0 = .ok (.num x)) (a b : Nat) (l : List α)
    (loc : Store α) :
    okAnd (exec (.for_ "i" (.int 0) (.bin .add (.attr "end") (.int 1))
        (.seq (.setLoc "val" e0) (.append "buffer" none (.loc "val")))) ⟨encBuf a b l, loc⟩)
      (fun env => env.self = encBuf a b (fill (b + 1) x l (b + 1))) :=
  okAnd_fillLoop (fun k => encBuf a b (fill (b + 1) x l k)) (b + 1)
    (by py_step [encBuf]) rfl (fun k s hs => by py_step [he, hs, encBuf, fill])

theorem gen_TB1_construct (op : TB1) (c : Class) (h : classTB1 op = some c) (a b : Nat) (φ : F α) :
    Constructs c [.int a, .int b] (bufRel a b) (.tb1 op a b φ) := by
  cases op <;> cases h
  all_goals
    refine ⟨_, construct_ok _ _ _ rfl rfl ?_, _, by simp, rfl, rfl⟩
    py_step [Gen.OnceTimedOperation, Gen.HistoricallyTimedOperation]
    rw [← fill_nil (b + 1) _ (b + 1) (Nat.le_refl _)]
    exact buf_fill _ _ (fun _ => rfl) a b [] _

theorem gen_TB1_update (op : TB1) (c : Class) (h : classTB1 op = some c) (a b : Nat) (hab : a ≤ b) (φ : F α) :
    Updates c (bufRel a b) (.tb1 op a b φ) := by
  rintro _ _ vs ⟨l, hl, rfl, rfl⟩ hvs
  match vs, hvs with
  | [x], _ =>
  -- the two classes differ in `max` / `-inf` against `min` / `inf` only
  cases op <;> cases h
  all_goals
    show simE _ (update _ _ [.num x]) (winFold _ _ a b (dqPush l x) >>= fun o => pure (St.buf (dqPush l x), o))
    unfold update
    rw [call_some _ _ _ _ rfl rfl, winFold, List.range_eq_range']
    simp only [Gen.OnceTimedOperation, Gen.HistoricallyTimedOperation, encBuf]
    py_step [exec_append_none, dqAppend_full _ _ _ hl]
    refine simE_bind
      (R := fun s acc => s.self = encBuf a b (dqPush l x) ∧ getKey "sample_return" s.loc = .ok (.num acc))
      (sim_for (fun _ => _) _ _ 0 (b - a + 1) ((b : Int) - a + 1) ?_ ?_ ?_ ?_ ?_) ?_
    · py_step []
    · py_step [evalE, encBuf]
    · exact toNat_win hab
    · py_step [encBuf, setKey]
    · intro k _ _ s t ⟨hs, hr⟩
      cases hv : idx (dqPush l x) k <;> py_step [evalE, hs, hr, hv, encBuf]
    · intro s t ⟨hs, hr⟩
      py_step [hr, hs]
      exact ⟨_, by simp [dqPush_length, hl], rfl, rfl⟩

theorem gen_TB1_reset (op : TB1) (c : Class) (h : classTB1 op = some c) (a b : Nat) (φ : F α) :
    Resets c (bufRel a b) (.tb1 op a b φ) := by
  rintro _ _ ⟨l, hl, rfl, rfl⟩
  cases op <;> cases h
  all_goals
    refine ⟨_, reset_ok _ _ _ rfl rfl ?_, _, by simp [pushN_length, hl], rfl, rfl⟩
    rw [← fill_full _ _ _ _ hl]
    exact buf_fill _ _ (fun _ => rfl) a b l _

theorem SinceTimed_fill (a b : Nat) (l r : List α) (loc : Store α) :
    okAnd (exec Gen.SinceTimedOperation.reset.body ⟨encBuf2 a b l r, loc⟩) (fun env =>
      env.self = encBuf2 a b (fill (b + 1) pinf l (b + 1)) (fill (b + 1) ninf r (b + 1))) :=
  okAnd_fillLoop (fun k => encBuf2 a b (fill (b + 1) pinf l k) (fill (b + 1) ninf r k)) (b + 1)
    (by py_step [encBuf2]) rfl (fun k s hs => by py_step [hs, encBuf2, fill])

theorem gen_SinceTimed_construct (a b : Nat) (φ ψ : F α) :
    Constructs Gen.SinceTimedOperation [.int a, .int b] (buf2Rel b (encBuf2 a b)) (.tb2 .since a b φ ψ) := by
  refine ⟨_, construct_ok _ _ _ rfl rfl ?_, _, _, by simp, by simp, rfl, rfl⟩
  py_step [Gen.SinceTimedOperation]
  rw [← fill_nil (b + 1) pinf (b + 1) (Nat.le_refl _), ← fill_nil (b + 1) ninf (b + 1) (Nat.le_refl _)]
  exact SinceTimed_fill a b [] [] _

theorem gen_SinceTimed_update (a b : Nat) (hab : a ≤ b) (φ ψ : F α) :
    Updates Gen.SinceTimedOperation (buf2Rel b (encBuf2 a b)) (.tb2 .since a b φ ψ) := by
  rintro _ _ vs ⟨l, r, hl, hr, rfl, rfl⟩ hvs
  match vs, hvs with
  | [x, y], _ =>
  show simE _ (update _ _ [.num x, .num y])
    (sinceWin a b (dqPush l x) (dqPush r y) >>= fun o => pure (St.buf2 (dqPush l x) (dqPush r y), o))
  unfold update
  rw [call_some _ _ _ _ rfl rfl, sinceWin, List.range_eq_range']
  simp only [Gen.SinceTimedOperation, encBuf2]
  py_step [exec_append_none, dqAppend_full _ _ _ hl, dqAppend_full _ _ _ hr]
  refine simE_bind
    (R := fun s out => s.self = encBuf2 a b (dqPush l x) (dqPush r y) ∧
      getKey "sample_return" s.loc = .ok (.num out))
    (sim_for (fun _ => _) _ ninf 0 (b - a + 1) ((b : Int) - a + 1) ?_ ?_ ?_ ?_ ?_) ?_
  · py_step [evalE, encBuf2]
  · py_step [evalE, encBuf2]
  · exact toNat_win hab
  · py_step [encBuf2, setKey]
  · intro k _ _ s out ⟨hs, hout⟩
    cases hcr : idx (dqPush r y) k with
    | error e => py_step [evalE, hs, hout, hcr, encBuf2]
    | ok cr =>
    py_step [evalE, hs, hout, hcr, encBuf2]
    refine simE_bind
      (R := fun s c => s.self = encBuf2 a b (dqPush l x) (dqPush r y) ∧
        getKey "sample_return" s.loc = .ok (.num out) ∧
        getKey "sample_right" s.loc = .ok (.num cr) ∧ getKey "sample_left" s.loc = .ok (.num c))
      (sim_for (fun _ => _) _ pinf (k + 1) (b - k) ((b : Int) + 1) ?_ ?_ ?_ ?_ ?_) ?_
    · py_step [evalE]
    · py_step [evalE, hs, encBuf2]
    · exact (Int.toNat_sub (b + 1) (k + 1)).trans (Nat.add_sub_add_right ..)
    · py_step [hs, hout, encBuf2, setKey]
    · intro j _ _ s1 c ⟨hs1, hout1, hcr1, hc1⟩
      cases hv : idx (dqPush l x) j <;> py_step [evalE, hs1, hout1, hcr1, hc1, hv, encBuf2]
    · intro s1 c ⟨hs1, hout1, hcr1, hc1⟩
      py_step [evalE, hs1, hout1, hcr1, hc1, encBuf2]
  · intro s t ⟨hs, hr'⟩
    py_step [hr', hs]
    exact ⟨_, _, by simp [dqPush_length, hl], by simp [dqPush_length, hr], rfl, rfl⟩

theorem gen_SinceTimed_reset (a b : Nat) (φ ψ : F α) :
    Resets Gen.SinceTimedOperation (buf2Rel b (encBuf2 a b)) (.tb2 .since a b φ ψ) := by
  rintro _ _ ⟨l, r, hl, hr, rfl, rfl⟩
  refine ⟨_, reset_ok _ _ _ rfl rfl ?_, _, _, by simp [pushN_length, hl], by simp [pushN_length, hr], rfl, rfl⟩
  rw [← fill_full _ _ _ _ hl, ← fill_full _ _ _ _ hr]
  exact SinceTimed_fill a b l r _

theorem Precedes_fill (a b : Nat) (l r : List α) (loc : Store α) :
    okAnd (exec Gen.PrecedesTimedOperation.reset.body ⟨encPrec a b l r, loc⟩) (fun env =>
      env.self = encPrec a b (fill (b + 1) pinf l (b + 1)) (fill (b + 1) ninf r (b + 1))) :=
  okAnd_fillLoop (fun k => encPrec a b (fill (b + 1) pinf l k) (fill (b + 1) ninf r k)) (b + 1)
    (by py_step [encPrec]) rfl (fun k s hs => by
      simp only [hs, encPrec, exec_seq, exec_setLoc, exec_append_some, evalE_pinf, evalE_ninf, evalE_loc, getKey_cons_same,
        getKey_cons_ne, getKey_setKey_same, getKey_setKey_ne, ne_eq, String.reduceEq, not_false_eq_true, ok_bind,
        List.getElem?_cons_zero]
      py_step [fill])

theorem gen_Precedes_construct (a b : Nat) (φ ψ : F α) :
    Constructs Gen.PrecedesTimedOperation [.int a, .int b] (buf2Rel b (encPrec a b)) (.tb2 .precedes a b φ ψ) := by
  refine ⟨_, construct_ok _ _ _ rfl rfl ?_, _, _, by simp, by simp, rfl, rfl⟩
  py_step [Gen.PrecedesTimedOperation]
  rw [← fill_nil (b + 1) pinf (b + 1) (Nat.le_refl _), ← fill_nil (b + 1) ninf (b + 1) (Nat.le_refl _)]
  exact Precedes_fill a b [] [] _

theorem gen_Precedes_update (a b : Nat) (_ : a ≤ b) (φ ψ : F α) :
    Updates Gen.PrecedesTimedOperation (buf2Rel b (encPrec a b)) (.tb2 .precedes a b φ ψ) := by
  rintro _ _ vs ⟨l, r, hl, hr, rfl, rfl⟩ hvs
  match vs, hvs with
  | [x, y], _ =>
  show simE _ (update _ _ [.num x, .num y])
    (precWin a b (dqPush l x) (dqPush r y) >>= fun o => pure (St.buf2 (dqPush l x) (dqPush r y), o))
  unfold update
  rw [call_some _ _ _ _ rfl rfl, precWin]
  simp only [Gen.PrecedesTimedOperation, encPrec, List.range_eq_range', List.zip_cons_cons, List.zip_nil_right, exec_seq,
    exec_append_some, evalE_loc, getKey_cons_same, getKey_cons_ne, getKey_setKey_same, ne_eq, String.reduceEq,
    not_false_eq_true, ok_bind, List.getElem?_cons_zero]
  py_step [dqAppend_full _ _ _ hl, dqAppend_full _ _ _ hr]
  refine simE_bind
    (R := fun s out => s.self = encPrec a b (dqPush l x) (dqPush r y) ∧
      getKey "sample_return" s.loc = .ok (.num out))
    (sim_for (fun _ => _) _ ninf a (b + 1 - a) ((b : Int) + 1) ?_ ?_ ?_ ?_ ?_) ?_
  · py_step [evalE, encPrec]
  · py_step [evalE, encPrec]
  · exact Int.toNat_sub (b + 1) a
  · py_step [encPrec, setKey]
  · intro k _ _ s out ⟨hs, hout⟩
    cases hcr : idx (dqPush r y) k with
    | error e => py_step [evalE, hs, hout, hcr, encPrec]
    | ok cr =>
    py_step [evalE, hs, hout, hcr, encPrec]
    refine simE_bind
      (R := fun s c => s.self = encPrec a b (dqPush l x) (dqPush r y) ∧
        getKey "sample_return" s.loc = .ok (.num out) ∧
        getKey "sample_right" s.loc = .ok (.num cr) ∧ getKey "sample_left" s.loc = .ok (.num c))
      (sim_for (fun _ => _) _ pinf 0 k (k : Int) ?_ ?_ ?_ ?_ ?_) ?_
    · py_step [evalE]
    · py_step [evalE, hs, encPrec]
    · exact Int.toNat_sub k 0
    · py_step [hs, hout, encPrec, setKey]
    · intro j _ _ s1 c ⟨hs1, hout1, hcr1, hc1⟩
      cases hv : idx (dqPush l x) j <;> py_step [evalE, hs1, hout1, hcr1, hc1, hv, encPrec]
    · intro s1 c ⟨hs1, hout1, hcr1, hc1⟩
      py_step [evalE, hs1, hout1, hcr1, hc1, encPrec]
  · intro s t ⟨hs, hr'⟩
    py_step [hr', hs]
    exact ⟨_, _, by simp [dqPush_length, hl], by simp [dqPush_length, hr], rfl, rfl⟩

theorem gen_Precedes_reset (a b : Nat) (φ ψ : F α) :
    Resets Gen.PrecedesTimedOperation (buf2Rel b (encPrec a b)) (.tb2 .precedes a b φ ψ) := by
  rintro _ _ ⟨l, r, hl, hr, rfl, rfl⟩
  refine ⟨_, reset_ok _ _ _ rfl rfl ?_, _, _, by simp [pushN_length, hl], by simp [pushN_length, hr], rfl, rfl⟩
  rw [← fill_full _ _ _ _ hl, ← fill_full _ _ _ _ hr]
  exact Precedes_fill a b l r _

def classUn : Un → Class
  | .abs => Gen.AbsOperation
  | .sqrt => Gen.SqrtOperation
  | .exp => Gen.ExpOperation
  | .ln => Gen.LnOperation
  | .negate => Gen.NegateOperation
  | .not => Gen.NotOperation

theorem construct_pass (c : Class) (h : c.init = ⟨[], .skip, none⟩) : construct (α := α) c [] = .ok [] := by
  simp [construct, call, h, exec_skip, Except.map, bind, Except.bind, pure, Except.pure]

theorem reset_pass (c : Class) (h : c.reset = ⟨[], .skip, none⟩) (s : Store α) : reset c s = .ok s := by
  simp [reset, call, h, exec_skip, Except.map, bind, Except.bind, pure, Except.pure]

theorem gen_Un_construct (op : Un) : construct (α := α) (classUn op) [] = .ok [] := by
  cases op <;> exact construct_pass _ rfl

theorem gen_Un_reset (op : Un) : reset (α := α) (classUn op) [] = .ok [] := by
  cases op <;> exact reset_pass _ rfl _

/-- `SqrtOperation.update` raises `Exception` on a negative sample; everything else is `Un.app`. -/
theorem gen_Un_update (op : Un) (x : α) :
    update (classUn op) [] [.num x]
      = if op = .sqrt ∧ Val.lt x Val.zero = true then .error .other else .ok ([], .num (op.app x)) := by
  cases op
  case sqrt =>
    have hlt : evalBin .lt (.num x) (.int 0) = .ok (.bool (Val.lt x Val.zero)) := rfl
    unfold update
    rw [call_some _ _ _ _ rfl rfl]
    cases hx : Val.lt x Val.zero <;> py_step [classUn, Gen.SqrtOperation, exec_ite, exec_raise, hlt, hx, Un.app]
  all_goals
    exact (call_setLoc _ _ _ _ _ rfl).trans rfl

def classBin : Bin → Option Class
  | .add => some Gen.AdditionOperation
  | .sub => some Gen.SubtractionOperation
  | .mul => some Gen.MultiplicationOperation
  | .div => some Gen.DivisionOperation
  | .pow => some Gen.PowOperation
  | .log => some Gen.LogOperation
  | .and => some Gen.AndOperation
  | .or => some Gen.OrOperation
  | .implies => some Gen.ImpliesOperation
  | .iff => some Gen.IffOperation
  | .xor => some Gen.XorOperation
  | _ => none

theorem gen_Bin_construct (op : Bin) (c : Class) (h : classBin op = some c) :
    construct (α := α) c [] = .ok [] := by
  cases op <;> cases h <;> exact construct_pass _ rfl

theorem gen_Bin_reset (op : Bin) (c : Class) (h : classBin op = some c) :
    reset (α := α) c [] = .ok [] := by
  cases op <;> cases h <;> exact reset_pass _ rfl _

theorem gen_Bin_update (op : Bin) (c : Class) (h : classBin op = some c) (l r : α) :
    update c [] [.num l, .num r] = .ok ([], .num (op.app l r)) := by
  cases op <;> cases h <;> exact (call_setLoc _ _ _ _ _ rfl).trans rfl

def encPred (c : Cmp) : Store α := [("comparison_op", .cmp c)]

theorem gen_Pred_construct (c : Cmp) :
    construct (α := α) Gen.PredicateOperation [.cmp c] = .ok (encPred c) := by
  py_simp [Gen.PredicateOperation, encPred]

theorem gen_Pred_reset (c : Cmp) : reset (α := α) Gen.PredicateOperation (encPred c) = .ok (encPred c) :=
  reset_pass _ rfl _

/-- The body of `update`, run in any environment that holds the comparison and the two samples; the
    interface-aware subclass (`GenIAOn.lean`) inlines it. -/
theorem Pred_update_body (c : Cmp) (l r : α) (env : Env α)
    (hc : getKey "comparison_op" env.self = .ok (.cmp c))
    (hl : getKey "sample_left" env.loc = .ok (.num l)) (hr : getKey "sample_right" env.loc = .ok (.num r)) :
    exec Gen.PredicateOperation.update.body env
      = .ok { env with loc := setKey "sample_return" (.num (c.app l r)) env.loc } := by
  -- the chain of comparisons is run once, with `c` a variable; then `c` decides which branch is taken
  simp only [Gen.PredicateOperation, exec_ite, exec_setLoc, evalE, hc, hl, hr, ok_bind, evalBin_eq_cmp,
    evalBin_or_bool, evalBin_sub_num, evalUn_neg_num, evalUn_abs_num]
  cases c <;> simp [Cmp.app]

theorem Pred_sat_body (m : Method) (hm : Gen.PredicateOperation.sat = some m) (c : Cmp) (l r : α) (env : Env α)
    (hc : getKey "comparison_op" env.self = .ok (.cmp c))
    (hl : getKey "sample_left" env.loc = .ok (.num l)) (hr : getKey "sample_right" env.loc = .ok (.num r)) :
    exec m.body env = .ok { env with loc := setKey "sample_return" (.bool (c.holds l r)) env.loc } := by
  obtain rfl := Option.some.inj hm
  simp only [exec_ite, exec_setLoc, evalE, hc, hl, hr, ok_bind, evalBin_eq_cmp, evalBin_eq_num, evalBin_ne_num,
    evalBin_lt_num, evalBin_le_num, evalBin_gt_num, evalBin_ge_num]
  cases c <;> simp [Cmp.holds, numEq]

theorem gen_Pred_update (c : Cmp) (l r : α) :
    update Gen.PredicateOperation (encPred c) [.num l, .num r] = .ok (encPred c, .num ((Bin.pred c).app l r)) := by
  have h := Pred_update_body c l r ⟨encPred c, [("sample_left", .num l), ("sample_right", .num r)]⟩
    (getKey_cons_same ..) (getKey_cons_same ..) (by simp [getKey_cons_ne, getKey_cons_same])
  unfold update
  refine call_ok _ _ _ _ _ _ _ rfl rfl h ?_
  exact getKey_setKey_same ..

/-- `PredicateOperation.sat` (used by the interface-aware semantics) is `Cmp.holds`. -/
theorem gen_Pred_sat (c : Cmp) (l r : α) :
    ∃ m, Gen.PredicateOperation.sat = some m ∧
      call m (encPred c) [.num l, .num r] = .ok (encPred c, .bool (c.holds l r)) := by
  have h := Pred_sat_body _ rfl c l r ⟨encPred c, [("sample_left", .num l), ("sample_right", .num r)]⟩
    (getKey_cons_same ..) (getKey_cons_same ..) (by simp [getKey_cons_ne, getKey_cons_same])
  refine ⟨_, rfl, call_ok _ _ _ _ _ _ _ rfl rfl h ?_⟩
  exact getKey_setKey_same ..

theorem gen_Const (v : α) :
    construct Gen.ConstantOperation [.num v] = .ok [("val", .num v)] ∧
    update Gen.ConstantOperation [("val", .num v)] [] = .ok ([("val", .num v)], .num v) ∧
    reset Gen.ConstantOperation [("val", (.num v : V α))] = .ok [("val", .num v)] := by
  refine ⟨?_, ?_, ?_⟩ <;> py_simp [Gen.ConstantOperation]

/-- `VariableOperation` holds the sample the interpreter stores into it. -/
theorem gen_Var (v : α) :
    construct (α := α) Gen.VariableOperation [] = .ok [("sample", .none)] ∧
    update Gen.VariableOperation [("sample", .num v)] [] = .ok ([("sample", .num v)], .num v) := by
  refine ⟨?_, ?_⟩ <;> py_simp [Gen.VariableOperation]

theorem gen_all_supported : Gen.all.all Class.supported = true := by
  decide

/-- The list of classes the translator found is the list the theorems above cover. -/
theorem gen_all_names : Gen.all.map (·.name) =
    ["AlwaysOperation", "AndOperation", "ConstantOperation", "EventuallyOperation", "FallOperation",
     "HistoricallyOperation", "HistoricallyTimedOperation", "IffOperation", "ImpliesOperation", "NotOperation",
     "OnceOperation", "OnceTimedOperation", "OrOperation", "PrecedesTimedOperation", "PredicateOperation",
     "PreviousOperation", "RiseOperation", "SinceOperation", "SinceTimedOperation", "StrongPreviousOperation",
     "VariableOperation", "XorOperation", "AbsOperation", "AdditionOperation", "DivisionOperation", "ExpOperation",
     "LnOperation", "LogOperation", "MultiplicationOperation", "NegateOperation", "PowOperation", "SqrtOperation",
     "SubtractionOperation"] := by
  rfl

end Rtamt.Py
