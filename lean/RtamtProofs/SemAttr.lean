/-
  The simp set `sem_step`: the one-step equations of `exec` and `evalE` of `Rtamt/Py/Sem.lean` (`SemSteps.lean`), its
  operators on the values that occur, and reading a key of a store that was just written.  It is filled in two places:
  `SemBase.lean` tags what the operation classes need (tactic `py_step`), `GenOffLemmas.lean` adds the list part of the
  subset for the visitors (tactic `off_step`).
-/
import Lean.Meta.Tactic.Simp.RegisterCommand

register_simp_attr sem_step
