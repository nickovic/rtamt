/-
  The translated operation classes of the dense-time ONLINE monitor that do not use `intersection`
  (`Rtamt/Py/GeneratedDenseOn.lean`), run under the semantics of `Rtamt/Py/DnOn.lean`, against the mirror
  `Rtamt/Dense/AlgOn.lean` - values AND exceptions, for all inputs, no well-formedness assumption on the sample lists:
  (1) the six point-wise unary classes are one theorem by the operator (`gen_un_update`, `gen_un_init`: the class is
      `GOn.unCls op`, its loop variable and loop body are data, `iv` and `body`; what an iteration appends is `unStep op`).
      `AbsOperation`, `SqrtOperation`, `ExpOperation`, `NegateOperation`, `NotOperation` `.update` = `mapUn` (the object is
      returned unchanged).  `LnOperation.update` has NO sign test (the offline `visitLn` and `mapUn .ln` have one) and
      `builtin "math.log"` is `Val.ln`, which does not raise: the translated method returns the point-wise logarithm on
      every batch (`gen_LnOperation_update_total`); it equals `mapUn .ln` exactly on the batches without a negative sample
      (`gen_LnOperation_update`) and differs on all others (`gen_LnOperation_update_differs`: mirror `.error .other`,
      translated code `.ok`; CPython's `math.log` raises `ValueError` there - and at 0, where mirror and embedding return
      `Val.ln 0`).
  (2) `OnceOperation` / `HistoricallyOperation` = `scanUpdate pmax` / `scanUpdate pmin` (relation `ScanRel`),
  (3) `SinceOperation` = `sinceUpdate` (relation `SinceRel`; fuel: `len(a) + len(b) + 1`),
  (4) `ConstantOperation`, `VariableOperation`,
  (5), (6) the same through `updateObj` / `construct` of the runner `Rtamt/Py/RunDnOn.lean`.
  The loops `for … in sample` of (1) and (2) are one statement, `wrap_sim`, over the logic of `GenDenseOnLogic.lean`.  The
  loop bodies of (1) are three (`negBody`, `callBody`, `guardBody`), each with one lemma that says what an iteration does to
  the invariant `UnInv`, for any loop variable that is a `LoopVar`; `body_sim` says which body and which function of the
  library each operator has.  That an object comes back AS IT IS needs no invariant: `update` of these classes assigns no
  attribute (`un_update`, `method_sim_same`).
  What the proofs need of the NAMES in the code - which are attributes, which parameters, that no local is a name of the
  library - stands in one block of evaluated facts, and in the table facts `isMethod_…`; the class theorems cite them.
  The relations speak about lookups in the object's store and require every key of the store to be an attribute name
  (`isSelfKey`): an attribute store with a key `sample` would shadow the parameter (`runFn` puts the store in front of the
  arguments); the stores `runFn` returns satisfy it.
-/
import RtamtProofs.GenDenseOnLogic

namespace Rtamt.Py.DnOn
open Rtamt Val Rtamt.Dense Rtamt.Dense.Alg Rtamt.Dense.AlgOn

set_option linter.unusedSectionVars false

variable {α : Type} [Val α]

/-- `x + y` of two sample lists -/
theorem evalE_concat {call : Call α} {env : Env α} {a b : E} {x y : ASig α} (ha : evalE call env a = .ok (encSig x))
    (hb : evalE call env b = .ok (encSig y)) : evalE call env (.bin .add a b) = .ok (encSig (x ++ y)) :=
  (evalE.bin ha hb).trans (congrArg (fun l => Except.ok (DV.list l)) List.map_append.symm)

namespace GOnUn

@[simp] theorem exMap_ok {ε σ ρ : Type} (a : σ) (f : σ → ρ) : Except.map f (Except.ok a : Except ε σ) = .ok (f a) := rfl
@[simp] theorem exMap_error {ε σ ρ : Type} (e : ε) (f : σ → ρ) : Except.map f (Except.error e : Except ε σ) = .error e := rfl

/-- the predicate `runFn` filters the final locals of a method with -/
abbrev selfP : String × DV α → Bool := fun p => isSelfKey p.1

def KeepsStore (store : Env α) (env : Env α) : Prop := env.filter selfP = store

def SelfKeys (store : Env α) : Prop := ∀ p ∈ store, isSelfKey p.1 = true

theorem selfKeys_nil : SelfKeys ([] : Env α) := by intro p hp; cases hp

theorem resolve_of_lookup_none {env : Env α} {f : String} (h : env.lookup f = none) : resolve env f = f :=
  resolve_of_lookup h

@[simp] theorem resolve_nil (f : String) : resolve ([] : Env α) f = f := rfl

section stmts
variable (call : Call α) (fuel : Nat)

theorem exec_seq_err {a b : S} {env : Env α} {e : PyErr} (h : exec call fuel a env = .error e) :
    exec call fuel (.seq a b) env = .error e :=
  exec.seq_err h

end stmts

theorem evalBin_lt_val0 (x : α) : evalBin .lt (.val x) (.int 0) = .ok (.bool (Val.lt x Val.zero)) := by
  simp [evalBin, isCmp, cmpDV, isTimeLike, isValLike, toVal, cmpVal]

/-- `out_time = iv[0]; out_value = -iv[1]; sample_result.append([out_time, out_value])` -/
def negBody (iv : String) : S := (.seq (.setLoc "out_time" (.idx (.loc iv) (.int 0))) (.seq (.setLoc "out_value" (.neg (.idx (.loc iv) (.int 1)))) (.appendLoc "sample_result" (.list2 (.loc "out_time") (.loc "out_value")))))

/-- `out_time = iv[0]; out_value = f(iv[1]); sample_result.append([out_time, out_value])` -/
def callBody (iv f : String) : S := (.seq (.setLoc "out_time" (.idx (.loc iv) (.int 0))) (.seq (.setLoc "out_value" (.call1 f (.idx (.loc iv) (.int 1)))) (.appendLoc "sample_result" (.list2 (.loc "out_time") (.loc "out_value")))))

/-- `if iv[1] < 0: raise Exception(…)` followed by `callBody` -/
def guardBody (iv f : String) : S := (.seq (.ite (.bin .lt (.idx (.loc iv) (.int 1)) (.int 0)) (.raise .other) .skip) (callBody iv f))

/-- `rv = []; for iv in sample: B; return rv`: the body of `update` of the unary classes around the loop body `B` -/
def wrap (rv iv : String) (B : S) : S := (.seq (.setLoc rv .emptyList) (.seq (.forIn iv (.loc "sample") B) (.ret (.loc rv))))

theorem wrap_sim {τ : Type} {call : Call α} {fuel : Nat} {rv iv : String} {B : S} (step : τ → Tm × α → Except PyErr τ)
    (I : τ → Env α → Prop) (out : τ → ASig α)
    (hB : ∀ t p env, I t env → Exc.Sim (exec call fuel B (setLoc iv (encSmp p) env)) (step t p)
      fun t' (r : Res α) => r.2 = .none ∧ I t' r.1)
    (hrv : ∀ t env, I t env → getLoc rv env = .ok (encSig (out t)))
    {env : Env α} {s : ASig α} (hs : getLoc "sample" (setLoc rv (.list []) env) = .ok (encSig s)) {t : τ}
    (h0 : I t (setLoc rv (.list []) env)) :
    Exc.Sim (exec call fuel (wrap rv iv B) env) (s.foldlM step t)
      fun t' (r : Res α) => r.2 = .ret (encSig (out t')) ∧ I t' r.1 := by
  have hl := forLoop_sim step (fun p => (encSmp p, 0)) (fun p env => setLoc iv p.1 env) (exec call fuel B) I hB s t _ h0
  unfold wrap
  rw [exec.seq_setLoc (v := .list []) rfl]
  refine exec.seq_sim_right (Q1 := fun t' (r : Res α) => r.2 = .none ∧ I t' r.1) ?_ ?_
  · rw [exec.forIn (l := s.map encSmp) (evalE.loc hs), List.map_map]
    exact hl
  · rintro t' ⟨env', c⟩ ⟨hc, hi⟩
    exact ⟨hc, _, exec.ret (evalE.loc (hrv t' env' hi)), rfl, hi⟩

theorem self_prev : isSelfKey "self.prev" = true := by decide +kernel
theorem self_val : isSelfKey "self.val" = true := by decide +kernel
theorem self_is_first_sample : isSelfKey "self.is_first_sample" = true := by decide +kernel
theorem params_sample : ∀ p ∈ ["sample"], isSelfKey p = false := by decide +kernel
theorem lib_ne_sample : ∀ f ∈ libNames, f ∉ ["sample"] := by decide +kernel
theorem lib_ne_samples : ∀ f ∈ libNames, f ∉ ["sample_left", "sample_right"] := by decide +kernel
theorem prev_not_lib : "self.prev" ∉ libNames := by decide +kernel
theorem out_time_not_lib : "out_time" ∉ libNames := by decide +kernel
theorem out_value_not_lib : "out_value" ∉ libNames := by decide +kernel
theorem sample_result_not_lib : "sample_result" ∉ libNames := by decide +kernel

/-- what the loop bodies need of the name of their loop variable: no function of the library, and none of the names a body
    assigns before it reads the variable again -/
def LoopVar (x : String) : Prop := x ∉ libNames ∧ x ≠ "out_time" ∧ x ≠ "sample_result"

theorem loopVar_i : LoopVar "i" := by unfold LoopVar; decide +kernel
theorem loopVar_in_sample : LoopVar "in_sample" := by unfold LoopVar; decide +kernel

/-- the locals a call `update(self, sample)` starts with: the attributes, then the batch -/
theorem sample_start {store : Env α} (hs : SelfKeys store) (v : DV α) :
    getLoc "sample" (store ++ [("sample", v)]) = .ok v ∧ LibFree (store ++ [("sample", v)]) :=
  ⟨(getLoc_append_right (lookup_none_of_selfKeys _ hs _ (params_sample _ List.mem_cons_self))).trans rfl,
    libFree_start hs (ps := ["sample"]) lib_ne_sample [v]⟩

def UnInv (acc : ASig α) (env : Env α) : Prop := getLoc "sample_result" env = .ok (encSig acc) ∧ LibFree env

theorem UnInv.step {env : Env α} {acc : ASig α} (h : UnInv acc env) {iv : String} (hiv : LoopVar iv) (q : Tm × α)
    (b c d : DV α) :
    UnInv (acc ++ [q]) (setLoc "sample_result" (.list (acc.map encSmp ++ [encSmp q]))
      (setLoc "out_value" b (setLoc "out_time" c (setLoc iv d env)))) :=
  ⟨by rw [getLoc_setLoc_same, encSig, List.map_append]; rfl,
    (((h.2.set hiv.1 d).set out_time_not_lib c).set out_value_not_lib b).set sample_result_not_lib _⟩

theorem negBody_step (call : Call α) (fuel : Nat) {iv : String} (hiv : LoopVar iv) {env : Env α} {acc : ASig α}
    (h : UnInv acc env) (t : Tm) (x : α) :
    Exc.Sim (exec call fuel (negBody iv) (setLoc iv (.smp t (.val x)) env)) (.ok (t, Val.neg x) : Except PyErr (Tm × α))
      fun q (r : Res α) => r.2 = .none ∧ UnInv (acc ++ [q]) r.1 := by
  refine .ok (r := (_, .none)) ?_ ⟨rfl, h.step hiv (t, Val.neg x) (.val (Val.neg x)) (.tm t) (.smp t (.val x))⟩
  unfold negBody
  rw [exec.seq_setLoc ((evalE.idx (evalE.loc (getLoc_setLoc_same iv _ env)) rfl).trans (evalIdx.smp0 t _)),
    exec.seq_setLoc (v := .val (Val.neg x))
      ((evalE.neg ((evalE.idx (x := .smp t (.val x)) (evalE.loc (by simp [hiv.2.1])) rfl).trans (evalIdx.smp1 t _))).trans rfl)]
  exact exec.appendLoc ((evalE.list2 (x := .tm t) (y := .val (Val.neg x)) (evalE.loc (by simp)) (evalE.loc (by simp))).trans rfl)
    (by simp [h.1, encSig, Ne.symm hiv.2.2])

theorem callBody_step (fuel k : Nat) {iv f : String} (hiv : LoopVar iv) (hf : f ∈ libNames) (g : α → α) {env : Env α}
    {acc : ASig α} (h : UnInv acc env) (t : Tm) (x : α) (hb : builtin f [.val x] = .ok (.val (g x) : DV α)) :
    Exc.Sim (exec (callAt Gen.DenseOn.fns fuel k) fuel (callBody iv f) (setLoc iv (.smp t (.val x)) env))
      (.ok (t, g x) : Except PyErr (Tm × α)) fun q (r : Res α) => r.2 = .none ∧ UnInv (acc ++ [q]) r.1 := by
  refine .ok (r := (_, .none)) ?_ ⟨rfl, h.step hiv (t, g x) (.val (g x)) (.tm t) (.smp t (.val x))⟩
  unfold callBody
  rw [exec.seq_setLoc ((evalE.idx (evalE.loc (getLoc_setLoc_same iv _ env)) rfl).trans (evalIdx.smp0 t _)),
    exec.seq_setLoc (v := .val (g x))
      ((evalE.call1 ((evalE.idx (x := .smp t (.val x)) (evalE.loc (by simp [hiv.2.1])) rfl).trans (evalIdx.smp1 t _))).trans
        (by rw [((h.2.set hiv.1 _).set out_time_not_lib _) f hf, callAt_lib fuel k hf]; exact hb))]
  exact exec.appendLoc ((evalE.list2 (x := .tm t) (y := .val (g x)) (evalE.loc (by simp)) (evalE.loc (by simp))).trans rfl)
    (by simp [h.1, encSig, Ne.symm hiv.2.2])

theorem guard_step (call : Call α) (fuel : Nat) (iv : String) (env : Env α) (t : Tm) (x : α)
    (h : getLoc iv env = .ok (.smp t (.val x))) :
    exec call fuel (.ite (.bin .lt (.idx (.loc iv) (.int 1)) (.int 0)) (.raise .other) .skip) env =
      if Val.lt x Val.zero then .error .other else .ok (env, .none) := by
  rw [exec.ite ((evalE.bin (((evalE.idx (evalE.loc h) rfl).trans (evalIdx.smp1 t _))) rfl).trans
    (evalBin_lt_val0 x)) rfl]
  cases Val.lt x Val.zero <;> rfl

theorem guardBody_step (fuel k : Nat) {iv f : String} (hiv : LoopVar iv) (hf : f ∈ libNames) (g : α → α) {env : Env α}
    {acc : ASig α} (h : UnInv acc env) (t : Tm) (x : α) (hb : builtin f [.val x] = .ok (.val (g x) : DV α)) :
    Exc.Sim (exec (callAt Gen.DenseOn.fns fuel k) fuel (guardBody iv f) (setLoc iv (.smp t (.val x)) env))
      (if Val.lt x Val.zero then .error .other else .ok (t, g x) : Except PyErr (Tm × α))
      fun q (r : Res α) => r.2 = .none ∧ UnInv (acc ++ [q]) r.1 := by
  have hg := guard_step (callAt Gen.DenseOn.fns fuel k) fuel iv _ t x (getLoc_setLoc_same iv _ env)
  unfold guardBody
  cases hx : Val.lt x Val.zero with
  | true => rw [hx] at hg; exact exec.seq_err hg
  | false => rw [hx] at hg; rw [exec.seq_ok hg]; exact callBody_step fuel k hiv hf g h t x hb

end GOnUn

namespace GOn

def unCls : Un → String
  | .abs => "AbsOperation" | .sqrt => "SqrtOperation" | .exp => "ExpOperation" | .ln => "LnOperation"
  | .negate => "NegateOperation" | .not => "NotOperation"

end GOn

namespace GOnUn

/-- the loop variable of `update` of the class `unCls op`, and the body of its loop -/
def iv : Un → String
  | .abs | .ln => "in_sample"
  | _ => "i"

def body : Un → S
  | .abs => callBody "in_sample" "abs"
  | .sqrt => guardBody "i" "math.sqrt"
  | .exp => callBody "i" "math.exp"
  | .ln => callBody "in_sample" "math.log"
  | .negate | .not => negBody "i"

/-- `NotOperation.__init__` sets an attribute `input`, the other five are `pass` -/
theorem un_init (op : Un) (call : Call α) (fuel : Nat) : ∃ fn env',
    IsMethod (GOn.unCls op ++ ".__init__") fn [] ∧ exec call fuel fn.body ([] : Env α) = .ok (env', .none) := by
  cases op
  · exact ⟨_, _, ⟨fns_at 50 rfl, rfl, rfl, nofun⟩, exec.skip⟩
  · exact ⟨_, _, ⟨fns_at 68 rfl, rfl, rfl, nofun⟩, exec.skip⟩
  · exact ⟨_, _, ⟨fns_at 56 rfl, rfl, rfl, nofun⟩, exec.skip⟩
  · exact ⟨_, _, ⟨fns_at 58 rfl, rfl, rfl, nofun⟩, exec.skip⟩
  · exact ⟨_, _, ⟨fns_at 64 rfl, rfl, rfl, nofun⟩, exec.skip⟩
  · exact ⟨_, _, ⟨fns_at 31 rfl, rfl, rfl, nofun⟩, exec.setLoc rfl⟩

theorem un_update (op : Un) :
    ∃ fn, IsMethod (GOn.unCls op ++ ".update") fn ["sample"] ∧ fn.body = wrap "sample_result" (iv op) (body op) ∧
      ∀ x ∈ mods fn.body, isSelfKey x = false := by
  cases op
  · exact ⟨_, ⟨fns_at 51 rfl, rfl, rfl, params_sample⟩, rfl, by decide +kernel⟩
  · exact ⟨_, ⟨fns_at 69 rfl, rfl, rfl, params_sample⟩, rfl, by decide +kernel⟩
  · exact ⟨_, ⟨fns_at 57 rfl, rfl, rfl, params_sample⟩, rfl, by decide +kernel⟩
  · exact ⟨_, ⟨fns_at 59 rfl, rfl, rfl, params_sample⟩, rfl, by decide +kernel⟩
  · exact ⟨_, ⟨fns_at 65 rfl, rfl, rfl, params_sample⟩, rfl, by decide +kernel⟩
  · exact ⟨_, ⟨fns_at 32 rfl, rfl, rfl, params_sample⟩, rfl, by decide +kernel⟩

theorem isMethod_Once_init : IsMethod "OnceOperation.__init__" Gen.DenseOn.OnceOperation_init [] :=
  ⟨fns_at 33 rfl, rfl, rfl, nofun⟩
theorem isMethod_Once_update : IsMethod "OnceOperation.update" Gen.DenseOn.OnceOperation_update ["sample"] :=
  ⟨fns_at 34 rfl, rfl, rfl, params_sample⟩
theorem isMethod_Historically_init :
    IsMethod "HistoricallyOperation.__init__" Gen.DenseOn.HistoricallyOperation_init [] :=
  ⟨fns_at 23 rfl, rfl, rfl, nofun⟩
theorem isMethod_Historically_update :
    IsMethod "HistoricallyOperation.update" Gen.DenseOn.HistoricallyOperation_update ["sample"] :=
  ⟨fns_at 24 rfl, rfl, rfl, params_sample⟩
theorem isMethod_Since_init : IsMethod "SinceOperation.__init__" Gen.DenseOn.SinceOperation_init [] :=
  ⟨fns_at 42 rfl, rfl, rfl, nofun⟩
theorem isMethod_Since_update :
    IsMethod "SinceOperation.update" Gen.DenseOn.SinceOperation_update ["sample_left", "sample_right"] :=
  ⟨fns_at 43 rfl, rfl, rfl, by decide +kernel⟩
theorem isMethod_Constant_init : IsMethod "ConstantOperation.__init__" Gen.DenseOn.ConstantOperation_init ["val"] :=
  ⟨fns_at 21 rfl, rfl, rfl, by decide +kernel⟩
theorem isMethod_Constant_update : IsMethod "ConstantOperation.update" Gen.DenseOn.ConstantOperation_update [] :=
  ⟨fns_at 22 rfl, rfl, rfl, nofun⟩
theorem mods_Constant_update : ∀ x ∈ mods Gen.DenseOn.ConstantOperation_update.body, isSelfKey x = false := by decide +kernel
theorem isMethod_Variable_init : IsMethod "VariableOperation.__init__" Gen.DenseOn.VariableOperation_init [] :=
  ⟨fns_at 46 rfl, rfl, rfl, nofun⟩
theorem isMethod_Variable_update : IsMethod "VariableOperation.update" Gen.DenseOn.VariableOperation_update [] :=
  ⟨fns_at 47 rfl, rfl, rfl, nofun⟩
theorem mods_Variable_update : ∀ x ∈ mods Gen.DenseOn.VariableOperation_update.body, isSelfKey x = false := nofun

/-- what an iteration of the loop of the class of `op` appends: `SqrtOperation` tests the sign first, `LnOperation` does
    not (`mapUn` tests it for both) -/
def unStep : Un → Tm × α → Except PyErr (Tm × α)
  | .sqrt, p => if Val.lt p.2 Val.zero then .error .other else .ok (p.1, Val.sqrt p.2)
  | op, p => .ok (p.1, op.app p.2)

end GOnUn

open GOnUn

/-- an operation object without (relevant) attributes: every key of its store is an attribute name `self.x` -/
def UnRel (cls : String) (o : DV α) : Prop := ∃ store, o = .obj cls store ∧ ∀ p ∈ store, isSelfKey p.1 = true

namespace GOnUn

theorem body_sim (op : Un) (fuel k : Nat) {env : Env α} {acc : ASig α} (h : UnInv acc env) (p : Tm × α) :
    Exc.Sim (exec (callAt Gen.DenseOn.fns fuel k) fuel (body op) (setLoc (iv op) (encSmp p) env)) (unStep op p)
      fun q (r : Res α) => r.2 = .none ∧ UnInv (acc ++ [q]) r.1 := by
  obtain ⟨t, x⟩ := p
  cases op
  · exact callBody_step fuel k loopVar_in_sample (lib_at 3 rfl) Val.abs h t x (by simp [builtin, toVal])
  · exact guardBody_step fuel k loopVar_i (lib_at 5 rfl) Val.sqrt h t x (by simp [builtin, toVal])
  · exact callBody_step fuel k loopVar_i (lib_at 4 rfl) Val.exp h t x (by simp [builtin, toVal])
  · exact callBody_step fuel k loopVar_in_sample (lib_at 6 rfl) Val.ln h t x (by simp [builtin, toVal])
  · exact negBody_step _ fuel loopVar_i h t x
  · exact negBody_step _ fuel loopVar_i h t x

theorem mapM_ok {β γ : Type} (g : β → γ) (l : List β) :
    l.mapM (fun p => (.ok (g p) : Except PyErr γ)) = .ok (l.map g) := by
  induction l with
  | nil => rfl
  | cons a l ih => simp [List.mapM_cons, ih]

end GOnUn

/-- **The unary classes**, by the operator: `update` maps `unStep op` over the batch - an exception at the first sample that
    raises - and returns the object as it is. -/
theorem gen_un_update (op : Un) (fuel k : Nat) (o : DV α) (h : UnRel (GOn.unCls op) o) (s : ASig α) :
    callAt Gen.DenseOn.fns fuel (k + 1) (GOn.unCls op ++ ".update") [o, encSig s] =
      (s.mapM (unStep op)).map (fun out => .list [o, encSig out]) := by
  obtain ⟨store, rfl, hs⟩ := h
  obtain ⟨fn, hM, hb, hm⟩ := un_update op
  obtain ⟨hsm, hL⟩ := sample_start hs (encSig s)
  have h0 : UnInv [] (setLoc "sample_result" (.list []) (store ++ [("sample", encSig s)])) :=
    ⟨getLoc_setLoc_same _ _ _, hL.set sample_result_not_lib _⟩
  have hbody := wrap_sim (call := callAt Gen.DenseOn.fns fuel k) (fuel := fuel) (B := body op)
    (fun acc p => (fun q => acc ++ [q]) <$> unStep op p) UnInv id
    (fun acc p env hI => Exc.Sim.map_left _ (body_sim op fuel k hI p)) (fun _ _ hI => hI.1)
    (s := s) ((getLoc_setLoc_ne _ _ _ _ (by decide +kernel)).trans hsm) h0
  rw [← hb] at hbody
  have hcall := method_sim_same (cls := GOn.unCls op) (Q := fun acc v => v = encSig acc) hM (args := [encSig s]) rfl hs hm
    (hbody.mono fun acc r hr => ⟨_, hr.1, rfl⟩)
  have hres := hcall.mono fun acc r hr => show r = .list [.obj (GOn.unCls op) store, encSig acc] by
    obtain ⟨v, rfl, rfl⟩ := hr
    rfl
  rw [hres.eq_map, Loop.foldlM_snoc]
  cases s.mapM (unStep op) with
  | error e => rfl
  | ok out => rfl

theorem gen_un_init (op : Un) (fuel k : Nat) : ∃ o : DV α,
    callAt Gen.DenseOn.fns fuel (k + 1) (GOn.unCls op ++ ".__init__") [.obj (GOn.unCls op) []] = .ok (.list [o, .none]) ∧
      UnRel (GOn.unCls op) o := by
  obtain ⟨fn, env', hM, hex⟩ := un_init (α := α) op (callAt Gen.DenseOn.fns fuel k) fuel
  exact ⟨_, method_none hM rfl hex, _, rfl, selfKeys_filter _⟩

/-- The online `LnOperation.update` has NO sign test (the offline `visitLn` and the mirror's `mapUn .ln` have one), and
    `builtin "math.log"` is `Val.ln`, which does not raise: on EVERY input the translated method returns the point-wise
    logarithm. -/
theorem gen_LnOperation_update_total (fuel k : Nat) (o : DV α) (h : UnRel "LnOperation" o) (s : ASig α) :
    callAt Gen.DenseOn.fns fuel (k + 1) "LnOperation.update" [o, encSig s] =
      .ok (.list [o, encSig (s.map (fun p => (p.1, Val.ln p.2)))]) :=
  (gen_un_update .ln fuel k o h s).trans (congrArg (Except.map _) (mapM_ok (fun p : Tm × α => (p.1, Val.ln p.2)) s))

theorem mapUn_ln_nonneg (s : ASig α) (hs : ∀ p ∈ s, Val.lt p.2 Val.zero = false) :
    mapUn .ln s = .ok (s.map (fun p => (p.1, Val.ln p.2))) := by
  unfold mapUn
  induction s with
  | nil => rfl
  | cons p s ih =>
      have h1 := hs p (by simp)
      have h2 := ih (fun q hq => hs q (by simp [hq]))
      simp only [List.mapM_cons, h1, Bool.false_eq_true, if_false, ok_bind, List.map_cons] at h2 ⊢
      rw [h2]; rfl

theorem mapUn_ln_neg (s : ASig α) (hs : ∃ p ∈ s, Val.lt p.2 Val.zero = true) : mapUn .ln s = .error .other := by
  unfold mapUn
  induction s with
  | nil => obtain ⟨p, hp, _⟩ := hs; cases hp
  | cons q s ih =>
      by_cases hq : Val.lt q.2 Val.zero = true
      · simp [List.mapM_cons, hq]
      · have ih' := ih (by
          obtain ⟨p, hp, hlt⟩ := hs
          rcases List.mem_cons.mp hp with e | e
          · subst e; exact absurd hlt hq
          · exact ⟨p, e, hlt⟩)
        simp only [List.mapM_cons, hq] at ih' ⊢
        simp [ih']

/-- `LnOperation.update` = `mapUn .ln` on the batches without a negative sample … -/
theorem gen_LnOperation_update (fuel k : Nat) (o : DV α) (h : UnRel "LnOperation" o) (s : ASig α)
    (hs : ∀ p ∈ s, Val.lt p.2 Val.zero = false) :
    callAt Gen.DenseOn.fns fuel (k + 1) "LnOperation.update" [o, encSig s] =
      (mapUn .ln s).map (fun out => .list [o, encSig out]) := by
  rw [gen_LnOperation_update_total fuel k o h s, mapUn_ln_nonneg s hs]; rfl

/-- … and DIFFERS from it on every batch with a negative sample: the mirror raises, the translated code does not. -/
theorem gen_LnOperation_update_differs (fuel k : Nat) (o : DV α) (h : UnRel "LnOperation" o) (s : ASig α)
    (hs : ∃ p ∈ s, Val.lt p.2 Val.zero = true) :
    mapUn .ln s = .error .other ∧
    callAt Gen.DenseOn.fns fuel (k + 1) "LnOperation.update" [o, encSig s] =
      .ok (.list [o, encSig (s.map (fun p => (p.1, Val.ln p.2)))]) :=
  ⟨mapUn_ln_neg s hs, gen_LnOperation_update_total fuel k o h s⟩

namespace GOnUn

theorem isTimeLike_of_toVal {v : DV α} {p : α} (h : toVal v = .ok p) : isTimeLike v = false := by
  cases v <;> first | rfl | (simp [toVal] at h)

theorem builtin_max (x p : α) (v : DV α) (h : toVal v = .ok p) :
    builtin "max" [.val x, v] = .ok (.val (pmax x p)) := by
  have h0 : isTimeLike (DV.val x : DV α) = false := rfl
  have h1 : toVal (DV.val x : DV α) = .ok x := rfl
  simp [builtin, h0, h1, isTimeLike_of_toVal h, h]

theorem builtin_min (x p : α) (v : DV α) (h : toVal v = .ok p) :
    builtin "min" [.val x, v] = .ok (.val (pmin x p)) := by
  have h0 : isTimeLike (DV.val x : DV α) = false := rfl
  have h1 : toVal (DV.val x : DV α) = .ok x := rfl
  simp [builtin, h0, h1, isTimeLike_of_toVal h, h]

/-- `out_time = i[0]; out_value = f(i[1], self.prev); rv.append([out_time, out_value]); self.prev = out_value` -/
def scanBody (rv f : String) : S := (.seq (.setLoc "out_time" (.idx (.loc "i") (.int 0))) (.seq (.setLoc "out_value" (.call2 f (.idx (.loc "i") (.int 1)) (.loc "self.prev"))) (.seq (.appendLoc rv (.list2 (.loc "out_time") (.loc "out_value"))) (.setLoc "self.prev" (.loc "out_value")))))

theorem scanBody_step (call : Call α) (fuel : Nat) (rv f : String) (o : α) (env : Env α) (acc : List (DV α)) (t : Tm)
    (x : α) (v : DV α) (hr1 : rv ≠ "i") (hr2 : rv ≠ "out_time") (hr3 : rv ≠ "out_value")
    (hcall : call (resolve (setLoc "out_time" (.tm t) (setLoc "i" (.smp t (.val x)) env)) f) [.val x, v] = .ok (.val o))
    (h : getLoc rv env = .ok (.list acc)) (hp : getLoc "self.prev" env = .ok v) :
    exec call fuel (scanBody rv f) (setLoc "i" (.smp t (.val x)) env) =
      .ok (setLoc "self.prev" (.val o) (setLoc rv (.list (acc ++ [.smp t (.val o)]))
            (setLoc "out_value" (.val o) (setLoc "out_time" (.tm t) (setLoc "i" (.smp t (.val x)) env)))), .none) := by
  unfold scanBody
  rw [exec.seq_setLoc
        (((evalE.idx (evalE.loc (getLoc_setLoc_same "i" _ env)) rfl).trans (evalIdx.smp0 t _))),
    exec.seq_setLoc (v := .val o)
        ((evalE.call2 (((evalE.idx (x := .smp t (.val x)) (evalE.loc (by simp)) rfl).trans (evalIdx.smp1 t _)))
          (evalE.loc (by simpa using hp))).trans hcall),
    exec.seq_ok (exec.appendLoc
        (((evalE.list2 (x := .tm t) (y := .val o) (evalE.loc (by simp)) (evalE.loc (by simp))).trans rfl))
        (l := acc) (by simp [h, hr1, hr2, hr3]))]
  exact exec.setLoc (evalE.loc (by simp [Ne.symm hr3]))

/-- `scanUpdate` as a fold that carries `prev` and appends one sample at a time -/
theorem foldl_scan (comb : α → α → α) (s : ASig α) : ∀ (prev : α) (acc : ASig α),
    s.foldlM (fun (t : α × ASig α) (p : Tm × α) => (.ok (comb p.2 t.1, t.2 ++ [(p.1, comb p.2 t.1)]) : Except PyErr _))
      (prev, acc) = .ok ((scanUpdate comb prev s).1, acc ++ (scanUpdate comb prev s).2) := by
  induction s with
  | nil => intro prev acc; simp [scanUpdate, pure, Except.pure]
  | cons p s ih =>
      intro prev acc
      rw [List.foldlM_cons, ok_bind, ih]
      simp [scanUpdate]

def ScanInv (rv : String) (t : α × ASig α) (env : Env α) : Prop :=
  getLoc rv env = .ok (encSig t.2) ∧ (∃ v, getLoc "self.prev" env = .ok v ∧ toVal v = .ok t.1) ∧ LibFree env

end GOnUn

/-- The object of `OnceOperation` / `HistoricallyOperation` whose attribute `self.prev` holds the value `prev` (as a sample value,
    or as the untyped `-inf` / `+inf` the constructor stores: `toVal` of the stored value is `prev`). -/
def ScanRel (cls : String) (prev : α) (o : DV α) : Prop :=
  ∃ store, o = .obj cls store ∧ (∀ p ∈ store, isSelfKey p.1 = true) ∧
    ∃ v, store.lookup "self.prev" = some v ∧ toVal v = .ok prev

theorem scanRel_of_env {cls : String} {prev : α} {env : Env α} {v : DV α} (hv : getLoc "self.prev" env = .ok v)
    (htv : toVal v = .ok prev) : ScanRel cls prev (.obj cls (env.filter DnOn.selfP)) :=
  ⟨_, rfl, selfKeys_filter _, v, lookup_filter_get self_prev hv, htv⟩

/-- A class whose `update(self, sample)` is `wrap rv "i" (scanBody rv f)`, `f` a library function that computes `comb` of a
    sample value and whatever reads as a value: `update` is `scanUpdate comb`. -/
theorem gen_scan_update {cls name rv f : String} {fn : Fn} (comb : α → α → α) (hM : IsMethod name fn ["sample"])
    (hb : fn.body = wrap rv "i" (scanBody rv f))
    (hrv : rv ∉ ["i", "out_time", "out_value", "self.prev", "sample"] ++ libNames) (hf : f ∈ libNames)
    (hcall : ∀ (x p : α) (v : DV α), toVal v = .ok p → builtin f [.val x, v] = .ok (.val (comb x p)))
    (fuel k : Nat) (prev : α) (o : DV α) (h : ScanRel cls prev o) (s : ASig α) :
    ∃ o', callAt Gen.DenseOn.fns fuel (k + 1) name [o, encSig s] =
        .ok (.list [o', encSig (scanUpdate comb prev s).2]) ∧
      ScanRel cls (scanUpdate comb prev s).1 o' := by
  obtain ⟨store, rfl, hs, v, hv, htv⟩ := h
  simp only [List.cons_append, List.nil_append, List.mem_cons, not_or] at hrv
  obtain ⟨hr1, hr2, hr3, hr4, hr5, hrl⟩ := hrv
  have hstep : ∀ (t : α × ASig α) (p : Tm × α) (env : Env α), ScanInv rv t env →
      Exc.Sim (exec (callAt Gen.DenseOn.fns fuel k) fuel (scanBody rv f) (setLoc "i" (encSmp p) env))
        (.ok (comb p.2 t.1, t.2 ++ [(p.1, comb p.2 t.1)]) : Except PyErr _)
        fun t' (r : Res α) => r.2 = .none ∧ ScanInv rv t' r.1 := by
    rintro ⟨prev, acc⟩ ⟨t, x⟩ env ⟨hacc, ⟨w, hw, htw⟩, hL⟩
    refine .ok (scanBody_step _ fuel rv f (comb x prev) env _ t x w hr1 hr2 hr3 ?_ hacc hw)
      ⟨rfl, ?_, ⟨_, getLoc_setLoc_same _ _ _, rfl⟩, ?_⟩
    · rw [((hL.set loopVar_i.1 _).set out_time_not_lib _) f hf, callAt_lib fuel k hf]
      exact hcall x prev w htw
    · rw [getLoc_setLoc_ne _ _ _ _ hr4, getLoc_setLoc_same, encSig, List.map_append]; rfl
    · exact ((((hL.set loopVar_i.1 _).set out_time_not_lib _).set out_value_not_lib _).set hrl _).set prev_not_lib _
  obtain ⟨hsm, hL0⟩ := sample_start hs (encSig s)
  have h0 : ScanInv rv (prev, []) (setLoc rv (.list []) (store ++ [("sample", encSig s)])) :=
    ⟨getLoc_setLoc_same _ _ _, ⟨v, (getLoc_setLoc_ne _ _ _ _ (Ne.symm hr4)).trans (getLoc_append_left hv), htv⟩,
      hL0.set hrl _⟩
  have hbody := wrap_sim (call := callAt Gen.DenseOn.fns fuel k) (fuel := fuel) _ (ScanInv rv) (fun t => t.2) hstep
    (fun _ _ hI => hI.1) (s := s)
    ((getLoc_setLoc_ne _ _ _ _ (Ne.symm hr5)).trans hsm) h0
  rw [← hb, foldl_scan] at hbody
  have hcall := method_sim (cls := cls) (Q := fun t env' w => w = encSig t.2 ∧ ScanInv rv t env') hM
    (args := [encSig s]) rfl (hbody.mono fun t r hr => ⟨_, hr.1, rfl, hr.2⟩)
  obtain ⟨_, hc, env', _, rfl, rfl, -, ⟨v', hv', htv'⟩, -⟩ := hcall
  exact ⟨_, hc, scanRel_of_env hv' htv'⟩

theorem gen_OnceOperation_init (fuel k : Nat) : ∃ o : DV α,
    callAt Gen.DenseOn.fns fuel (k + 1) "OnceOperation.__init__" [.obj "OnceOperation" []] = .ok (.list [o, .none]) ∧
      ScanRel "OnceOperation" Val.ninf o :=
  ⟨_, method_none isMethod_Once_init rfl (exec.setLoc (v := .uinf true) rfl),
    scanRel_of_env (getLoc_setLoc_same _ _ _) rfl⟩

theorem gen_HistoricallyOperation_init (fuel k : Nat) : ∃ o : DV α,
    callAt Gen.DenseOn.fns fuel (k + 1) "HistoricallyOperation.__init__" [.obj "HistoricallyOperation" []] =
        .ok (.list [o, .none]) ∧
      ScanRel "HistoricallyOperation" Val.pinf o :=
  ⟨_, method_none isMethod_Historically_init rfl (exec.setLoc rfl),
    scanRel_of_env (getLoc_setLoc_same _ _ _) rfl⟩

theorem gen_OnceOperation_update (fuel k : Nat) (prev : α) (o : DV α) (h : ScanRel "OnceOperation" prev o) (s : ASig α) :
    ∃ o', callAt Gen.DenseOn.fns fuel (k + 1) "OnceOperation.update" [o, encSig s] =
        .ok (.list [o', encSig (scanUpdate pmax prev s).2]) ∧
      ScanRel "OnceOperation" (scanUpdate pmax prev s).1 o' :=
  gen_scan_update pmax isMethod_Once_update (rv := "sample_result") (f := "max") rfl
    (by decide +kernel) (lib_at 1 rfl) builtin_max fuel k prev o h s

theorem gen_HistoricallyOperation_update (fuel k : Nat) (prev : α) (o : DV α)
    (h : ScanRel "HistoricallyOperation" prev o) (s : ASig α) :
    ∃ o', callAt Gen.DenseOn.fns fuel (k + 1) "HistoricallyOperation.update" [o, encSig s] =
        .ok (.list [o', encSig (scanUpdate pmin prev s).2]) ∧
      ScanRel "HistoricallyOperation" (scanUpdate pmin prev s).1 o' :=
  gen_scan_update pmin isMethod_Historically_update (rv := "result_sample") (f := "min") rfl
    (by decide +kernel) (lib_at 2 rfl) builtin_min fuel k prev o h s

namespace GOnUn

/-- `max(min(x, y), min(x, self.prev))` -/
def svV (prev x y : α) : α := pmax (pmin x y) (pmin x prev)

/-- the arguments of the recursive call of `sinceLoop` -/
def sinceStep (a0 a1 b0 b1 : Tm) (av avn bv bvn : α) (ra rb : ASig α) (prev : α) (last : Option (Tm × α))
    (res : ASig α) : ASig α × ASig α × α × Option (Tm × α) × ASig α :=
  let emit := Tm.lt (tmMax a0 b0) (tmMin a1 b1)
  (if Tm.lt a1 b1 then (a1, avn) :: ra else if Tm.lt b1 a1 then (a0, av) :: (a1, avn) :: ra else (a1, avn) :: ra,
   if Tm.lt a1 b1 then (b0, bv) :: (b1, bvn) :: rb else (b1, bvn) :: rb,
   if emit then svV prev av bv else prev,
   if emit then some (tmMin a1 b1,
      if Tm.lt a1 b1 then svV prev avn bv else if Tm.lt b1 a1 then svV prev av bvn else svV prev avn bvn) else last,
   if emit then res ++ [(tmMax a0 b0, svV prev av bv)] else res)

theorem sinceLoop_step (a0 a1 b0 b1 : Tm) (av avn bv bvn : α) (ra rb : ASig α) (prev : α) (last : Option (Tm × α))
    (res : ASig α) :
    AlgOn.sinceLoop ((a0, av) :: (a1, avn) :: ra) ((b0, bv) :: (b1, bvn) :: rb) prev last res =
      (fun t : ASig α × ASig α × α × Option (Tm × α) × ASig α => AlgOn.sinceLoop t.1 t.2.1 t.2.2.1 t.2.2.2.1 t.2.2.2.2)
        (sinceStep a0 a1 b0 b1 av avn bv bvn ra rb prev last res) := by
  rw [AlgOn.sinceLoop]
  unfold sinceStep svV
  cases Tm.lt a1 b1 <;> cases Tm.lt b1 a1 <;> cases Tm.lt (tmMax a0 b0) (tmMin a1 b1) <;> simp

theorem sinceLoop_short (a b : ASig α) (prev : α) (last : Option (Tm × α)) (res : ASig α)
    (h : a.length < 2 ∨ b.length < 2) : AlgOn.sinceLoop a b prev last res = (a, b, prev, last, res) := by
  unfold AlgOn.sinceLoop
  split
  · simp only [List.length_cons] at h; omega
  · rfl

theorem sinceStep_length (a0 a1 b0 b1 : Tm) (av avn bv bvn : α) (ra rb : ASig α) (prev : α) (last : Option (Tm × α))
    (res : ASig α) :
    (sinceStep a0 a1 b0 b1 av avn bv bvn ra rb prev last res).1.length +
      (sinceStep a0 a1 b0 b1 av avn bv bvn ra rb prev last res).2.1.length < (ra.length + 2) + (rb.length + 2) := by
  unfold sinceStep
  cases h1 : Tm.lt a1 b1 <;> cases h2 : Tm.lt b1 a1 <;> simp <;> omega

def im1 (x : String) : E := .bin .sub (.loc x) (.int 1)

theorem evalE_im1 {call : Call α} {env : Env α} {x : String} (h : getLoc x env = .ok (.int 1)) :
    evalE call env (im1 x) = .ok (.int 0) :=
  evalE.bin (op := .sub) (evalE.loc h) (b := .int 1) rfl
def svE (x y : String) : E := .call2 "max" (.call2 "min" (.loc x) (.loc y)) (.call2 "min" (.loc x) (.loc "self.prev"))

def sincePre (rest : S) : S :=
  (.seq (.setLoc "a_start" (.idx (.idx (.loc "a") (im1 "i")) (.int 0)))
  (.seq (.setLoc "a_end" (.idx (.idx (.loc "a") (.loc "i")) (.int 0)))
  (.seq (.setLoc "b_start" (.idx (.idx (.loc "b") (im1 "j")) (.int 0)))
  (.seq (.setLoc "b_end" (.idx (.idx (.loc "b") (.loc "j")) (.int 0)))
  (.seq (.setLoc "a_val" (.idx (.idx (.loc "a") (im1 "i")) (.int 1)))
  (.seq (.setLoc "b_val" (.idx (.idx (.loc "b") (im1 "j")) (.int 1)))
  (.seq (.setLoc "a_val_next" (.idx (.idx (.loc "a") (.loc "i")) (.int 1)))
  (.seq (.setLoc "b_val_next" (.idx (.idx (.loc "b") (.loc "j")) (.int 1))) rest))))))))

def sinceBranch : S :=
  (.ite (.bin .lt (.loc "a_end") (.loc "b_end"))
    (.seq (.setLoc "last_val" (svE "a_val_next" "b_val")) (.delIdx "a" (im1 "i")))
    (.ite (.bin .gt (.loc "a_end") (.loc "b_end"))
      (.seq (.setLoc "last_val" (svE "a_val" "b_val_next")) (.delIdx "b" (im1 "j")))
      (.seq (.setLoc "last_val" (svE "a_val_next" "b_val_next")) (.seq (.delIdx "a" (im1 "i")) (.delIdx "b" (im1 "j"))))))

def sinceEmit : S :=
  (.seq (.setLoc "lo" (.call2 "max" (.loc "a_start") (.loc "b_start")))
  (.seq (.setLoc "hi" (.call2 "min" (.loc "a_end") (.loc "b_end")))
  (.seq (.setLoc "val" .nan)
  (.ite (.bin .lt (.loc "lo") (.loc "hi"))
    (.seq (.setLoc "val" (svE "a_val" "b_val"))
    (.seq (.appendLoc "sample_result" (.list2 (.loc "lo") (.loc "val")))
    (.seq (.setLoc "self.prev" (.loc "val")) (.setLoc "last" (.list2 (.loc "hi") (.loc "last_val"))))))
    .skip))))

def sinceBody : S := sincePre (.seq sinceBranch sinceEmit)

def sinceCond : E := (.and_ (.bin .gt (.call1 "len" (.loc "a")) (.int 1)) (.bin .gt (.call1 "len" (.loc "b")) (.int 1)))

def sincePost : S := (.seq (.setLoc "self.sample_left_buf" (.loc "a")) (.seq (.setLoc "self.sample_right_buf" (.loc "b")) (.seq (.setLoc "self.last" (.loc "last")) (.ret (.loc "sample_result")))))

theorem SinceOperation_update_body : Gen.DenseOn.SinceOperation_update.body =
    (.seq (.setLoc "sample_result" .emptyList) (.seq (.setLoc "a" (.bin .add (.loc "self.sample_left_buf") (.loc "sample_left"))) (.seq (.setLoc "b" (.bin .add (.loc "self.sample_right_buf") (.loc "sample_right"))) (.seq (.seq (.setLoc "i" (.int 1)) (.setLoc "j" (.int 1))) (.seq (.setLoc "last" (.loc "self.last")) (.seq (.while_ sinceCond sinceBody) sincePost)))))) := rfl

structure Calls (call : Call α) : Prop where
  len : ∀ l : List (DV α), call "len" [.list l] = .ok (.int l.length)
  maxV : ∀ x y : α, call "max" [.val x, .val y] = .ok (.val (pmax x y))
  minV : ∀ x y : α, call "min" [.val x, .val y] = .ok (.val (pmin x y))
  minP : ∀ (x p : α) (v : DV α), toVal v = .ok p → call "min" [.val x, v] = .ok (.val (pmin x p))
  maxT : ∀ s t : Tm, call "max" [.tm s, .tm t] = .ok (.tm (tmMax s t))
  minT : ∀ s t : Tm, call "min" [.tm s, .tm t] = .ok (.tm (tmMin s t))

theorem calls_callAt (fuel k : Nat) : Calls (callAt (α := α) Gen.DenseOn.fns fuel k) where
  len l := by rw [callAt_lib _ _ (lib_at 0 rfl)]; simp [builtin]
  maxV x y := by rw [callAt_lib _ _ (lib_at 1 rfl)]; exact builtin_max x y (.val y) rfl
  minV x y := by rw [callAt_lib _ _ (lib_at 2 rfl)]; exact builtin_min x y (.val y) rfl
  minP x p v h := by rw [callAt_lib _ _ (lib_at 2 rfl)]; exact builtin_min x p v h
  maxT s t := by rw [callAt_lib _ _ (lib_at 1 rfl)]; simp [builtin, isTimeLike, toTm, tmMax]
  minT s t := by rw [callAt_lib _ _ (lib_at 2 rfl)]; simp [builtin, isTimeLike, toTm, tmMin]

/-- the locals between two iterations -/
structure SInv (env : Env α) (a b : ASig α) (v : DV α) (prev : α) (last : Option (Tm × α)) (res : ASig α) : Prop where
  a : getLoc "a" env = .ok (encSig a)
  b : getLoc "b" env = .ok (encSig b)
  i : getLoc "i" env = .ok (.int 1)
  j : getLoc "j" env = .ok (.int 1)
  pv : getLoc "self.prev" env = .ok v
  tv : toVal v = .ok prev
  last : getLoc "last" env = .ok (encOptSmp last)
  res : getLoc "sample_result" env = .ok (encSig res)
  rlen : resolve env "len" = "len"
  rmax : resolve env "max" = "max"
  rmin : resolve env "min" = "min"

theorem SInv.assign {env : Env α} {a b : ASig α} {v : DV α} {prev : α} {last : Option (Tm × α)} {res : ASig α}
    (h : SInv env a b v prev last res) {k : String} (w : DV α) {a' b' : ASig α}
    (hk : k ∉ ["i", "j", "self.prev", "last", "sample_result", "len", "max", "min"])
    (ha : getLoc "a" (setLoc k w env) = .ok (encSig a')) (hb : getLoc "b" (setLoc k w env) = .ok (encSig b')) :
    SInv (setLoc k w env) a' b' v prev last res := by
  simp only [List.mem_cons, List.not_mem_nil, or_false, not_or] at hk
  obtain ⟨k3, k4, k5, k6, k7, k8, k9, k10⟩ := hk
  exact ⟨ha, hb, (getLoc_setLoc_ne _ _ _ _ (Ne.symm k3)).trans h.i, (getLoc_setLoc_ne _ _ _ _ (Ne.symm k4)).trans h.j,
    (getLoc_setLoc_ne _ _ _ _ (Ne.symm k5)).trans h.pv, h.tv, (getLoc_setLoc_ne _ _ _ _ (Ne.symm k6)).trans h.last,
    (getLoc_setLoc_ne _ _ _ _ (Ne.symm k7)).trans h.res, (resolve_setLoc_ne _ _ _ _ (Ne.symm k8)).trans h.rlen,
    (resolve_setLoc_ne _ _ _ _ (Ne.symm k9)).trans h.rmax, (resolve_setLoc_ne _ _ _ _ (Ne.symm k10)).trans h.rmin⟩

theorem SInv.setLoc_other {env : Env α} {a b : ASig α} {v : DV α} {prev : α} {last : Option (Tm × α)} {res : ASig α}
    (h : SInv env a b v prev last res) {k : String} (w : DV α)
    (hk : k ∉ ["a", "b", "i", "j", "self.prev", "last", "sample_result", "len", "max", "min"]) :
    SInv (setLoc k w env) a b v prev last res :=
  have hb := List.not_mem_of_not_mem_cons hk
  h.assign w (List.not_mem_of_not_mem_cons hb)
    ((getLoc_setLoc_ne _ _ _ _ (Ne.symm (List.ne_of_not_mem_cons hk))).trans h.a)
    ((getLoc_setLoc_ne _ _ _ _ (Ne.symm (List.ne_of_not_mem_cons hb))).trans h.b)

theorem SInv.setA {env : Env α} {a b : ASig α} {v : DV α} {prev : α} {last : Option (Tm × α)} {res : ASig α}
    (h : SInv env a b v prev last res) (a' : ASig α) : SInv (setLoc "a" (encSig a') env) a' b v prev last res :=
  h.assign _ (by simp) (getLoc_setLoc_same _ _ _) ((getLoc_setLoc_ne _ _ _ _ (by simp)).trans h.b)

theorem SInv.setB {env : Env α} {a b : ASig α} {v : DV α} {prev : α} {last : Option (Tm × α)} {res : ASig α}
    (h : SInv env a b v prev last res) (b' : ASig α) : SInv (setLoc "b" (encSig b') env) a b' v prev last res :=
  h.assign _ (by simp) ((getLoc_setLoc_ne _ _ _ _ (by simp)).trans h.a) (getLoc_setLoc_same _ _ _)

/-- the locals after the `if / elif / else` of one iteration -/
structure SInv2 (env : Env α) (a b : ASig α) (v : DV α) (prev : α) (last : Option (Tm × α)) (res : ASig α)
    (a0 a1 b0 b1 : Tm) (av bv lv : α) : Prop extends SInv env a b v prev last res where
  as : getLoc "a_start" env = .ok (.tm a0)
  ae : getLoc "a_end" env = .ok (.tm a1)
  bs : getLoc "b_start" env = .ok (.tm b0)
  be : getLoc "b_end" env = .ok (.tm b1)
  av : getLoc "a_val" env = .ok (.val av)
  bv : getLoc "b_val" env = .ok (.val bv)
  lv : getLoc "last_val" env = .ok (.val lv)

section body
variable (call : Call α) (fuel : Nat)

theorem pre_spec (rest : S) (env : Env α) (a0 a1 b0 b1 : Tm) (av avn bv bvn : α) (la lb : List (DV α))
    (ha : getLoc "a" env = .ok (.list (.smp a0 (.val av) :: .smp a1 (.val avn) :: la)))
    (hb : getLoc "b" env = .ok (.list (.smp b0 (.val bv) :: .smp b1 (.val bvn) :: lb)))
    (hi : getLoc "i" env = .ok (.int 1)) (hj : getLoc "j" env = .ok (.int 1)) :
    exec call fuel (sincePre rest) env = exec call fuel rest
      (setLoc "b_val_next" (.val bvn) (setLoc "a_val_next" (.val avn) (setLoc "b_val" (.val bv) (setLoc "a_val" (.val av)
        (setLoc "b_end" (.tm b1) (setLoc "b_start" (.tm b0) (setLoc "a_end" (.tm a1) (setLoc "a_start" (.tm a0) env)))))))) := by
  have cur {env' : Env α} {x ix : String} {y z : DV α} {l : List (DV α)} (hx : getLoc x env' = .ok (.list (y :: z :: l)))
      (hix : getLoc ix env' = .ok (.int 1)) : evalE call env' (.idx (.loc x) (.loc ix)) = .ok z :=
    ((evalE.idx (evalE.loc hx) (evalE.loc hix)).trans (evalIdx.cons1 _ _ _))
  have prv {env' : Env α} {x ix : String} {y : DV α} {l : List (DV α)} (hx : getLoc x env' = .ok (.list (y :: l)))
      (hix : getLoc ix env' = .ok (.int 1)) : evalE call env' (.idx (.loc x) (im1 ix)) = .ok y :=
    ((evalE.idx (evalE.loc hx) (evalE_im1 hix)).trans (evalIdx.cons0 _ _))
  unfold sincePre
  rw [exec.seq_setLoc (v := .tm a0) (((evalE.idx (prv ha hi) rfl).trans (evalIdx.smp0 _ _))),
    exec.seq_setLoc (v := .tm a1)
      (((evalE.idx (cur (by simpa using ha) (by simpa using hi)) rfl).trans (evalIdx.smp0 _ _))),
    exec.seq_setLoc (v := .tm b0)
      (((evalE.idx (prv (by simpa using hb) (by simpa using hj)) rfl).trans (evalIdx.smp0 _ _))),
    exec.seq_setLoc (v := .tm b1)
      (((evalE.idx (cur (by simpa using hb) (by simpa using hj)) rfl).trans (evalIdx.smp0 _ _))),
    exec.seq_setLoc (v := .val av)
      (((evalE.idx (prv (by simpa using ha) (by simpa using hi)) rfl).trans (evalIdx.smp1 _ _))),
    exec.seq_setLoc (v := .val bv)
      (((evalE.idx (prv (by simpa using hb) (by simpa using hj)) rfl).trans (evalIdx.smp1 _ _))),
    exec.seq_setLoc (v := .val avn)
      (((evalE.idx (cur (by simpa using ha) (by simpa using hi)) rfl).trans (evalIdx.smp1 _ _))),
    exec.seq_setLoc (v := .val bvn)
      (((evalE.idx (cur (by simpa using hb) (by simpa using hj)) rfl).trans (evalIdx.smp1 _ _)))]

theorem evalE_ltT {env : Env α} {x y : String} {s t : Tm}
    (hx : getLoc x env = .ok (.tm s)) (hy : getLoc y env = .ok (.tm t)) :
    evalE call env (.bin .lt (.loc x) (.loc y)) = .ok (.bool (Tm.lt s t)) :=
  (evalE.bin (evalE.loc hx) (evalE.loc hy)).trans (evalBin.lt_tm s t)

theorem evalE_gtT {env : Env α} {x y : String} {s t : Tm}
    (hx : getLoc x env = .ok (.tm s)) (hy : getLoc y env = .ok (.tm t)) :
    evalE call env (.bin .gt (.loc x) (.loc y)) = .ok (.bool (Tm.lt t s)) :=
  (evalE.bin (evalE.loc hx) (evalE.loc hy)).trans (evalBin.gt_tm s t)

theorem exec_del0 {env : Env α} (x ix : String) {x0 : DV α} {l : List (DV α)}
    (hx : getLoc x env = .ok (.list (x0 :: l))) (hi : getLoc ix env = .ok (.int 1)) :
    exec call fuel (.delIdx x (im1 ix)) env = .ok (setLoc x (.list l) env, .none) := by
  rw [exec, hx, evalE_im1 hi]
  rfl

variable (C : Calls call)
include C

theorem evalE_sv {env : Env α} {x y : String} {X Y prev : α} {v : DV α}
    (hx : getLoc x env = .ok (.val X)) (hy : getLoc y env = .ok (.val Y))
    (hpv : getLoc "self.prev" env = .ok v) (htv : toVal v = .ok prev)
    (hrmax : resolve env "max" = "max") (hrmin : resolve env "min" = "min") :
    evalE call env (svE x y) = .ok (.val (svV prev X Y)) := by
  unfold svE
  rw [evalE.call2 ((evalE.call2 (evalE.loc hx) (evalE.loc hy)).trans (hrmin ▸ C.minV X Y))
    ((evalE.call2 (evalE.loc hx) (evalE.loc hpv)).trans (hrmin ▸ C.minP X prev v htv)), hrmax]
  exact C.maxV _ _

/-- the `if / elif / else` of one iteration, after the eight reads at its head -/
theorem branch_spec {env : Env α} {a0 a1 b0 b1 : Tm} {av avn bv bvn : α} {ra rb : ASig α} {v : DV α} {prev : α}
    {last : Option (Tm × α)} {res : ASig α}
    (inv : SInv env ((a0, av) :: (a1, avn) :: ra) ((b0, bv) :: (b1, bvn) :: rb) v prev last res)
    (has : getLoc "a_start" env = .ok (.tm a0)) (hae : getLoc "a_end" env = .ok (.tm a1))
    (hbs : getLoc "b_start" env = .ok (.tm b0)) (hbe : getLoc "b_end" env = .ok (.tm b1))
    (hav : getLoc "a_val" env = .ok (.val av)) (havn : getLoc "a_val_next" env = .ok (.val avn))
    (hbv : getLoc "b_val" env = .ok (.val bv)) (hbvn : getLoc "b_val_next" env = .ok (.val bvn)) :
    ∃ env', exec call fuel sinceBranch env = .ok (env', .none) ∧
      SInv2 env'
        (if Tm.lt a1 b1 then (a1, avn) :: ra else if Tm.lt b1 a1 then (a0, av) :: (a1, avn) :: ra else (a1, avn) :: ra)
        (if Tm.lt a1 b1 then (b0, bv) :: (b1, bvn) :: rb else (b1, bvn) :: rb) v prev last res a0 a1 b0 b1 av bv
        (if Tm.lt a1 b1 then svV prev avn bv else if Tm.lt b1 a1 then svV prev av bvn else svV prev avn bvn) := by
  have inv1 (lv : α) := inv.setLoc_other (k := "last_val") (.val lv) (by simp)
  unfold sinceBranch
  rw [exec.ite (evalE_ltT call hae hbe) rfl]
  cases h1 : Tm.lt a1 b1 with
  | true =>
      simp only [if_true]
      rw [exec.seq_setLoc (evalE_sv call C havn hbv inv.pv inv.tv inv.rmax inv.rmin)]
      exact ⟨_, exec_del0 call fuel "a" "i" (inv1 _).a (inv1 _).i, (inv1 _).setA ((a1, avn) :: ra), by simp [has],
        by simp [hae], by simp [hbs], by simp [hbe], by simp [hav], by simp [hbv], by simp⟩
  | false =>
      simp only [Bool.false_eq_true, if_false]
      rw [exec.ite (evalE_gtT call hae hbe) rfl]
      cases h2 : Tm.lt b1 a1 with
      | true =>
          simp only [if_true]
          rw [exec.seq_setLoc (evalE_sv call C hav hbvn inv.pv inv.tv inv.rmax inv.rmin)]
          exact ⟨_, exec_del0 call fuel "b" "j" (inv1 _).b (inv1 _).j, (inv1 _).setB ((b1, bvn) :: rb), by simp [has],
            by simp [hae], by simp [hbs], by simp [hbe], by simp [hav], by simp [hbv], by simp⟩
      | false =>
          simp only [Bool.false_eq_true, if_false]
          have inv2 := (inv1 (svV prev avn bvn)).setA ((a1, avn) :: ra)
          rw [exec.seq_setLoc (evalE_sv call C havn hbvn inv.pv inv.tv inv.rmax inv.rmin),
            exec.seq_ok (exec_del0 call fuel "a" "i" (inv1 _).a (inv1 _).i)]
          exact ⟨_, exec_del0 call fuel "b" "j" inv2.b inv2.j, inv2.setB ((b1, bvn) :: rb), by simp [has],
            by simp [hae], by simp [hbs], by simp [hbe], by simp [hav], by simp [hbv], by simp⟩

theorem emit_spec {env : Env α} {a b : ASig α} {v : DV α} {prev : α} {last : Option (Tm × α)} {res : ASig α}
    {a0 a1 b0 b1 : Tm} {av bv lv : α} (h : SInv2 env a b v prev last res a0 a1 b0 b1 av bv lv) :
    ∃ env' v', exec call fuel sinceEmit env = .ok (env', .none) ∧
      SInv env' a b v' (if Tm.lt (tmMax a0 b0) (tmMin a1 b1) then svV prev av bv else prev)
        (if Tm.lt (tmMax a0 b0) (tmMin a1 b1) then some (tmMin a1 b1, lv) else last)
        (if Tm.lt (tmMax a0 b0) (tmMin a1 b1) then res ++ [(tmMax a0 b0, svV prev av bv)] else res) := by
  unfold sinceEmit
  have h1 := h.toSInv.setLoc_other (k := "lo") (.tm (tmMax a0 b0)) (by simp)
  rw [exec.seq_setLoc ((evalE.call2 (evalE.loc h.as) (evalE.loc h.bs)).trans (h.rmax ▸ C.maxT a0 b0)),
    exec.seq_setLoc ((evalE.call2 (evalE.loc (by simpa using h.ae)) (evalE.loc (by simpa using h.be))).trans
      (h1.rmin ▸ C.minT a1 b1)),
    exec.seq_setLoc (v := .nan) rfl,
    exec.ite (evalE_ltT call (s := tmMax a0 b0) (t := tmMin a1 b1) (by simp) (by simp)) rfl]
  cases h3 : Tm.lt (tmMax a0 b0) (tmMin a1 b1) with
  | false =>
      refine ⟨_, v, (if_neg Bool.false_ne_true).trans exec.skip, ?_⟩
      simp only [Bool.false_eq_true, if_false]
      exact (h1.setLoc_other _ (by simp)).setLoc_other _ (by simp)
  | true =>
      simp only [if_true]
      rw [exec.seq_setLoc
        (evalE_sv call C (X := av) (Y := bv) (v := v) (by simp [h.av]) (by simp [h.bv]) (by simp [h.pv]) h.tv
          (by simp [h.rmax]) (by simp [h.rmin]))]
      have h4 := ((h1.setLoc_other (k := "hi") (.tm (tmMin a1 b1)) (by simp)).setLoc_other (k := "val") .nan
        (by simp)).setLoc_other (k := "val") (.val (svV prev av bv)) (by simp)
      generalize he4 : setLoc "val" _ (setLoc "val" _ _) = e4 at h4 ⊢
      have glo : getLoc "lo" e4 = .ok (.tm (tmMax a0 b0)) := by simp [← he4]
      have ghi : getLoc "hi" e4 = .ok (.tm (tmMin a1 b1)) := by simp [← he4]
      have gval : getLoc "val" e4 = .ok (.val (svV prev av bv)) := by simp [← he4]
      have glv : getLoc "last_val" e4 = .ok (.val lv) := by simp [← he4, h.lv]
      rw [exec.seq_ok (exec.appendLoc ((evalE.list2 (evalE.loc glo) (evalE.loc gval)).trans rfl) h4.res),
        exec.seq_setLoc (evalE.loc (by simpa using gval)),
        exec.setLoc ((evalE.list2 (x := .tm (tmMin a1 b1)) (y := .val lv) (evalE.loc (by simpa using ghi))
          (evalE.loc (by simpa using glv))).trans rfl)]
      refine ⟨_, .val (svV prev av bv), rfl, ?_⟩
      constructor <;> simp [h4.a, h4.b, h4.i, h4.j, h4.rlen, h4.rmax, h4.rmin, encOptSmp, encSmp, encSig, toVal]

theorem cond_spec {env : Env α} {a b : ASig α} {v : DV α} {prev : α} {last : Option (Tm × α)} {res : ASig α}
    (h : SInv env a b v prev last res) :
    (do truthy (← evalE call env sinceCond)) = .ok (decide (1 < a.length) && decide (1 < b.length)) := by
  have len {x : String} {l : ASig α} (hx : getLoc x env = .ok (encSig l)) :
      evalE call env (.bin .gt (.call1 "len" (.loc x)) (.int 1)) = .ok (.bool (decide (1 < l.length))) := by
    rw [evalE.bin ((evalE.call1 (evalE.loc hx)).trans (h.rlen ▸ C.len _)) (y := .int 1) rfl]
    exact congrArg (fun c => Except.ok (DV.bool c)) (decide_eq_decide.mpr (by rw [List.length_map]; omega))
  unfold sinceCond
  rw [evalE.and_bool (len h.a) (len h.b)]
  rfl

theorem body_spec {env : Env α} {a0 a1 b0 b1 : Tm} {av avn bv bvn : α} {ra rb : ASig α} {v : DV α} {prev : α}
    {last : Option (Tm × α)} {res : ASig α}
    (inv : SInv env ((a0, av) :: (a1, avn) :: ra) ((b0, bv) :: (b1, bvn) :: rb) v prev last res) :
    ∃ env' v', exec call fuel sinceBody env = .ok (env', .none) ∧
      SInv env' (sinceStep a0 a1 b0 b1 av avn bv bvn ra rb prev last res).1
        (sinceStep a0 a1 b0 b1 av avn bv bvn ra rb prev last res).2.1 v'
        (sinceStep a0 a1 b0 b1 av avn bv bvn ra rb prev last res).2.2.1
        (sinceStep a0 a1 b0 b1 av avn bv bvn ra rb prev last res).2.2.2.1
        (sinceStep a0 a1 b0 b1 av avn bv bvn ra rb prev last res).2.2.2.2 := by
  have inv8 := (((((((inv.setLoc_other (k := "a_start") (.tm a0) (by simp)).setLoc_other (k := "a_end")
    (.tm a1) (by simp)).setLoc_other (k := "b_start") (.tm b0) (by simp)).setLoc_other (k := "b_end") (.tm b1)
    (by simp)).setLoc_other (k := "a_val") (.val av) (by simp)).setLoc_other (k := "b_val") (.val bv)
    (by simp)).setLoc_other (k := "a_val_next") (.val avn) (by simp)).setLoc_other (k := "b_val_next") (.val bvn)
    (by simp)
  obtain ⟨envB, hbr, inv2⟩ := branch_spec call fuel C inv8 (by simp) (by simp) (by simp) (by simp) (by simp) (by simp)
    (by simp) (by simp)
  unfold sinceBody
  rw [pre_spec call fuel _ env a0 a1 b0 b1 av avn bv bvn _ _ inv.a inv.b inv.i inv.j, exec.seq_ok hbr]
  exact emit_spec call fuel C inv2

theorem loop_spec : ∀ (n : Nat) (a b : ASig α) (v : DV α) (prev : α) (last : Option (Tm × α)) (res : ASig α) (env : Env α),
    a.length + b.length < n → SInv env a b v prev last res →
    ∃ env' v', whileLoop (fun env => do truthy (← evalE call env sinceCond)) (exec call fuel sinceBody) n env =
        .ok (env', .none) ∧
      SInv env' (AlgOn.sinceLoop a b prev last res).1 (AlgOn.sinceLoop a b prev last res).2.1 v' (AlgOn.sinceLoop a b prev last res).2.2.1
        (AlgOn.sinceLoop a b prev last res).2.2.2.1 (AlgOn.sinceLoop a b prev last res).2.2.2.2 := by
  intro n
  induction n with
  | zero => intro a b v prev last res env hn; omega
  | succ n ih =>
      intro a b v prev last res env hn h
      have hc := cond_spec call C h
      by_cases hl : a.length < 2 ∨ b.length < 2
      · rw [sinceLoop_short a b prev last res hl]
        have hf : (decide (1 < a.length) && decide (1 < b.length)) = false := by
          rcases hl with hl | hl <;> simp <;> omega
        rw [hf] at hc
        exact ⟨env, v, whileLoop_done _ _ _ _ hc, h⟩
      · have ht : (decide (1 < a.length) && decide (1 < b.length)) = true := by
          simp; omega
        rw [ht] at hc
        obtain ⟨⟨a0, av⟩, ⟨a1, avn⟩, ra, rfl⟩ := exists_cons_cons (fun h => hl (.inl (Nat.lt_succ_of_le h)))
        obtain ⟨⟨b0, bv⟩, ⟨b1, bvn⟩, rb, rfl⟩ := exists_cons_cons (fun h => hl (.inr (Nat.lt_succ_of_le h)))
        obtain ⟨env1, v1, hex, hinv⟩ := body_spec call fuel C h
        rw [whileLoop_step _ _ _ _ _ hc hex, sinceLoop_step]
        refine ih _ _ _ _ _ _ env1 ?_ hinv
        have := sinceStep_length a0 a1 b0 b1 av avn bv bvn ra rb prev last res
        simp only [List.length_cons] at hn
        omega

theorem run_spec (env0 : Env α) (st : SinceSt α) (sl sr : ASig α) (v : DV α)
    (g1 : getLoc "self.sample_left_buf" env0 = .ok (encSig st.bufA))
    (g2 : getLoc "self.sample_right_buf" env0 = .ok (encSig st.bufB))
    (g3 : getLoc "self.prev" env0 = .ok v) (htv : toVal v = .ok st.prev)
    (g4 : getLoc "self.last" env0 = .ok (encOptSmp st.last))
    (g5 : getLoc "sample_left" env0 = .ok (encSig sl)) (g6 : getLoc "sample_right" env0 = .ok (encSig sr))
    (hL : LibFree env0)
    (hf : st.bufA.length + sl.length + st.bufB.length + sr.length + 1 ≤ fuel) :
    ∃ env' v', exec call fuel Gen.DenseOn.SinceOperation_update.body env0 =
        .ok (env', .ret (encSig (sinceUpdate st sl sr).2)) ∧
      getLoc "self.sample_left_buf" env' = .ok (encSig (sinceUpdate st sl sr).1.bufA) ∧
      getLoc "self.sample_right_buf" env' = .ok (encSig (sinceUpdate st sl sr).1.bufB) ∧
      getLoc "self.prev" env' = .ok v' ∧ toVal v' = .ok (sinceUpdate st sl sr).1.prev ∧
      getLoc "self.last" env' = .ok (encOptSmp (sinceUpdate st sl sr).1.last) := by
  rw [SinceOperation_update_body,
    exec.seq_setLoc (v := .list []) rfl,
    exec.seq_setLoc (evalE_concat (evalE.loc (by simpa using g1)) (evalE.loc (by simpa using g5))),
    exec.seq_setLoc (evalE_concat (evalE.loc (by simpa using g2)) (evalE.loc (by simpa using g6))),
    exec.seq_ok ((exec.seq_setLoc (v := .int 1) rfl).trans (exec.setLoc (v := .int 1) rfl)),
    exec.seq_setLoc (evalE.loc (by simpa using g4))]
  generalize henv : setLoc "last" _ _ = env5
  have hinv : SInv env5 (st.bufA ++ sl) (st.bufB ++ sr) v st.prev st.last [] := by
    have r1 := hL _ (lib_at 0 rfl)
    have r2 := hL _ (lib_at 1 rfl)
    have r3 := hL _ (lib_at 2 rfl)
    subst henv
    constructor <;> simp [g3, htv, r1, r2, r3, encSig]
  obtain ⟨env1, v1, hloop, inv⟩ := loop_spec call fuel C fuel _ _ _ _ _ _ _
    (by simp only [List.length_append]; omega) hinv
  obtain ⟨L, hL⟩ : ∃ L, L = AlgOn.sinceLoop (st.bufA ++ sl) (st.bufB ++ sr) st.prev st.last [] := ⟨_, rfl⟩
  rw [show sinceUpdate st sl sr = (⟨L.1, L.2.1, L.2.2.1, L.2.2.2.1⟩, L.2.2.2.2) by rw [hL]; rfl]
  rw [← hL] at inv
  unfold sincePost
  rw [exec.seq_ok ((exec.while_ _ _).trans hloop), exec.seq_setLoc (evalE.loc inv.a),
    exec.seq_setLoc (evalE.loc (by simpa using inv.b)), exec.seq_setLoc (evalE.loc (by simpa using inv.last))]
  exact ⟨_, v1, exec.ret (evalE.loc (by simpa using inv.res)), by simp, by simp, by simp [inv.pv], inv.tv, by simp⟩

end body

end GOnUn

/-- The object of `SinceOperation` in the state `st` of the mirror. -/
def SinceRel (st : SinceSt α) (o : DV α) : Prop :=
  ∃ store, o = .obj "SinceOperation" store ∧ (∀ p ∈ store, isSelfKey p.1 = true) ∧
    store.lookup "self.sample_left_buf" = some (encSig st.bufA) ∧
    store.lookup "self.sample_right_buf" = some (encSig st.bufB) ∧
    (∃ v, store.lookup "self.prev" = some v ∧ toVal v = .ok st.prev) ∧
    store.lookup "self.last" = some (encOptSmp st.last)

theorem sinceRel_of_env {st : SinceSt α} {env : Env α} {v : DV α}
    (h1 : getLoc "self.sample_left_buf" env = .ok (encSig st.bufA))
    (h2 : getLoc "self.sample_right_buf" env = .ok (encSig st.bufB))
    (h3 : getLoc "self.prev" env = .ok v) (htv : toVal v = .ok st.prev)
    (h4 : getLoc "self.last" env = .ok (encOptSmp st.last)) : SinceRel st (.obj "SinceOperation" (env.filter DnOn.selfP)) :=
  ⟨_, rfl, selfKeys_filter _, lookup_filter_get (by decide +kernel) h1, lookup_filter_get (by decide +kernel) h2,
    ⟨v, lookup_filter_get self_prev h3, htv⟩, lookup_filter_get (by decide +kernel) h4⟩

theorem gen_SinceOperation_init (fuel k : Nat) : ∃ o : DV α,
    callAt Gen.DenseOn.fns fuel (k + 1) "SinceOperation.__init__" [.obj "SinceOperation" []] = .ok (.list [o, .none]) ∧
      SinceRel { prev := Val.ninf } o := by
  refine ⟨_, method_none isMethod_Since_init rfl
    (env' := setLoc "self.last" (.list []) (setLoc "self.prev" (.uinf true) (setLoc "self.sample_right_buf" (.list [])
      (setLoc "self.sample_left_buf" (.list []) [])))) ?_, sinceRel_of_env (v := .uinf true) ?_ ?_ ?_ rfl ?_⟩
  · exact (exec.seq_setLoc (v := .list []) rfl).trans ((exec.seq_setLoc (v := .list []) rfl).trans
      ((exec.seq_setLoc (v := .uinf true) rfl).trans (exec.setLoc (v := .list []) rfl)))
  all_goals simp [encSig, encOptSmp]

/-- `SinceOperation.update` = `sinceUpdate`; the `while` loop runs at most `len(a) + len(b)` times -/
theorem gen_SinceOperation_update (fuel k : Nat) (st : SinceSt α) (o : DV α) (h : SinceRel st o) (sl sr : ASig α)
    (hf : st.bufA.length + sl.length + st.bufB.length + sr.length + 1 ≤ fuel) :
    ∃ o', callAt Gen.DenseOn.fns fuel (k + 1) "SinceOperation.update" [o, encSig sl, encSig sr] =
        .ok (.list [o', encSig (sinceUpdate st sl sr).2]) ∧
      SinceRel (sinceUpdate st sl sr).1 o' := by
  obtain ⟨store, rfl, hs, h1, h2, ⟨v, h3, htv⟩, h4⟩ := h
  obtain ⟨env', v', hex, e1, e2, e3, e4, e5⟩ := run_spec (callAt Gen.DenseOn.fns fuel k) fuel (calls_callAt fuel k)
    (store ++ ["sample_left", "sample_right"].zip [encSig sl, encSig sr]) st sl sr v
    (getLoc_append_left h1) (getLoc_append_left h2) (getLoc_append_left h3) htv (getLoc_append_left h4)
    ((getLoc_append_right (lookup_none_of_selfKeys _ hs _ (isMethod_Since_update.nonself _ List.mem_cons_self))).trans rfl)
    ((getLoc_append_right (lookup_none_of_selfKeys _ hs _
      (isMethod_Since_update.nonself _ (List.mem_cons_of_mem _ List.mem_cons_self)))).trans rfl)
    (libFree_start hs lib_ne_samples _) hf
  have hcall := method_sim (cls := "SinceOperation") (store := store) (m := (.ok () : Except PyErr Unit))
    (Q := fun _ e w => e = env' ∧ w = encSig (sinceUpdate st sl sr).2) (fuel := fuel) (k := k)
    isMethod_Since_update (args := [encSig sl, encSig sr]) rfl (.ok hex ⟨_, rfl, rfl, rfl⟩)
  obtain ⟨_, hc, _, _, rfl, rfl, rfl⟩ := hcall
  exact ⟨_, hc, sinceRel_of_env e1 e2 e3 e4 e5⟩

/-! `ConstantOperation`, `VariableOperation`: the runner `Rtamt/Py/RunDnOn.lean` models the leaves by hand and never calls these. -/

/-- The object of `ConstantOperation` for the constant `c`; `first` is the attribute `is_first_sample`. -/
def ConstRel (c : α) (first : Bool) (o : DV α) : Prop :=
  ∃ store, o = .obj "ConstantOperation" store ∧ (∀ p ∈ store, isSelfKey p.1 = true) ∧
    store.lookup "self.val" = some (.val c) ∧ store.lookup "self.is_first_sample" = some (.bool first)

theorem gen_ConstantOperation_init (fuel k : Nat) (c : α) : ∃ o : DV α,
    callAt Gen.DenseOn.fns fuel (k + 1) "ConstantOperation.__init__" [.obj "ConstantOperation" [], .val c] =
        .ok (.list [o, .none]) ∧
      ConstRel c true o := by
  refine ⟨_, method_none isMethod_Constant_init rfl
    (env' := setLoc "self.is_first_sample" (.bool true) (setLoc "self.val" (.val c) [("val", .val c)])) ?_,
    _, rfl, selfKeys_filter _, ?_, ?_⟩
  · exact (exec.seq_setLoc (evalE.loc rfl)).trans (exec.setLoc rfl)
  · exact lookup_filter_get self_val (by simp)
  · exact lookup_filter_get self_is_first_sample (by simp)

/-- `ConstantOperation.update` never clears `is_first_sample`: a fresh object returns `[[0, c], [inf, c]]` at EVERY call (it is
    the update visitor that hands the signal over only once: `constants_sent`), and the object is returned unchanged. -/
theorem gen_ConstantOperation_update (fuel k : Nat) (c : α) (first : Bool) (o : DV α) (h : ConstRel c first o) :
    callAt Gen.DenseOn.fns fuel (k + 1) "ConstantOperation.update" [o] =
      .ok (.list [o, encSig (if first then [(Tm.zero, c), (.inf, c)] else [])]) := by
  obtain ⟨store, rfl, hs, h1, h2⟩ := h
  have g1 : getLoc "self.val" store = .ok (.val c) := getLoc_ok_iff.mpr h1
  have g2 : getLoc "self.is_first_sample" store = .ok (.bool first) := getLoc_ok_iff.mpr h2
  have hex : exec (callAt Gen.DenseOn.fns fuel k) fuel Gen.DenseOn.ConstantOperation_update.body (store ++ [].zip []) =
      .ok (setLoc "out" (encSig (if first then [(Tm.zero, c), (.inf, c)] else [])) store,
        .ret (encSig (if first then [(Tm.zero, c), (.inf, c)] else []))) := by
    rw [List.zip_nil_left, List.append_nil]
    have hv : evalE (callAt Gen.DenseOn.fns fuel k) store (.loc "self.val") = .ok (.val c) := evalE.loc g1
    refine (exec.seq_ok ((exec.ite (evalE.loc g2) rfl).trans ?_)).trans (exec.ret (evalE.loc (getLoc_setLoc_same _ _ _)))
    cases first with
    | true =>
        exact (if_pos rfl).trans (exec.setLoc ((evalE.list2 ((evalE.list2 (x := .int 0) rfl hv).trans rfl)
          ((evalE.list2 (x := .uinf false) rfl hv).trans rfl)).trans rfl))
    | false => exact (if_neg Bool.false_ne_true).trans (exec.setLoc rfl)
  have hcall := method_sim_same (cls := "ConstantOperation") (m := (.ok () : Except PyErr Unit))
    (Q := fun _ w => w = encSig (if first then [(Tm.zero, c), (.inf, c)] else []))
    isMethod_Constant_update (args := []) rfl hs mods_Constant_update (.ok hex ⟨_, rfl, rfl⟩)
  obtain ⟨_, hc, _, rfl, rfl⟩ := hcall
  exact hc

/-- The object of `VariableOperation` whose attribute `val` holds `x`. -/
def VarRel (x : DV α) (o : DV α) : Prop :=
  ∃ store, o = .obj "VariableOperation" store ∧ (∀ p ∈ store, isSelfKey p.1 = true) ∧ store.lookup "self.val" = some x

theorem gen_VariableOperation_init (fuel k : Nat) : ∃ o : DV α,
    callAt Gen.DenseOn.fns fuel (k + 1) "VariableOperation.__init__" [.obj "VariableOperation" []] =
        .ok (.list [o, .none]) ∧
      VarRel .none o :=
  ⟨_, method_none isMethod_Variable_init rfl (exec.setLoc rfl),
    _, rfl, selfKeys_filter _, lookup_filter_get self_val (getLoc_setLoc_same _ _ _)⟩

/-- `VariableOperation.update` returns the attribute `val` (`None` on a fresh object: the class is a placeholder, the update
    visitor reads the variable's batch itself). -/
theorem gen_VariableOperation_update (fuel k : Nat) (x : DV α) (o : DV α) (h : VarRel x o) :
    callAt Gen.DenseOn.fns fuel (k + 1) "VariableOperation.update" [o] = .ok (.list [o, x]) := by
  obtain ⟨store, rfl, hs, h1⟩ := h
  have hcall := method_sim_same (cls := "VariableOperation") (m := (.ok () : Except PyErr Unit)) (Q := fun _ w => w = x)
    (fuel := fuel) (k := k) isMethod_Variable_update (args := []) rfl hs mods_Variable_update
    (.ok (r := (store, .ret x)) ((congrArg _ (List.append_nil store)).trans (exec.ret (evalE.loc (getLoc_ok_iff.mpr h1))))
      ⟨_, rfl, rfl⟩)
  obtain ⟨_, hc, _, rfl, rfl⟩ := hcall
  exact hc

theorem updateObj_un (op : Un) (fuel : Nat) (o : DV α) (h : UnRel (GOn.unCls op) o) (s : ASig α) :
    updateObj fuel o [s] = (s.mapM (unStep op)).map (fun out => (o, out)) := by
  have hu := gen_un_update op fuel 6 o h s
  obtain ⟨store, rfl, hs⟩ := h
  unfold updateObj
  simp only [List.map_cons, List.map_nil]
  rw [show depth = 6 + 1 from rfl, hu]
  cases s.mapM (unStep op) with
  | error e => rfl
  | ok out => simp

theorem updateObj_LnOperation_total (fuel : Nat) (o : DV α) (h : UnRel "LnOperation" o) (s : ASig α) :
    updateObj fuel o [s] = .ok (o, s.map (fun p => (p.1, Val.ln p.2))) :=
  (updateObj_un .ln fuel o h s).trans (congrArg (Except.map _) (mapM_ok (fun p : Tm × α => (p.1, Val.ln p.2)) s))

theorem updateObj_LnOperation (fuel : Nat) (o : DV α) (h : UnRel "LnOperation" o) (s : ASig α)
    (hs : ∀ p ∈ s, Val.lt p.2 Val.zero = false) :
    updateObj fuel o [s] = (mapUn .ln s).map (fun out => (o, out)) := by
  rw [updateObj_LnOperation_total fuel o h s, mapUn_ln_nonneg s hs]; rfl

theorem updateObj_OnceOperation (fuel : Nat) (prev : α) (o : DV α) (h : ScanRel "OnceOperation" prev o) (s : ASig α) :
    ∃ o', updateObj fuel o [s] = .ok (o', (scanUpdate pmax prev s).2) ∧
      ScanRel "OnceOperation" (scanUpdate pmax prev s).1 o' := by
  have hu := gen_OnceOperation_update fuel 6 prev o h s
  obtain ⟨store, rfl, -⟩ := h
  exact updateObj_of_update rfl hu

theorem updateObj_HistoricallyOperation (fuel : Nat) (prev : α) (o : DV α) (h : ScanRel "HistoricallyOperation" prev o)
    (s : ASig α) :
    ∃ o', updateObj fuel o [s] = .ok (o', (scanUpdate pmin prev s).2) ∧
      ScanRel "HistoricallyOperation" (scanUpdate pmin prev s).1 o' := by
  have hu := gen_HistoricallyOperation_update fuel 6 prev o h s
  obtain ⟨store, rfl, -⟩ := h
  exact updateObj_of_update rfl hu

theorem updateObj_SinceOperation (fuel : Nat) (st : SinceSt α) (o : DV α) (h : SinceRel st o) (sl sr : ASig α)
    (hf : st.bufA.length + sl.length + st.bufB.length + sr.length + 1 ≤ fuel) :
    ∃ o', updateObj fuel o [sl, sr] = .ok (o', (sinceUpdate st sl sr).2) ∧ SinceRel (sinceUpdate st sl sr).1 o' := by
  have hu := gen_SinceOperation_update fuel 6 st o h sl sr hf
  obtain ⟨store, rfl, -⟩ := h
  exact updateObj_of_update rfl hu

theorem construct_un (op : Un) (fuel : Nat) : ∃ o : DV α, construct fuel (GOn.unCls op) [] = .ok o ∧ UnRel (GOn.unCls op) o :=
  construct_of_init rfl (gen_un_init op fuel 6)

theorem construct_OnceOperation (fuel : Nat) :
    ∃ o : DV α, construct fuel "OnceOperation" [] = .ok o ∧ ScanRel "OnceOperation" Val.ninf o :=
  construct_of_init rfl (gen_OnceOperation_init fuel 6)

theorem construct_HistoricallyOperation (fuel : Nat) :
    ∃ o : DV α, construct fuel "HistoricallyOperation" [] = .ok o ∧ ScanRel "HistoricallyOperation" Val.pinf o :=
  construct_of_init rfl (gen_HistoricallyOperation_init fuel 6)

theorem construct_SinceOperation (fuel : Nat) :
    ∃ o : DV α, construct fuel "SinceOperation" [] = .ok o ∧ SinceRel { prev := Val.ninf } o :=
  construct_of_init rfl (gen_SinceOperation_init fuel 6)

end Rtamt.Py.DnOn
