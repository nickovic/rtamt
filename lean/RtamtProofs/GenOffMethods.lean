/-
  One equation per `visitX` of the translated offline visitor (`Rtamt/Py/GeneratedOff.lean`): the method, run under
  the semantics of `Rtamt/Py/Sem.lean` on the results of the children, computes the corresponding clause of the
  mirror `evalOff` (`Rtamt/Discrete/Offline.lean`) — values and exceptions.
-/
import RtamtProofs.GenOffLemmas
import RtamtProofs.Lemmas.VisitName

namespace Rtamt.Py
open Rtamt Val

variable {α : Type} [Val α]

/- With `simE` unfoldable, elaborating a term against `simE R (exec p env) y` first puts that type in weak head
   normal form, which runs `p`. -/
attribute [local irreducible] simE

/-- The method the offline visitor defines for a node class. -/
def offM : Kind → OffMethod
  | .Variable => Gen.Off.visitVariable | .Constant => Gen.Off.visitConstant | .Predicate => Gen.Off.visitPredicate
  | .Abs => Gen.Off.visitAbs | .Sqrt => Gen.Off.visitSqrt | .Exp => Gen.Off.visitExp | .Ln => Gen.Off.visitLn
  | .Negate => Gen.Off.visitNegate | .Neg => Gen.Off.visitNot
  | .Addition => Gen.Off.visitAddition | .Subtraction => Gen.Off.visitSubtraction
  | .Multiplication => Gen.Off.visitMultiplication | .Division => Gen.Off.visitDivision
  | .Pow => Gen.Off.visitPow | .Log => Gen.Off.visitLog
  | .Conjunction => Gen.Off.visitAnd | .Disjunction => Gen.Off.visitOr | .Implies => Gen.Off.visitImplies
  | .Iff => Gen.Off.visitIff | .Xor => Gen.Off.visitXor
  | .Rise => Gen.Off.visitRise | .Fall => Gen.Off.visitFall | .Previous => Gen.Off.visitPrevious
  | .StrongPrevious => Gen.Off.visitStrongPrevious | .Next => Gen.Off.visitNext | .StrongNext => Gen.Off.visitStrongNext
  | .Once => Gen.Off.visitOnce | .Historically => Gen.Off.visitHistorically | .Eventually => Gen.Off.visitEventually
  | .Always => Gen.Off.visitAlways | .Since => Gen.Off.visitSince | .Until => Gen.Off.visitUntil
  | .TimedOnce => Gen.Off.visitTimedOnce | .TimedHistorically => Gen.Off.visitTimedHistorically
  | .TimedEventually => Gen.Off.visitTimedEventually | .TimedAlways => Gen.Off.visitTimedAlways
  | .TimedSince => Gen.Off.visitTimedSince | .TimedUntil => Gen.Off.visitTimedUntil
  | .TimedPrecedes => Gen.Off.visitTimedPrecedes

/-- The node classes in the order of the `visitX` methods in the source. -/
def offOrder : List Kind :=
  [.Predicate, .Variable, .Abs, .Sqrt, .Exp, .Pow, .Log, .Ln, .Negate, .Addition, .Subtraction, .Multiplication, .Division, .Neg,
   .Conjunction, .Disjunction, .Implies, .Iff, .Xor, .Eventually, .Always, .Until, .Once, .Historically, .Since, .Rise, .Fall,
   .Constant, .Previous, .StrongPrevious, .Next, .StrongNext, .TimedPrecedes, .TimedOnce, .TimedHistorically, .TimedSince,
   .TimedAlways, .TimedEventually, .TimedUntil]

theorem offMethods_eq : Gen.Off.methods = offOrder.map fun k => (visitName k, offM k) := rfl

theorem lookupM_eq (k : Kind) : lookupM k = some (offM k) := by
  rw [lookupM, offMethods_eq]
  exact lookup_visitName offM _ (Kind.forall_of_all (p := (· ∈ offOrder)) (by decide +kernel) k)

theorem visitVariable_eq (l : List α) :
    callOn Gen.Off.visitVariable [] none [("$var", .list l), ("$field", .none)] = .ok l := by
  rw [callOn_eq _ _ _ _ _ rfl rfl rfl]
  simp only [Gen.Off.visitVariable]
  off_step []

theorem visitConstant_eq (c : α) (n : Nat) :
    callOn Gen.Off.visitConstant [] none [("$val", .num c), ("$length", .int n)] = .ok (List.replicate n c) := by
  rw [callOn_eq _ _ _ _ _ rfl rfl rfl]
  simp only [Gen.Off.visitConstant]
  off_step []

/-- `for i in sample: out_sample = op(i); sample_return.append(out_sample)`. -/
theorem unLoop_eq (name : String) (op : UnOp) (f : α → α) (hop : ∀ x : α, evalUn op (.num x) = .ok (.num (f x)))
    (s : List α) :
    callOn { name := name, kids := ["sample"], interval := false,
             body := (.seq (.setLoc "sample_return" .emptyList) (.forIn "i" (.loc "sample")
               (.seq (.setLoc "out_sample" (.un op (.loc "i"))) (.appendLoc "sample_return" (.loc "out_sample"))))),
             ret := (some (.loc "sample_return")) } [s] none [] = .ok (s.map f) := by
  rw [callOn_eq _ _ _ _ _ rfl rfl rfl]
  off_step []
  refine (simE_bind_eq
    (R := fun env (t : List α × Unit) => getKey "sample_return" env.loc = .ok (lv t.1))
    (fun t => .ok t.1)
    (sim_forIn _ (fun t x => .ok (t.1 ++ [f x], ())) ([], ()) s (v := .list s) ?_ rfl ?_ ?_) ?_).trans ?_
  · off_step []
  · off_step [lv_nil]
  · intro y _ e acc h
    off_step [h, hop]
  · intro e acc h
    off_step [h]
  · rw [foldlM_scanG (fun _ x => f x) (fun _ _ => ()) (fun acc => .ok acc), scanG_map]; simp

/-- `[-i for i in sample]`. -/
theorem unComp_eq (name : String) (s : List α) :
    callOn { name := name, kids := ["sample"], interval := false,
             body := (.setLoc "sample_return" (.compList (.un .neg (.loc "i")) "i" (.loc "sample"))),
             ret := (some (.loc "sample_return")) } [s] none [] = .ok (s.map Val.neg) := by
  rw [callOn_eq _ _ _ _ _ rfl rfl rfl]
  simp only [exec_setLoc]
  rw [evalE_compList (v := .list s) s Val.neg (by off_step []) rfl (fun y => by off_step [])]
  off_step []

theorem visitUn_eq (op : Un) (s : List α) : callOn (offM op.kind) [s] none [] = .ok (s.map op.app) := by
  cases op
  · exact unLoop_eq "visitAbs" .abs Val.abs (fun _ => rfl) s
  · exact unLoop_eq "visitSqrt" .sqrt Val.sqrt (fun _ => rfl) s
  · exact unLoop_eq "visitExp" .exp Val.exp (fun _ => rfl) s
  · exact unLoop_eq "visitLn" .ln Val.ln (fun _ => rfl) s
  · exact unComp_eq "visitNegate" s
  · exact unComp_eq "visitNot" s

omit [Val α] in
/-- The mirror's `loop2` as the index loop it abbreviates. -/
theorem loop2_eq_fold (f : α → α → α) (l r : List α) :
    ((List.range' 0 l.length).foldlM (fun (t : List α × Unit) k =>
        idx l k >>= fun a => idx r k >>= fun b => (Except.ok (t.1 ++ [f a b], ()) : Except PyErr _)) ([], ())
      >>= fun t => .ok t.1) = loop2 f l r := by
  rw [foldlM_idx2 (fun t a b => .ok (t.1 ++ [f a b], ()))]
  rw [bind_assoc]
  have := foldlM_scanG (fun _ (x : α × α) => f x.1 x.2) (fun _ _ => ())
    (fun acc => (if l.length ≤ r.length then Except.ok (acc, ()) else .error .index : Except PyErr (List α × Unit))
      >>= fun t => Except.ok t.1) (l.zip r) [] ()
  rw [this, scanG_map (fun x : α × α => f x.1 x.2), map_zip_eq_zipWith]
  unfold loop2
  split <;> simp [ok_bind, error_bind]

theorem visitPredicate_eq (c : Cmp) (l r : List α) :
    callOn Gen.Off.visitPredicate [l, r] none [("$operator", .cmp c)] = loop2 c.app l r := by
  rw [callOn_eq _ _ _ _ _ rfl rfl rfl, ← loop2_eq_fold]
  simp only [Gen.Off.visitPredicate]
  off_step []
  refine simE_bind_eq (R := fun env (t : List α × Unit) => getKey "sample_return" env.loc = .ok (lv t.1) ∧
      getKey "sample_left" env.loc = .ok (.list l) ∧ getKey "sample_right" env.loc = .ok (.list r) ∧
      getKey "$operator" env.loc = .ok (.cmp c))
    (fun t => .ok t.1)
    (sim_for (fun _ => _) (fun t k => idx l k >>= fun a => idx r k >>= fun b => .ok (t.1 ++ [c.app a b], ()))
      ([], ()) 0 l.length l.length ?_ ?_ ?_ ?_ ?_) ?_
  · off_step []
  · off_step []
  · exact Int.toNat_sub l.length 0
  · off_step [lv_nil]
  · intro k _ hk e acc h
    obtain ⟨a, hl⟩ : ∃ a, idx l k = .ok a := ⟨_, idx_lt l k (Nat.zero_add l.length ▸ hk)⟩
    rw [exec_seq, hl, ok_bind]
    -- the `if` chain leaves `c.app` in `val`, whatever `c`; the `append` after it is run once
    refine simE_bind (R := fun s b =>
      s = { e with loc := setKey "val" (.num (c.app a b)) (setKey "i" (.int k) e.loc) }) ?_ ?_
    · off_step [exec_ite, h, hl]
      cases idx r k <;> cases c <;> off_step [Cmp.app]
    · rintro _ b rfl
      off_step [h]
  · intro e acc h
    off_step [h.1]

set_option hygiene false in
/-- `for i in range(len(L)): out_sample = L[i] op R[i]; sample_return.append(out_sample)` -/
macro "bin_loop" m:term "," f:term "," kl:term "," kr:term : tactic =>
  `(tactic| (
    rw [callOn_eq _ _ _ _ _ rfl rfl rfl, ← loop2_eq_fold]
    simp only [$m:term]
    off_step []
    refine simE_bind_eq (R := fun env (t : List α × Unit) => getKey "sample_return" env.loc = .ok (lv t.1) ∧
        getKey $kl env.loc = .ok (.list l) ∧ getKey $kr env.loc = .ok (.list r))
      (fun t => .ok t.1)
      (sim_for (fun _ => _) (fun t k => idx l k >>= fun a => idx r k >>= fun b => .ok (t.1 ++ [$f a b], ()))
        ([], ()) 0 l.length l.length ?_ ?_ ?_ ?_ ?_) ?_
    · off_step []
    · off_step []
    · omega
    · off_step [lv_nil]
    · intro k _ _ e acc h
      cases hl : idx l k <;> cases hr : idx r k <;> off_step [h.1, h.2.1, h.2.2, hl, hr]
    · intro e acc h
      off_step [h.1]))

/-- `for i in range(len(L)): out_sample = L[i] op R[i]; sample_return.append(out_sample)`, for any operator on numbers
    and any names `kl`, `kr` of the two arguments. -/
theorem binLoop_eq (name kl kr : String) (hne : [kr, kl, "sample_return", "out_sample", "i"].Nodup)
    (op : BinOp) (f : α → α → α)
    (hop : ∀ x y : α, evalBin op (.num x) (.num y) = .ok (.num (f x y))) (l r : List α) :
    callOn { name := name, kids := [kl, kr], interval := false,
             body := (.seq (.setLoc "sample_return" .emptyList) (.for_ "i" (.int 0) (.len (.loc kl))
               (.seq (.setLoc "out_sample" (.bin op (.idx (.loc kl) (.loc "i")) (.idx (.loc kr) (.loc "i"))))
                 (.appendLoc "sample_return" (.loc "out_sample"))))),
             ret := (some (.loc "sample_return")) } [l, r] none [] = loop2 f l r := by
  simp only [List.nodup_cons, List.mem_cons, not_or] at hne
  rw [callOn_eq _ _ _ _ _ rfl rfl rfl, ← loop2_eq_fold]
  off_step []
  refine simE_bind_eq (R := fun env (t : List α × Unit) => getKey "sample_return" env.loc = .ok (lv t.1) ∧
      getKey kl env.loc = .ok (.list l) ∧ getKey kr env.loc = .ok (.list r))
    (fun t => .ok t.1)
    (sim_for (fun _ => _) (fun t k => idx l k >>= fun a => idx r k >>= fun b => .ok (t.1 ++ [f a b], ()))
      ([], ()) 0 l.length l.length ?_ ?_ ?_ ?_ ?_) ?_
  · off_step []
  · off_step [hne]
  · exact Int.toNat_sub l.length 0
  · off_step [lv_nil, hne]
  · intro k _ hk e acc h
    have hl := idx_lt l k (by omega)
    cases hr : idx r k <;> off_step [h, hl, hr, hop, hne]
  · intro e acc h
    off_step [h.1]

theorem visitAddition_eq (l r : List α) :
    callOn Gen.Off.visitAddition [l, r] none [] = loop2 Val.add l r :=
  binLoop_eq _ _ _ (by decide) .add Val.add (fun _ _ => rfl) l r

theorem visitSubtraction_eq (l r : List α) :
    callOn Gen.Off.visitSubtraction [l, r] none [] = loop2 Val.sub l r :=
  binLoop_eq _ _ _ (by decide) .sub Val.sub (fun _ _ => rfl) l r

theorem visitMultiplication_eq (l r : List α) :
    callOn Gen.Off.visitMultiplication [l, r] none [] = loop2 Val.mul l r :=
  binLoop_eq _ _ _ (by decide) .mul Val.mul (fun _ _ => rfl) l r

theorem visitDivision_eq (l r : List α) :
    callOn Gen.Off.visitDivision [l, r] none [] = loop2 Val.div l r :=
  binLoop_eq _ _ _ (by decide) .div Val.div (fun _ _ => rfl) l r

theorem visitPow_eq (l r : List α) :
    callOn Gen.Off.visitPow [l, r] none [] = loop2 Val.pow l r :=
  binLoop_eq _ _ _ (by decide) .pow Val.pow (fun _ _ => rfl) l r

theorem visitLog_eq (l r : List α) :
    callOn Gen.Off.visitLog [l, r] none [] = loop2 Val.log l r :=
  binLoop_eq _ _ _ (by decide) .log Val.log (fun _ _ => rfl) l r

/-- `[body for x, y in zip(sample_left, sample_right)]`. -/
theorem zipComp_eq (name : String) (body : E) (x y : String) (f : α → α → α)
    (hbody : ∀ (env : Env α) p q,
      evalE { env with loc := setKey y (.num q) (setKey x (.num p) env.loc) } body = .ok (.num (f p q)))
    (l r : List α) :
    callOn { name := name, kids := ["sample_left", "sample_right"], interval := false,
             body := (.setLoc "sample_return" (.compZip body x y (.loc "sample_left") (.loc "sample_right"))),
             ret := (some (.loc "sample_return")) } [l, r] none [] = .ok (List.zipWith f l r) := by
  rw [callOn_eq _ _ _ _ _ rfl rfl rfl]
  simp only [exec_setLoc]
  rw [evalE_compZip (va := .list l) (vb := .list r) l r f (by off_step []) rfl (by off_step []) rfl
    (fun p q => hbody _ p q)]
  off_step []

theorem visitAnd_eq (l r : List α) : callOn Gen.Off.visitAnd [l, r] none [] = .ok (List.zipWith pmin l r) :=
  zipComp_eq _ _ _ _ _ (fun env p q => by off_step []) l r

theorem visitOr_eq (l r : List α) : callOn Gen.Off.visitOr [l, r] none [] = .ok (List.zipWith pmax l r) :=
  zipComp_eq _ _ _ _ _ (fun env p q => by off_step []) l r

theorem visitImplies_eq (l r : List α) :
    callOn Gen.Off.visitImplies [l, r] none [] = .ok (List.zipWith (fun p q => pmax (Val.neg p) q) l r) :=
  zipComp_eq _ _ _ _ _ (fun env p q => by off_step []) l r

theorem visitIff_eq (l r : List α) :
    callOn Gen.Off.visitIff [l, r] none [] = .ok (List.zipWith (fun p q => Val.neg (Val.abs (Val.sub p q))) l r) :=
  zipComp_eq _ _ _ _ _ (fun env p q => by off_step []) l r

theorem visitXor_eq (l r : List α) :
    callOn Gen.Off.visitXor [l, r] none [] = .ok (List.zipWith (fun p q => Val.abs (Val.sub p q)) l r) :=
  zipComp_eq _ _ _ _ _ (fun env p q => by off_step []) l r

/-- `out_sample = op(i, prev_out); prev_out = out_sample; sample_return.append(out_sample)`. -/
def scanBody (op : BinOp) : S :=
  .seq (.setLoc "out_sample" (.bin op (.loc "i") (.loc "prev_out")))
    (.seq (.setLoc "prev_out" (.loc "out_sample")) (.appendLoc "sample_return" (.loc "out_sample")))

/-- `for i in it: scanBody`, started with `sample_return = []` and `prev_out = init`, followed by anything that only
    looks at `sample_return`. -/
theorem scanFor_eq {ρ : Type} (op : BinOp) (f : α → α → α)
    (hop : ∀ x y : α, evalBin op (.num x) (.num y) = .ok (.num (f x y))) (it : E) (init : α) (s : List α)
    (env : Env α) (k : Env α → Except PyErr ρ) (k' : List α → Except PyErr ρ)
    (hit : evalE env it = .ok (.list s))
    (h0 : getKey "sample_return" env.loc = .ok (lv []) ∧ getKey "prev_out" env.loc = .ok (.num init))
    (hk : ∀ env' out, getKey "sample_return" env'.loc = .ok (lv out) → k env' = k' out) :
    (exec (.forIn "i" it (scanBody op)) env >>= k) = k' (scanFwd f init s) := by
  refine (simE_bind_eq
    (R := fun env (t : List α × α) => getKey "sample_return" env.loc = .ok (lv t.1) ∧
      getKey "prev_out" env.loc = .ok (.num t.2))
    (fun t => k' t.1)
    (sim_forIn _ (fun t x => .ok (t.1 ++ [f x t.2], f x t.2)) ([], init) s hit rfl h0 ?_)
    (fun e acc h => hk e acc.1 h.1)).trans ?_
  · intro y _ e acc h
    off_step [scanBody, h, hop]
  · rw [foldlM_scanG (fun p x => f x p) (fun p x => f x p) k', scanG_scanFwd]; simp

/-- `prev_out = init; for i in sample: out_sample = op(i, prev_out); prev_out = out_sample; append`. -/
theorem scanLoop_eq (name : String) (op : BinOp) (ie : E) (f : α → α → α) (init : α)
    (hop : ∀ x y : α, evalBin op (.num x) (.num y) = .ok (.num (f x y)))
    (hinit : ∀ env : Env α, evalE env ie = .ok (.num init)) (s : List α) :
    callOn { name := name, kids := ["sample"], interval := false,
             body := (.seq (.setLoc "sample_return" .emptyList) (.seq (.setLoc "prev_out" ie)
               (.forIn "i" (.loc "sample") (scanBody op)))),
             ret := (some (.loc "sample_return")) } [s] none [] = .ok (scanFwd f init s) := by
  rw [callOn_eq _ _ _ _ _ rfl rfl rfl]
  off_step [hinit]
  exact scanFor_eq op f hop _ init s _ _ .ok (by off_step []) (by off_step [lv_nil]) (fun e out h => by off_step [h])

/-- The same over `reversed(sample)`, followed by `sample_return.reverse()`. -/
theorem scanLoopRev_eq (name : String) (op : BinOp) (ie : E) (f : α → α → α) (init : α)
    (hop : ∀ x y : α, evalBin op (.num x) (.num y) = .ok (.num (f x y)))
    (hinit : ∀ env : Env α, evalE env ie = .ok (.num init)) (s : List α) :
    callOn { name := name, kids := ["sample"], interval := false,
             body := (.seq (.setLoc "sample_return" .emptyList) (.seq (.setLoc "prev_out" ie)
               (.seq (.forIn "i" (.reversed (.loc "sample")) (scanBody op)) (.reverseLoc "sample_return")))),
             ret := (some (.loc "sample_return")) } [s] none [] = .ok (scanFwd f init s.reverse).reverse := by
  rw [callOn_eq _ _ _ _ _ rfl rfl rfl]
  off_step [hinit]
  exact scanFor_eq op f hop _ init s.reverse _ _ (fun out => .ok out.reverse) (by off_step []) (by off_step [lv_nil])
    (fun e out h => by off_step [h])

/-- `prev = init; for i in sample: out_sample = prev; prev = i; append`. -/
theorem shiftLoop_eq (name : String) (ie : E) (init : α)
    (hinit : ∀ env : Env α, evalE env ie = .ok (.num init)) (s : List α) :
    callOn { name := name, kids := ["sample"], interval := false,
             body := (.seq (.setLoc "sample_return" .emptyList) (.seq (.setLoc "prev" ie)
               (.forIn "i" (.loc "sample") (.seq (.setLoc "out_sample" (.loc "prev"))
                 (.seq (.setLoc "prev" (.loc "i")) (.appendLoc "sample_return" (.loc "out_sample"))))))),
             ret := (some (.loc "sample_return")) } [s] none [] = .ok (shiftFwd init s) := by
  rw [callOn_eq _ _ _ _ _ rfl rfl rfl]
  off_step [hinit]
  refine (simE_bind_eq
    (R := fun env (t : List α × α) => getKey "sample_return" env.loc = .ok (lv t.1) ∧
      getKey "prev" env.loc = .ok (.num t.2))
    (fun t => .ok t.1)
    (sim_forIn _ (fun t x => .ok (t.1 ++ [t.2], x)) ([], init) s (v := .list s) ?_ rfl ?_ ?_) ?_).trans ?_
  · off_step []
  · off_step [lv_nil]
  · intro y _ e acc h
    off_step [h]
  · intro e acc h
    off_step [h.1]
  · rw [foldlM_scanG (fun p _ => p) (fun _ x => x) (fun acc => .ok acc), scanG_shiftFwd]; simp

theorem visitOnce_eq (s : List α) : callOn Gen.Off.visitOnce [s] none [] = .ok (scanFwd pmax ninf s) :=
  scanLoop_eq _ .max .ninf pmax ninf (fun _ _ => rfl) (fun _ => rfl) s

theorem visitHistorically_eq (s : List α) : callOn Gen.Off.visitHistorically [s] none [] = .ok (scanFwd pmin pinf s) :=
  scanLoop_eq _ .min .pinf pmin pinf (fun _ _ => rfl) (fun _ => rfl) s

theorem visitEventually_eq (s : List α) :
    callOn Gen.Off.visitEventually [s] none [] = .ok (scanFwd pmax ninf s.reverse).reverse :=
  scanLoopRev_eq _ .max .ninf pmax ninf (fun _ _ => rfl) (fun _ => rfl) s

theorem visitAlways_eq (s : List α) :
    callOn Gen.Off.visitAlways [s] none [] = .ok (scanFwd pmin pinf s.reverse).reverse :=
  scanLoopRev_eq _ .min .pinf pmin pinf (fun _ _ => rfl) (fun _ => rfl) s

theorem visitPrevious_eq (s : List α) : callOn Gen.Off.visitPrevious [s] none [] = .ok (shiftFwd pinf s) :=
  shiftLoop_eq _ .pinf pinf (fun _ => rfl) s

theorem visitStrongPrevious_eq (s : List α) : callOn Gen.Off.visitStrongPrevious [s] none [] = .ok (shiftFwd ninf s) :=
  shiftLoop_eq _ .ninf ninf (fun _ => rfl) s

theorem visitNext_eq (s : List α) : callOn Gen.Off.visitNext [s] none [] = .ok (s.drop 1 ++ [pinf]) := by
  rw [callOn_eq _ _ _ _ _ rfl rfl rfl]
  simp only [Gen.Off.visitNext]
  off_step [pySlice_tail]

theorem visitStrongNext_eq (s : List α) : callOn Gen.Off.visitStrongNext [s] none [] = .ok (s.drop 1 ++ [ninf]) := by
  rw [callOn_eq _ _ _ _ _ rfl rfl rfl]
  simp only [Gen.Off.visitStrongNext]
  off_step [pySlice_tail]

theorem visitRise_eq (s : List α) :
    callOn Gen.Off.visitRise [s] none [] = .ok (List.zipWith (fun p x => pmin (Val.neg p) x) (ninf :: s.dropLast) s) := by
  rw [callOn_eq _ _ _ _ _ rfl rfl rfl]
  simp only [Gen.Off.visitRise]
  off_step [pySlice_dropLast]
  rw [evalE_compZip (va := .list (ninf :: s.dropLast)) (vb := .list s) _ _
    (fun p x => pmin (Val.neg p) x) (by off_step []) rfl (by off_step []) rfl (fun p q => by off_step [])]
  off_step []

theorem visitFall_eq (s : List α) :
    callOn Gen.Off.visitFall [s] none [] = .ok (List.zipWith (fun p x => pmin p (Val.neg x)) (pinf :: s.dropLast) s) := by
  rw [callOn_eq _ _ _ _ _ rfl rfl rfl]
  simp only [Gen.Off.visitFall]
  off_step [pySlice_dropLast]
  rw [evalE_compZip (va := .list (pinf :: s.dropLast)) (vb := .list s) _ _
    (fun p x => pmin p (Val.neg x)) (by off_step []) rfl (by off_step []) rfl (fun p q => by off_step [])]
  off_step []

omit [Val α] in
theorem foldlM_idx2_bind {τ ρ : Type} (h : τ → α → α → Except PyErr τ) (l r : List α) (t0 : τ)
    (k : τ → Except PyErr ρ) :
    ((List.range' 0 l.length).foldlM (fun t k => idx l k >>= fun a => idx r k >>= fun b => h t a b) t0 >>= k)
      = if l.length ≤ r.length then ((l.zip r).foldlM (fun t p => h t p.1 p.2) t0 >>= k)
        else ((l.zip r).foldlM (fun t p => h t p.1 p.2) t0 >>= fun _ => .error .index) := by
  rw [foldlM_idx2, bind_assoc]
  split <;> simp [ok_bind, error_bind]

theorem visitSince_eq (l r : List α) :
    callOn Gen.Off.visitSince [l, r] none [] =
      if l.length ≤ r.length then .ok (scan2 ninf (l.zip r)) else .error .index := by
  rw [callOn_eq _ _ _ _ _ rfl rfl rfl]
  simp only [Gen.Off.visitSince]
  off_step []
  refine (simE_bind_eq (R := fun env (t : List α × α) => getKey "sample_return" env.loc = .ok (lv t.1) ∧
      getKey "prev_out" env.loc = .ok (.num t.2) ∧
      getKey "sample_left" env.loc = .ok (.list l) ∧ getKey "sample_right" env.loc = .ok (.list r))
    (fun t => .ok t.1)
    (sim_for (fun _ => _) (fun t k => idx l k >>= fun a => idx r k >>= fun b =>
        .ok (t.1 ++ [sinceStep t.2 (a, b)], sinceStep t.2 (a, b)))
      ([], ninf) 0 l.length l.length ?_ ?_ ?_ ?_ ?_) ?_).trans ?_
  · off_step []
  · off_step []
  · exact Int.toNat_sub l.length 0
  · off_step [lv_nil]
  · intro k _ hk e acc h
    have hl := idx_lt l k (by omega)
    cases hr : idx r k <;> off_step [h, hl, hr, sinceStep]
  · intro e acc h
    off_step [h.1]
  · rw [foldlM_idx2_bind (fun t a b => .ok (t.1 ++ [sinceStep t.2 (a, b)], sinceStep t.2 (a, b)))]
    rw [foldlM_scanG (fun p x => sinceStep p x) (fun p x => sinceStep p x) (fun acc => .ok acc),
      foldlM_scanG (fun p x => sinceStep p x) (fun p x => sinceStep p x) (fun _ => .error .index), scanG_scan2]
    simp

theorem visitUntil_eq (l r : List α) :
    callOn Gen.Off.visitUntil [l, r] none [] =
      if l.length ≤ r.length then .ok (scan2 ninf (l.zip r).reverse).reverse else .error .index := by
  rw [callOn_eq _ _ _ _ _ rfl rfl rfl]
  simp only [Gen.Off.visitUntil]
  off_step []
  refine (simE_bind_eq (R := fun env (t : List α × α) => getKey "sample_return" env.loc = .ok (lv t.1) ∧
      getKey "next_out" env.loc = .ok (.num t.2) ∧
      getKey "sample_left" env.loc = .ok (.list l) ∧ getKey "sample_right" env.loc = .ok (.list r))
    (fun t => .ok t.1.reverse)
    (sim_forDown _ (fun t k => idx l k >>= fun a => idx r k >>= fun b =>
        .ok (t.1 ++ [sinceStep t.2 (a, b)], sinceStep t.2 (a, b)))
      ([], ninf) l.length ?_ ?_ ?_ ?_) ?_).trans ?_
  · off_step []
  · off_step []
  · off_step [lv_nil]
  · intro k hk e acc h
    have hl := idx_lt l k hk
    cases hr : idx r k <;> off_step [h, hl, hr, sinceStep]
  · intro e acc h
    off_step [h.1]
  · rw [foldlM_idx2_rev (fun t a b => .ok (t.1 ++ [sinceStep t.2 (a, b)], sinceStep t.2 (a, b)))]
    split
    · rw [foldlM_scanG (fun p x => sinceStep p x) (fun p x => sinceStep p x) (fun acc => .ok acc.reverse), scanG_scan2]
      simp
    · rfl

/-- `sample = [pad for j in range(end)] + sample;`
    `sample_return = [agg(sample[j-end:j-begin+1]) for j in range(end, len(sample))]` -/
theorem timedPast_eq (name : String) (isMax : Bool) (padE : E) (agg : List α → Except PyErr α) (pad : α)
    (hagg : ∀ l : List α, aggV isMax (.list l) = (agg l).map .num)
    (hpad : ∀ env : Env α, evalE env padE = .ok (.num pad))
    (a b : Nat) (hab : a ≤ b) (s : List α) :
    callOn { name := name, kids := ["sample"], interval := true,
             body := (.seq (.setLoc "sample" (.bin .add (.compRange padE "j" (.int 0) (.loc "end")) (.loc "sample")))
               (.setLoc "sample_return" (.compRange (.agg isMax (.slice (.loc "sample") (.bin .sub (.loc "j") (.loc "end"))
                 (.bin .add (.bin .sub (.loc "j") (.loc "begin")) (.int 1)))) "j" (.loc "end") (.len (.loc "sample"))))),
             ret := (some (.loc "sample_return")) } [s] (some (a, b)) [] = timedPast agg pad a b s := by
  rw [callOn_eq _ _ _ _ _ rfl rfl rfl]
  simp only [exec_seq, exec_setLoc, evalE_bin]
  rw [evalE_compRange_const (b : Int) pad (by off_step []) (by off_step []) (fun k => hpad _)]
  off_step []
  rw [evalE_compRange b ((b + s.length : Nat) : Int)
    (fun j => agg (slice (List.replicate b pad ++ s) (j - b) (j - a + 1)))
    (by off_step []) (by off_step []) ?_]
  · have h1 : ((b + s.length : Nat) - (b : Int)).toNat = s.length := (Int.toNat_sub _ b).trans (Nat.add_sub_cancel_left ..)
    have h2 : (List.replicate b pad ++ s).length - b = s.length := by simp
    rw [h1]; unfold timedPast; simp only [h2]
    cases List.mapM (fun j => agg (slice (List.replicate b pad ++ s) (j - b) (j - a + 1))) (List.range' b s.length) <;> rfl
  · intro k hk1 hk2
    off_step [evalBin_sub_int, evalBin_add_int, hagg]
    rw [pySlice_nat _ _ _ (by omega) (by omega)]
    have h1 : ((k : Int) - b).toNat = k - b := Int.toNat_sub k b
    have h2 : ((k : Int) - a + 1).toNat = k - a + 1 := by omega
    rw [h1, h2]

theorem visitTimedOnce_eq (a b : Nat) (hab : a ≤ b) (s : List α) :
    callOn Gen.Off.visitTimedOnce [s] (some (a, b)) [] = timedPast pymax ninf a b s :=
  timedPast_eq _ true .ninf pymax ninf (fun _ => rfl) (fun _ => rfl) a b hab s

theorem visitTimedHistorically_eq (a b : Nat) (hab : a ≤ b) (s : List α) :
    callOn Gen.Off.visitTimedHistorically [s] (some (a, b)) [] = timedPast pymin pinf a b s :=
  timedPast_eq _ false .pinf pymin pinf (fun _ => rfl) (fun _ => rfl) a b hab s

/-- `max(sample[j:j+diff+1])` or `min(..)`: the element of both comprehensions. -/
def winE (isMax : Bool) : E :=
  .agg isMax (.slice (.loc "sample") (.loc "j") (.bin .add (.bin .add (.loc "j") (.loc "diff")) (.int 1)))

theorem evalE_winE (isMax : Bool) (agg : List α → Except PyErr α)
    (hagg : ∀ l : List α, aggV isMax (.list l) = (agg l).map .num) (a b : Nat) (hab : a ≤ b) (s : List α)
    (env : Env α) (hs : getKey "sample" env.loc = .ok (.list s))
    (hd : getKey "diff" env.loc = .ok (.int ((b : Int) - a))) (k : Nat) :
    evalE { env with loc := setKey "j" (.int k) env.loc } (winE isMax) = (agg (slice s k (k + (b - a) + 1))).map .num := by
  off_step [winE, hs, hd, evalBin_add_int, hagg]
  rw [pySlice_nat _ _ _ (by omega) (by omega)]
  have e1 : ((k : Int)).toNat = k := Int.toNat_natCast k
  have e2 : ((k : Int) + ((b : Int) - a) + 1).toNat = k + (b - a) + 1 := by omega
  rw [e1, e2]

def futRest (isMax : Bool) (padE : E) : S :=
  (.seq (.setLoc "diff" (.bin .sub (.loc "end") (.loc "begin"))) (.seq (.setLoc "sample_return" (.compRange (winE isMax) "j" (.loc "begin") (.bin .add (.loc "end") (.int 1)))) (.seq (.setLoc "tmp" (.compRange (winE isMax) "j" (.bin .add (.loc "end") (.int 1)) (.len (.loc "sample")))) (.seq (.setLoc "sample_return" (.bin .add (.loc "sample_return") (.loc "tmp"))) (.seq (.setLoc "tmp" (.compRange padE "j" (.int 0) (.bin .sub (.len (.loc "sample")) (.len (.loc "sample_return"))))) (.setLoc "sample_return" (.bin .add (.loc "sample_return") (.loc "tmp"))))))))

theorem futRest_eq (isMax : Bool) (padE : E) (agg : List α → Except PyErr α) (pad : α)
    (hagg : ∀ l : List α, aggV isMax (.list l) = (agg l).map .num)
    (hpad : ∀ env : Env α, evalE env padE = .ok (.num pad))
    (a b : Nat) (hab : a ≤ b) (s : List α) (len0 : Nat) (env : Env α)
    (h : getKey "sample" env.loc = .ok (.list s) ∧ getKey "begin" env.loc = .ok (.int a) ∧
      getKey "end" env.loc = .ok (.int b) ∧ getKey "sample_len" env.loc = .ok (.int len0)) :
    (exec (futRest isMax padE) env >>= fun env' =>
        getKey "sample_return" env'.loc >>= fun x => getKey "sample_len" env'.loc >>= fun n =>
          sliceV x (.int 0) n >>= retList)
      = (do
          let r1 ← (List.range' a (b + 1 - a)).mapM (fun j => agg (slice s j (j + (b - a) + 1)))
          let r2 ← (List.range' (b + 1) (s.length - (b + 1))).mapM (fun j => agg (slice s j (j + (b - a) + 1)))
          pure (((r1 ++ r2) ++ List.replicate (s.length - (r1 ++ r2).length) pad).take len0)) := by
  simp only [futRest, exec_seq, exec_setLoc]
  off_step [h]
  rw [evalE_compRange a ((b : Int) + 1) (fun j => agg (slice s j (j + (b - a) + 1)))
    (by off_step [h]) (by off_step [h])
    (fun k _ _ => evalE_winE isMax agg hagg a b hab s _ (by off_step [h]) (by off_step []) k)]
  have hc : ((b : Int) + 1 - a).toNat = b + 1 - a := Int.toNat_sub (b + 1) a
  rw [hc]
  cases (List.range' a (b + 1 - a)).mapM (fun j => agg (slice s j (j + (b - a) + 1))) with
  | error e => rfl
  | ok r1 =>
    off_step [h]
    rw [evalE_compRange (b + 1) (s.length : Int) (fun j => agg (slice s j (j + (b - a) + 1)))
      (by off_step [h]) (by off_step [h])
      (fun k _ _ => evalE_winE isMax agg hagg a b hab s _ (by off_step [h]) (by off_step []) k)]
    have hc2 : ((s.length : Int) - ((b + 1 : Nat) : Int)).toNat = s.length - (b + 1) := Int.toNat_sub _ _
    rw [hc2]
    cases (List.range' (b + 1) (s.length - (b + 1))).mapM (fun j => agg (slice s j (j + (b - a) + 1))) with
    | error e => rfl
    | ok r2 =>
      off_step [h]
      rw [evalE_compRange_const ((s.length : Int) - ((r1 ++ r2).length : Nat)) pad (by off_step [])
        (by off_step [h]) (fun k => hpad _)]
      off_step [pySlice_take]
      have hc3 : ((s.length : Int) - ((r1.length : Int) + (r2.length : Int))).toNat
          = s.length - (r1.length + r2.length) := Int.toNat_sub _ (r1.length + r2.length)
      rw [hc3]

theorem timedFuture_eq (name : String) (isMax : Bool) (padE : E) (agg : List α → Except PyErr α) (pad : α)
    (hagg : ∀ l : List α, aggV isMax (.list l) = (agg l).map .num)
    (hpad : ∀ env : Env α, evalE env padE = .ok (.num pad))
    (a b : Nat) (hab : a ≤ b) (s : List α) :
    callOn { name := name, kids := ["sample"], interval := true,
             body := (.seq (.setLoc "sample_len" (.len (.loc "sample")))
               (.seq (.ite (.bin .le (.loc "sample_len") (.loc "end"))
                  (.setLoc "sample" (.bin .add (.loc "sample") (.rep padE (.bin .add (.bin .sub (.loc "end") (.loc "sample_len")) (.int 1)))))
                  .skip)
                (futRest isMax padE))),
             ret := (some (.slice (.loc "sample_return") (.int 0) (.loc "sample_len"))) } [s] (some (a, b)) []
      = timedFuture agg pad a b s := by
  rw [callOn_eq _ _ _ _ _ rfl rfl rfl]
  by_cases hle : s.length ≤ b
  · off_step [hle, hpad]
    refine (futRest_eq isMax padE agg pad hagg hpad a b hab
      (s ++ List.replicate ((b : Int) - s.length + 1).toNat pad) s.length _ (by off_step [])).trans ?_
    have hc : ((b : Int) - s.length + 1).toNat = b - s.length + 1 := by omega
    simp only [timedFuture, hle, if_true, hc]
  · off_step [hle, hpad]
    refine (futRest_eq isMax padE agg pad hagg hpad a b hab s s.length _ (by off_step [])).trans ?_
    simp only [timedFuture, hle, if_false]

theorem visitTimedEventually_eq (a b : Nat) (hab : a ≤ b) (s : List α) :
    callOn Gen.Off.visitTimedEventually [s] (some (a, b)) [] = timedFuture pymax ninf a b s :=
  timedFuture_eq _ true .ninf pymax ninf (fun _ => rfl) (fun _ => rfl) a b hab s

theorem visitTimedAlways_eq (a b : Nat) (hab : a ≤ b) (s : List α) :
    callOn Gen.Off.visitTimedAlways [s] (some (a, b)) [] = timedFuture pymin pinf a b s :=
  timedFuture_eq _ false .pinf pymin pinf (fun _ => rfl) (fun _ => rfl) a b hab s

/-- `for k in range(j+1, end+1): c_left = min(c_left, buffer_left[k])` and the statements around it. -/
def tsJBody : S :=
  (.seq (.setLoc "c_left" .pinf) (.seq (.setLoc "c_right" (.idx (.loc "buffer_right") (.loc "j"))) (.seq (.for_ "k" (.bin .add (.loc "j") (.int 1)) (.bin .add (.loc "end") (.int 1)) (.setLoc "c_left" (.bin .min (.loc "c_left") (.idx (.loc "buffer_left") (.loc "k"))))) (.setLoc "out_sample" (.bin .max (.loc "out_sample") (.bin .min (.loc "c_left") (.loc "c_right")))))))

/-- The body of the main loop of `visitTimedSince` / `visitTimedUntil`. -/
def tsBody : S :=
  (.seq (.appendLoc "buffer_left" (.idx (.loc "sample_left") (.loc "i"))) (.seq (.appendLoc "buffer_right" (.idx (.loc "sample_right") (.loc "i"))) (.seq (.setLoc "out_sample" .ninf) (.seq (.for_ "j" (.int 0) (.bin .add (.bin .sub (.loc "end") (.loc "begin")) (.int 1)) tsJBody) (.appendLoc "sample_return" (.loc "out_sample"))))))

/-- The locals of the two methods that the inner loops only read. -/
def FrameTS (l r : List α) (a b : Nat) (bl br acc : List α) (env : Env α) : Prop :=
  getKey "sample_left" env.loc = .ok (.list l) ∧ getKey "sample_right" env.loc = .ok (.list r) ∧
  getKey "begin" env.loc = .ok (.int a) ∧ getKey "end" env.loc = .ok (.int b) ∧
  getKey "buffer_left" env.loc = .ok (.deque (b + 1) bl) ∧ getKey "buffer_right" env.loc = .ok (.deque (b + 1) br) ∧
  getKey "sample_return" env.loc = .ok (lv acc)

/-- The double loop over the two buffers is `sinceWin`. -/
theorem tsWin_sim (l r : List α) (a b : Nat) (hab : a ≤ b) (bl br acc : List α) (env : Env α)
    (hF : FrameTS l r a b bl br acc env) (hout : getKey "out_sample" env.loc = .ok (.num ninf)) :
    simE (fun env' o => FrameTS l r a b bl br acc env' ∧ getKey "out_sample" env'.loc = .ok (.num o))
      (exec (.for_ "j" (.int 0) (.bin .add (.bin .sub (.loc "end") (.loc "begin")) (.int 1)) tsJBody) env)
      (sinceWin a b bl br) := by
  have hF' := hF
  unfold FrameTS at hF'
  unfold sinceWin
  rw [List.range_eq_range']
  refine sim_for
    (R := fun _ env' o => FrameTS l r a b bl br acc env' ∧ getKey "out_sample" env'.loc = .ok (.num o))
    (g := fun out j => do
      let cr ← idx br j
      let cl ← (List.range' (j + 1) (b - j)).foldlM (fun c k => do let x ← idx bl k; pure (pmin c x)) pinf
      pure (pmax out (pmin cl cr)))
    (t := ninf) (a := 0) (n := b - a + 1) (hb := (b : Int) - a + 1)
    (by off_step []) (by off_step [hF']) (by omega) ⟨hF, hout⟩ ?_
  intro j _ hj s out hs
  unfold FrameTS at hs
  simp only [tsJBody]
  cases hcr : idx br j with
  | error e => off_step [hs, hcr]
  | ok cr =>
    off_step [hs, hcr]
    refine simE_bind (sim_for
      (R := fun _ env' c => FrameTS l r a b bl br acc env' ∧ getKey "out_sample" env'.loc = .ok (.num out) ∧
        getKey "c_right" env'.loc = .ok (.num cr) ∧ getKey "c_left" env'.loc = .ok (.num c))
      (g := fun c k => do let x ← idx bl k; pure (pmin c x))
      (t := pinf) (a := j + 1) (n := b - j) (hb := (b : Int) + 1) ?_ ?_ ?_ ?_ ?_) ?_
    · off_step []
    · off_step [hs]
    · omega
    · off_step [FrameTS, hs]
    · intro k _ _ s1 c hk
      unfold FrameTS at hk
      cases hx : idx bl k with
      | error e => off_step [hk, hx]
      | ok x => off_step [FrameTS, hk, hx]
    · intro s1 c hk
      unfold FrameTS at hk
      off_step [FrameTS, hk]

/-- The mirror of one iteration of the main loop. -/
def tsStep (a b : Nat) (t : List α × List α × List α) (x y : α) : Except PyErr (List α × List α × List α) :=
  sinceWin a b (dqPush t.2.1 x) (dqPush t.2.2 y) >>= fun o => .ok (t.1 ++ [o], dqPush t.2.1 x, dqPush t.2.2 y)

def RelTS (l r : List α) (a b : Nat) (env : Env α) (t : List α × List α × List α) : Prop :=
  FrameTS l r a b t.2.1 t.2.2 t.1 env ∧ t.2.1.length = b + 1 ∧ t.2.2.length = b + 1

omit [Val α] in
theorem RelTS.ret {l r : List α} {a b : Nat} {env : Env α} {t : List α × List α × List α} (h : RelTS l r a b env t) :
    getKey "sample_return" env.loc = .ok (lv t.1) := h.1.2.2.2.2.2.2

theorem tsBody_sim (l r : List α) (a b : Nat) (hab : a ≤ b) (k : Nat) (s : Env α)
    (t : List α × List α × List α) (h : RelTS l r a b s t) :
    simE (RelTS l r a b) (exec tsBody { s with loc := setKey "i" (.int (k : Nat)) s.loc })
      (idx l k >>= fun x => idx r k >>= fun y => tsStep a b t x y) := by
  obtain ⟨acc, bl, br⟩ := t
  obtain ⟨hF, hbl, hbr⟩ := h
  simp only [FrameTS] at hF hbl hbr
  simp only [tsBody]
  cases hx : idx l k with
  | error e => off_step [hF, hx]
  | ok x =>
    cases hy : idx r k with
    | error e => off_step [hF, hx, hy]
    | ok y =>
      off_step [hF, hx, hy, dqAppend_full _ _ _ hbl, dqAppend_full _ _ _ hbr, tsStep]
      refine simE_bind (tsWin_sim l r a b hab (dqPush bl x) (dqPush br y) acc _ ?_ ?_) ?_
      · off_step [FrameTS, hF]
      · off_step []
      · intro s1 o hg
        unfold FrameTS at hg
        off_step [RelTS, FrameTS, hg, dqPush_length, hbl, hbr]

/-- `for i in range(end+1): buffer_left.append(inf); buffer_right.append(-inf)`. -/
theorem tsFill_sim (l r : List α) (a b : Nat) (env : Env α)
    (hF : FrameTS l r a b [] [] [] env) :
    simE (fun env' (_ : Unit) => RelTS l r a b env' ([], List.replicate (b + 1) pinf, List.replicate (b + 1) ninf))
      (exec (.for_ "i" (.int 0) (.bin .add (.loc "end") (.int 1)) (.seq (.setLoc "s_left" .pinf) (.seq (.setLoc "s_right" .ninf) (.seq (.appendLoc "buffer_left" (.loc "s_left")) (.appendLoc "buffer_right" (.loc "s_right")))))) env)
      (.ok ()) := by
  have hF' := hF
  unfold FrameTS at hF'
  have hfold : (List.range' 0 (b + 1)).foldlM (fun (_ : Unit) (_ : Nat) => (Except.ok () : Except PyErr Unit)) () = .ok () :=
    List.foldlM_pure (m := Except PyErr) (f := fun _ _ => ()) ..
  rw [← hfold]
  refine simE_mono (sim_for
    (R := fun k env' (_ : Unit) => FrameTS l r a b (List.replicate k pinf) (List.replicate k ninf) [] env')
    (g := fun _ _ => .ok ()) (t := ()) (a := 0) (n := b + 1) (hb := (b : Int) + 1)
    (by off_step []) (by off_step [hF']) (Int.toNat_sub (b + 1) 0) (by simpa using hF) ?_) (fun e _ he => ?_)
  · intro k _ hk s _ hg
    have hk' : k < b + 1 := by omega
    unfold FrameTS at hg
    off_step [FrameTS, hg, dqAppend_replicate _ _ _ hk']
  · simp only [Nat.zero_add] at he
    exact ⟨he, by simp, by simp⟩

theorem sinceLoop_eq_fold {ρ : Type} (a b : Nat) (z : List (α × α)) (acc bl br : List α)
    (k : List α → Except PyErr ρ) :
    (z.foldlM (fun t p => tsStep a b t p.1 p.2) (acc, bl, br) >>= fun t => k t.1)
      = (sinceLoop a b bl br z >>= fun os => k (acc ++ os)) := by
  induction z generalizing acc bl br with
  | nil => simp [sinceLoop, pure, Except.pure, ok_bind]
  | cons p ps ih =>
    obtain ⟨x, y⟩ := p
    simp only [List.foldlM_cons, sinceLoop, tsStep, bind_assoc]
    cases sinceWin a b (dqPush bl x) (dqPush br y) with
    | error e => rfl
    | ok o =>
      simp only [ok_bind]
      have := ih (acc ++ [o]) (dqPush bl x) (dqPush br y)
      simp only [tsStep] at this
      rw [this]
      cases sinceLoop a b (dqPush bl x) (dqPush br y) ps <;> simp [ok_bind, error_bind, pure, Except.pure]

theorem foldlM_ok {σ β : Type} (f : σ → β → Except PyErr σ) (xs : List β)
    (h : ∀ x ∈ xs, ∀ t, ∃ t', f t x = .ok t') : ∀ t, ∃ t', xs.foldlM f t = .ok t' := by
  induction xs with
  | nil => intro t; exact ⟨t, rfl⟩
  | cons x xs ih =>
    intro t
    obtain ⟨t1, h1⟩ := h x (by simp) t
    obtain ⟨t2, h2⟩ := ih (fun y hy => h y (by simp [hy])) t1
    exact ⟨t2, by simp [List.foldlM_cons, h1, ok_bind, h2]⟩

theorem sinceWin_ok (a b : Nat) (bl br : List α) (hbl : bl.length = b + 1) (hbr : br.length = b + 1) :
    ∃ o, sinceWin a b bl br = .ok o := by
  unfold sinceWin
  apply foldlM_ok
  intro j hj out
  have hj' : j < b - a + 1 := by simpa using hj
  rw [idx_lt br j (by omega)]
  obtain ⟨cl, hcl⟩ := foldlM_ok (fun c k => do let x ← idx bl k; pure (pmin c x)) (List.range' (j + 1) (b - j))
    (fun k hk c => by
      have := List.mem_range'_1.mp hk
      rw [idx_lt bl k (by omega)]
      exact ⟨_, rfl⟩) pinf
  exact ⟨_, by simp only [ok_bind, hcl]; rfl⟩

theorem sinceLoop_ok (a b : Nat) (z : List (α × α)) (bl br : List α)
    (hbl : bl.length = b + 1) (hbr : br.length = b + 1) : ∃ os, sinceLoop a b bl br z = .ok os := by
  induction z generalizing bl br with
  | nil => exact ⟨[], rfl⟩
  | cons p ps ih =>
    have hl := (dqPush_length bl p.1).trans hbl
    have hr := (dqPush_length br p.2).trans hbr
    obtain ⟨o, ho⟩ := sinceWin_ok a b _ _ hl hr
    obtain ⟨os, hos⟩ := ih _ _ hl hr
    exact ⟨o :: os, by simp [sinceLoop, ho, hos, ok_bind, pure, Except.pure]⟩

theorem visitTimedSince_eq (a b : Nat) (hab : a ≤ b) (l r : List α) :
    callOn Gen.Off.visitTimedSince [l, r] (some (a, b)) []
      = if l.length ≤ r.length then
          sinceLoop a b (List.replicate (b + 1) pinf) (List.replicate (b + 1) ninf) (l.zip r)
        else .error .index := by
  rw [callOn_eq _ _ _ _ _ rfl rfl rfl]
  simp only [Gen.Off.visitTimedSince]
  off_step []
  generalize hM : (if l.length ≤ r.length then _ else _ : Except PyErr (List α)) = M
  refine (simE_bind_eq (fun _ => M) (tsFill_sim l r a b _ ?_) ?_).trans rfl
  · off_step [FrameTS, lv_nil]
  · intro env1 _ h1
    refine (simE_bind_eq (R := RelTS l r a b) (fun t => .ok t.1)
      (sim_for (fun _ => _) (fun t k => idx l k >>= fun x => idx r k >>= fun y => tsStep a b t x y)
        ([], List.replicate (b + 1) pinf, List.replicate (b + 1) ninf) 0 l.length l.length ?_ ?_ ?_ h1
        (fun k _ _ s t h => tsBody_sim l r a b hab k s t h)) ?_).trans ?_
    · off_step []
    · off_step [h1.1.1]
    · exact Int.toNat_sub l.length 0
    · intro e t h
      off_step [h.ret]
    · rw [foldlM_idx2_bind (tsStep a b)]
      rw [sinceLoop_eq_fold a b _ _ _ _ (fun acc => .ok acc), sinceLoop_eq_fold a b _ _ _ _ (fun _ => .error .index)]
      obtain ⟨os, hos⟩ := sinceLoop_ok a b (l.zip r) (List.replicate (b + 1) (pinf : α)) (List.replicate (b + 1) ninf)
        (by simp) (by simp)
      rw [← hM, hos]
      simp [ok_bind]

theorem visitTimedUntil_eq (a b : Nat) (hab : a ≤ b) (l r : List α) :
    callOn Gen.Off.visitTimedUntil [l, r] (some (a, b)) []
      = if l.length ≤ r.length then
          (sinceLoop a b (List.replicate (b + 1) pinf) (List.replicate (b + 1) ninf) (l.zip r).reverse >>= fun o =>
            pure o.reverse)
        else .error .index := by
  rw [callOn_eq _ _ _ _ _ rfl rfl rfl]
  simp only [Gen.Off.visitTimedUntil]
  off_step []
  generalize hM : (if l.length ≤ r.length then _ else _ : Except PyErr (List α)) = M
  refine (simE_bind_eq (fun _ => M) (tsFill_sim l r a b _ ?_) ?_).trans rfl
  · off_step [FrameTS, lv_nil]
  · intro env1 _ h1
    refine (simE_bind_eq (R := RelTS l r a b) (fun t => .ok t.1.reverse)
      (sim_forDown _ (fun t k => idx l k >>= fun x => idx r k >>= fun y => tsStep a b t x y)
        ([], List.replicate (b + 1) pinf, List.replicate (b + 1) ninf) l.length ?_ ?_ h1
        (fun k _ s t h => tsBody_sim l r a b hab k s t h)) ?_).trans ?_
    · off_step [h1.1.1]
    · off_step []
    · intro e t h
      off_step [h.ret]
    · rw [foldlM_idx2_rev (tsStep a b), ← hM]
      split
      · rw [sinceLoop_eq_fold a b _ _ _ _ (fun acc => .ok acc.reverse)]
        simp
      · rfl

end Rtamt.Py
