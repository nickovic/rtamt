/-
  A small program logic for the sub-language `Rtamt/Py/Dn.lean`: what it means that a run of translated code DOES WHAT a
  computation of the mirror does (`Exc.Sim`: the same exception, or an outcome related to the mirror's value) - `Runs` for a
  statement that ends normally, `Rets` for one that returns the mirror's value.  The rules: `;` against `>>=`
  (`Runs.seq_sim`, `Runs.seq_sim_right` and their instances), one rule for `while` (`Runs.while`, with fuel), one for
  `for … in enumerate(…)` (`forItems`, as `exec.forEnum_inv` / `exec.forEnumRev_inv` for the two directions), and the
  entry points: a `Rets` fact about the body of a function gives the call (`runFn_of_rets`, `callAt_of_rets` for a function
  of the table, `callD_of_rets` for a visit method).  Then the contract of `intersection` in these terms (`InterSpec.sim`,
  `Runs.unpackInter`), and the two functions of the table that the others call, `intersects` and `split`; `CallOK` packs
  what the code of the bounded operators asks of `call` (`len`, `intersects`), so that the statements about it hold of any
  such `call`.
-/
import RtamtProofs.GenDenseBase
import RtamtProofs.Lemmas.Sim

set_option linter.unusedSectionVars false

namespace Rtamt.Py.Dn
open Rtamt Val Rtamt.Dense Rtamt.Dense.Alg Rtamt.Exc

variable {α : Type} [Val α] {β β' : Type}

def Runs (x : Except PyErr (Res α)) (m : Except PyErr β) (Q : β → Env α → Prop) : Prop :=
  Sim x m fun b r => r.2 = none ∧ Q b r.1

def Rets (x : Except PyErr (Res α)) (m : Except PyErr β) (enc : β → DV α) : Prop :=
  Sim x m fun b r => r.2 = some (enc b)

theorem Runs.intro {x : Except PyErr (Res α)} {b : β} {Q : β → Env α → Prop} {env' : Env α}
    (h : x = .ok (env', none)) (hq : Q b env') : Runs x (.ok b) Q := Sim.ok h ⟨rfl, hq⟩

theorem Runs.elim {x : Except PyErr (Res α)} {b : β} {Q : β → Env α → Prop} (h : Runs x (.ok b) Q) :
    ∃ env', x = .ok (env', none) ∧ Q b env' := by
  obtain ⟨⟨env', r⟩, hx, hr, hq⟩ := Sim.of_ok h rfl
  cases hr
  exact ⟨env', hx, hq⟩

/-- a weaker claim about the locals; it may use that the mirror's value is `b` (a fact about the mirror, such as the
    length of its result, enters an invariant this way) -/
theorem Runs.mono {x : Except PyErr (Res α)} {m : Except PyErr β} {Q Q' : β → Env α → Prop} (h : Runs x m Q)
    (hq : ∀ b env', m = .ok b → Q b env' → Q' b env') : Runs x m Q' := by
  cases m with
  | error e => exact h
  | ok b => obtain ⟨env', hx, hr⟩ := h.elim; exact Runs.intro hx (hq b env' rfl hr)

theorem Rets.intro {x : Except PyErr (Res α)} {b : β} {enc : β → DV α} {env' : Env α}
    (h : x = .ok (env', some (enc b))) : Rets x (.ok b) enc := Sim.ok h rfl

section rules
variable {call : Call α} {fuel : Nat} {env : Env α}

/-- **`a; c` against `m >>= k`**, whatever is claimed of the outcome of `c` (`Runs`, `Rets`, any relation) -/
theorem Runs.seq_sim {a c : S} {m : Except PyErr β} {k : β → Except PyErr β'} {Q : β → Env α → Prop}
    {P : β' → Res α → Prop} (h : Runs (exec call fuel a env) m Q)
    (hk : ∀ b env', m = .ok b → Q b env' → Sim (exec call fuel c env') (k b) P) :
    Sim (exec call fuel (.seq a c) env) (m >>= k) P := by
  cases m with
  | error e => exact exec.seq_err (Sim.of_error h rfl)
  | ok b => obtain ⟨env', h1, hq⟩ := h.elim; rw [exec.seq_ok h1]; exact hk b env' rfl hq

theorem Runs.seq {a c : S} {m : Except PyErr β} {k : β → Except PyErr β'} {Q : β → Env α → Prop}
    {Q' : β' → Env α → Prop} (h : Runs (exec call fuel a env) m Q)
    (hk : ∀ b env', m = .ok b → Q b env' → Runs (exec call fuel c env') (k b) Q') :
    Runs (exec call fuel (.seq a c) env) (m >>= k) Q' :=
  Runs.seq_sim h hk

theorem Runs.seq_sim_right {a c : S} {m : Except PyErr β} {Q : β → Env α → Prop} {P : β → Res α → Prop}
    (h : Runs (exec call fuel a env) m Q) (hc : ∀ b env', Q b env' → ∃ r, exec call fuel c env' = .ok r ∧ P b r) :
    Sim (exec call fuel (.seq a c) env) m P := by
  cases m with
  | error e => exact exec.seq_err (Sim.of_error h rfl)
  | ok b =>
      obtain ⟨env', h1, hq⟩ := h.elim
      obtain ⟨r, h2, hp⟩ := hc b env' hq
      exact Sim.ok ((exec.seq_ok h1).trans h2) hp

theorem Runs.then_ret {a : S} {e : E} {m : Except PyErr β} {Q : β → Env α → Prop} {enc : β → DV α}
    (h : Runs (exec call fuel a env) m Q) (hk : ∀ b env', Q b env' → evalE call env' e = .ok (enc b)) :
    Rets (exec call fuel (.seq a (.ret e)) env) m enc :=
  Runs.seq_sim_right h fun b env' hq => ⟨_, exec.ret (hk b env' hq), rfl⟩

/-- **`while c: body`.**  `s` is the mirror's loop state, `M s` what the mirror's loop computes from it, `I s env` says
    that the locals hold `s`.  Where the condition is false the loop is over (`M s` is a value and `Q` holds); where it is
    true the mirror makes one step `m'` (which may raise) and goes on from `nx c`, and the body does what `m'` does,
    reaching a state of smaller measure.  Fuel: more than the measure. -/
theorem Runs.while {σ : Type} {c : E} {body : S} (M : σ → Except PyErr β) (I : σ → Env α → Prop)
    (Q : β → Env α → Prop) (μ : σ → Nat)
    (hstep : ∀ s env, I s env → ∃ t, (do truthy (← evalE call env c)) = .ok t ∧
      (t = false → ∃ b, M s = .ok b ∧ Q b env) ∧
      (t = true → ∃ (γ : Type) (m' : Except PyErr γ) (nx : γ → σ), M s = m' >>= (fun c => M (nx c)) ∧
        Runs (exec call fuel body env) m' fun c env' => I (nx c) env' ∧ μ (nx c) < μ s))
    (s : σ) (hI : I s env) (hμ : μ s < fuel) : Runs (exec call fuel (.while_ c body) env) (M s) Q := by
  rw [exec.while_]
  refine Sim.loop (whileLoop (fun env => do truthy (← evalE call env c)) (exec call fuel body)) M I _ μ ?_ fuel s env hI hμ
  intro n s env hI
  obtain ⟨t, hc, hf, ht⟩ := hstep s env hI
  cases t with
  | false => obtain ⟨b, hM, hq⟩ := hf rfl; rw [hM]; exact .inl (Runs.intro (whileLoop_done _ _ _ _ hc) hq)
  | true =>
      obtain ⟨γ, m', nx, hM, hb⟩ := ht rfl
      cases m' with
      | error e => rw [hM]; exact .inl (whileLoop_raise _ _ _ _ _ hc (Sim.of_error hb rfl))
      | ok c' =>
          obtain ⟨env', h1, hI', hlt⟩ := hb.elim
          exact .inr ⟨nx c', env', hI', hlt, hM, whileLoop_step _ _ _ _ _ hc h1⟩

/-- the items of `enumerate(l)` from index `k` on (`nx = (· + 1)`), of `reversed(list(enumerate(l)))` read from the last
    item (`nx = (· - 1)`, `l` reversed) -/
def items {ι : Type} (enc : ι → DV α) (nx : Nat → Nat) : List ι → Nat → List (DV α × Nat)
  | [], _ => []
  | p :: r, k => (enc p, k) :: items enc nx r (nx k)

theorem items_succ {ι : Type} (enc : ι → DV α) (l : List ι) (k : Nat) : items enc (· + 1) l k = (l.map enc).zipIdx k := by
  induction l generalizing k with
  | nil => rfl
  | cons p r ih => simp [items, ih]

/-- **`for i, x in enumerate(…)`**, body without `return`: an invariant over the index of the next item and the items
    still to come. -/
theorem forItems {ι : Type} (enc : ι → DV α) (nx : Nat → Nat) (x i : String) (body : Env α → Except PyErr (Res α))
    (I : Nat → List ι → Env α → Prop)
    (hstep : ∀ k p rest env, I k (p :: rest) env →
      ∃ env', body (setLoc x (enc p) (setLoc i (.int k) env)) = .ok (env', none) ∧ I (nx k) rest env') :
    ∀ (l : List ι) (k : Nat) (env : Env α), I k l env →
      ∃ env' k', forLoop (fun p env => setLoc x p.1 (setLoc i (.int p.2) env)) body (items enc nx l k) env
        = .ok (env', none) ∧ I k' [] env' := by
  intro l
  induction l with
  | nil => intro k env h; exact ⟨env, k, rfl, h⟩
  | cons p rest ih =>
      intro k env h
      obtain ⟨env1, h1, hI⟩ := hstep k p rest env h
      obtain ⟨env2, k', h2, hI2⟩ := ih (nx k) env1 hI
      exact ⟨env2, k', by rw [items, forLoop_cons, h1]; exact h2, hI2⟩

theorem items_pred {ι : Type} (enc : ι → DV α) (l : List ι) :
    items enc (· - 1) l.reverse (l.length - 1) = (l.map enc).zipIdx.reverse := by
  -- by induction on the list as it is traversed, the reversed one
  have h : ∀ l : List ι, items enc (· - 1) l (l.length - 1) = (l.reverse.map enc).zipIdx.reverse := by
    intro l
    induction l with
    | nil => rfl
    | cons a l ih =>
        rw [List.reverse_cons, List.map_append, List.zipIdx_append, List.reverse_append, ← ih]
        simp [items]
  simpa using h l.reverse

theorem exec.forEnum_inv {ι : Type} (call : Call α) (fuel : Nat) (enc : ι → DV α) (x i : String) (it : E) (body : S)
    (l : List ι) (env : Env α) (hit : evalE call env it = .ok (.list (l.map enc))) (I : Nat → List ι → Env α → Prop)
    (hstep : ∀ k p rest env, I k (p :: rest) env →
      ∃ env', exec call fuel body (Dn.setLoc x (enc p) (Dn.setLoc i (.int k) env)) = .ok (env', none) ∧ I (k + 1) rest env')
    (h0 : I 0 l env) :
    ∃ env' k', exec call fuel (.forEnum i x it false body) env = .ok (env', none) ∧ I k' [] env' := by
  obtain ⟨env', k', h, hI⟩ := forItems enc (· + 1) x i (exec call fuel body) I hstep l 0 env h0
  exact ⟨env', k', (exec.forEnum hit).trans (by rw [← items_succ]; exact h), hI⟩

/-- **`for i, x in reversed(list(enumerate(it))): body`**: the items still to come are listed from the last one -/
theorem exec.forEnumRev_inv {ι : Type} (call : Call α) (fuel : Nat) (enc : ι → DV α) (x i : String) (it : E) (body : S)
    (l : List ι) (env : Env α) (hit : evalE call env it = .ok (.list (l.map enc))) (I : Nat → List ι → Env α → Prop)
    (hstep : ∀ k p rest env, I k (p :: rest) env →
      ∃ env', exec call fuel body (Dn.setLoc x (enc p) (Dn.setLoc i (.int k) env)) = .ok (env', none) ∧ I (k - 1) rest env')
    (h0 : I (l.length - 1) l.reverse env) :
    ∃ env' k', exec call fuel (.forEnum i x it true body) env = .ok (env', none) ∧ I k' [] env' := by
  obtain ⟨env', k', h, hI⟩ := forItems enc (· - 1) x i (exec call fuel body) I hstep l.reverse (l.length - 1) env h0
  exact ⟨env', k', (exec.forEnum hit).trans (by rw [← items_pred]; exact h), hI⟩

theorem Runs.setLoc {x : String} {e : E} {T : Except PyErr β} {enc : β → DV α} (h : evalE call env e = T.map enc) :
    Runs (exec call fuel (.setLoc x e) env) T fun o env' => env' = Dn.setLoc x (enc o) env := by
  cases T with
  | error err => exact exec.setLoc_err h
  | ok o => exact Runs.intro (exec.setLoc h) rfl

theorem Rets.ret {e : E} {b : β} {enc : β → DV α} (h : evalE call env e = .ok (enc b)) :
    Rets (exec call fuel (.ret e) env) (.ok b) enc := Rets.intro (exec.ret h)

end rules

theorem runFn_of_rets {call : Call α} {fuel : Nat} {fn : Fn} {args : List (DV α)}
    {m : Except PyErr β} {enc : β → DV α} (hlen : args.length = fn.params.length)
    (h : Rets (exec call fuel fn.body (fn.params.zip args)) m enc) : runFn call fuel fn args = m.map enc := by
  unfold runFn
  simp only [hlen, ne_eq, not_true_eq_false, if_false]
  cases m with
  | error e => rw [Sim.of_error h rfl]; rfl
  | ok b => obtain ⟨⟨env', r⟩, hx, hr⟩ := Sim.of_ok h rfl; cases hr; rw [hx]; rfl

theorem callAt_of_rets {fns : List (String × Fn)} {fuel k : Nat} {name : String} {fn : Fn} {args : List (DV α)}
    {m : Except PyErr β} {enc : β → DV α} (hl : fns.lookup name = some fn) (hlen : args.length = fn.params.length)
    (h : Rets (exec (callAt fns fuel k) fuel fn.body (fn.params.zip args)) m enc) :
    callAt fns fuel (k + 1) name args = m.map enc :=
  (callAt_fn _ _ _ _ fn _ hl).trans (runFn_of_rets hlen h)

theorem fns_nodup : (Gen.Dense.fns.map Prod.fst).Nodup := by decide +kernel

theorem fns_at (i : Nat) {name : String} {fn : Fn} (h : Gen.Dense.fns[i]? = some (name, fn)) :
    Gen.Dense.fns.lookup name = some fn := Assoc.lookup_of_getElem? fns_nodup h

/-- `callD` runs the body of a visit method on the results of the children, the bounds and the attributes of the node. -/
theorem callD_of_rets {fuel : Nat} {m : DMethod} {kids : List (ASig α)} {iv : Option (Rat × Rat)} {extra : Env α}
    {R : Except PyErr (ASig α)} (hk : kids.length = m.kids.length)
    (h : Rets (exec (callAt Gen.Dense.fns fuel depth) fuel m.body (m.kids.zip (kids.map encSig) ++
      (match iv, m.interval with
       | some (a, b), true => [("begin", .tm (.fin a)), ("end", .tm (.fin b))]
       | _, _ => []) ++ extra)) R encSig) :
    callD fuel m kids iv extra = R := by
  have hlt : ¬ kids.length < m.kids.length := by omega
  have ht : kids.take m.kids.length = kids := by rw [← hk, List.take_length]
  unfold callD
  simp only [hlt, if_false, ht]
  -- the two `match`es on `iv`, `m.interval` (this statement's and `callD`'s) are compared case by case
  rcases iv with _ | ⟨a, b⟩ <;> cases hi : m.interval <;> simp only [hi] at h ⊢ <;>
  · cases R with
    | error e => rw [Sim.of_error h rfl]; rfl
    | ok b => obtain ⟨⟨env', r⟩, hx, hr⟩ := Sim.of_ok h rfl; cases hr; rw [hx]; simp

/-- `InterSpec` is `Sim` written out. -/
theorem InterSpec.sim {fuel k : Nat} (hI : InterSpec α fuel k) {γ : Type} {encP : γ → DV α} {f : α → α → γ}
    {ne : γ → γ → Bool} {m : String}
    (hm : ∀ a b, callAt Gen.Dense.fns fuel (k + 1) m [.val a, .val b] = .ok (encP (f a b)))
    (hp : ∀ x, toPayload (encP x) = .ok (encP x)) (hne : ∀ x y, cmpDV .ne (encP x) (encP y) = .ok (ne x y))
    (s1 s2 : ASig α) (h : s1.length + s2.length + 4 ≤ fuel) :
    Sim (callAt Gen.Dense.fns fuel (k + 2) "intersection" [encSig s1, encSig s2, .fn m]) (inter f ne s1 s2)
      fun o v => ∃ a b c, v = .list [encSigP encP o, a, b, c] := by
  have := hI γ encP f ne m hm hp hne s1 s2 h
  cases hio : inter f ne s1 s2 with
  | error e => rw [hio] at this; exact this
  | ok o => rw [hio] at this; obtain ⟨a, b, c, hc⟩ := this; exact Sim.ok hc ⟨a, b, c, rfl⟩

/-- `x1, x2, x3, x4 = intersection(L, R, M)`: the first name receives what the mirror computes, encoded -/
theorem Runs.unpackInter {call : Call α} {fuel : Nat} {env : Env α} {x1 x2 x3 x4 M : String} {el er : E}
    {enc : β → DV α} {T : Except PyErr β} {l r : DV α}
    (hl : evalE call env el = .ok l) (hr : evalE call env er = .ok r)
    (hres : resolve env "intersection" = "intersection")
    (hcall : Sim (call "intersection" [l, r, .fn M]) T fun o v => ∃ a b c, v = .list [enc o, a, b, c]) :
    Runs (exec call fuel (.unpack [x1, x2, x3, x4] (.call3 "intersection" el er (.fnRef M))) env) T
      fun o env' => ∃ a b c, env' = Dn.setLoc x4 c (Dn.setLoc x3 b (Dn.setLoc x2 a (Dn.setLoc x1 (enc o) env))) := by
  have he : evalE call env (.call3 "intersection" el er (.fnRef M)) = call "intersection" [l, r, .fn M] :=
    (evalE.call3 hl hr rfl).trans (by rw [hres])
  cases T with
  | error e =>
      show exec call fuel (.unpack _ _) env = .error e
      simp only [exec, he, Sim.of_error hcall rfl, error_bind]
  | ok o =>
      obtain ⟨v, hv, a, b, c, rfl⟩ := Sim.of_ok hcall rfl
      exact Runs.intro (by simp only [exec, he, hv, ok_bind]; rfl) ⟨a, b, c, rfl⟩

/-- `intersect.intersects`, at every call depth -/
theorem gen_intersects (fuel k : Nat) (x1 x2 y1 y2 : Tm) :
    callAt Gen.Dense.fns fuel (k + 1) "intersects" [.tm x1, .tm x2, .tm y1, .tm y2]
      = .ok (.bool (intersects x1 x2 y1 y2) : DV α) := by
  refine callAt_of_rets (m := .ok (intersects x1 x2 y1 y2)) (enc := DV.bool) (fn := Gen.Dense.fn_intersects) (fns_at 2 rfl) rfl ?_
  have hc : evalE (callAt Gen.Dense.fns fuel k) [("x1", .tm x1), ("x2", .tm x2), ("y1", .tm y1), ("y2", .tm y2)]
      (.and_ (.bin .le (.loc "x1") (.loc "y2")) (.bin .le (.loc "y1") (.loc "x2")))
      = .ok (.bool (intersects x1 x2 y1 y2) : DV α) := by
    rw [evalE.and_ (x := .bool (Tm.le x1 y2)) ((evalE.bin (x := .tm x1) (y := .tm y2) rfl rfl).trans rfl) rfl,
      intersects]
    cases Tm.le x1 y2
    · rfl
    · exact (evalE.bin (x := .tm y1) (y := .tm x2) rfl rfl).trans rfl
  show Rets (exec _ fuel (.ite _ (.ret (.boolLit true)) (.ret (.boolLit false)))
    [("x1", .tm x1), ("x2", .tm x2), ("y1", .tm y1), ("y2", .tm y2)]) _ _
  rw [exec.ite hc rfl]
  cases intersects x1 x2 y1 y2 <;> exact Rets.ret (fuel := fuel) rfl

structure CallOK (call : Call α) : Prop where
  len : ∀ l : List (DV α), call "len" [.list l] = .ok (.int l.length)
  ints : ∀ x1 x2 y1 y2 : Tm, call "intersects" [.tm x1, .tm x2, .tm y1, .tm y2] = .ok (.bool (intersects x1 x2 y1 y2))

theorem callOK_callAt (fuel k : Nat) : CallOK (callAt Gen.Dense.fns fuel (k + 1) : Call α) where
  len := callAt_len fuel (k + 1)
  ints := gen_intersects fuel k

/-- `intersect.split`, at every call depth -/
theorem gen_split (fuel k : Nat) (a b : α) :
    callAt Gen.Dense.fns fuel (k + 1) "split" [.val a, .val b] = .ok (encPair (a, b)) :=
  callAt_of_rets (m := .ok (a, b)) (enc := encPair) (fn := Gen.Dense.fn_split) (fns_at 21 rfl) rfl (Rets.ret rfl)

end Rtamt.Py.Dn
