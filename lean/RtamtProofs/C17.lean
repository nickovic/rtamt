/-
  C17 — Well-formed use never crashes; unsupported constructs are rejected cleanly.

  "For every supported specification and well-formed data - including one-sample traces,
   variables that are declared or supplied but not used by the formula, and inputs listed
   in any order - evaluate() and update() return normally. Every construct a monitor does
   not support (unbounded future online, prev/next/rise/fall in dense time, bounded until
   in the dense-time online monitor) is rejected with an RTAMTException no later than the
   first evaluation instead of yielding a value."

  Discrete time: the mirrors are written with `Except PyErr` for every partial Python
  primitive (list index, `max([])`, dict lookup); totality on well-formed input is a
  corollary of C01/C02, rejection is proved from the table regenerated from the source.
  Dense time: rejection by the translated dense sources is in `GenDenseC17.lean`.
-/
import RtamtProofs.C01Table
import RtamtProofs.C02Table
import RtamtProofs.Lemmas.Horizon
import RtamtProofs.Lemmas.Kind

namespace Rtamt
open Val

variable {α : Type} [Val α] [LawfulVal α]

/-- Offline: no IndexError / ValueError / KeyError is reachable on well-formed data, for
    every trace length `n ≥ 1` (in particular `n = 1`), whatever else the data set contains
    and in whatever order (only the variables of the formula are looked up, by name). -/
theorem C17_offline_total (w : Env α) (σ : String → Nat → α) (n : Nat) (hn : 0 < n) (φ : F α)
    (hwf : φ.wf = true) (hp : φ.noPrecedes) (hw : w.Agrees σ n φ.vars) :
    ∃ v, evalOff Generated.offlineDiscrete.handles w n φ = .ok v ∧ v.length = n := by
  exact ⟨_, C01_current_tree w σ n hn φ hwf hp hw, by simp⟩

/-- The data set may list its variables in any order and contain surplus variables. -/
theorem C17_offline_order_irrelevant (w w' : Env α) (σ : String → Nat → α) (n : Nat) (hn : 0 < n)
    (φ : F α) (hwf : φ.wf = true) (hp : φ.noPrecedes)
    (hw : w.Agrees σ n φ.vars) (hw' : w'.Agrees σ n φ.vars) :
    evalOff Generated.offlineDiscrete.handles w n φ = evalOff Generated.offlineDiscrete.handles w' n φ := by
  rw [C01_current_tree w σ n hn φ hwf hp hw, C01_current_tree w' σ n hn φ hwf hp hw']

/-- Online: every update of a past-time specification returns normally. -/
theorem C17_online_total (σ : String → Nat → α) (n : Nat) (φ : F α)
    (hon : φ.online = true) (hwf : φ.wf = true) :
    ∃ v, runOnline Generated.onlineDiscrete.handles Generated.onlineDiscrete.raises φ (envs σ n) = .ok v
      ∧ v.length = n := by
  exact ⟨_, C02_current_tree σ n φ hon hwf, by simp⟩

section OnlineReject

/-- Per node class: either it is supported (registered, does not raise) or it raises. -/
private theorem kind_dich (k : Kind) (hc : k ≠ .Constant) :
    (onlineKinds.contains k = true ∧ Generated.onlineDiscrete.handles k = true
        ∧ Generated.onlineDiscrete.raises k = false)
    ∨ (onlineKinds.contains k = false ∧ Generated.onlineDiscrete.raises k = true) := by
  by_cases hk : k ∈ onlineKinds
  · exact .inl ⟨List.contains_iff_mem.2 hk, C02_table_supported k hk hc⟩
  · exact .inr ⟨by simpa using hk, C02_table_future_rejected k (Kind.mem_all k) hk⟩

omit [LawfulVal α] in
/-- `set_ast` with tables that support exactly the past-time classes succeeds on a past-time formula and raises
    RTAMTException on any other: the children are visited first, and each of them either succeeds or raises the same. -/
private theorem initTree_dich {h r : Kind → Bool}
    (hd : ∀ k, k ≠ .Constant →
      (onlineKinds.contains k = true ∧ h k = true ∧ r k = false) ∨ (onlineKinds.contains k = false ∧ r k = true))
    (φ : F α) : ∃ st, initTree h r φ = bif φ.online then .ok st else .error .rtamt := by
  induction φ using Dense.C09Dense.nodeInduction with
  | var x =>
    rcases hd .Variable nofun with ⟨-, hh, hr⟩ | ⟨hk, -⟩
    · exact ⟨.leaf, by rw [initTree, hr, hh]; rfl⟩
    · exact absurd hk (by decide)
  | const c => exact ⟨.leaf, rfl⟩
  | @n1 _ φ hn ih =>
    obtain ⟨c, hc⟩ := ih
    rw [hn.online, hn.initTree, hc]
    rcases hd _ hn.kind_ne_const with ⟨hk, hh, hr⟩ | ⟨hk, hr⟩
    · rw [hk, hh, hr]
      cases φ.online
      · exact ⟨c, rfl⟩
      · exact ⟨_, rfl⟩
    · rw [hk, hr]
      exact ⟨c, rfl⟩
  | @n2 _ φ ψ hn ih1 ih2 =>
    obtain ⟨c1, hc1⟩ := ih1
    obtain ⟨c2, hc2⟩ := ih2
    rw [hn.online, hn.initTree, hc1, hc2]
    rcases hd _ hn.kind_ne_const with ⟨hk, hh, hr⟩ | ⟨hk, hr⟩
    · rw [hk, hh, hr]
      cases φ.online
      · exact ⟨c1, rfl⟩
      · cases ψ.online
        · exact ⟨c1, rfl⟩
        · exact ⟨_, rfl⟩
    · rw [hk, hr]
      exact ⟨c1, rfl⟩

end OnlineReject

set_option linter.unusedSectionVars false in
/-- Online: a specification with a future operator is rejected with RTAMTException when the
    monitor is constructed (first update), and no value is produced. -/
theorem C17_online_rejects (φ : F α) (hon : φ.online = false) (es : List (String → α)) :
    runOnline Generated.onlineDiscrete.handles Generated.onlineDiscrete.raises φ es = .error .rtamt := by
  obtain ⟨st, hi⟩ := initTree_dich kind_dich φ
  rw [runOnline, hi, hon]
  rfl

set_option linter.unusedSectionVars false in
/-- The pastifier / horizon visitor reject unbounded future operators with RTAMTException
    (model: `hor?` is `none` exactly on formulas that are not `bounded`). -/
theorem C17_pastify_rejects_unbounded (φ : F α) : (hor? φ = none) ↔ φ.bounded = false := by
  rw [hor?_eq]
  cases φ.bounded <;> simp

end Rtamt
