/-
  `DenseTimeInterpreter.time_unit_transformer`, as translated from the Python source
  (`Gen.Units.dense_time_unit_transformer` of `Rtamt/Py/GeneratedUnits.lean`, regenerated on every run), denotes
  the hand-written mirror `SIv.toDefault` (`Rtamt/Units.lean`, the function `C08_dense` is stated on).

  Numbers are exact (`Rat` for the numbers of the parser; `float(x)` of an exact number is the number itself:
  rounding is not modelled).  The method reads no attribute: the statement holds for every attribute store.
-/
import RtamtProofs.GenUnits
import RtamtProofs.C08

namespace Rtamt.Py
open Rtamt Val

variable {α : Type} [Val α]

/-- What follows the defaulting of the units (the beginning is that of the discrete-time method: `exec_units_prefix`). -/
def dtutRest : S :=
  match Gen.Units.dense_time_unit_transformer.body with
  | .seq _ (.seq _ (.seq _ (.seq _ (.seq _ r)))) => r
  | _ => .skip

theorem gen_dense_time_unit_transformer (store : Store α) (dflt : TUnit) (i : SIv) :
    call (α := α) Gen.Units.dense_time_unit_transformer store
        [.rat i.b, .rat i.e, .str (optUnitStr i.bu), .str (optUnitStr i.eu), .str (unitStr dflt)]
      = .ok (store, V.pair (.rat (i.toDefault dflt).1) (.rat (i.toDefault dflt).2)) := by
  rw [call_some _ _ _ _ rfl rfl]
  change (exec (.seq _ (.seq _ (.seq _ (.seq _ (.seq unitsDefault dtutRest))))) ⟨_, [_, _, _, _, _]⟩ >>= _) = _
  rw [exec_units_prefix]
  have hnz : ∀ u : TUnit, ((u.nanos : Nat) : Rat) ≠ 0 := fun u => by
    have := nanos_ne_zero u; simpa [Rat.intCast_natCast] using this
  simp [dtutRest, Gen.Units.dense_time_unit_transformer, unitsLoc, SIv.toDefault, SIv.durNs, exec_seq, exec_setLoc,
    evalE, evalUn_frac_rat, unitNs_eq, evalBin_mul_rat_int, evalBin_div_rat_int, ok_bind, getKey_cons_same,
    getKey_cons_ne, setKey, pure, Except.pure, hnz]

theorem gen_dense_units_supported : Gen.Units.dense_time_unit_transformer.supported = true := by
  decide

/-- C08 (dense) on the translated source: two intervals with the same durations under one default unit are
    translated to the same pair. -/
theorem gen_dense_units_same_durations (store : Store α) (d : TUnit) (i i' : SIv) (h : i.durNs d = i'.durNs d) :
    call (α := α) Gen.Units.dense_time_unit_transformer store
        [.rat i.b, .rat i.e, .str (optUnitStr i.bu), .str (optUnitStr i.eu), .str (unitStr d)]
      = call (α := α) Gen.Units.dense_time_unit_transformer store
        [.rat i'.b, .rat i'.e, .str (optUnitStr i'.bu), .str (optUnitStr i'.eu), .str (unitStr d)] := by
  rw [gen_dense_time_unit_transformer, gen_dense_time_unit_transformer, (C08_dense d d i i' h).2.2 rfl]

/-- C08 (dense), two default units: the translated results denote the same durations in nanoseconds. -/
theorem gen_dense_units_same_durations_ns (store : Store α) (d d' : TUnit) (i i' : SIv)
    (h : i.durNs d = i'.durNs d') :
    ∃ r r' : Rat × Rat,
      call (α := α) Gen.Units.dense_time_unit_transformer store
        [.rat i.b, .rat i.e, .str (optUnitStr i.bu), .str (optUnitStr i.eu), .str (unitStr d)]
        = .ok (store, V.pair (.rat r.1) (.rat r.2)) ∧
      call (α := α) Gen.Units.dense_time_unit_transformer store
        [.rat i'.b, .rat i'.e, .str (optUnitStr i'.bu), .str (optUnitStr i'.eu), .str (unitStr d')]
        = .ok (store, V.pair (.rat r'.1) (.rat r'.2)) ∧
      r.1 * (d.nanos : Rat) = r'.1 * (d'.nanos : Rat) ∧ r.2 * (d.nanos : Rat) = r'.2 * (d'.nanos : Rat) :=
  ⟨i.toDefault d, i'.toDefault d', gen_dense_time_unit_transformer store d i,
    gen_dense_time_unit_transformer store d' i', (C08_dense d d' i i' h).1, (C08_dense d d' i i' h).2.1⟩

end Rtamt.Py
