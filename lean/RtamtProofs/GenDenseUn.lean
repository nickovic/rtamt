/-
  The translated visit methods of the dense-time offline monitor (`Rtamt/Py/GeneratedDense.lean`) run through `callD`
  (`Rtamt/Py/RunDn.lean`) against the mirror `Rtamt/Dense/Alg.lean`: the unary point-wise visitors (`mapUn`), the leaves,
  the methods that only raise, `visitPredicate` (`predicate`, given the contract of `subtraction_operation`), and the
  binary / bounded visit methods, which forward to `intersection` or to a module-level function and are proved from the
  callee's contract.
-/
import RtamtProofs.GenDenseInter
import RtamtProofs.GenDenseEmit

namespace Rtamt.Py.Dn
open Rtamt Val Rtamt.Dense Rtamt.Dense.Alg

variable {α : Type} [Val α]

namespace GenUn

/-- the generic loop `for i in sample: BODY` where one iteration appends one sample (or raises); no local holds a
    function, so the name a body calls denotes itself -/
theorem unLoopG (call : Call α) (fuel : Nat) (B : S) (F : Tm × α → Except PyErr (Tm × α))
    (hstep : ∀ (env : Env α) (acc : List (DV α)) (t : Tm) (x : α),
      getLoc "sample_return" env = .ok (.list acc) → NoFn env →
      Runs (exec call fuel B (setLoc "i" (.smp t (.val x)) env)) (F (t, x)) fun q env' =>
        getLoc "sample_return" env' = .ok (.list (acc ++ [encSmp q])) ∧ NoFn env')
    (s : ASig α) : ∀ (env : Env α) (acc : ASig α), getLoc "sample_return" env = .ok (encSig acc) → NoFn env →
    Runs (forLoop (fun p env => setLoc "i" p.1 env) (exec call fuel B) (s.map fun v => (encSmp v, 0)) env) (s.mapM F)
      fun o env' => getLoc "sample_return" env' = .ok (encSig (acc ++ o)) := by
  induction s with
  | nil => intro env acc h _; exact Runs.intro rfl (by simpa using h)
  | cons p s ih =>
      intro env acc h hP
      rw [List.map_cons, forLoop_cons, List.mapM_cons]
      simp only [bind_pure_comp]
      refine Exc.Sim.bind (hstep env (acc.map encSmp) p.1 p.2 h hP) ?_
      rintro q ⟨env1, _⟩ - ⟨rfl, h2, h3⟩
      have ih' := ih env1 (acc ++ [q]) (by simpa [encSig] using h2) h3
      simp only [List.append_assoc, List.cons_append, List.nil_append] at ih'
      exact Exc.Sim.map_left _ ih'

/-- `out_time = i[0]; out_value = -i[1]; sample_return.append([out_time, out_value])` -/
def negBody : S := (.seq (.setLoc "out_time" (.idx (.loc "i") (.int 0))) (.seq (.setLoc "out_value" (.neg (.idx (.loc "i") (.int 1)))) (.appendLoc "sample_return" (.list2 (.loc "out_time") (.loc "out_value")))))

/-- `out_time = i[0]; out_value = f(i[1]); sample_return.append([out_time, out_value])` -/
def callBody (f : String) : S := (.seq (.setLoc "out_time" (.idx (.loc "i") (.int 0))) (.seq (.setLoc "out_value" (.call1 f (.idx (.loc "i") (.int 1)))) (.appendLoc "sample_return" (.list2 (.loc "out_time") (.loc "out_value")))))

/-- `if i[1] < 0: raise Exception(…)` followed by `callBody` -/
def guardBody (f : String) : S := (.seq (.ite (.bin .lt (.idx (.loc "i") (.int 1)) (.int 0)) (.raise .other) .skip) (callBody f))

theorem negBody_step (call : Call α) (fuel : Nat) (env : Env α) (acc : List (DV α)) (t : Tm) (x : α)
    (h : getLoc "sample_return" env = .ok (.list acc)) :
    exec call fuel negBody (setLoc "i" (.smp t (.val x)) env) =
      .ok (setLoc "sample_return" (.list (acc ++ [.smp t (.val (Val.neg x))]))
            (setLoc "out_value" (.val (Val.neg x)) (setLoc "out_time" (.tm t) (setLoc "i" (.smp t (.val x)) env))), none) := by
  dn_step [negBody, h, evalNeg, mkList2, toPayload]

theorem callBody_step (call : Call α) (fuel : Nat) (f : String) (g : α → α) (env : Env α) (acc : List (DV α)) (t : Tm)
    (x : α) (hcall : call f [.val x] = .ok (.val (g x)))
    (h : getLoc "sample_return" env = .ok (.list acc)) (hn : NoFn env) :
    exec call fuel (callBody f) (setLoc "i" (.smp t (.val x)) env) =
      .ok (setLoc "sample_return" (.list (acc ++ [.smp t (.val (g x))]))
            (setLoc "out_value" (.val (g x)) (setLoc "out_time" (.tm t) (setLoc "i" (.smp t (.val x)) env))), none) := by
  dn_step [callBody, h, mkList2, toPayload, hn.resolve f, ite_self, hcall]

@[simp] theorem exMap_ok {ε σ ρ : Type} (a : σ) (f : σ → ρ) : Except.map f (Except.ok a : Except ε σ) = .ok (f a) := rfl
@[simp] theorem exMap_error {ε σ ρ : Type} (e : ε) (f : σ → ρ) : Except.map f (Except.error e : Except ε σ) = .error e := rfl
attribute [dn_step] exMap_ok exMap_error

theorem callAt_abs (fuel k : Nat) (d : α) : callAt Gen.Dense.fns fuel k "abs" [.val d] = .ok (.val (Val.abs d)) :=
  (callAt_lib fuel k (by decide) _).trans (by simp [builtin, toVal])

theorem guard_step (call : Call α) (fuel : Nat) (env : Env α) (t : Tm) (x : α)
    (h : getLoc "i" env = .ok (.smp t (.val x))) :
    exec call fuel (.ite (.bin .lt (.idx (.loc "i") (.int 1)) (.int 0)) (.raise .other) .skip) env =
      if Val.lt x Val.zero then .error .other else .ok (env, none) := by
  have hcmp : cmpDV .lt (.val x : DV α) (.int 0) = .ok (Val.lt x Val.zero) := by
    simp [cmpDV, isTimeLike, isValLike, toVal, cmpVal]
  cases hx : Val.lt x Val.zero <;> dn_step [h, evalBin, isCmp, hcmp, hx, Bool.false_eq_true]

theorem guardBody_step (call : Call α) (fuel : Nat) (f : String) (g : α → α) (env : Env α) (acc : List (DV α)) (t : Tm)
    (x : α) (hcall : call f [.val x] = .ok (.val (g x)))
    (h : getLoc "sample_return" env = .ok (.list acc)) (hn : NoFn env) :
    exec call fuel (guardBody f) (setLoc "i" (.smp t (.val x)) env) =
      if Val.lt x Val.zero then .error .other else
      .ok (setLoc "sample_return" (.list (acc ++ [.smp t (.val (g x))]))
            (setLoc "out_value" (.val (g x)) (setLoc "out_time" (.tm t) (setLoc "i" (.smp t (.val x)) env))), none) := by
  unfold guardBody
  rw [exec, guard_step call fuel _ t x (by simp)]
  by_cases hx : Val.lt x Val.zero = true
  · simp [hx]
  · have hx' : Val.lt x Val.zero = false := by simpa using hx
    simp [hx', callBody_step call fuel f g env acc t x hcall h hn]

theorem noFn_iter {env : Env α} (hn : NoFn env) (t : Tm) (x y : α) (l : List (DV α)) :
    NoFn (setLoc "sample_return" (.list l) (setLoc "out_value" (.val y) (setLoc "out_time" (.tm t)
      (setLoc "i" (.smp t (.val x)) env)))) :=
  (((hn.setLoc _ fun _ => by simp).setLoc _ fun _ => by simp).setLoc _ fun _ => by simp).setLoc _ fun _ => by simp

/-- the body of the six unary point-wise visit methods around the loop body `B` -/
def unWrap (B : S) : S := (.seq (.setLoc "sample_return" .emptyList) (.seq (.forIn "i" (.loc "sample") B) (.ret (.loc "sample_return"))))

theorem unMethodG (fuel : Nat) (m : DMethod) (B : S) (F : Tm × α → Except PyErr (Tm × α))
    (hk : m.kids = ["sample"]) (hb : m.body = unWrap B)
    (hstep : ∀ (env : Env α) (acc : List (DV α)) (t : Tm) (x : α),
      getLoc "sample_return" env = .ok (.list acc) → NoFn env →
      Runs (exec (callAt Gen.Dense.fns fuel depth) fuel B (setLoc "i" (.smp t (.val x)) env)) (F (t, x)) fun q env' =>
        getLoc "sample_return" env' = .ok (.list (acc ++ [encSmp q])) ∧ NoFn env')
    (s : ASig α) : callD fuel m [s] none [] = s.mapM F := by
  refine callD_of_rets (by rw [hk]; rfl) ?_
  rw [hk, hb]
  show Rets (exec _ fuel (unWrap B) [("sample", encSig s)]) _ _
  rw [unWrap, exec.seq_ok (exec.setLoc (v := .list []) rfl)]
  refine Runs.then_ret ?_ fun o env' h => evalE.loc h
  rw [exec.forIn (l := s.map encSmp) rfl, List.map_map]
  exact unLoopG _ fuel B F hstep s _ [] rfl ((NoFn.nil.cons _ (encSig_ne_fn s)).setLoc _ fun _ => by simp)

/-- `visitAbs`, `visitExp`: `out_value = f(i[1])` with a function `f` of the standard library -/
theorem gen_unCall (fuel : Nat) (m : DMethod) (f : String) (g : α → α)
    (hk : m.kids = ["sample"]) (hb : m.body = unWrap (callBody f)) (hf : f ∈ libNames)
    (hbi : ∀ x : α, builtin f [.val x] = .ok (.val (g x))) (s : ASig α) :
    callD fuel m [s] none [] = s.mapM (fun p => (.ok (p.1, g p.2) : Except PyErr (Tm × α))) := by
  refine unMethodG fuel m (callBody f) _ hk hb ?_ s
  intro env acc t x h hn
  exact Runs.intro (callBody_step _ fuel f g env acc t x ((callAt_lib fuel depth hf _).trans (hbi x)) h hn)
    ⟨getLoc_setLoc_same _ _ _, noFn_iter hn t x (g x) _⟩

/-- `visitSqrt`, `visitLn`: the same after `if i[1] < 0: raise Exception` -/
theorem gen_unGuard (fuel : Nat) (m : DMethod) (f : String) (g : α → α)
    (hk : m.kids = ["sample"]) (hb : m.body = unWrap (guardBody f)) (hf : f ∈ libNames)
    (hbi : ∀ x : α, builtin f [.val x] = .ok (.val (g x))) (s : ASig α) :
    callD fuel m [s] none [] =
      s.mapM (fun p => if Val.lt p.2 Val.zero then (.error .other : Except PyErr (Tm × α)) else .ok (p.1, g p.2)) := by
  refine unMethodG fuel m (guardBody f) _ hk hb ?_ s
  intro env acc t x h hn
  have hs := guardBody_step _ fuel f g env acc t x ((callAt_lib fuel depth hf _).trans (hbi x)) h hn
  by_cases hx : Val.lt x Val.zero = true
  · simp only [hx, if_true] at hs ⊢
    exact hs
  · simp only [hx] at hs ⊢
    exact Runs.intro hs ⟨getLoc_setLoc_same _ _ _, noFn_iter hn t x (g x) _⟩

/-- `visitNot`, `visitNegate` -/
theorem gen_unNeg (fuel : Nat) (m : DMethod) (hk : m.kids = ["sample"]) (hb : m.body = unWrap negBody) (s : ASig α) :
    callD fuel m [s] none [] = s.mapM (fun p => (.ok (p.1, Val.neg p.2) : Except PyErr (Tm × α))) := by
  refine unMethodG fuel m negBody _ hk hb ?_ s
  intro env acc t x h hn
  exact Runs.intro (negBody_step _ fuel env acc t x h) ⟨getLoc_setLoc_same _ _ _, noFn_iter hn t x (Val.neg x) _⟩

theorem _root_.Rtamt.Py.Dn.gen_visitAbs (fuel : Nat) (s : ASig α) : callD fuel Gen.Dense.visitAbs [s] none [] = mapUn .abs s :=
  gen_unCall fuel Gen.Dense.visitAbs "abs" Val.abs rfl rfl (by decide) (fun x => by simp [builtin, toVal]) s

theorem _root_.Rtamt.Py.Dn.gen_visitExp (fuel : Nat) (s : ASig α) : callD fuel Gen.Dense.visitExp [s] none [] = mapUn .exp s :=
  gen_unCall fuel Gen.Dense.visitExp "math.exp" Val.exp rfl rfl (by decide) (fun x => by simp [builtin, toVal]) s

theorem _root_.Rtamt.Py.Dn.gen_visitSqrt (fuel : Nat) (s : ASig α) : callD fuel Gen.Dense.visitSqrt [s] none [] = mapUn .sqrt s :=
  gen_unGuard fuel Gen.Dense.visitSqrt "math.sqrt" Val.sqrt rfl rfl (by decide) (fun x => by simp [builtin, toVal]) s

theorem _root_.Rtamt.Py.Dn.gen_visitLn (fuel : Nat) (s : ASig α) : callD fuel Gen.Dense.visitLn [s] none [] = mapUn .ln s :=
  gen_unGuard fuel Gen.Dense.visitLn "math.log" Val.ln rfl rfl (by decide) (fun x => by simp [builtin, toVal]) s

theorem _root_.Rtamt.Py.Dn.gen_visitNot (fuel : Nat) (s : ASig α) : callD fuel Gen.Dense.visitNot [s] none [] = mapUn .not s :=
  gen_unNeg fuel Gen.Dense.visitNot rfl rfl s

theorem _root_.Rtamt.Py.Dn.gen_visitNegate (fuel : Nat) (s : ASig α) : callD fuel Gen.Dense.visitNegate [s] none [] = mapUn .negate s :=
  gen_unNeg fuel Gen.Dense.visitNegate rfl rfl s

/-- `sample_return = e; return sample_return` where `e` evaluates to the encoded value of the mirror or raises what it
    raises: the body of the visit methods that forward to a module-level function -/
theorem wrap_rets {call : Call α} {fuel : Nat} {env : Env α} {e : E} {R : Except PyErr (ASig α)}
    (he : evalE call env e = R.map encSig) :
    Rets (exec call fuel (.seq (.setLoc "sample_return" e) (.ret (.loc "sample_return"))) env) R encSig := by
  refine Runs.then_ret (Runs.setLoc he) ?_
  rintro o _ rfl
  exact evalE.loc (getLoc_setLoc_same _ _ _)

theorem _root_.Rtamt.Py.Dn.gen_visitConstant (fuel : Nat) (c : α) :
    callD fuel Gen.Dense.visitConstant [] none [("$val", .val c)] = .ok [(Tm.zero, c), (.inf, c)] :=
  callD_of_rets rfl (wrap_rets (R := .ok [(Tm.zero, c), (.inf, c)]) rfl)

theorem _root_.Rtamt.Py.Dn.gen_visitVariable (fuel : Nat) (s : ASig α) :
    callD fuel Gen.Dense.visitVariable [] none [("$var", encSig s), ("$field", .none)] = .ok s :=
  callD_of_rets (R := .ok s) rfl (Rets.intro rfl)

theorem raiseG (fuel : Nat) (m : DMethod) (hk : m.kids = []) (hb : m.body = .raise .rtamt) (kids : List (ASig α))
    (iv : Option (Rat × Rat)) (extra : Env α) : callD fuel m kids iv extra = .error .rtamt := by
  unfold callD
  rw [hk, hb]
  simp [exec]

theorem _root_.Rtamt.Py.Dn.gen_visitRise (fuel : Nat) (kids : List (ASig α)) (iv : Option (Rat × Rat)) (extra : Env α) :
    callD fuel Gen.Dense.visitRise kids iv extra = .error .rtamt := raiseG fuel _ rfl rfl kids iv extra

theorem _root_.Rtamt.Py.Dn.gen_visitFall (fuel : Nat) (kids : List (ASig α)) (iv : Option (Rat × Rat)) (extra : Env α) :
    callD fuel Gen.Dense.visitFall kids iv extra = .error .rtamt := raiseG fuel _ rfl rfl kids iv extra

theorem _root_.Rtamt.Py.Dn.gen_visitPrevious (fuel : Nat) (kids : List (ASig α)) (iv : Option (Rat × Rat)) (extra : Env α) :
    callD fuel Gen.Dense.visitPrevious kids iv extra = .error .rtamt := raiseG fuel _ rfl rfl kids iv extra

theorem _root_.Rtamt.Py.Dn.gen_visitNext (fuel : Nat) (kids : List (ASig α)) (iv : Option (Rat × Rat)) (extra : Env α) :
    callD fuel Gen.Dense.visitNext kids iv extra = .error .rtamt := raiseG fuel _ rfl rfl kids iv extra

theorem _root_.Rtamt.Py.Dn.gen_visitStrongPrevious (fuel : Nat) (kids : List (ASig α)) (iv : Option (Rat × Rat)) (extra : Env α) :
    callD fuel Gen.Dense.visitStrongPrevious kids iv extra = .error .rtamt := raiseG fuel _ rfl rfl kids iv extra

theorem _root_.Rtamt.Py.Dn.gen_visitStrongNext (fuel : Nat) (kids : List (ASig α)) (iv : Option (Rat × Rat)) (extra : Env α) :
    callD fuel Gen.Dense.visitStrongNext kids iv extra = .error .rtamt := raiseG fuel _ rfl rfl kids iv extra

theorem _root_.Rtamt.Py.Dn.gen_visitTimedPrecedes (fuel : Nat) (kids : List (ASig α)) (iv : Option (Rat × Rat)) (extra : Env α) :
    callD fuel Gen.Dense.visitTimedPrecedes kids iv extra = .error .rtamt := raiseG fuel _ rfl rfl kids iv extra

/-- the `if / elif` chain on `node.operator.value` -/
def predOutVal : S := (.ite (.bin .eq (.loc "$operator") (.cmpc .eq)) (.setLoc "out_val" (.neg (.call1 "abs" (.idx (.loc "in_sample") (.int 1))))) (.ite (.bin .eq (.loc "$operator") (.cmpc .ne)) (.setLoc "out_val" (.call1 "abs" (.idx (.loc "in_sample") (.int 1)))) (.ite (.or_ (.bin .eq (.loc "$operator") (.cmpc .le)) (.bin .eq (.loc "$operator") (.cmpc .lt))) (.setLoc "out_val" (.neg (.idx (.loc "in_sample") (.int 1)))) (.ite (.or_ (.bin .eq (.loc "$operator") (.cmpc .ge)) (.bin .eq (.loc "$operator") (.cmpc .gt))) (.setLoc "out_val" (.idx (.loc "in_sample") (.int 1))) (.setLoc "out_val" .nan)))))

def predBody : S :=
  .seq predOutVal (emitS (keepE (.loc "out_val") "input_list") (.idx (.loc "in_sample") (.int 0)) (.loc "out_val")
    "sample_return" "prev")

theorem visitPredicate_body : Gen.Dense.visitPredicate.body =
    (.seq (.setLoc "sample_return" .emptyList) (.seq (.setLoc "input_list" (.call2 "subtraction_operation" (.loc "sample_left") (.loc "sample_right"))) (.seq (.setLoc "prev" .nan) (.seq (.forEnum "i" "in_sample" (.loc "input_list") false predBody) (.ret (.loc "sample_return")))))) := rfl

/-- `node.operator.value == c'` -/
theorem opTest (call : Call α) (env : Env α) (c c' : Cmp) (hop : getLoc "$operator" env = .ok (.cmp c)) :
    evalE call env (.bin .eq (.loc "$operator") (.cmpc c')) = .ok (.bool (decide (c = c'))) := by
  rw [evalE.bin (y := .cmp c') (evalE.loc hop) rfl]
  simp [evalBin, isCmp, cmpDV]

/-- `node.operator.value == c₁ or node.operator.value == c₂` -/
theorem opTest2 (call : Call α) (env : Env α) (c c₁ c₂ : Cmp) (hop : getLoc "$operator" env = .ok (.cmp c)) :
    evalE call env (.or_ (.bin .eq (.loc "$operator") (.cmpc c₁)) (.bin .eq (.loc "$operator") (.cmpc c₂))) =
      .ok (.bool (decide (c = c₁) || decide (c = c₂))) :=
  evalE_or_bool call (opTest call env c c₁ hop) (opTest call env c c₂ hop)

theorem predOutVal_step (call : Call α) (fuel : Nat) (env : Env α) (c : Cmp) (t : Tm) (d : α)
    (hop : getLoc "$operator" env = .ok (.cmp c)) (hin : getLoc "in_sample" env = .ok (.smp t (.val d)))
    (hr : resolve env "abs" = "abs") (hc : call "abs" [.val d] = .ok (.val (Val.abs d))) :
    exec call fuel predOutVal env = .ok (setLoc "out_val" (.val (cmpOfDiff c d)) env, none) := by
  unfold predOutVal
  rw [exec.ite (opTest call env c _ hop) rfl, exec.ite (opTest call env c _ hop) rfl,
    exec.ite (opTest2 call env c _ _ hop) rfl, exec.ite (opTest2 call env c _ _ hop) rfl]
  cases c <;> dn_step [hin, hr, hc, evalNeg, cmpOfDiff, decide_true, decide_false, Bool.or_false, Bool.or_true, Bool.false_eq_true]

structure PredInv (env : Env α) (c : Cmp) (L : List (DV α)) (acc : ASig α) (prev : Option α) : Prop where
  op : getLoc "$operator" env = .ok (.cmp c)
  il : getLoc "input_list" env = .ok (.list L)
  sr : getLoc "sample_return" env = .ok (encSig acc)
  pv : getLoc "prev" env = .ok (encPrev prev)
  rabs : resolve env "abs" = "abs"
  rlen : resolve env "len" = "len"

theorem predBody_step (call : Call α) (fuel : Nat) (env : Env α) (c : Cmp) (L : List (DV α)) (acc : ASig α)
    (prev : Option α) (t : Tm) (d : α) (k : Nat) (inv : PredInv env c L acc prev)
    (hcAbs : ∀ d : α, call "abs" [.val d] = .ok (.val (Val.abs d)))
    (hcLen : ∀ L : List (DV α), call "len" [.list L] = .ok (.int L.length)) :
    ∃ env', exec call fuel predBody (setLoc "in_sample" (.smp t (.val d)) (setLoc "i" (.int k) env)) = .ok (env', none) ∧
      PredInv env' c L (acc ++ if keepB prev (cmpOfDiff c d) || decide (k + 1 = L.length)
        then [(t, cmpOfDiff c d)] else []) (some (cmpOfDiff c d)) := by
  obtain ⟨h1, h2, h3, h4, h5, h6⟩ := inv
  have e1 := predOutVal_step call fuel (setLoc "in_sample" (.smp t (.val d)) (setLoc "i" (.int k) env)) c t d
    (by simp [h1]) (by simp) (by simp [h5]) (hcAbs d)
  refine ⟨_, (exec.seq_ok e1).trans (emitS_exec (t := t) (o := cmpOfDiff c d) (acc := acc)
    (keepE_eval (o := cmpOfDiff c d) (prev := prev) (k := k) (L := L) hcLen (evalE.loc (by simp)) (by simpa using h4)
      (by simp) (by simpa using h2) (by simpa using h6))
    (evalE.idxInt (evalE.loc (v := .smp t (.val d)) (by simp))) (fun _ => evalE.loc (by simp)) (evalE.loc (by simp))
    (by simpa using h3)), ?_⟩
  cases (keepB prev (cmpOfDiff c d) || decide (k + 1 = L.length)) <;>
    constructor <;> simp [h1, h2, h3, h5, h6, encPrev]

theorem _root_.Rtamt.Py.Dn.gen_visitPredicate (fuel : Nat)
    (hsub : ∀ l r : ASig α, l.length + r.length + 4 ≤ fuel →
      callAt Gen.Dense.fns fuel depth "subtraction_operation" [encSig l, encSig r] =
        (inter (fun a b => Val.sub a b) vne l r).map encSig)
    (c : Cmp) (l r : ASig α) (h : l.length + r.length + 4 ≤ fuel) :
    callD fuel Gen.Dense.visitPredicate [l, r] none [("$operator", .cmp c)] = predicate c l r := by
  refine callD_of_rets rfl ?_
  show Rets (exec _ fuel _ ([("sample_left", encSig l), ("sample_right", encSig r), ("$operator", .cmp c)] : Env α)) _ _
  rw [visitPredicate_body, exec.seq_ok (exec.setLoc (v := .list []) rfl), predicate]
  refine Runs.seq_sim (Runs.setLoc (enc := encSig) ((evalE.call2 rfl rfl).trans (hsub l r h))) ?_
  rintro d _ - rfl
  rw [exec.seq_ok (exec.setLoc (v := .nan) rfl)]
  -- the output so far and `dedupGo` of the samples to come make up `dedup` of the whole list
  obtain ⟨env', _, h1, _, acc, prev, inv, hT⟩ := exec.forEnum_inv (callAt Gen.Dense.fns fuel depth) fuel encSmp
    "in_sample" "i" (.loc "input_list") predBody d
    (setLoc "prev" .nan (setLoc "input_list" (encSig d) (setLoc "sample_return" (.list [])
      [("sample_left", encSig l), ("sample_right", encSig r), ("$operator", .cmp c)])))
    (evalE.loc (by simp [encSig]))
    (fun k rest env => k + rest.length = d.length ∧ ∃ acc prev, PredInv env c (d.map encSmp) acc prev ∧
      acc ++ dedupGo prev (rest.map fun p => (p.1, cmpOfDiff c p.2)) = dedup (d.map fun p => (p.1, cmpOfDiff c p.2)))
    (by
      rintro k ⟨t, x⟩ rest env ⟨hk, acc, prev, inv, hT⟩
      obtain ⟨env1, h1, inv1⟩ := predBody_step _ fuel env c _ acc prev t x k inv (callAt_abs fuel depth) (callAt_len fuel depth)
      refine ⟨env1, h1, by simp at hk ⊢; omega, _, _, inv1, ?_⟩
      have : decide (k + 1 = (d.map encSmp).length) = rest.isEmpty := by cases rest <;> simp at hk ⊢ <;> omega
      rw [← hT, List.map_cons, dedupGo_cons, this]; simp)
    ⟨by simp, [], none, by constructor <;> simp [encSig, encPrev, resolve, List.lookup, setLoc], rfl⟩
  rw [exec.seq_ok h1]
  exact Rets.ret (evalE.loc (by rw [inv.sr, ← hT]; simp [dedupGo]))

theorem m_conjunction (fuel k : Nat) (a b : α) :
    callAt Gen.Dense.fns fuel (k + 1) "conjunction" [.val a, .val b] = .ok (.val (pmin a b) : DV α) :=
  gen_conjunction fuel k a b

/-! the binary point-wise visit methods; `binMethod op` is the function `evalAlg` hands to `inter` -/

theorem _root_.Rtamt.Py.Dn.gen_visitAddition (fuel : Nat) (hI : InterSpec α fuel (depth - 2)) (l r : ASig α)
    (h : l.length + r.length + 4 ≤ fuel) :
    callD fuel Gen.Dense.visitAddition [l, r] none [] = inter (binMethod .add) vne l r := by
  refine callD_of_rets rfl ?_
  show Rets (exec _ fuel (.seq (.setLoc "sample_return" .emptyList) _) _) _ _
  rw [exec.seq_ok (exec.setLoc (v := .list []) rfl)]
  exact wrapInter_rets hI (gen_addition fuel (depth - 2)) h rfl rfl rfl (by decide)

theorem _root_.Rtamt.Py.Dn.gen_visitMultiplication (fuel : Nat) (hI : InterSpec α fuel (depth - 2)) (l r : ASig α)
    (h : l.length + r.length + 4 ≤ fuel) :
    callD fuel Gen.Dense.visitMultiplication [l, r] none [] = inter (binMethod .mul) vne l r :=
  callD_of_rets rfl (wrapInter_rets hI (gen_multiplication fuel (depth - 2)) h rfl rfl rfl (by decide))

theorem _root_.Rtamt.Py.Dn.gen_visitDivision (fuel : Nat) (hI : InterSpec α fuel (depth - 2)) (l r : ASig α)
    (h : l.length + r.length + 4 ≤ fuel) :
    callD fuel Gen.Dense.visitDivision [l, r] none [] = inter (binMethod .div) vne l r :=
  callD_of_rets rfl (wrapInter_rets hI (gen_division fuel (depth - 2)) h rfl rfl rfl (by decide))

theorem _root_.Rtamt.Py.Dn.gen_visitPow (fuel : Nat) (hI : InterSpec α fuel (depth - 2)) (l r : ASig α)
    (h : l.length + r.length + 4 ≤ fuel) :
    callD fuel Gen.Dense.visitPow [l, r] none [] = inter (binMethod .pow) vne l r :=
  callD_of_rets rfl (wrapInter_rets hI (gen_power fuel (depth - 2)) h rfl rfl rfl (by decide))

theorem _root_.Rtamt.Py.Dn.gen_visitLog (fuel : Nat) (hI : InterSpec α fuel (depth - 2)) (l r : ASig α)
    (h : l.length + r.length + 4 ≤ fuel) :
    callD fuel Gen.Dense.visitLog [l, r] none [] = inter (binMethod .log) vne l r :=
  callD_of_rets rfl (wrapInter_rets hI (gen_log fuel (depth - 2)) h rfl rfl rfl (by decide))

theorem _root_.Rtamt.Py.Dn.gen_visitOr (fuel : Nat) (hI : InterSpec α fuel (depth - 2)) (l r : ASig α)
    (h : l.length + r.length + 4 ≤ fuel) :
    callD fuel Gen.Dense.visitOr [l, r] none [] = inter (binMethod .or) vne l r :=
  callD_of_rets rfl (wrapInter_rets hI (gen_disjunction fuel (depth - 2)) h rfl rfl rfl (by decide))

theorem _root_.Rtamt.Py.Dn.gen_visitImplies (fuel : Nat) (hI : InterSpec α fuel (depth - 2)) (l r : ASig α)
    (h : l.length + r.length + 4 ≤ fuel) :
    callD fuel Gen.Dense.visitImplies [l, r] none [] = inter (binMethod .implies) vne l r :=
  callD_of_rets rfl (wrapInter_rets hI (gen_implication fuel (depth - 2)) h rfl rfl rfl (by decide))

theorem _root_.Rtamt.Py.Dn.gen_visitIff (fuel : Nat) (hI : InterSpec α fuel (depth - 2)) (l r : ASig α)
    (h : l.length + r.length + 4 ≤ fuel) :
    callD fuel Gen.Dense.visitIff [l, r] none [] = inter (binMethod .iff) vne l r :=
  callD_of_rets rfl (wrapInter_rets hI (gen_iff fuel (depth - 2)) h rfl rfl rfl (by decide))

theorem _root_.Rtamt.Py.Dn.gen_visitXor (fuel : Nat) (hI : InterSpec α fuel (depth - 2)) (l r : ASig α)
    (h : l.length + r.length + 4 ≤ fuel) :
    callD fuel Gen.Dense.visitXor [l, r] none [] = inter (binMethod .xor) vne l r :=
  callD_of_rets rfl (wrapInter_rets hI (gen_xor fuel (depth - 2)) h rfl rfl rfl (by decide))

/-! per method: `gen_visitX_of` takes what the callee returns on these very arguments, `gen_visitX` takes the callee's
    contract under a side condition `P` (the fuel bound) -/

theorem _root_.Rtamt.Py.Dn.gen_visitAnd_of (fuel : Nat) (l r : ASig α)
    (hc : callAt Gen.Dense.fns fuel depth "and_operation" [encSig l, encSig r] = (andOp l r).map encSig) :
    callD fuel Gen.Dense.visitAnd [l, r] none [] = inter (binMethod .and) vne l r :=
  callD_of_rets rfl (wrap_rets ((evalE.call2 rfl rfl).trans hc))

theorem _root_.Rtamt.Py.Dn.gen_visitAnd (fuel : Nat) (P : ASig α → ASig α → Prop)
    (hc : ∀ l r : ASig α, P l r →
      callAt Gen.Dense.fns fuel depth "and_operation" [encSig l, encSig r] = (andOp l r).map encSig)
    (l r : ASig α) (hP : P l r) :
    callD fuel Gen.Dense.visitAnd [l, r] none [] = inter (binMethod .and) vne l r :=
  gen_visitAnd_of fuel l r (hc l r hP)

theorem _root_.Rtamt.Py.Dn.gen_visitSubtraction_of (fuel : Nat) (l r : ASig α)
    (hc : callAt Gen.Dense.fns fuel depth "subtraction_operation" [encSig l, encSig r] = (inter (fun a b => Val.sub a b) vne l r).map encSig) :
    callD fuel Gen.Dense.visitSubtraction [l, r] none [] = inter (binMethod .sub) vne l r :=
  callD_of_rets rfl (wrap_rets ((evalE.call2 rfl rfl).trans hc))

theorem _root_.Rtamt.Py.Dn.gen_visitSubtraction (fuel : Nat) (P : ASig α → ASig α → Prop)
    (hc : ∀ l r : ASig α, P l r →
      callAt Gen.Dense.fns fuel depth "subtraction_operation" [encSig l, encSig r] = (inter (fun a b => Val.sub a b) vne l r).map encSig)
    (l r : ASig α) (hP : P l r) :
    callD fuel Gen.Dense.visitSubtraction [l, r] none [] = inter (binMethod .sub) vne l r :=
  gen_visitSubtraction_of fuel l r (hc l r hP)

theorem _root_.Rtamt.Py.Dn.gen_visitSince_of (fuel : Nat) (l r : ASig α)
    (hc : callAt Gen.Dense.fns fuel depth "since_operation" [encSig l, encSig r] = (sinceOp l r).map encSig) :
    callD fuel Gen.Dense.visitSince [l, r] none [] = sinceOp l r :=
  callD_of_rets rfl (wrap_rets ((evalE.call2 rfl rfl).trans hc))

theorem _root_.Rtamt.Py.Dn.gen_visitSince (fuel : Nat) (P : ASig α → ASig α → Prop)
    (hc : ∀ l r : ASig α, P l r →
      callAt Gen.Dense.fns fuel depth "since_operation" [encSig l, encSig r] = (sinceOp l r).map encSig)
    (l r : ASig α) (hP : P l r) :
    callD fuel Gen.Dense.visitSince [l, r] none [] = sinceOp l r :=
  gen_visitSince_of fuel l r (hc l r hP)

theorem _root_.Rtamt.Py.Dn.gen_visitUntil_of (fuel : Nat) (l r : ASig α)
    (hc : callAt Gen.Dense.fns fuel depth "until_operation" [encSig l, encSig r] = (untilOp l r).map encSig) :
    callD fuel Gen.Dense.visitUntil [l, r] none [] = untilOp l r :=
  callD_of_rets rfl (wrap_rets ((evalE.call2 rfl rfl).trans hc))

theorem _root_.Rtamt.Py.Dn.gen_visitUntil (fuel : Nat) (P : ASig α → ASig α → Prop)
    (hc : ∀ l r : ASig α, P l r →
      callAt Gen.Dense.fns fuel depth "until_operation" [encSig l, encSig r] = (untilOp l r).map encSig)
    (l r : ASig α) (hP : P l r) :
    callD fuel Gen.Dense.visitUntil [l, r] none [] = untilOp l r :=
  gen_visitUntil_of fuel l r (hc l r hP)

theorem _root_.Rtamt.Py.Dn.gen_visitTimedOnce_of (fuel : Nat) (s : ASig α) (a b : Rat)
    (hc : callAt Gen.Dense.fns fuel depth "once_timed_operation" [encSig s, .tm (.fin a), .tm (.fin b)] = (onceTimed s a b).map encSig) :
    callD fuel Gen.Dense.visitTimedOnce [s] (some (a, b)) [] = onceTimed s a b :=
  callD_of_rets rfl (wrap_rets ((evalE.call3 rfl rfl rfl).trans hc))

theorem _root_.Rtamt.Py.Dn.gen_visitTimedOnce (fuel : Nat) (P : ASig α → Prop)
    (hc : ∀ (s : ASig α) (a b : Rat), P s →
      callAt Gen.Dense.fns fuel depth "once_timed_operation" [encSig s, .tm (.fin a), .tm (.fin b)] = (onceTimed s a b).map encSig)
    (s : ASig α) (a b : Rat) (hP : P s) :
    callD fuel Gen.Dense.visitTimedOnce [s] (some (a, b)) [] = onceTimed s a b :=
  gen_visitTimedOnce_of fuel s a b (hc s a b hP)

theorem _root_.Rtamt.Py.Dn.gen_visitTimedHistorically_of (fuel : Nat) (s : ASig α) (a b : Rat)
    (hc : callAt Gen.Dense.fns fuel depth "historically_timed_operation" [encSig s, .tm (.fin a), .tm (.fin b)] = (histTimed s a b).map encSig) :
    callD fuel Gen.Dense.visitTimedHistorically [s] (some (a, b)) [] = histTimed s a b :=
  callD_of_rets rfl (wrap_rets ((evalE.call3 rfl rfl rfl).trans hc))

theorem _root_.Rtamt.Py.Dn.gen_visitTimedHistorically (fuel : Nat) (P : ASig α → Prop)
    (hc : ∀ (s : ASig α) (a b : Rat), P s →
      callAt Gen.Dense.fns fuel depth "historically_timed_operation" [encSig s, .tm (.fin a), .tm (.fin b)] = (histTimed s a b).map encSig)
    (s : ASig α) (a b : Rat) (hP : P s) :
    callD fuel Gen.Dense.visitTimedHistorically [s] (some (a, b)) [] = histTimed s a b :=
  gen_visitTimedHistorically_of fuel s a b (hc s a b hP)

theorem _root_.Rtamt.Py.Dn.gen_visitTimedEventually_of (fuel : Nat) (s : ASig α) (a b : Rat)
    (hc : callAt Gen.Dense.fns fuel depth "eventually_timed_operation" [encSig s, .tm (.fin a), .tm (.fin b)] = (evTimed s a b).map encSig) :
    callD fuel Gen.Dense.visitTimedEventually [s] (some (a, b)) [] = evTimed s a b :=
  callD_of_rets rfl (wrap_rets ((evalE.call3 rfl rfl rfl).trans hc))

theorem _root_.Rtamt.Py.Dn.gen_visitTimedEventually (fuel : Nat) (P : ASig α → Prop)
    (hc : ∀ (s : ASig α) (a b : Rat), P s →
      callAt Gen.Dense.fns fuel depth "eventually_timed_operation" [encSig s, .tm (.fin a), .tm (.fin b)] = (evTimed s a b).map encSig)
    (s : ASig α) (a b : Rat) (hP : P s) :
    callD fuel Gen.Dense.visitTimedEventually [s] (some (a, b)) [] = evTimed s a b :=
  gen_visitTimedEventually_of fuel s a b (hc s a b hP)

theorem _root_.Rtamt.Py.Dn.gen_visitTimedAlways_of (fuel : Nat) (s : ASig α) (a b : Rat)
    (hc : callAt Gen.Dense.fns fuel depth "always_timed_operation" [encSig s, .tm (.fin a), .tm (.fin b)] = (alwTimed s a b).map encSig) :
    callD fuel Gen.Dense.visitTimedAlways [s] (some (a, b)) [] = alwTimed s a b :=
  callD_of_rets rfl (wrap_rets ((evalE.call3 rfl rfl rfl).trans hc))

theorem _root_.Rtamt.Py.Dn.gen_visitTimedAlways (fuel : Nat) (P : ASig α → Prop)
    (hc : ∀ (s : ASig α) (a b : Rat), P s →
      callAt Gen.Dense.fns fuel depth "always_timed_operation" [encSig s, .tm (.fin a), .tm (.fin b)] = (alwTimed s a b).map encSig)
    (s : ASig α) (a b : Rat) (hP : P s) :
    callD fuel Gen.Dense.visitTimedAlways [s] (some (a, b)) [] = alwTimed s a b :=
  gen_visitTimedAlways_of fuel s a b (hc s a b hP)

theorem _root_.Rtamt.Py.Dn.gen_visitTimedSince_of (fuel : Nat) (l r : ASig α) (a b : Rat)
    (hc : callAt Gen.Dense.fns fuel depth "since_timed_operation" [encSig l, encSig r, .tm (.fin a), .tm (.fin b)] =
      (sinceTimed l r a b).map encSig) :
    callD fuel Gen.Dense.visitTimedSince [l, r] (some (a, b)) [] = sinceTimed l r a b :=
  callD_of_rets rfl (wrap_rets ((evalE.call4 rfl rfl rfl rfl).trans hc))

theorem _root_.Rtamt.Py.Dn.gen_visitTimedSince (fuel : Nat) (P : ASig α → ASig α → Prop)
    (hc : ∀ (l r : ASig α) (a b : Rat), P l r →
      callAt Gen.Dense.fns fuel depth "since_timed_operation" [encSig l, encSig r, .tm (.fin a), .tm (.fin b)] =
        (sinceTimed l r a b).map encSig)
    (l r : ASig α) (a b : Rat) (hP : P l r) :
    callD fuel Gen.Dense.visitTimedSince [l, r] (some (a, b)) [] = sinceTimed l r a b :=
  gen_visitTimedSince_of fuel l r a b (hc l r a b hP)

theorem _root_.Rtamt.Py.Dn.gen_visitTimedUntil_of (fuel : Nat) (l r : ASig α) (a b : Rat)
    (hc : callAt Gen.Dense.fns fuel depth "until_timed_operation" [encSig l, encSig r, .tm (.fin a), .tm (.fin b)] =
      (untilTimed l r a b).map encSig) :
    callD fuel Gen.Dense.visitTimedUntil [l, r] (some (a, b)) [] = untilTimed l r a b :=
  callD_of_rets rfl (wrap_rets ((evalE.call4 rfl rfl rfl rfl).trans hc))

theorem _root_.Rtamt.Py.Dn.gen_visitTimedUntil (fuel : Nat) (P : ASig α → ASig α → Prop)
    (hc : ∀ (l r : ASig α) (a b : Rat), P l r →
      callAt Gen.Dense.fns fuel depth "until_timed_operation" [encSig l, encSig r, .tm (.fin a), .tm (.fin b)] =
        (untilTimed l r a b).map encSig)
    (l r : ASig α) (a b : Rat) (hP : P l r) :
    callD fuel Gen.Dense.visitTimedUntil [l, r] (some (a, b)) [] = untilTimed l r a b :=
  gen_visitTimedUntil_of fuel l r a b (hc l r a b hP)

end GenUn

end Rtamt.Py.Dn
