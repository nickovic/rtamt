/-
  Infrastructure for `RtamtProofs/GenDense*.lean`: symbolic execution of the sub-language `Rtamt/Py/Dn.lean` (locals,
  loops with fuel, the layered function table) against the mirror `Rtamt/Dense/Alg.lean`.  What a block leaves alone is
  said by `Frame xs env env'`: the locals before and after agree off the names `xs` (a conjunct of the statement about the
  block; `frame_tac` proves it of a chain of assignments, `Frame.getLoc` reads a local through it).  At the end
  definitions that several of these files share, among them the encodings and the contract of `intersection`
  (`InterSpec`).
-/
import Rtamt.Py.RunDn
import RtamtProofs.GenDenseStep
import RtamtProofs.Lemmas.Assoc
import RtamtProofs.Dense.KeepSel

namespace Rtamt.Py.Dn
open Rtamt Val Rtamt.Dense Rtamt.Dense.Alg

set_option linter.unusedSectionVars false

variable {α : Type} [Val α]

@[simp] theorem ok_bind {ε σ ρ : Type} (a : σ) (f : σ → Except ε ρ) : (Except.ok a >>= f) = f a := rfl
@[simp] theorem error_bind {ε σ ρ : Type} (e : ε) (f : σ → Except ε ρ) : (Except.error e >>= f) = .error e := rfl
@[simp] theorem pure_eq_ok {ε σ : Type} (a : σ) : (pure a : Except ε σ) = .ok a := rfl
@[simp] theorem ok_map {ε σ ρ : Type} (a : σ) (f : σ → ρ) : f <$> (Except.ok a : Except ε σ) = .ok (f a) := rfl
@[simp] theorem error_map {ε σ ρ : Type} (e : ε) (f : σ → ρ) : f <$> (Except.error e : Except ε σ) = .error e := rfl
@[simp] theorem throw_eq_error {ε σ : Type} (e : ε) : (throw e : Except ε σ) = .error e := rfl

theorem callAt_succ (fns : List (String × Fn)) (fuel k : Nat) (f : String) (args : List (DV α)) :
    callAt fns fuel (k + 1) f args =
      (match fns.lookup f with
       | some fn => runFn (callAt fns fuel k) fuel fn args
       | none => builtin f args) := rfl

theorem callAt_builtin (fns : List (String × Fn)) (fuel k : Nat) (f : String) (args : List (DV α))
    (h : fns.lookup f = none) : callAt fns fuel k f args = builtin f args := by
  cases k with
  | zero => rfl
  | succ k => rw [callAt_succ, h]

theorem callAt_fn (fns : List (String × Fn)) (fuel k : Nat) (f : String) (fn : Fn) (args : List (DV α))
    (h : fns.lookup f = some fn) : callAt fns fuel (k + 1) f args = runFn (callAt fns fuel k) fuel fn args := by
  rw [callAt_succ, h]

/-- the functions of the standard library the code calls -/
def libNames : List String :=
  ["len", "max", "min", "abs", "math.exp", "math.sqrt", "math.log", "float", "math.pow", "list"]

theorem lookup_lib : ∀ f ∈ libNames, Gen.Dense.fns.lookup f = none := by
  decide +kernel

theorem callAt_lib (fuel k : Nat) {f : String} (hf : f ∈ libNames) (args : List (DV α)) :
    callAt Gen.Dense.fns fuel k f args = builtin f args :=
  callAt_builtin _ _ _ _ _ (lookup_lib f hf)

theorem callAt_len (fuel k : Nat) (l : List (DV α)) :
    callAt Gen.Dense.fns fuel k "len" [.list l] = .ok (.int l.length) :=
  callAt_lib fuel k (by decide) _

theorem callAt_max (fuel k : Nat) (a : α) (y : DV α) (b : α) (h : toVal y = .ok b) :
    callAt Gen.Dense.fns fuel k "max" [.val a, y] = .ok (.val (pmax a b)) := by
  rw [callAt_lib fuel k (by decide)]
  show (do let x ← toVal (DV.val a); let y' ← toVal y; pure (DV.val (pmax x y')) : Except PyErr (DV α)) = _
  rw [h]; rfl

theorem callAt_min (fuel k : Nat) (a : α) (y : DV α) (b : α) (h : toVal y = .ok b) :
    callAt Gen.Dense.fns fuel k "min" [.val a, y] = .ok (.val (pmin a b)) := by
  rw [callAt_lib fuel k (by decide)]
  show (do let x ← toVal (DV.val a); let y' ← toVal y; pure (DV.val (pmin x y')) : Except PyErr (DV α)) = _
  rw [h]; rfl

/-- what the code assumes of the library functions it calls -/
structure LibOK (call : Call α) : Prop where
  len : ∀ l : List (DV α), call "len" [.list l] = .ok (.int l.length)
  max : ∀ (a : α) (y : DV α) (b : α), toVal y = .ok b → call "max" [.val a, y] = .ok (.val (pmax a b))
  min : ∀ (a : α) (y : DV α) (b : α), toVal y = .ok b → call "min" [.val a, y] = .ok (.val (pmin a b))

theorem libOK_callAt (fuel k : Nat) : LibOK (callAt Gen.Dense.fns fuel k : Call α) :=
  ⟨callAt_len fuel k, callAt_max fuel k, callAt_min fuel k⟩

theorem setLoc_eq {β : Type} (k : String) (v : β) (env : List (String × β)) : setLoc k v env = Assoc.set k v env := by
  induction env with
  | nil => rfl
  | cons p env ih => simp only [setLoc, Assoc.set, ih]

theorem lookup_setLoc {β : Type} (k k' : String) (v : β) (env : List (String × β)) :
    (setLoc k' v env).lookup k = if k = k' then some v else env.lookup k := by
  rw [setLoc_eq]; exact Assoc.lookup_set k k' v env

theorem lookup_setLoc_same {β : Type} (k : String) (v : β) (env : List (String × β)) :
    (setLoc k v env).lookup k = some v := by
  rw [lookup_setLoc, if_pos rfl]

theorem lookup_setLoc_ne {β : Type} (k k' : String) (v : β) (env : List (String × β)) (hne : k ≠ k') :
    (setLoc k' v env).lookup k = env.lookup k := by
  rw [lookup_setLoc, if_neg hne]

@[simp] theorem getLoc_setLoc_same (k : String) (v : DV α) (env : Env α) : getLoc k (setLoc k v env) = .ok v := by
  unfold getLoc; rw [lookup_setLoc_same]

theorem getLoc_setLoc_ne (k k' : String) (v : DV α) (env : Env α) (hne : k ≠ k') :
    getLoc k (setLoc k' v env) = getLoc k env := by
  unfold getLoc; rw [lookup_setLoc_ne _ _ _ _ hne]

/-- the form `simp` uses: the comparison of two string literals is decided by the simproc `String.reduceEq` -/
@[simp] theorem getLoc_setLoc (k k' : String) (v : DV α) (env : Env α) :
    getLoc k (setLoc k' v env) = if k = k' then .ok v else getLoc k env := by
  by_cases h : k = k'
  · subst h; simp
  · simp [h, getLoc_setLoc_ne _ _ _ _ h]

@[simp] theorem getLoc_cons (k k' : String) (v : DV α) (env : Env α) :
    getLoc k ((k', v) :: env) = if k = k' then .ok v else getLoc k env := by
  unfold getLoc
  by_cases h : k = k'
  · subst h; simp
  · have : (k == k') = false := by rw [beq_eq_false_iff_ne]; exact h
    simp [List.lookup_cons, this, h]

@[simp] theorem getLoc_nil (k : String) : getLoc k ([] : Env α) = .error .key := rfl

@[simp] theorem resolve_setLoc (f k' : String) (v : DV α) (env : Env α) :
    resolve (setLoc k' v env) f = if f = k' then (match v with | .fn g => g | _ => f) else resolve env f := by
  unfold resolve
  by_cases h : f = k'
  · subst h; rw [lookup_setLoc_same]; cases v <;> simp
  · rw [lookup_setLoc_ne _ _ _ _ h]; simp [h]

theorem resolve_cons (f k' : String) (v : DV α) (env : Env α) :
    resolve ((k', v) :: env) f = if f = k' then (match v with | .fn g => g | _ => f) else resolve env f := by
  unfold resolve
  by_cases h : f = k'
  · subst h; cases v <;> simp
  · have : (f == k') = false := by rw [beq_eq_false_iff_ne]; exact h
    simp [List.lookup_cons, this, h]

theorem resolve_setLoc_ne (f k' : String) (v : DV α) (env : Env α) (hne : f ≠ k') :
    resolve (setLoc k' v env) f = resolve env f := by
  unfold resolve; rw [lookup_setLoc_ne _ _ _ _ hne]

def Frame (xs : List String) (env env' : Env α) : Prop := ∀ k, k ∉ xs → env'.lookup k = env.lookup k

theorem Frame.refl (xs : List String) (env : Env α) : Frame xs env env := fun _ _ => rfl

theorem Frame.trans {xs : List String} {a b c : Env α} (h1 : Frame xs a b) (h2 : Frame xs b c) : Frame xs a c :=
  fun k hk => (h2 k hk).trans (h1 k hk)

theorem Frame.mono {xs ys : List String} {a b : Env α} (h : Frame xs a b) (hs : ∀ x ∈ xs, x ∈ ys) : Frame ys a b :=
  fun k hk => h k (fun hm => hk (hs k hm))

theorem Frame.set {xs : List String} {a b : Env α} (h : Frame xs a b) {x : String} (hx : x ∈ xs) (v : DV α) :
    Frame xs a (setLoc x v b) :=
  fun k hk => (lookup_setLoc_ne k x v b (fun e => hk (e ▸ hx))).trans (h k hk)

theorem Frame.getLoc {xs : List String} {a b : Env α} (h : Frame xs a b) {k : String} (hk : k ∉ xs) :
    getLoc k b = getLoc k a := by
  unfold Dn.getLoc; rw [h k hk]

theorem Frame.resolve {xs : List String} {a b : Env α} (h : Frame xs a b) {k : String} (hk : k ∉ xs) :
    resolve b k = resolve a k := by
  unfold Dn.resolve; rw [h k hk]

/-- closes `Frame xs env (setLoc k₁ v₁ (… (setLoc kₙ vₙ env)))` -/
macro "frame_tac" : tactic =>
  `(tactic| repeat (first | exact Frame.refl _ _ | (refine Frame.set ?_ (by simp) _)))

/-- the locals at the start of an iteration of `for i, x in enumerate(…)`, handed over as a variable `env0` with what is
    known of it, so that the steps after it do not carry the two `setLoc` -/
theorem Frame.item (x i : String) (hne : i ≠ x) (v : DV α) (k : Nat) (env : Env α) :
    ∃ env0, setLoc x v (setLoc i (.int k) env) = env0 ∧ Dn.getLoc x env0 = .ok v ∧ Dn.getLoc i env0 = .ok (.int k) ∧
      Frame [x, i] env env0 :=
  ⟨_, rfl, getLoc_setLoc_same _ _ _, (getLoc_setLoc_ne _ _ _ _ hne).trans (getLoc_setLoc_same _ _ _),
    ((Frame.refl _ _).set (by simp) _).set (by simp) _⟩

theorem whileLoop_succ (cond : Env α → Except PyErr Bool) (body : Env α → Except PyErr (Res α)) (fuel : Nat)
    (env : Env α) :
    whileLoop cond body (fuel + 1) env = (do
      if (← cond env) then
        let (env', r) ← body env
        match r with
        | some v => pure (env', some v)
        | none => whileLoop cond body fuel env'
      else pure (env, none)) := rfl

theorem whileLoop_step (cond : Env α → Except PyErr Bool) (body : Env α → Except PyErr (Res α)) (fuel : Nat)
    (env env' : Env α) (hc : cond env = .ok true) (hb : body env = .ok (env', none)) :
    whileLoop cond body (fuel + 1) env = whileLoop cond body fuel env' := by
  rw [whileLoop_succ, hc]; simp [hb]

theorem whileLoop_done (cond : Env α → Except PyErr Bool) (body : Env α → Except PyErr (Res α)) (fuel : Nat)
    (env : Env α) (hc : cond env = .ok false) :
    whileLoop cond body (fuel + 1) env = .ok (env, none) := by
  rw [whileLoop_succ, hc]; simp

theorem whileLoop_raise (cond : Env α → Except PyErr Bool) (body : Env α → Except PyErr (Res α)) (fuel : Nat)
    (env : Env α) (e : PyErr) (hc : cond env = .ok true) (hb : body env = .error e) :
    whileLoop cond body (fuel + 1) env = .error e := by
  rw [whileLoop_succ, hc]; simp [hb]

@[simp] theorem forLoop_nil (bind : DV α × Nat → Env α → Env α) (body : Env α → Except PyErr (Res α)) (env : Env α) :
    forLoop bind body [] env = .ok (env, none) := rfl

theorem forLoop_cons (bind : DV α × Nat → Env α → Env α) (body : Env α → Except PyErr (Res α))
    (it : DV α × Nat) (rest : List (DV α × Nat)) (env : Env α) :
    forLoop bind body (it :: rest) env = (do
      let (env', r) ← body (bind it env)
      match r with
      | some v => pure (env', some v)
      | none => forLoop bind body rest env') := rfl

/-! ### one statement at a time

`simp [exec, evalE, …]` on a whole body unfolds the rest of the program under every `>>=` before the head of the bind is
known; the proofs about loop bodies therefore run the statements one by one: `rw [exec.seq_ok (exec.setLoc h)]` with `h`
the value of the right-hand side in the current locals. -/

section stmts
variable {call : Call α} {fuel : Nat} {env env' : Env α}

theorem exec.seq_ok {a b : S} (h : exec call fuel a env = .ok (env', none)) :
    exec call fuel (.seq a b) env = exec call fuel b env' := by
  simp only [exec, h, ok_bind]

theorem exec.seq_err {a b : S} {e : PyErr} (h : exec call fuel a env = .error e) :
    exec call fuel (.seq a b) env = .error e := by
  simp only [exec, h, error_bind]

theorem exec.setLoc {x : String} {e : E} {v : DV α} (h : evalE call env e = .ok v) :
    exec call fuel (.setLoc x e) env = .ok (Dn.setLoc x v env, none) := by
  simp only [exec, h, ok_bind, pure_eq_ok]

theorem exec.setLoc_err {x : String} {e : E} {err : PyErr} (h : evalE call env e = .error err) :
    exec call fuel (.setLoc x e) env = .error err := by
  simp only [exec, h, error_bind]

theorem exec.appendLoc {x : String} {e : E} {v : DV α} {l : List (DV α)} (h : evalE call env e = .ok v)
    (hx : getLoc x env = .ok (.list l)) :
    exec call fuel (.appendLoc x e) env = .ok (Dn.setLoc x (.list (l ++ [v])) env, none) := by
  simp only [exec, h, hx, ok_bind, pure_eq_ok]

theorem exec.insert0 {x : String} {e : E} {v : DV α} {l : List (DV α)} (h : evalE call env e = .ok v)
    (hx : getLoc x env = .ok (.list l)) :
    exec call fuel (.insert0 x e) env = .ok (Dn.setLoc x (.list (v :: l)) env, none) := by
  simp only [exec, h, hx, ok_bind, pure_eq_ok]

theorem exec.delIdx {x : String} {i : E} {k : Int} {l : List (DV α)} (hx : getLoc x env = .ok (.list l))
    (hi : evalE call env i = .ok (.int k)) :
    exec call fuel (.delIdx x i) env = (delAt l k).map fun l' => (Dn.setLoc x (.list l') env, none) := by
  simp only [exec, hx, hi, ok_bind]
  cases delAt l k <;> rfl

theorem exec.ite {c : E} {t e : S} {d : DV α} {b : Bool} (h : evalE call env c = .ok d) (hb : truthy d = .ok b) :
    exec call fuel (.ite c t e) env = if b then exec call fuel t env else exec call fuel e env := by
  simp only [exec, h, hb, ok_bind]

theorem exec.ite_true {c : E} {t e : S} {d : DV α} (h : evalE call env c = .ok d) (hb : truthy d = .ok true) :
    exec call fuel (.ite c t e) env = exec call fuel t env := by
  rw [exec.ite h hb, if_pos rfl]

theorem exec.ite_false {c : E} {t e : S} {d : DV α} (h : evalE call env c = .ok d) (hb : truthy d = .ok false) :
    exec call fuel (.ite c t e) env = exec call fuel e env := by
  rw [exec.ite h hb, if_neg Bool.false_ne_true]

theorem exec.while_ (c : E) (body : S) :
    exec call fuel (.while_ c body) env
      = whileLoop (fun env => do truthy (← evalE call env c)) (exec call fuel body) fuel env := by
  simp only [exec]

theorem exec.forEnum {i x : String} {it : E} {rev : Bool} {body : S} {l : List (DV α)}
    (h : evalE call env it = .ok (.list l)) :
    exec call fuel (.forEnum i x it rev body) env
      = forLoop (fun p env => Dn.setLoc x p.1 (Dn.setLoc i (.int p.2) env)) (exec call fuel body)
          (if rev then l.zipIdx.reverse else l.zipIdx) env := by
  simp only [exec, h, ok_bind]

theorem exec.forIn {x : String} {it : E} {body : S} {l : List (DV α)} (h : evalE call env it = .ok (.list l)) :
    exec call fuel (.forIn x it body) env
      = forLoop (fun p env => Dn.setLoc x p.1 env) (exec call fuel body) (l.map fun v => (v, 0)) env := by
  simp only [exec, h, ok_bind]

theorem exec.ret {e : E} {v : DV α} (h : evalE call env e = .ok v) :
    exec call fuel (.ret e) env = .ok (env, some v) := by
  simp only [exec, h, ok_bind, pure_eq_ok]

theorem evalE.loc {x : String} {v : DV α} (h : getLoc x env = .ok v) : evalE call env (.loc x) = .ok v := h

theorem evalE.idx {e i : E} {x k : DV α} (h1 : evalE call env e = .ok x) (h2 : evalE call env i = .ok k) :
    evalE call env (.idx e i) = evalIdx x k := by
  simp only [evalE, h1, h2, ok_bind]

theorem evalE.idxInt {e : E} {n : Int} {x : DV α} (h : evalE call env e = .ok x) :
    evalE call env (.idx e (.int n)) = evalIdx x (.int n) :=
  evalE.idx h rfl

theorem evalE.bin {op : BinOp} {a b : E} {x y : DV α} (h1 : evalE call env a = .ok x) (h2 : evalE call env b = .ok y) :
    evalE call env (.bin op a b) = evalBin op x y := by
  simp only [evalE, h1, h2, ok_bind]

theorem evalE.or_ {a b : E} {x : DV α} {t : Bool} (h1 : evalE call env a = .ok x) (h2 : truthy x = .ok t) :
    evalE call env (.or_ a b) = if t then .ok x else evalE call env b := by
  simp only [evalE, h1, h2, ok_bind, pure_eq_ok]

theorem evalE.and_ {a b : E} {x : DV α} {t : Bool} (h1 : evalE call env a = .ok x) (h2 : truthy x = .ok t) :
    evalE call env (.and_ a b) = if t then evalE call env b else .ok x := by
  simp only [evalE, h1, h2, ok_bind, pure_eq_ok]

theorem evalE.call1 {f : String} {a : E} {x : DV α} (h : evalE call env a = .ok x) :
    evalE call env (.call1 f a) = call (resolve env f) [x] := by
  simp only [evalE, h, ok_bind]

theorem evalE.call2 {f : String} {a b : E} {x y : DV α} (h1 : evalE call env a = .ok x)
    (h2 : evalE call env b = .ok y) : evalE call env (.call2 f a b) = call (resolve env f) [x, y] := by
  simp only [evalE, h1, h2, ok_bind]

theorem evalE.call3 {f : String} {a b c : E} {x y z : DV α} (h1 : evalE call env a = .ok x)
    (h2 : evalE call env b = .ok y) (h3 : evalE call env c = .ok z) :
    evalE call env (.call3 f a b c) = call (resolve env f) [x, y, z] := by
  simp only [evalE, h1, h2, h3, ok_bind]

theorem evalE.call4 {f : String} {a b c d : E} {x y z u : DV α} (h1 : evalE call env a = .ok x)
    (h2 : evalE call env b = .ok y) (h3 : evalE call env c = .ok z) (h4 : evalE call env d = .ok u) :
    evalE call env (.call4 f a b c d) = call (resolve env f) [x, y, z, u] := by
  simp only [evalE, h1, h2, h3, h4, ok_bind]

theorem evalE.not {e : E} {x : DV α} {b : Bool} (h : evalE call env e = .ok x) (hb : truthy x = .ok b) :
    evalE call env (.not e) = .ok (.bool (!b)) := by
  simp only [evalE, h, hb, ok_bind, pure_eq_ok]

theorem evalE.list2 {a b : E} {x y : DV α} (h1 : evalE call env a = .ok x) (h2 : evalE call env b = .ok y) :
    evalE call env (.list2 a b) = mkList2 x y := by
  simp only [evalE, h1, h2, ok_bind]

theorem evalE.tup3 {a b c : E} {x y z : DV α} (h1 : evalE call env a = .ok x) (h2 : evalE call env b = .ok y)
    (h3 : evalE call env c = .ok z) : evalE call env (.tup3 a b c) = mkSeg x y z := by
  simp only [evalE, h1, h2, h3, ok_bind]

theorem evalBin.cmp {op : BinOp} (h : isCmp op = true) (x y : DV α) :
    evalBin op x y = (cmpDV op x y).map .bool := by
  rw [evalBin, if_pos h]

/-- `len(x) - k` -/
theorem evalE_lenSub {x : String} {L : List (DV α)}
    (hlen : ∀ l : List (DV α), call "len" [.list l] = .ok (.int l.length)) (hx : getLoc x env = .ok (.list L))
    (hr : resolve env "len" = "len") (k : Int) :
    evalE call env (.bin .sub (.call1 "len" (.loc x)) (.int k)) = .ok (.int (L.length - k)) := by
  rw [evalE.bin (x := .int L.length) (y := .int k) (by rw [evalE.call1 (evalE.loc hx), hr, hlen]) rfl]; rfl

theorem evalIdx.smp0 (t : Tm) (p : DV α) : evalIdx (.smp t p) (.int 0) = .ok (.tm t) := rfl
theorem evalIdx.smp1 (t : Tm) (p : DV α) : evalIdx (.smp t p) (.int 1) = .ok p := rfl
theorem evalIdx.pair0 (a b : DV α) : evalIdx (.pair a b) (.int 0) = .ok a := rfl
theorem evalIdx.pair1 (a b : DV α) : evalIdx (.pair a b) (.int 1) = .ok b := rfl
theorem evalIdx.seg0 (lo hi : Tm) (v : α) : evalIdx (.seg lo hi v) (.int 0) = .ok (.tm lo) := rfl
theorem evalIdx.seg1 (lo hi : Tm) (v : α) : evalIdx (.seg lo hi v) (.int 1) = .ok (.tm hi) := rfl
theorem evalIdx.seg2 (lo hi : Tm) (v : α) : evalIdx (.seg lo hi v) (.int 2) = .ok (.val v) := rfl
theorem evalIdx.nat (l : List (DV α)) (n : Nat) (x : DV α) (h : l[n]? = some x) :
    evalIdx (.list l) (.int (n : Int)) = .ok x := by
  obtain ⟨hn, rfl⟩ := List.getElem?_eq_some_iff.mp h
  simp [evalIdx, pyIndex, hn]
theorem evalIdx.cons0 (x : DV α) (l : List (DV α)) : evalIdx (.list (x :: l)) (.int 0) = .ok x :=
  evalIdx.nat _ 0 x rfl
theorem evalIdx.cons1 (a b : DV α) (l : List (DV α)) : evalIdx (.list (a :: b :: l)) (.int 1) = .ok b :=
  evalIdx.nat _ 1 b rfl
theorem evalIdx.last (l : List (DV α)) (x : DV α) : evalIdx (.list (l ++ [x])) (.int (-1)) = .ok x := by
  simp [evalIdx, pyIndex]
theorem evalIdx.nil0 : evalIdx (.list ([] : List (DV α))) (.int 0) = .error .index := rfl

theorem delAt_cons_zero (x : DV α) (l : List (DV α)) : delAt (x :: l) 0 = .ok l := by
  simp [delAt, pyIndex]

attribute [dn_step] exec evalE truthy getLoc_setLoc getLoc_cons getLoc_nil resolve_setLoc ok_bind error_bind pure_eq_ok throw_eq_error
  ok_map error_map if_true if_false evalIdx.smp0 evalIdx.smp1 evalIdx.pair0 evalIdx.pair1 evalIdx.seg0 evalIdx.seg1 evalIdx.seg2 evalIdx.cons0
  evalIdx.last delAt_cons_zero

end stmts

theorem evalE_segIdx {call : Call α} {env : Env α} {s : String} {lo hi : Tm} {v : α}
    (h : getLoc s env = .ok (.seg lo hi v)) (j : Int) :
    evalE call env (.idx (.loc s) (.int j)) = evalIdx (.seg lo hi v) (.int j) :=
  evalE.idxInt (evalE.loc h)

/-- the argument `begin` of the timed operations: a time stamp or - `until_timed_operation` calls
    `always_timed_operation(out2, 0, begin)`, `since_timed_operation` calls `historically_timed_operation(out2, 0, begin)` -
    the integer literal `0` -/
def BegOK (x : DV α) (a : Rat) : Prop := x = .tm (.fin a) ∨ (x = .int 0 ∧ a = 0)

theorem BegOK.tm (a : Rat) : BegOK (.tm (.fin a) : DV α) a := .inl rfl
theorem BegOK.int0 : BegOK (.int 0 : DV α) 0 := .inr ⟨rfl, rfl⟩

theorem BegOK.evalBin_add {x : DV α} {a : Rat} (h : BegOK x a) (t : Tm) :
    evalBin .add (.tm t : DV α) x = .ok (.tm (t.add a)) := by
  rcases h with rfl | ⟨rfl, rfl⟩ <;> rfl

theorem BegOK.evalBin_sub {x : DV α} {a : Rat} (h : BegOK x a) (t : Tm) :
    evalBin .sub (.tm t : DV α) x = .ok (.tm (t.sub a)) := by
  rcases h with rfl | ⟨rfl, rfl⟩ <;> rfl

/-- `if input_list: domain_end = input_list[len(input_list) - 1][0]`, a statement of all four timed operations -/
def domEnd : S :=
  (.ite (.loc "input_list") (.setLoc "domain_end" (.idx (.idx (.loc "input_list") (.bin .sub (.call1 "len" (.loc "input_list")) (.int 1))) (.int 0))) .skip)

theorem domEnd_exec (call : Call α) (fuel : Nat) (env : Env α) (s : ASig α)
    (hlen : ∀ l, call "len" [.list l] = .ok (.int l.length))
    (hr : resolve env "len" = "len") (hIn : getLoc "input_list" env = .ok (.list (s.map encSmp))) :
    ∃ env', exec call fuel domEnd env = .ok (env', none) ∧ Frame ["domain_end"] env env' := by
  rw [domEnd]
  rcases List.eq_nil_or_concat s with rfl | ⟨l, q, rfl⟩
  · exact ⟨env, exec.ite_false (evalE.loc hIn) rfl, Frame.refl _ _⟩
  · simp only [List.concat_eq_append, List.map_append, List.map_cons, List.map_nil] at hIn
    have hq : evalE call env (.idx (.loc "input_list") (.bin .sub (.call1 "len" (.loc "input_list")) (.int 1)))
        = .ok (encSmp q) :=
      (evalE.idx (evalE.loc hIn) (evalE_lenSub hlen hIn hr 1)).trans (by
        have := evalIdx.nat (l.map encSmp ++ [encSmp q]) l.length (encSmp q) (by simp)
        simpa using this)
    exact ⟨_, (exec.ite_true (evalE.loc hIn) (by simp [truthy])).trans (exec.setLoc (evalE.idxInt hq)),
      Frame.set (Frame.refl _ _) (by simp) _⟩

@[simp] theorem decSig_encSig (s : ASig α) : decSig (encSig s) = some s := by
  unfold decSig encSig
  simp only
  induction s with
  | nil => rfl
  | cons p s ih =>
      simp only [List.map_cons, List.mapM_cons, encSmp] at ih ⊢
      simp [ih]

/-- the value of the local `prev`: `nan` before the first sample -/
def encPrev : Option α → DV α
  | none => .nan
  | some x => .val x

/-- a sample list with payloads of any type (`intersection` is used with values, with the pairs of `split`, …) -/
def encSigP {β : Type} (encP : β → DV α) (o : List (Tm × β)) : DV α := .list (o.map (fun p => .smp p.1 (encP p.2)))

theorem encSigP_val (s : ASig α) : encSigP (fun x : α => DV.val x) s = encSig s := rfl

/-- the pairs `intersect.split` builds -/
def encPair (p : α × α) : DV α := .pair (.val p.1) (.val p.2)

theorem toPayload_encPair (p : α × α) : toPayload (encPair p) = .ok (encPair p) := rfl

theorem cmpDV_ne_encPair (p q : α × α) : cmpDV .ne (encPair p) (encPair q) = .ok (pairNe p q) := rfl

theorem cmpDV_ne_val (a b : α) : cmpDV .ne (.val a) (.val b) = .ok (vne a b) := by
  simp [cmpDV, isTimeLike, isValLike, toVal, cmpVal]

/-- What `RtamtProofs/GenDenseInter.lean` proves about the translated `intersection` (stated here so that the files about
    the callers of `intersection` do not depend on that proof): for a method `m` of the function table that computes `f` on
    two values, payloads that can be stored in a sample and compared by `!=` as `ne` compares them, the call returns a
    4-tuple whose first component is the list the mirror `inter f ne` computes - or raises what the mirror raises. -/
def InterSpec (α : Type) [Val α] (fuel k : Nat) : Prop :=
  ∀ (β : Type) (encP : β → DV α) (f : α → α → β) (ne : β → β → Bool) (m : String),
    (∀ a b, callAt Gen.Dense.fns fuel (k + 1) m [.val a, .val b] = .ok (encP (f a b))) →
    (∀ x, toPayload (encP x) = .ok (encP x)) →
    (∀ x y, cmpDV .ne (encP x) (encP y) = .ok (ne x y)) →
    ∀ (s1 s2 : ASig α), s1.length + s2.length + 4 ≤ fuel →
      match inter f ne s1 s2 with
      | .ok o => ∃ a b c, callAt Gen.Dense.fns fuel (k + 2) "intersection" [encSig s1, encSig s2, .fn m]
                    = .ok (.list [encSigP encP o, a, b, c])
      | .error e => callAt Gen.Dense.fns fuel (k + 2) "intersection" [encSig s1, encSig s2, .fn m] = .error e

end Rtamt.Py.Dn
