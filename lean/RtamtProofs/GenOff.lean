/-
  The discrete-time offline visitor as translated from the Python source denotes the hand-written
  mirror `evalOff`.

  `Rtamt/Py/GeneratedOff.lean` is produced on every run by `harness/py2lean.py` from
  `rtamt/semantics/stl/discrete_time/offline/ast_visitor.py`; `Rtamt/Py/Sem.lean` gives the Python
  subset its meaning; `Rtamt/Py/RunOff.lean` (`evalOffG`) adds the dispatch of `StlAstVisitor.visit`.
  `genOff_eval` states that this is the function `evalOff h` (with `h` the regenerated table of
  overridden `visitX`) that C01, C11, C12, C16, C17 and C18 are stated on: a change of a visit method
  changes the generated term and this equality has to be re-proved by the build.

  Hypotheses: `φ.wf` (`a ≤ b` in every interval, enforced by the parser), standard semantics (no
  interface-aware predicate forms, which belong to another visitor class), no `precedes` node (it is
  produced by the pastifier only and the offline visitor just raises on it).
-/
import Rtamt.Py.RunOff
import Rtamt.Generated
import RtamtProofs.GenOffMethods

namespace Rtamt.Py
open Rtamt Val

variable {α : Type} [Val α]

/-- Formulas of the standard semantics: no `predSat` / `predZero` node. -/
def plain : F α → Bool
  | .var _ => true
  | .const _ => true
  | .un _ φ => plain φ
  | .bin op φ ψ => (match op with | .predSat _ | .predZero => false | _ => true) && plain φ && plain ψ
  | .tmp1 _ φ => plain φ
  | .tmp2 _ φ ψ => plain φ && plain ψ
  | .tb1 _ _ _ φ => plain φ
  | .tb2 _ _ _ φ ψ => plain φ && plain ψ

def noPrec : F α → Bool
  | .var _ => true
  | .const _ => true
  | .un _ φ => noPrec φ
  | .bin _ φ ψ => noPrec φ && noPrec ψ
  | .tmp1 _ φ => noPrec φ
  | .tmp2 _ φ ψ => noPrec φ && noPrec ψ
  | .tb1 _ _ _ φ => noPrec φ
  | .tb2 op _ _ φ ψ => (match op with | .precedes => false | _ => true) && noPrec φ && noPrec ψ

/-- The methods found in the source are exactly the node classes for which the regenerated table says
    that the visitor overrides `visitX` (with a computing body or with a body that only raises). -/
theorem genOff_table (k : Kind) :
    (lookupM k).isSome = (Generated.offlineDiscrete.handles k || Generated.offlineDiscrete.raises k) := by
  rw [lookupM_eq]
  cases k <;> rfl

/-- The `visitX` methods the translator found in the source, in source order (`genOff_supported` says which of them
    lie inside the translated subset). -/
theorem genOff_names : Gen.Off.methods.map (·.1) =
    ["visitPredicate", "visitVariable", "visitAbs", "visitSqrt", "visitExp", "visitPow", "visitLog", "visitLn",
     "visitNegate", "visitAddition", "visitSubtraction", "visitMultiplication", "visitDivision", "visitNot",
     "visitAnd", "visitOr", "visitImplies", "visitIff", "visitXor", "visitEventually", "visitAlways", "visitUntil",
     "visitOnce", "visitHistorically", "visitSince", "visitRise", "visitFall", "visitConstant", "visitPrevious",
     "visitStrongPrevious", "visitNext", "visitStrongNext", "visitTimedPrecedes", "visitTimedOnce",
     "visitTimedHistorically", "visitTimedSince", "visitTimedAlways", "visitTimedEventually", "visitTimedUntil"] := by
  rfl

theorem handles_un (op : Un) : Generated.offlineDiscrete.handles op.kind = true := by cases op <;> rfl
theorem handles_bin (op : Bin) : Generated.offlineDiscrete.handles op.kind = true := by cases op <;> rfl
theorem handles_t1 (op : T1) : Generated.offlineDiscrete.handles op.kind = true := by cases op <;> rfl
theorem handles_t2 (op : T2) : Generated.offlineDiscrete.handles op.kind = true := by cases op <;> rfl
theorem handles_tb1 (op : TB1) : Generated.offlineDiscrete.handles op.kind = true := by cases op <;> rfl

theorem genOff_eval (w : Rtamt.Env α) (n : Nat) (φ : F α)
    (hwf : φ.wf = true) (hpl : plain φ = true) (hnp : noPrec φ = true) :
    evalOffG w n φ = evalOff Generated.offlineDiscrete.handles w n φ := by
  induction φ with
  | var x =>
    have h' : Generated.offlineDiscrete.handles .Variable = true := rfl
    simp only [evalOffG, evalOff, lookupM_eq, h', if_true]
    cases w.get x with
    | error e => rfl
    | ok l => exact (ok_bind _ _).trans (visitVariable_eq l)
  | const c =>
    have h' : Generated.offlineDiscrete.handles .Constant = true := rfl
    simp only [evalOffG, evalOff, lookupM_eq, h', if_true]
    exact visitConstant_eq c n
  | un op φ ih =>
    simp only [F.wf, plain, noPrec] at hwf hpl hnp
    simp only [evalOffG, evalOff, lookupM_eq, ih hwf hpl hnp, handles_un, if_true]
    exact bind_congr fun s => visitUn_eq op s
  | bin op φ ψ ihφ ihψ =>
    simp only [F.wf, plain, noPrec, Bool.and_eq_true] at hwf hpl hnp
    simp only [evalOffG, evalOff, lookupM_eq, ihφ hwf.1 hpl.1.2 hnp.1, ihψ hwf.2 hpl.2 hnp.2, handles_bin, if_true]
    refine bind_congr fun l => bind_congr fun r => ?_
    cases op with
    | add => exact visitAddition_eq l r
    | sub => exact visitSubtraction_eq l r
    | mul => exact visitMultiplication_eq l r
    | div => exact visitDivision_eq l r
    | pow => exact visitPow_eq l r
    | log => exact visitLog_eq l r
    | pred c => exact visitPredicate_eq c l r
    | and => exact visitAnd_eq l r
    | or => exact visitOr_eq l r
    | implies => exact visitImplies_eq l r
    | iff => exact visitIff_eq l r
    | xor => exact visitXor_eq l r
    | predSat c => simp at hpl
    | predZero => simp at hpl
  | tmp1 op φ ih =>
    simp only [F.wf, plain, noPrec] at hwf hpl hnp
    simp only [evalOffG, evalOff, lookupM_eq, ih hwf hpl hnp, handles_t1, if_true]
    refine bind_congr fun s => ?_
    cases op with
    | rise => exact visitRise_eq s
    | fall => exact visitFall_eq s
    | prev => exact visitPrevious_eq s
    | sprev => exact visitStrongPrevious_eq s
    | next => exact visitNext_eq s
    | snext => exact visitStrongNext_eq s
    | once => exact visitOnce_eq s
    | hist => exact visitHistorically_eq s
    | ev => exact visitEventually_eq s
    | alw => exact visitAlways_eq s
  | tmp2 op φ ψ ihφ ihψ =>
    simp only [F.wf, plain, noPrec, Bool.and_eq_true] at hwf hpl hnp
    simp only [evalOffG, evalOff, lookupM_eq, ihφ hwf.1 hpl.1 hnp.1, ihψ hwf.2 hpl.2 hnp.2, handles_t2, if_true]
    refine bind_congr fun l => bind_congr fun r => ?_
    cases op
    · exact (visitSince_eq l r).trans (by split <;> rfl)
    · exact (visitUntil_eq l r).trans (by split <;> rfl)
  | tb1 op a b φ ih =>
    simp only [F.wf, plain, noPrec, Bool.and_eq_true, decide_eq_true_eq] at hwf hpl hnp
    simp only [evalOffG, evalOff, lookupM_eq, ih hwf.2 hpl hnp, handles_tb1, if_true, hwf.1]
    refine bind_congr fun s => ?_
    cases op with
    | once => exact visitTimedOnce_eq a b hwf.1 s
    | hist => exact visitTimedHistorically_eq a b hwf.1 s
    | ev => exact visitTimedEventually_eq a b hwf.1 s
    | alw => exact visitTimedAlways_eq a b hwf.1 s
  | tb2 op a b φ ψ ihφ ihψ =>
    simp only [F.wf, plain, noPrec, Bool.and_eq_true, decide_eq_true_eq] at hwf hpl hnp
    simp only [evalOffG, evalOff, lookupM_eq, ihφ hwf.1.2 hpl.1 hnp.1.2, ihψ hwf.2 hpl.2 hnp.2]
    refine bind_congr fun l => bind_congr fun r => ?_
    cases op
    · refine (visitTimedSince_eq a b hwf.1.1 l r).trans ?_
      simp [Generated.offlineDiscrete.handles, TB2.kind, hwf.1.1]
    · refine (visitTimedUntil_eq a b hwf.1.1 l r).trans ?_
      simp [Generated.offlineDiscrete.handles, TB2.kind, hwf.1.1]
    · simp at hnp

/-- Nothing in the translated visit methods is outside the translated subset, except the attribute access of
    object-typed variables in `visitVariable` (`operator.attrgetter(node.field)(v)`, only reached for variables of a
    user-defined type, which the correspondence streams with `Msg`-typed variables exercise). -/
theorem genOff_supported :
    (Gen.Off.methods.filter (fun p => !(p.2.body.supported && (match p.2.ret with | some e => e.supported | none => true)))).map (·.1)
      = ["visitVariable"] := by
  decide +kernel

end Rtamt.Py
