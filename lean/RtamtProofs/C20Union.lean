/-
  C20, exact interval lists.  The code applies `interval_union` (sort, merge overlapping or adjacent intervals) to the
  lists it computes for the operand of a bounded operator; the mirror `explain` the C20 theorems are stated on leaves it
  out.  `explainU u` (`Rtamt/Discrete/ExplainU.lean`) has the union as a parameter: `explainU id = explain`, and
  `explainU unionIvs` is what the code computes (`RtamtProofs/GenExpl.lean`).  Here: both report the same positions of
  every variable, provided the interval list they start from is `Good` (in range, first interval begins first, last
  interval ends last - `[(0, 0)]`, where `explain()` starts, is).  C20 for `explainU unionIvs` does not go through that
  comparison: `unionIvs` keeps what a list covers (`keepsCover_union`), which is all `C20_sufficientU` asks of `u`.
-/
import RtamtProofs.C20
import Rtamt.Discrete.ExplainU

namespace Rtamt
open Val

theorem unionStep_nil (p : Nat × Nat) : unionStep [] p = [p] := rfl

theorem unionStep_snoc (D : Ivs) (q p : Nat × Nat) :
    unionStep (D ++ [q]) p =
      if p.1 ≤ q.2 + 1 then D ++ [(q.1, max q.2 p.2)] else D ++ [q] ++ [p] := by
  unfold unionStep
  rw [List.getLast?_concat, List.dropLast_concat]

/-- One step adds the positions of `p`, when `p` does not begin before the last interval written. -/
theorem unionStep_covered (out : Ivs) (p : Nat × Nat) (h : ∀ q, out.getLast? = some q → q.1 ≤ p.1) (t : Nat) :
    covered (unionStep out p) t ↔ covered out t ∨ (p.1 ≤ t ∧ t ≤ p.2) := by
  rcases List.eq_nil_or_concat out with rfl | ⟨D, q, rfl⟩
  · rw [unionStep_nil, covered_singleton]
    exact (or_iff_right (covered_nil t)).symm
  · rw [List.concat_eq_append] at h ⊢
    have hqp := h q List.getLast?_concat
    rw [unionStep_snoc]
    split_ifs with hm
    · rw [covered_append, covered_append, covered_singleton, covered_singleton, or_assoc]
      refine or_congr_right ?_
      omega
    · rw [covered_append, covered_singleton]

theorem unionStep_last (out : Ivs) (p : Nat × Nat) (h : ∀ q, out.getLast? = some q → q.1 ≤ p.1) :
    ∀ q, (unionStep out p).getLast? = some q → q.1 ≤ p.1 := by
  intro q' hq'
  rcases List.eq_nil_or_concat out with rfl | ⟨D, q, rfl⟩
  · cases hq'; exact le_rfl
  · rw [List.concat_eq_append] at h hq'
    rw [unionStep_snoc] at hq'
    split_ifs at hq' with hm
    · rw [List.getLast?_concat] at hq'
      cases hq'
      exact h q List.getLast?_concat
    · rw [List.getLast?_concat] at hq'
      cases hq'
      exact le_rfl

theorem unionFold_covered (t : Nat) :
    ∀ (l out : Ivs), l.Pairwise (fun p q => p.1 ≤ q.1) →
      (∀ q, out.getLast? = some q → ∀ p ∈ l, q.1 ≤ p.1) →
      (covered (l.foldl unionStep out) t ↔ covered out t ∨ covered l t)
  | [], out, _, _ => (or_iff_left (covered_nil t)).symm
  | p :: l, out, hs, hlast => by
    rw [List.pairwise_cons] at hs
    have hp := fun q hq => hlast q hq p List.mem_cons_self
    rw [List.foldl_cons, unionFold_covered t l _ hs.2
      (fun q hq r hr => le_trans (unionStep_last out p hp q hq) (hs.1 r hr)),
      unionStep_covered out p hp, covered_cons, or_assoc]

theorem sortIvsN_perm (I : Ivs) : (sortIvsN I).Perm I := List.mergeSort_perm _ _

theorem sortIvsN_sorted (I : Ivs) : (sortIvsN I).Pairwise (fun p q => p.1 ≤ q.1) := by
  have h := List.pairwise_mergeSort
    (le := fun (p q : Nat × Nat) => decide (p.1 < q.1) || (decide (p.1 = q.1) && decide (p.2 ≤ q.2)))
    (by intro a b c h1 h2
        simp only [Bool.or_eq_true, Bool.and_eq_true, decide_eq_true_eq] at h1 h2 ⊢
        omega)
    (by intro a b
        simp only [Bool.or_eq_true, Bool.and_eq_true, decide_eq_true_eq]
        omega) I
  refine List.Pairwise.imp ?_ h
  intro a b hab
  simp only [Bool.or_eq_true, Bool.and_eq_true, decide_eq_true_eq] at hab
  omega

theorem covered_perm {I J : Ivs} (h : I.Perm J) (t : Nat) : covered I t ↔ covered J t := by
  unfold covered
  constructor
  · rintro ⟨p, hp, h'⟩; exact ⟨p, h.mem_iff.1 hp, h'⟩
  · rintro ⟨p, hp, h'⟩; exact ⟨p, h.mem_iff.2 hp, h'⟩

/-- Well-formed intervals in range, increasing, with a gap between two consecutive ones. -/
def SepIvs (n : Nat) (I : Ivs) : Prop :=
  (∀ p ∈ I, p.1 ≤ p.2 ∧ p.2 < n) ∧ I.Pairwise (fun p q => p.2 + 1 < q.1)

theorem sep_good (n : Nat) (I : Ivs) (h : SepIvs n I) : Good n I := by
  obtain ⟨h1, h2⟩ := h
  refine ⟨h1, ?_, ?_⟩
  · rintro L p R rfl t ⟨r, hr, hr1, hr2⟩ hlt
    rw [List.pairwise_append] at h2
    rcases List.mem_append.1 hr with hr | hr
    · exact ⟨r, hr, hr1, hr2⟩
    · exfalso
      rcases List.mem_cons.1 hr with rfl | hr
      · omega
      · have := (List.pairwise_cons.1 h2.2.1).1 r hr
        have := h1 p (by simp)
        omega
  · rintro L p R rfl t ⟨r, hr, hr1, hr2⟩ hlt
    rw [List.pairwise_append] at h2
    rcases List.mem_append.1 hr with hr | hr
    · exfalso
      have := h2.2.2 r hr p (by simp)
      have := h1 p (by simp)
      omega
    · rcases List.mem_cons.1 hr with rfl | hr
      · omega
      · exact ⟨r, hr, hr1, hr2⟩

theorem unionStep_sep (n : Nat) (out : Ivs) (p : Nat × Nat) (ho : SepIvs n out) (hwp : p.1 ≤ p.2 ∧ p.2 < n)
    (h : ∀ q, out.getLast? = some q → q.1 ≤ p.1) : SepIvs n (unionStep out p) := by
  rcases List.eq_nil_or_concat out with rfl | ⟨D, q, rfl⟩
  · exact ⟨fun r hr => by rw [List.mem_singleton.1 hr]; exact hwp, List.pairwise_singleton _ _⟩
  · rw [List.concat_eq_append] at h ho ⊢
    have hqp := h q List.getLast?_concat
    obtain ⟨ho1, ho2⟩ := ho
    have hwq := ho1 q (by simp)
    rw [List.pairwise_append] at ho2
    rw [unionStep_snoc]
    split_ifs with hm
    · refine ⟨fun r hr => ?_, ?_⟩
      · rcases List.mem_append.1 hr with hr | hr
        · exact ho1 r (by simp [hr])
        · rw [List.mem_singleton.1 hr]
          dsimp only; omega
      · rw [List.pairwise_append]
        refine ⟨ho2.1, List.pairwise_singleton _ _, fun d hd r hr => ?_⟩
        rw [List.mem_singleton.1 hr]
        exact ho2.2.2 d hd q (by simp)
    · refine ⟨fun r hr => ?_, ?_⟩
      · rcases List.mem_append.1 hr with hr | hr
        · exact ho1 r hr
        · rw [List.mem_singleton.1 hr]; exact hwp
      · rw [List.pairwise_append]
        refine ⟨List.pairwise_append.2 ho2, List.pairwise_singleton _ _, fun d hd r hr => ?_⟩
        rw [List.mem_singleton.1 hr]
        rcases List.mem_append.1 hd with hd | hd
        · have := ho2.2.2 d hd q (by simp)
          omega
        · rw [List.mem_singleton.1 hd]
          omega

theorem unionFold_sep (n : Nat) :
    ∀ (l out : Ivs), l.Pairwise (fun p q => p.1 ≤ q.1) → (∀ p ∈ l, p.1 ≤ p.2 ∧ p.2 < n) →
      (∀ q, out.getLast? = some q → ∀ p ∈ l, q.1 ≤ p.1) → SepIvs n out →
      SepIvs n (l.foldl unionStep out)
  | [], out, _, _, _, ho => ho
  | p :: l, out, hs, hw, hlast, ho => by
    rw [List.pairwise_cons] at hs
    have hp := fun q hq => hlast q hq p List.mem_cons_self
    exact unionFold_sep n l _ hs.2 (fun r hr => hw r (List.mem_cons_of_mem _ hr))
      (fun q hq r hr => le_trans (unionStep_last out p hp q hq) (hs.1 r hr))
      (unionStep_sep n out p ho (hw p List.mem_cons_self) hp)

def EqvIvs (n : Nat) (I J : Ivs) : Prop := Good n I ∧ Good n J ∧ ∀ t, covered I t ↔ covered J t

theorem Acts.eqv {n : Nat} {f g : Ivs → Ivs} {R : Nat → Nat → Prop} (hf : Acts n f R) (hg : Acts n g R) {I J : Ivs}
    (h : EqvIvs n I J) : EqvIvs n (f I) (g J) := by
  obtain ⟨h1, c1⟩ := hf I h.1
  obtain ⟨h2, c2⟩ := hg J h.2.1
  refine ⟨h1, h2, fun w => ?_⟩
  rw [c1, c2]
  simp only [h.2.2]

variable {α : Type} [Val α] [LawfulVal α]

theorem unionIvs_covered (I : Ivs) (t : Nat) : covered (unionIvs I) t ↔ covered I t := by
  unfold unionIvs
  rw [unionFold_covered t _ [] (sortIvsN_sorted I) (by intro q hq; simp at hq)]
  rw [covered_perm (sortIvsN_perm I)]
  simp [covered_nil]

theorem unionIvs_good (n : Nat) (I : Ivs) (h : ∀ p ∈ I, p.1 ≤ p.2 ∧ p.2 < n) : Good n (unionIvs I) := by
  apply sep_good
  unfold unionIvs
  refine unionFold_sep n _ [] (sortIvsN_sorted I) ?_ (by intro q hq; simp at hq)
    ⟨by simp, List.Pairwise.nil⟩
  intro p hp
  exact h p ((sortIvsN_perm I).mem_iff.1 hp)

/-- Two runs that agree up to the representation of the interval lists. -/
def SameReports : Except Unit (List (String × Ivs)) → Except Unit (List (String × Ivs)) → Prop
  | .ok ex, .ok ex' => ∀ x t, reported ex x t = reported ex' x t
  | .error _, .error _ => True
  | _, _ => False

theorem keepsCover_union (n : Nat) : KeepsCover n unionIvs := fun I hI =>
  ⟨unionIvs_good n I hI.1, fun w => by rw [unionIvs_covered]; exact ⟨fun h => ⟨w, h, rfl⟩, by rintro ⟨t, ht, rfl⟩; exact ht⟩⟩

omit [LawfulVal α] in
theorem sameReports_both {x x' y y' : Except Unit (List (String × Ivs))}
    (hx : SameReports x x') (hy : SameReports y y') :
    SameReports (do let a ← x; let b ← y; pure (a ++ b)) (do let a ← x'; let b ← y'; pure (a ++ b)) := by
  cases x with
  | error e => cases x' with
    | error e' => trivial
    | ok a' => exact hx.elim
  | ok a => cases x' with
    | error e' => exact hx.elim
    | ok a' =>
      cases y with
      | error e => cases y' with
        | error e' => trivial
        | ok b' => exact hy.elim
      | ok b => cases y' with
        | error e' => exact hy.elim
        | ok b' =>
          intro z t
          show reported (a ++ b) z t = reported (a' ++ b') z t
          rw [reported_append, reported_append, hx z t, hy z t]

omit [Val α] [LawfulVal α] in
theorem reported_single_eq (x : String) (I J : Ivs) (h : ∀ t, covered I t ↔ covered J t) (z : String) (t : Nat) :
    reported [(x, I)] z t = reported [(x, J)] z t := by
  rw [Bool.eq_iff_iff, reported_single, reported_single, h t]

omit [LawfulVal α] in
/-- Whatever two functions do to the representation of the lists of the bounded operators, the same positions are reported:
    at every node the two runs apply the same rule to two lists that cover the same positions (`Rule.acts`). -/
theorem explainU_same_eqv (σ : String → Nat → α) (n : Nat) {u u' : Ivs → Ivs} (hu : KeepsCover n u) (hu' : KeepsCover n u') :
    ∀ (φ : F α), φ.wf = true → ∀ (I J : Ivs) (flag : Bool), EqvIvs n I J →
      SameReports (explainU u σ n φ I flag) (explainU u' σ n φ J flag)
  | .var x, _, I, J, flag, h => fun z t => reported_single_eq x I J h.2.2 z t
  | .const _, _, _, _, _, _ => fun _ _ => rfl
  | .un op φ, hwf, I, J, flag, h => by
    rw [explainU_un, explainU_un]
    exact explainU_same_eqv σ n hu hu' φ hwf _ _ _ ((Rule.acts _ le_rfl hu _ _).eqv (Rule.acts _ le_rfl hu' _ _) h)
  | .bin op φ ψ, hwf, I, J, flag, h => by
    simp only [F.wf, Bool.and_eq_true] at hwf
    rw [explainU_bin, explainU_bin]
    exact sameReports_both
      (explainU_same_eqv σ n hu hu' φ hwf.1 _ _ _ ((Rule.acts _ le_rfl hu _ _).eqv (Rule.acts _ le_rfl hu' _ _) h))
      (explainU_same_eqv σ n hu hu' ψ hwf.2 _ _ _ ((Rule.acts _ le_rfl hu _ _).eqv (Rule.acts _ le_rfl hu' _ _) h))
  | .tmp1 op φ, hwf, I, J, flag, h => by
    rw [explainU_tmp1, explainU_tmp1]
    exact explainU_same_eqv σ n hu hu' φ hwf _ _ _ ((Rule.acts _ le_rfl hu _ _).eqv (Rule.acts _ le_rfl hu' _ _) h)
  | .tmp2 _ _ _, _, _, _, _, _ => trivial
  | .tb1 op a b φ, hwf, I, J, flag, h => by
    simp only [F.wf, Bool.and_eq_true, decide_eq_true_eq] at hwf
    rw [explainU_tb1, explainU_tb1]
    exact explainU_same_eqv σ n hu hu' φ hwf.2 _ _ _ ((Rule.acts _ hwf.1 hu _ _).eqv (Rule.acts _ hwf.1 hu' _ _) h)
  | .tb2 _ _ _ _ _, _, _, _, _, _ => trivial

-- (the statement keeps the section's `[LawfulVal α]`, which the proof does not need)
set_option linter.unusedSectionVars false in
/-- The explainer with `interval_union` and the explainer without report the same positions, when started from two
    `Good` lists that cover the same positions. -/
theorem explainU_same_reports (σ : String → Nat → α) (n : Nat) (φ : F α) (hwf : φ.wf = true)
    (I J : Ivs) (flag : Bool) (hI : Good n I) (hJ : Good n J) (hcov : ∀ t, covered I t ↔ covered J t) :
    SameReports (explainU unionIvs σ n φ I flag) (explain σ n φ J flag) :=
  explainU_id σ n φ J flag ▸ explainU_same_eqv σ n (keepsCover_union n) (keepsCover_id n) φ hwf I J flag ⟨hI, hJ, hcov⟩

theorem explainSpecU_same_reports (σ : String → Nat → α) (n : Nat) (hn : 0 < n) (φ : F α) (hwf : φ.wf = true) :
    SameReports (explainSpecU σ n φ) (explainSpec σ n φ) := by
  unfold explainSpecU explainSpec
  split_ifs with h
  · exact explainU_same_reports σ n φ hwf [(0, 0)] [(0, 0)] false (good_singleton n 0 0 le_rfl hn)
      (good_singleton n 0 0 le_rfl hn) (fun _ => Iff.rfl)
  · exact fun _ _ => rfl

/-- C20 (partial, fragment `explFrag`) for the exact lists: the positions reported with `interval_union` applied are a
    sufficient cause of the violation. -/
theorem C20_sufficient_exact_partial (hz : Val.neg (Val.zero : α) = Val.zero)
    (σ σ' : String → Nat → α) (n : Nat) (hn : 0 < n) (φ : F α)
    (hfrag : φ.explFrag = true) (ex : List (String × Ivs))
    (hex : explainSpecU σ n φ = .ok ex) (hviol : isUnsat (rho σ n φ 0) = true)
    (hagree : ∀ x t, reported ex x t = true → t < n → σ' x t = σ x t) :
    isUnsat (rho σ' n φ 0) = true := by
  unfold explainSpecU at hex
  rw [if_pos hviol] at hex
  exact C20_sufficientU hz σ σ' n hn (keepsCover_union n) φ hfrag ex hex hviol hagree

end Rtamt
