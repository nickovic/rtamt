/-
  The segment stack of the four bounded operators: `once_timed_operation` / `historically_timed_operation` keep the
  top of the stack at the end of the Python list `out`, `eventually_timed_operation` / `always_timed_operation` at its
  front; up to that, and to which end of a segment is compared, the code that puts the next segment `b` on the stack is
  the same (`Stk.push`), and it computes the mirror's `pushSegG` of that direction (`Stk.push_spec`).
-/
import RtamtProofs.GenDenseLogic
import RtamtProofs.Dense.StackDir

namespace Rtamt.Py.Dn
open Rtamt Val Rtamt.Dense Rtamt.Dense.Alg

set_option linter.unusedSectionVars false

variable {α : Type} [Val α]

namespace Fwd

def encSeg (g : Seg α) : DV α := .seg g.lo g.hi g.v

end Fwd

namespace Stk
open Fwd (encSeg)

/-- how the code of one direction handles the list `out`, and the four expressions in which the directions differ -/
structure Code where
  top : E
  pop : S
  push : E → S
  nearLt : E
  nearGt : E
  seg1 : E
  seg2 : E

def a_ (j : Int) : E := .idx (.loc "a") (.int j)
def b_ (j : Int) : E := .idx (.loc "b") (.int j)

theorem evalE_a {call : Call α} {env : Env α} {x : Seg α} (h : getLoc "a" env = .ok (encSeg x)) (j : Int) :
    evalE call env (a_ j) = evalIdx (encSeg x) (.int j) := evalE_segIdx h j

theorem evalE_b {call : Call α} {env : Env α} {g : Seg α} (h : getLoc "b" env = .ok (encSeg g)) (j : Int) :
    evalE call env (b_ j) = evalIdx (encSeg g) (.int j) := evalE_segIdx h j

def innerCond (c : Code) (opW : BinOp) : E := .and_ (.bin opW (a_ 2) (b_ 2)) c.nearLt

def innerBody (c : Code) : S := .seq c.pop (.setLoc "a" c.top)

def tail (c : Code) (opK : BinOp) : S :=
  .ite (.not (.call4 "intersects" (a_ 0) (a_ 1) (b_ 0) (b_ 1))) (c.push (.loc "b"))
    (.ite (.bin opK (a_ 2) (b_ 2)) (c.push c.seg1)
      (.seq c.pop (.seq (.ite c.nearGt (c.push c.seg2) .skip) (c.push (.tup3 (b_ 0) (b_ 1) (b_ 2))))))

def push (c : Code) (opW opK : BinOp) : S :=
  .ite (.not (.loc "out")) (c.push (.loc "b"))
    (.seq (.setLoc "a" c.top) (.seq (.while_ (innerCond c opW) (innerBody c)) (tail c opK)))

/-- what the proof uses of the code of one direction: `enc stk` is the Python list that holds the stack `stk` -/
structure OK (c : Code) (d : Dir α) (enc : List (Seg α) → List (DV α)) (call : Call α) : Prop where
  empty : ∀ stk, (enc stk).isEmpty = stk.isEmpty
  top : ∀ {env x stk}, getLoc "out" env = .ok (.list (enc (x :: stk))) → resolve env "len" = "len" →
    evalE call env c.top = .ok (encSeg x)
  top_nil : ∀ {env}, getLoc "out" env = .ok (.list (enc [])) → resolve env "len" = "len" →
    evalE call env c.top = .error .index
  pop : ∀ {fuel env x stk}, getLoc "out" env = .ok (.list (enc (x :: stk))) → resolve env "len" = "len" →
    exec call fuel c.pop env = .ok (setLoc "out" (.list (enc stk)) env, none)
  push : ∀ {fuel env e g stk}, evalE call env e = .ok (encSeg g) → getLoc "out" env = .ok (.list (enc stk)) →
    exec call fuel (c.push e) env = .ok (setLoc "out" (.list (enc (g :: stk))) env, none)
  nearLt : ∀ {env x g}, getLoc "a" env = .ok (encSeg x) → getLoc "b" env = .ok (encSeg g) →
    evalE call env c.nearLt = .ok (.bool (d.before (d.near g) (d.near x)))
  nearGt : ∀ {env x g}, getLoc "a" env = .ok (encSeg x) → getLoc "b" env = .ok (encSeg g) →
    evalE call env c.nearGt = .ok (.bool (d.before (d.near x) (d.near g)))
  seg1 : ∀ {env x g}, getLoc "a" env = .ok (encSeg x) → getLoc "b" env = .ok (encSeg g) →
    evalE call env c.seg1 = .ok (encSeg (d.seg (d.far x) (d.far g) g.v))
  seg2 : ∀ {env x g}, getLoc "a" env = .ok (encSeg x) → getLoc "b" env = .ok (encSeg g) →
    evalE call env c.seg2 = .ok (encSeg (d.seg (d.near x) (d.near g) x.v))

section generic
variable {c : Code} {d : Dir α} {enc : List (Seg α) → List (DV α)} {call : Call α} (ok : OK c d enc call)
  {opW opK : BinOp} {worse : α → α → Bool}
  (hW : ∀ x y : α, evalBin opW (.val x : DV α) (.val y) = .ok (.bool (worse x y)))
  (hK : ∀ x y : α, evalBin opK (.val x : DV α) (.val y) = .ok (.bool (!worse x y)))
  (hint : ∀ x1 x2 y1 y2, call "intersects" [.tm x1, .tm x2, .tm y1, .tm y2] = .ok (.bool (intersects x1 x2 y1 y2)))
  (fuel : Nat)

/-- the locals the stack code reads: the top `a`, the new segment `b`, the stack, the two library names -/
structure Loc (env : Env α) (x g : Seg α) (stk : List (Seg α)) : Prop where
  a : getLoc "a" env = .ok (encSeg x)
  b : getLoc "b" env = .ok (encSeg g)
  out : getLoc "out" env = .ok (.list (enc (x :: stk)))
  len : resolve env "len" = "len"
  ints : resolve env "intersects" = "intersects"

include ok hW in
theorem innerCond_eval {env : Env α} {x g : Seg α} {stk : List (Seg α)} (h : Loc (enc := enc) env x g stk) :
    (do truthy (← evalE call env (innerCond c opW))) = .ok (worse x.v g.v && d.before (d.near g) (d.near x)) := by
  rw [innerCond, evalE.and_ ((evalE.bin (evalE_a h.a 2) (evalE_b h.b 2)).trans (hW _ _)) rfl]
  cases worse x.v g.v
  · rfl
  · rw [if_pos rfl, ok.nearLt h.a h.b]; rfl

include ok hW in
/-- `while a[2] < b[2] and <b reaches beyond a>: pop; a = top` is the mirror's `popWhileG` -/
theorem innerLoop {env : Env α} {x g : Seg α} {stk : List (Seg α)} (h : Loc (enc := enc) env x g stk)
    (hf : stk.length + 1 ≤ fuel) :
    Runs (exec call fuel (.while_ (innerCond c opW) (innerBody c)) env) (popWhileG d worse g (x :: stk))
      fun s env' => ∃ x' r, s = x' :: r ∧ Loc (enc := enc) env' x' g r ∧ Frame ["a", "out"] env env' := by
  refine Runs.while (popWhileG d worse g)
    (fun s e => ∃ x r, s = x :: r ∧ Loc (enc := enc) e x g r ∧ Frame ["a", "out"] env e) _ (·.length - 1) ?_
    (x :: stk) ⟨x, stk, rfl, h, Frame.refl _ _⟩ (by simp; omega)
  rintro s e ⟨x, r, rfl, hl, hF⟩
  refine ⟨_, innerCond_eval ok hW hl, fun hc => ⟨x :: r, by rw [popWhileG, hc]; rfl, x, r, rfl, hl, hF⟩, fun hc => ?_⟩
  have e1 := ok.pop (fuel := fuel) hl.out hl.len
  cases r with
  | nil =>
      refine ⟨_, .error .index, id, by rw [popWhileG, hc]; rfl, ?_⟩
      rw [innerBody, exec.seq_ok e1]
      exact exec.setLoc_err (ok.top_nil (getLoc_setLoc_same _ _ _) ((resolve_setLoc_ne _ _ _ _ (by decide)).trans hl.len))
  | cons y r =>
      refine ⟨_, .ok (y :: r), id, by rw [popWhileG, hc]; rfl, Runs.intro ((exec.seq_ok e1).trans (exec.setLoc
        (ok.top (getLoc_setLoc_same _ _ _) ((resolve_setLoc_ne _ _ _ _ (by decide)).trans hl.len)))) ?_⟩
      exact ⟨⟨y, r, rfl, ⟨by simp, by simpa using hl.b, by simp, by simpa using hl.len, by simpa using hl.ints⟩,
        (hF.set (by simp) _).set (by simp) _⟩, by simp⟩

include ok hK hint in
theorem tail_exec {env : Env α} {x g : Seg α} {stk : List (Seg α)} (h : Loc (enc := enc) env x g stk) :
    ∃ env', exec call fuel (tail c opK) env = .ok (env', none) ∧
      getLoc "out" env' = .ok (.list (enc (place d worse x stk g))) ∧ Frame ["out"] env env' := by
  have c1 : evalE call env (.not (.call4 "intersects" (a_ 0) (a_ 1) (b_ 0) (b_ 1))) =
      .ok (.bool (!intersects x.lo x.hi g.lo g.hi)) :=
    evalE.not ((evalE.call4 (evalE_a h.a 0) (evalE_a h.a 1) (evalE_b h.b 0) (evalE_b h.b 1)).trans
      (by rw [h.ints]; exact hint _ _ _ _)) rfl
  have c2 : evalE call env (.bin opK (a_ 2) (b_ 2)) = .ok (.bool (!worse x.v g.v)) :=
    (evalE.bin (evalE_a h.a 2) (evalE_b h.b 2)).trans (hK _ _)
  rw [tail, place]
  cases h1 : intersects x.lo x.hi g.lo g.hi with
  | false =>
      rw [h1] at c1
      exact ⟨_, (exec.ite_true c1 rfl).trans (ok.push (evalE.loc h.b) h.out), by simp, by frame_tac⟩
  | true =>
      rw [h1] at c1
      rw [exec.ite_false c1 rfl]
      cases h2 : worse x.v g.v with
      | false =>
          rw [h2] at c2
          exact ⟨_, (exec.ite_true c2 rfl).trans (ok.push (ok.seg1 h.a h.b) h.out), by simp, by frame_tac⟩
      | true =>
          rw [h2] at c2
          -- `pop`; from here on `out` holds `stk`
          have ha1 : getLoc "a" (setLoc "out" (.list (enc stk)) env) = .ok (encSeg x) := by simpa using h.a
          have hb1 : getLoc "b" (setLoc "out" (.list (enc stk)) env) = .ok (encSeg g) := by simpa using h.b
          rw [exec.ite_false c2 rfl, exec.seq_ok (ok.pop h.out h.len)]
          have hlast : ∀ (env1 : Env α) (s : List (Seg α)), getLoc "b" env1 = .ok (encSeg g) →
              getLoc "out" env1 = .ok (.list (enc s)) →
              exec call fuel (c.push (.tup3 (b_ 0) (b_ 1) (b_ 2))) env1
                = .ok (setLoc "out" (.list (enc (⟨g.lo, g.hi, g.v⟩ :: s))) env1, none) := fun env1 s hb ho =>
            ok.push ((evalE.tup3 (evalE_b hb 0) (evalE_b hb 1) (evalE_b hb 2)).trans rfl) ho
          cases h3 : d.before (d.near x) (d.near g) with
          | false =>
              rw [exec.seq_ok ((exec.ite_false ((ok.nearGt ha1 hb1).trans (by rw [h3])) rfl).trans rfl),
                hlast _ stk hb1 (getLoc_setLoc_same _ _ _)]
              exact ⟨_, rfl, by simp, by frame_tac⟩
          | true =>
              rw [exec.seq_ok ((exec.ite_true ((ok.nearGt ha1 hb1).trans (by rw [h3])) rfl).trans
                  (ok.push (ok.seg2 ha1 hb1) (getLoc_setLoc_same _ _ _))),
                hlast _ _ (by simpa using hb1) (getLoc_setLoc_same _ _ _)]
              exact ⟨_, rfl, by simp, by frame_tac⟩

include ok hW hK hint in
/-- **the code that puts `b` on the stack computes `pushSegG`** (values and the `IndexError` of an emptied stack) -/
theorem push_spec {env : Env α} {stk : List (Seg α)} {g : Seg α} (hf : stk.length ≤ fuel)
    (hout : getLoc "out" env = .ok (.list (enc stk))) (hb : getLoc "b" env = .ok (encSeg g))
    (hlen : resolve env "len" = "len") (hi : resolve env "intersects" = "intersects") :
    Runs (exec call fuel (push c opW opK) env) (pushSegG d worse stk g) fun stk' env' =>
      getLoc "out" env' = .ok (.list (enc stk')) ∧ Frame ["a", "out"] env env' := by
  have hnot : evalE call env (.not (.loc "out")) = .ok (.bool stk.isEmpty) := by
    rw [evalE.not (evalE.loc hout) rfl, ok.empty]; simp
  cases stk with
  | nil =>
      exact Runs.intro ((exec.ite_true hnot rfl).trans (ok.push (evalE.loc hb) hout)) ⟨by simp, by frame_tac⟩
  | cons x rest =>
      rw [push, exec.ite_false hnot rfl, exec.seq_ok (exec.setLoc (ok.top hout hlen)), pushSegG_cons]
      refine Runs.seq (innerLoop ok hW fuel ⟨by simp, by simpa using hb, by simpa using hout, by simpa using hlen,
        by simpa using hi⟩ hf) ?_
      rintro _ env2 - ⟨x', r, rfl, hl, hF⟩
      obtain ⟨env3, k1, k2, k3⟩ := tail_exec ok hK hint fuel hl
      exact Runs.intro k1 ⟨k2, Frame.trans (Frame.trans (by frame_tac) hF) (k3.mono (by simp))⟩

end generic

end Stk

end Rtamt.Py.Dn
