/-
  C18 — Temporal dualities and expansion laws hold in every monitor.

  "For all sub-formulas, bounds and traces the same monitor returns identical signals
   for: not eventually[a,b] p and always[a,b] not p; not once[a,b] p and
   historically[a,b] not p (also unbounded); p implies q and (not p) or q;
   eventually[a,b] eventually[c,d] p and eventually[a+c,b+d] p (same for once); and, in
   discrete time, p since q and q or (p and s_prev(p since q)), p until q and
   q or (p and s_next(p until q))."

  Laws as equations between `rho` (M-spec), then transferred to the offline and online
  monitors through C01 / C02.
-/
import RtamtProofs.C02

namespace Rtamt
open Val

variable {α : Type} [Val α] [LawfulVal α]

/-- Two formulas denote the same robustness signal on every trace. -/
def Equiv (φ ψ : F α) : Prop := ∀ (σ : String → Nat → α) (n t : Nat), t < n → rho σ n φ t = rho σ n ψ t

theorem C18_not_ev_bounded (a b : Nat) (p : F α) :
    Equiv (.un .not (.tb1 .ev a b p)) (.tb1 .alw a b (.un .not p)) := by
  intro σ n t ht
  simp only [rho, Un.app]
  exact neg_maxOver _ _ _

theorem C18_not_once_bounded (a b : Nat) (p : F α) :
    Equiv (.un .not (.tb1 .once a b p)) (.tb1 .hist a b (.un .not p)) := by
  intro σ n t ht
  simp only [rho, Un.app]
  exact neg_maxOver _ _ _

theorem C18_not_once (p : F α) :
    Equiv (.un .not (.tmp1 .once p)) (.tmp1 .hist (.un .not p)) := by
  intro σ n t ht
  simp only [rho, Un.app]
  exact neg_maxOver _ _ _

theorem C18_not_ev (p : F α) :
    Equiv (.un .not (.tmp1 .ev p)) (.tmp1 .alw (.un .not p)) := by
  intro σ n t ht
  simp only [rho, Un.app]
  exact neg_maxOver _ _ _

theorem C18_implies (p q : F α) :
    Equiv (.bin .implies p q) (.bin .or (.un .not p) q) := by
  intro σ n t ht
  simp only [rho, Un.app, Bin.app, pmax_eq]

theorem C18_ev_ev (a b c d : Nat) (hab : a ≤ b) (hcd : c ≤ d) (p : F α) :
    Equiv (.tb1 .ev a b (.tb1 .ev c d p)) (.tb1 .ev (a + c) (b + d) p) := by
  intro σ n t ht
  simp only [rho]
  -- the windows `[t' + c, t' + d]`, `t' ∈ [t + a, t + b]`, clipped to the trace, cover `[t + a + c, t + b + d]`
  apply maxOver_maxOver
  · intro t' h1 h2 u h3 h4
    rw [lt_min_iff] at h2 h4 ⊢
    omega
  · intro u h1 h2
    rw [lt_min_iff] at h2
    refine ⟨max (t + a) (u - d), le_max_left _ _, lt_min_iff.2 ?_, ?_, lt_min_iff.2 ?_⟩ <;> omega

theorem C18_once_once (a b c d : Nat) (hab : a ≤ b) (hcd : c ≤ d) (p : F α) :
    Equiv (.tb1 .once a b (.tb1 .once c d p)) (.tb1 .once (a + c) (b + d) p) := by
  intro σ n t ht
  simp only [rho]
  apply maxOver_maxOver
  · intro t' h1 h2 u h3 h4
    -- `omega` splits on every truncated subtraction: move them to the other side first
    rw [Nat.sub_le_iff_le_add] at h1 h3 ⊢
    rw [Nat.lt_sub_iff_add_lt] at h2 h4 ⊢
    omega
  · intro u h1 h2
    rw [Nat.sub_le_iff_le_add] at h1
    rw [Nat.lt_sub_iff_add_lt] at h2
    refine ⟨min (t - a) (u + d), Nat.sub_le_iff_le_add.2 ?_, Nat.lt_sub_iff_add_lt.2 ?_,
      Nat.sub_le_iff_le_add.2 ?_, Nat.lt_sub_iff_add_lt.2 ?_⟩ <;> omega

theorem C18_since_expansion (p q : F α) :
    Equiv (.tmp2 .since p q) (.bin .or q (.bin .and p (.tmp1 .sprev (.tmp2 .since p q)))) := by
  -- the recurrence by which the monitors compute `since` (`sinceStep`), read as a law
  intro σ n t ht
  simp only [rho, Bin.app]
  rw [pmax_eq, max_comm, ← pmax_eq]
  cases t with
  | zero => exact sinceSpec_zero (rho σ n p) (rho σ n q)
  | succ s =>
    rw [if_neg (Nat.succ_ne_zero s), Nat.add_sub_cancel]
    exact sinceSpec_succ (rho σ n p) (rho σ n q) s

theorem C18_until_expansion (p q : F α) :
    Equiv (.tmp2 .until p q) (.bin .or q (.bin .and p (.tmp1 .snext (.tmp2 .until p q)))) := by
  intro σ n t ht
  simp only [rho, Bin.app]
  rw [pmax_eq, max_comm, ← pmax_eq]
  by_cases h : t + 1 < n
  · rw [if_pos h]
    exact untilSpec_step n (rho σ n p) (rho σ n q) t ht
  · obtain rfl : n = t + 1 := by omega
    rw [if_neg h, ← untilSpec_end (t + 1) (rho σ (t + 1) p) (rho σ (t + 1) q)]
    exact untilSpec_step (t + 1) _ _ t ht

/-- Equivalent formulas get identical results from the discrete-time offline monitor. -/
theorem C18_offline (h : Kind → Bool) (φ ψ : F α) (heq : Equiv φ ψ) (w : Env α)
    (σ : String → Nat → α) (n : Nat) (hn : 0 < n)
    (hwfφ : φ.wf = true) (hwfψ : ψ.wf = true)
    (hhφ : ∀ k ∈ φ.kinds, h k = true) (hhψ : ∀ k ∈ ψ.kinds, h k = true)
    (hpφ : φ.noPrecedes) (hpψ : ψ.noPrecedes)
    (hwφ : w.Agrees σ n φ.vars) (hwψ : w.Agrees σ n ψ.vars) :
    evalOff h w n φ = evalOff h w n ψ := by
  rw [C01_offline_eq_rho h w σ n hn φ hwfφ hhφ hpφ hwφ,
    C01_offline_eq_rho h w σ n hn ψ hwfψ hhψ hpψ hwψ]
  congr 1
  exact tab_congr (heq σ n)

/-- Equivalent past formulas get identical update streams from the discrete-time online monitor. -/
theorem C18_online (h r : Kind → Bool) (φ ψ : F α) (heq : Equiv φ ψ)
    (σ : String → Nat → α) (n : Nat)
    (honφ : φ.online = true) (honψ : ψ.online = true) (hwfφ : φ.wf = true) (hwfψ : ψ.wf = true)
    (hhφ : ∀ k ∈ φ.kinds, k ≠ .Constant → (h k = true ∧ r k = false))
    (hhψ : ∀ k ∈ ψ.kinds, k ≠ .Constant → (h k = true ∧ r k = false)) :
    runOnline h r φ (envs σ n) = runOnline h r ψ (envs σ n) := by
  rw [C02_run_eq_rho h r σ n φ honφ hwfφ hhφ, C02_run_eq_rho h r σ n ψ honψ hwfψ hhψ]
  congr 1
  exact tab_congr (heq σ n)

end Rtamt
