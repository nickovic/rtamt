/-
  Symbolic execution of the list part of the Python subset (`for x in l`, `for i in range(..)`,
  `for i in range(a, b, -1)`, comprehensions, slices, local `append` / `reverse` / `insert`) against folds of the
  mirror, including the exceptions (`simE`: `Exc.Rel` at `PyErr`), for the translated visitors; the rest of the simp set `sem_step`, on which
  `off_step` runs.
-/
import Rtamt.Py.RunOff
import RtamtProofs.SemBase
import RtamtProofs.Lemmas.Exc

namespace Rtamt.Py
open Rtamt Val

variable {α : Type} [Val α]

def simE {σ τ : Type} (R : σ → τ → Prop) : Except PyErr σ → Except PyErr τ → Prop
  | .ok a, .ok b => R a b
  | .error e, .error e' => e = e'
  | _, _ => False

@[simp] theorem simE_ok_ok {σ τ : Type} (R : σ → τ → Prop) (a : σ) (b : τ) :
    simE R (.ok a) (.ok b) ↔ R a b := Iff.rfl
@[simp] theorem simE_err_err {σ τ : Type} (R : σ → τ → Prop) (e e' : PyErr) :
    simE R (.error e : Except PyErr σ) (.error e' : Except PyErr τ) ↔ e = e' := Iff.rfl
@[simp] theorem simE_ok_err {σ τ : Type} (R : σ → τ → Prop) (a : σ) (e : PyErr) :
    simE R (.ok a) (.error e : Except PyErr τ) ↔ False := Iff.rfl
@[simp] theorem simE_err_ok {σ τ : Type} (R : σ → τ → Prop) (e : PyErr) (b : τ) :
    simE R (.error e : Except PyErr σ) (.ok b) ↔ False := Iff.rfl

/-- `simE` is `Exc.Rel` at `PyErr`; the two are written with different matchers, so they are equal but not by `rfl`. -/
theorem simE_eq_rel {σ τ : Type} (R : σ → τ → Prop) : simE R = Exc.Rel R := by
  funext x y; cases x <;> cases y <;> rfl

theorem simE_bind {σ τ σ' τ' : Type} {R : σ → τ → Prop} {Q : σ' → τ' → Prop}
    {x : Except PyErr σ} {y : Except PyErr τ} {k : σ → Except PyErr σ'} {k' : τ → Except PyErr τ'}
    (h : simE R x y) (hk : ∀ a b, R a b → simE Q (k a) (k' b)) : simE Q (x >>= k) (y >>= k') := by
  simp only [simE_eq_rel] at h hk ⊢
  exact h.bind fun a b _ _ => hk a b

theorem simE_bind_eq {σ τ ρ : Type} {R : σ → τ → Prop}
    {x : Except PyErr σ} {y : Except PyErr τ} {k : σ → Except PyErr ρ} (k' : τ → Except PyErr ρ)
    (h : simE R x y) (hk : ∀ a b, R a b → k a = k' b) : (x >>= k) = (y >>= k') := by
  rw [simE_eq_rel] at h
  rcases h.inv with ⟨e, rfl, rfl⟩ | ⟨a, b, rfl, rfl, hab⟩
  · rfl
  · exact hk a b hab

theorem simE_mono {σ τ : Type} {R Q : σ → τ → Prop} {x : Except PyErr σ} {y : Except PyErr τ}
    (h : simE R x y) (hq : ∀ a b, R a b → Q a b) : simE Q x y := by
  cases x <;> cases y <;> simp [simE] at h ⊢
  · exact h
  · exact hq _ _ h

theorem foldlM_simE {σ τ β : Type} (f : σ → β → Except PyErr σ) (g : τ → β → Except PyErr τ)
    (R : σ → τ → Prop) (xs : List β)
    (hstep : ∀ x ∈ xs, ∀ s t, R s t → simE R (f s x) (g t x)) :
    ∀ s t, R s t → simE R (xs.foldlM f s) (xs.foldlM g t) := by
  simp only [simE_eq_rel] at hstep ⊢
  exact Exc.Rel.foldlM f g (fun _ => R) xs fun i hi => hstep _ (List.getElem_mem hi)

/-- The literal `[]` is `dlist []`; after the first `append` of a float the value is a `list`. -/
def lv (acc : List α) : V α :=
  match acc with
  | [] => .dlist []
  | _ :: _ => .list acc

omit [Val α] in
@[simp] theorem asList_lv (acc : List α) : asList (lv acc) = some acc := by
  cases acc <;> rfl

omit [Val α] in
@[simp] theorem asList_list (l : List α) : asList (.list l) = some l := rfl

omit [Val α] in
theorem lv_nil : (lv [] : V α) = .dlist [] := rfl

omit [Val α] in
@[simp] theorem appendV_lv (acc : List α) (x : α) : appendV (lv acc) (.num x) = .ok (lv (acc ++ [x])) := by
  cases acc <;> rfl

omit [Val α] in
@[simp] theorem appendV_list (l : List α) (x : α) : appendV (.list l) (.num x) = .ok (.list (l ++ [x])) := rfl

attribute [simp] appendV_deque

theorem exec_appendLoc (x : String) (e : E) (env : Env α) :
    exec (.appendLoc x e) env = (evalE env e >>= fun v => getKey x env.loc >>= fun t =>
      appendV t v >>= fun t' => .ok { env with loc := setKey x t' env.loc }) := id rfl

theorem exec_reverseLoc (x : String) (env : Env α) :
    exec (.reverseLoc x) env = (getKey x env.loc >>= fun t =>
      match asList t with
      | some l => .ok { env with loc := setKey x (.list l.reverse) env.loc }
      | none => .error .type) := rfl

theorem exec_insertLoc (x : String) (pos e : E) (env : Env α) :
    exec (.insertLoc x pos e) env = (getKey x env.loc >>= fun t => evalE env pos >>= fun p =>
      evalE env e >>= fun v =>
      match asList t, p, v with
      | some l, .int 0, .num v => .ok { env with loc := setKey x (.list (v :: l)) env.loc }
      | _, _, _ => .error .type) := rfl

theorem exec_ite_true {c : E} {t e : S} {env : Env α} (h : evalE env c = .ok (.bool true)) :
    exec (.ite c t e) env = exec t env := by
  rw [exec_ite, h]; rfl

theorem exec_ite_false {c : E} {t e : S} {env : Env α} (h : evalE env c = .ok (.bool false)) :
    exec (.ite c t e) env = exec e env := by
  rw [exec_ite, h]; rfl

theorem exec_forIn {x : String} {it : E} {body : S} {env : Env α} {v : V α} {l : List α}
    (hit : evalE env it = .ok v) (hv : asList v = some l) :
    exec (.forIn x it body) env =
      l.foldlM (fun env v => exec body { env with loc := setKey x (.num v) env.loc }) env := by
  simp [exec, hit, hv, ok_bind]

theorem exec_forDown {i : String} {lo hi : E} {body : S} {env : Env α} (a b : Int)
    (hhi : evalE env hi = .ok (.int a)) (hlo : evalE env lo = .ok (.int b)) :
    exec (.forDown i hi lo body) env =
      ((List.range (a - b).toNat).map (fun (j : Nat) => a - (j : Int))).foldlM
        (fun env k => exec body { env with loc := setKey i (.int k) env.loc }) env := by
  simp [exec, hlo, hhi, ok_bind]

theorem sim_forIn {τ : Type} (R : Env α → τ → Prop) (g : τ → α → Except PyErr τ) (t : τ) (l : List α)
    {x : String} {it : E} {body : S} {env : Env α} {v : V α}
    (hit : evalE env it = .ok v) (hv : asList v = some l) (h0 : R env t)
    (hstep : ∀ y ∈ l, ∀ s t, R s t →
      simE R (exec body { s with loc := setKey x (.num y) s.loc }) (g t y)) :
    simE R (exec (.forIn x it body) env) (l.foldlM g t) := by
  rw [exec_forIn hit hv]
  exact foldlM_simE _ g R l hstep env t h0

/-- `for i in range(a, a + n)` in lock-step with a fold over the range, the relation indexed by the position. -/
theorem sim_for {τ : Type} (R : Nat → Env α → τ → Prop) (g : τ → Nat → Except PyErr τ) (t : τ)
    (a n : Nat) (hb : Int) {i : String} {lo hi : E} {body : S} {env : Env α}
    (hlo : evalE env lo = .ok (.int a)) (hhi : evalE env hi = .ok (.int hb))
    (hn : (hb - a).toNat = n) (h0 : R a env t)
    (hstep : ∀ k, a ≤ k → k < a + n → ∀ s t, R k s t →
      simE (R (k + 1)) (exec body { s with loc := setKey i (.int (k : Nat)) s.loc }) (g t k)) :
    simE (R (a + n)) (exec (.for_ i lo hi body) env) ((List.range' a n).foldlM g t) := by
  rw [exec_for a hb hlo hhi, hn]
  simp only [simE_eq_rel] at hstep ⊢
  have := Exc.Rel.foldlM (fun s k => exec body { s with loc := setKey i (.int (k : Nat)) s.loc }) g (fun j => R (a + j))
    (List.range' a n) (fun j hj s t h => by
    rw [List.length_range'] at hj
    rw [List.getElem_range', Nat.one_mul]
    exact hstep (a + j) (Nat.le_add_right a j) (Nat.add_lt_add_left hj a) s t h) env t h0
  rwa [List.length_range'] at this

/-- `for i in range(n - 1, -1, -1)`: the mirror folds over `n-1, …, 0`. -/
theorem sim_forDown {τ : Type} (R : Env α → τ → Prop) (g : τ → Nat → Except PyErr τ) (t : τ)
    (n : Nat) {i : String} {lo hi : E} {body : S} {env : Env α}
    (hhi : evalE env hi = .ok (.int ((n : Int) - 1))) (hlo : evalE env lo = .ok (.int (-1)))
    (h0 : R env t)
    (hstep : ∀ k, k < n → ∀ s t, R s t →
      simE R (exec body { s with loc := setKey i (.int (k : Nat)) s.loc }) (g t k)) :
    simE R (exec (.forDown i hi lo body) env) ((List.range n).reverse.foldlM g t) := by
  rw [exec_forDown _ _ hhi hlo]
  have h1 : ((n : Int) - 1 - -1).toNat = n := by omega
  rw [h1]
  have h2 : (List.range n).reverse = (List.range n).map (fun j => n - 1 - j) := by
    apply List.ext_getElem
    · simp
    · intro k hk1 hk2
      simp at hk1
      simp [List.getElem_reverse]
  rw [h2, List.foldlM_map, List.foldlM_map]
  refine foldlM_simE _ _ R _ (fun j hj => ?_) env t h0
  have hj' : j < n := by simpa using hj
  intro s t hst
  have h3 : ((n : Int) - 1 - (j : Int)) = ((n - 1 - j : Nat) : Int) := by omega
  simp only [h3]
  exact hstep _ (by omega) s t hst

theorem mapM_congr {β γ : Type} {f g : β → Except PyErr γ} {l : List β} (h : ∀ x ∈ l, f x = g x) :
    l.mapM f = l.mapM g := by
  induction l with
  | nil => rfl
  | cons x xs ih =>
    simp only [List.mapM_cons]
    rw [h x (by simp), ih (fun y hy => h y (by simp [hy]))]

theorem mapM_ok {β γ : Type} (f : β → γ) (l : List β) :
    l.mapM (fun x => (Except.ok (f x) : Except PyErr γ)) = .ok (l.map f) :=
  List.mapM_pure ..

omit [Val α] in
theorem mapM_numOf_num {β : Type} (f : β → α) (l : List β) :
    l.mapM (fun p => numOf (V.num (f p))) = .ok (l.map f) := mapM_ok f l

omit [Val α] in
theorem map_zip_eq_zipWith (f : α → α → α) (l r : List α) :
    (l.zip r).map (fun p => f p.1 p.2) = List.zipWith f l r := by
  simp [List.zip_eq_zipWith, List.map_zipWith]

omit [Val α] in
theorem mapM_numOf {β : Type} (g : β → Except PyErr α) (l : List β) :
    l.mapM (fun x => (g x).map V.num >>= numOf) = l.mapM g := by
  apply mapM_congr
  intro x _
  cases g x <;> rfl

/-- `[body for x in range(lo, hi)]` with a body that may raise. -/
theorem evalE_compRange {body : E} {x : String} {lo hi : E} {env : Env α} (a : Nat) (hb : Int)
    (g : Nat → Except PyErr α)
    (hlo : evalE env lo = .ok (.int a)) (hhi : evalE env hi = .ok (.int hb))
    (hbody : ∀ k, a ≤ k → k < a + (hb - a).toNat →
      evalE { env with loc := setKey x (.int (k : Nat)) env.loc } body = (g k).map V.num) :
    evalE env (.compRange body x lo hi) = ((List.range' a (hb - a).toNat).mapM g).map V.list := by
  have hneg : ¬ ((a : Int) < 0) := by omega
  have : (List.range' a (hb - a).toNat).mapM
      (fun k => do numOf (← evalE { env with loc := setKey x (.int (k : Nat)) env.loc } body))
      = (List.range' a (hb - a).toNat).mapM g := by
    rw [← mapM_numOf g]
    apply mapM_congr
    intro k hk
    have := List.mem_range'_1.mp hk
    rw [hbody k this.1 this.2]
  simp only [evalE, hlo, hhi, ok_bind, hneg, if_false, Int.toNat_natCast]
  rw [this]
  cases (List.range' a (hb - a).toNat).mapM g <;> rfl

/-- `[c for x in range(0, n)]` with a constant body. -/
theorem evalE_compRange_const {body : E} {x : String} {lo hi : E} {env : Env α} (hb : Int) (c : α)
    (hlo : evalE env lo = .ok (.int 0)) (hhi : evalE env hi = .ok (.int hb))
    (hbody : ∀ k : Nat, evalE { env with loc := setKey x (.int (k : Nat)) env.loc } body = .ok (.num c)) :
    evalE env (.compRange body x lo hi) = .ok (.list (List.replicate hb.toNat c)) := by
  rw [evalE_compRange 0 hb (fun _ => .ok c) hlo hhi (fun k _ _ => by rw [hbody k]; rfl)]
  rw [mapM_ok]
  simp [Except.map, List.map_const']

/-- `[body for x in l]` with a total body. -/
theorem evalE_compList {body it : E} {x : String} {env : Env α} {v : V α} (l : List α) (f : α → α)
    (hit : evalE env it = .ok v) (hv : asList v = some l)
    (hbody : ∀ y, evalE { env with loc := setKey x (.num y) env.loc } body = .ok (.num (f y))) :
    evalE env (.compList body x it) = .ok (.list (l.map f)) := by
  have : l.mapM (fun y => do numOf (← evalE { env with loc := setKey x (.num y) env.loc } body))
      = .ok (l.map f) := by
    rw [← mapM_ok]
    apply mapM_congr
    intro y _
    rw [hbody y]; rfl
  simp only [evalE, hit, hv, ok_bind]
  rw [this]; rfl

/-- `[body for x, y in zip(a, b)]` with a total body. -/
theorem evalE_compZip {body ea eb : E} {x y : String} {env : Env α} {va vb : V α} (l r : List α)
    (f : α → α → α)
    (ha : evalE env ea = .ok va) (hva : asList va = some l)
    (hb : evalE env eb = .ok vb) (hvb : asList vb = some r)
    (hbody : ∀ p q, evalE { env with loc := setKey y (.num q) (setKey x (.num p) env.loc) } body
      = .ok (.num (f p q))) :
    evalE env (.compZip body x y ea eb) = .ok (.list (List.zipWith f l r)) := by
  have : (l.zip r).mapM (fun p => do
      numOf (← evalE { env with loc := setKey y (.num p.2) (setKey x (.num p.1) env.loc) } body))
      = .ok ((l.zip r).map (fun p => f p.1 p.2)) := by
    rw [← mapM_ok]
    apply mapM_congr
    intro p _
    rw [hbody p.1 p.2]; rfl
  simp only [evalE, ha, hva, hb, hvb, ok_bind]
  rw [this]
  simp [List.zip_eq_zipWith, List.map_zipWith, ok_bind, pure, Except.pure]

theorem evalBin_add_num (x y : α) : evalBin .add (.num x) (.num y) = .ok (.num (Val.add x y)) := rfl
theorem evalBin_mul_num (x y : α) : evalBin .mul (.num x) (.num y) = .ok (.num (Val.mul x y)) := rfl
theorem evalBin_div_num (x y : α) : evalBin .div (.num x) (.num y) = .ok (.num (Val.div x y)) := rfl
theorem evalBin_pow_num (x y : α) : evalBin .pow (.num x) (.num y) = .ok (.num (Val.pow x y)) := rfl
theorem evalBin_log_num (x y : α) : evalBin .log (.num x) (.num y) = .ok (.num (Val.log x y)) := rfl
theorem evalBin_add_list (x y : List α) : evalBin .add (.list x) (.list y) = .ok (.list (x ++ y)) := rfl

theorem evalUn_neg_int (n : Int) : evalUn (α := α) .neg (.int n) = .ok (.int (-n)) := rfl
theorem evalUn_sqrt_num (x : α) : evalUn .sqrt (.num x) = .ok (.num (Val.sqrt x)) := rfl
theorem evalUn_exp_num (x : α) : evalUn .exp (.num x) = .ok (.num (Val.exp x)) := rfl
theorem evalUn_ln_num (x : α) : evalUn .ln (.num x) = .ok (.num (Val.ln x)) := rfl
theorem evalUn_truthy_none : evalUn (α := α) .truthy .none = .ok (.bool false) := rfl

omit [Val α] in
theorem evalIdx_list (l : List α) (k : Nat) : evalIdx (.list l) (.int k) = (idx l k).map .num := by
  simp [evalIdx, natCast_lt_zero]

/-- `len(v)`: the arm of `evalE` under a name, so that `evalE_len` leaves its match folded (see `SemSteps.lean`); likewise
    `sliceV`, `repV`, `aggV`, `reversedV`, `newDequeV` below. -/
def lenV : V α → Except PyErr (V α)
  | .deque _ l => .ok (.int l.length)
  | .str u => .ok (.int u.length)
  | .rlist l => .ok (.int l.length)
  | .ivs l => .ok (.int l.length)
  | v => match asList v with
         | some l => .ok (.int l.length)
         | none => .error .type

theorem evalE_len (env : Env α) (e : E) : evalE env (.len e) = (evalE env e >>= lenV) := by
  simp only [evalE]; rfl
omit [Val α] in
theorem lenV_list (l : List α) : lenV (.list l) = .ok (.int l.length) := rfl
omit [Val α] in
theorem lenV_deque (c : Nat) (l : List α) : lenV (.deque c l) = .ok (.int l.length) := rfl

/-- `v[i:j]` -/
def sliceV : V α → V α → V α → Except PyErr (V α)
  | v, i, j => match asList v, i, j with
    | some l, .int i, .int j => .ok (.list (pySlice l i (some j)))
    | some l, .int i, .none => .ok (.list (pySlice l i none))
    | _, _, _ => .error .type

theorem evalE_slice (env : Env α) (e lo hi : E) :
    evalE env (.slice e lo hi) = (evalE env e >>= fun v => evalE env lo >>= fun i => evalE env hi >>= fun j =>
      sliceV v i j) := by
  simp only [evalE, sliceV]; rfl
omit [Val α] in
theorem sliceV_list_int (l : List α) (i j : Int) :
    sliceV (.list l) (.int i) (.int j) = .ok (.list (pySlice l i (some j))) := rfl
omit [Val α] in
theorem sliceV_list_none (l : List α) (i : Int) :
    sliceV (.list l) (.int i) .none = .ok (.list (pySlice l i none)) := rfl

/-- `[x] * n` -/
def repV : V α → V α → Except PyErr (V α)
  | .num x, .int k => .ok (.list (List.replicate k.toNat x))
  | _, _ => .error .type

theorem evalE_rep (env : Env α) (e n : E) :
    evalE env (.rep e n) = (evalE env e >>= fun x => evalE env n >>= fun k => repV x k) := by
  simp only [evalE]; rfl
omit [Val α] in
theorem repV_num_int (x : α) (k : Int) : repV (.num x) (.int k) = .ok (.list (List.replicate k.toNat x)) := rfl

/-- `max(v)` / `min(v)` -/
def aggV (isMax : Bool) (v : V α) : Except PyErr (V α) :=
  match asList v with
  | some l => (if isMax then pymax l else pymin l).map .num
  | none => .error .type

theorem evalE_agg (env : Env α) (isMax : Bool) (e : E) : evalE env (.agg isMax e) = (evalE env e >>= aggV isMax) := by
  simp only [evalE]; rfl
theorem aggV_true (l : List α) : aggV true (.list l) = (pymax l).map .num := rfl
theorem aggV_false (l : List α) : aggV false (.list l) = (pymin l).map .num := rfl

/-- `reversed(v)` -/
def reversedV (v : V α) : Except PyErr (V α) :=
  match asList v with
  | some l => .ok (.list l.reverse)
  | none => .error .type

theorem evalE_reversed (env : Env α) (e : E) : evalE env (.reversed e) = (evalE env e >>= reversedV) := by
  simp only [evalE]; rfl
omit [Val α] in
theorem reversedV_list (l : List α) : reversedV (.list l) = .ok (.list l.reverse) := rfl

/-- `collections.deque(maxlen=n)` -/
def newDequeV : V α → Except PyErr (V α)
  | .int n => if n < 0 then .error .value else .ok (.deque n.toNat [])
  | _ => .error .type

theorem evalE_newDeque (env : Env α) (e : E) : evalE env (.newDeque e) = (evalE env e >>= newDequeV) := by
  simp only [evalE]; rfl
omit [Val α] in
theorem newDequeV_nat (n : Nat) : newDequeV (α := α) (.int n) = .ok (.deque n []) := by
  simp [newDequeV, natCast_lt_zero]
omit [Val α] in
theorem newDequeV_succ (n : Nat) : newDequeV (α := α) (.int ((n : Int) + 1)) = .ok (.deque (n + 1) []) := by
  simp [newDequeV, natCast_succ_lt_zero]

/-- The value a visit method returns. -/
def retList (v : V α) : Except PyErr (List α) :=
  match asList v with
  | some l => .ok l
  | none => .error .type

omit [Val α] in
@[simp] theorem retList_lv (acc : List α) : retList (lv acc) = .ok acc := by simp [retList]
omit [Val α] in
@[simp] theorem retList_list (acc : List α) : retList (.list acc) = .ok acc := rfl

def ivStore : Option (Nat × Nat) → Store α
  | some (a, b) => [("begin", .int a), ("end", .int b)]
  | none => []

theorem callOn_eq (m : OffMethod) (kids : List (List α)) (iv : Option (Nat × Nat)) (extra : Store α) (e : E)
    (hret : m.ret = some e) (hk : kids.length = m.kids.length) (hiv : m.interval = iv.isSome) :
    callOn m kids iv extra =
      (exec m.body { self := [], loc := m.kids.zip (kids.map V.list) ++ ivStore iv ++ extra } >>= fun env =>
        evalE env e >>= retList) := by
  have h1 : (kids.take m.kids.length) = kids := by rw [← hk]; simp
  have h2 : (if m.interval then iv else none) = iv := by
    cases iv <;> simp_all
  unfold callOn callOff
  rw [h1, h2]
  simp only [hk, hiv, ne_eq, not_true_eq_false, if_false, hret]
  cases iv with
  | none => rfl
  | some p => obtain ⟨a, b⟩ := p; rfl

attribute [sem_step] exec_appendLoc exec_reverseLoc exec_insertLoc exec_ite_true exec_ite_false exec_raise
  evalE_loc evalE_pinf evalE_ninf evalE_int evalE_cmpc evalE_emptyList evalE_noneLit evalE_un evalE_bin
  evalE_idx evalE_len lenV_list lenV_deque evalE_slice sliceV_list_int sliceV_list_none evalE_rep repV_num_int
  evalE_agg aggV_true aggV_false evalE_reversed reversedV_list evalE_newDeque newDequeV_nat newDequeV_succ
  evalBin_add_num evalBin_sub_num evalBin_mul_num evalBin_div_num evalBin_pow_num evalBin_log_num evalBin_le_int
  evalBin_eq_cmp evalBin_or_bool evalBin_add_list evalUn_neg_num evalUn_neg_int evalUn_abs_num evalUn_sqrt_num
  evalUn_exp_num evalUn_ln_num evalUn_truthy_none evalIdx_list

/-- Evaluation of straight-line code of the offline visitor: the set `sem_step` and the given facts. -/
macro "off_step" "[" ls:Lean.Parser.Tactic.simpLemma,* "]" : tactic =>
  `(tactic| simp [sem_step, pure, Except.pure, Except.map, ivStore, $ls,*])

/-- A loop `p = init; for x in l: append (out p x); p = nxt p x`. -/
def scanG {π β : Type} (out : π → β → α) (nxt : π → β → π) : π → List β → List α
  | _, [] => []
  | p, x :: xs => out p x :: scanG out nxt (nxt p x) xs

omit [Val α] in
theorem foldlM_scanG {π β ρ : Type} (out : π → β → α) (nxt : π → β → π) (k : List α → Except PyErr ρ)
    (l : List β) (acc : List α) (p : π) :
    (l.foldlM (fun (t : List α × π) x => (Except.ok (t.1 ++ [out t.2 x], nxt t.2 x) : Except PyErr _)) (acc, p)
      >>= fun t => k t.1) = k (acc ++ scanG out nxt p l) := by
  induction l generalizing acc p with
  | nil => simp [scanG, pure, Except.pure, ok_bind]
  | cons x xs ih => simp [List.foldlM_cons, ok_bind, ih, scanG]

omit [Val α] in
theorem scanG_map {β : Type} (f : β → α) (l : List β) (p : Unit) :
    scanG (fun _ x => f x) (fun _ _ => ()) p l = l.map f := by
  induction l with
  | nil => rfl
  | cons x xs ih => simp [scanG, ih]

omit [Val α] in
theorem scanG_scanFwd (f : α → α → α) (init : α) (l : List α) :
    scanG (fun p x => f x p) (fun p x => f x p) init l = scanFwd f init l := by
  induction l generalizing init with
  | nil => rfl
  | cons x xs ih => simp [scanG, scanFwd, ih]

omit [Val α] in
theorem scanG_shiftFwd (init : α) (l : List α) :
    scanG (fun p _ => p) (fun _ x => x) init l = shiftFwd init l := by
  induction l generalizing init with
  | nil => rfl
  | cons x xs ih => simp [scanG, shiftFwd, ih]

theorem scanG_scan2 (init : α) (l : List (α × α)) :
    scanG (fun p x => sinceStep p x) (fun p x => sinceStep p x) init l = scan2 init l := by
  induction l generalizing init with
  | nil => rfl
  | cons x xs ih => simp [scanG, scan2, ih]

omit [Val α] in
theorem idx_cons_succ (x : α) (xs : List α) (k : Nat) : idx (x :: xs) (k + 1) = idx xs k := by
  simp [idx]

omit [Val α] in
/-- `for i in range(len(l)): .. l[i] .. r[i] ..`: a fold over `zip(l, r)`, then `IndexError` if `r` is shorter. -/
theorem foldlM_idx2 {τ : Type} (h : τ → α → α → Except PyErr τ) (l r : List α) (t0 : τ) :
    (List.range' 0 l.length).foldlM (fun t k => idx l k >>= fun a => idx r k >>= fun b => h t a b) t0
      = ((l.zip r).foldlM (fun t p => h t p.1 p.2) t0 >>= fun t =>
          if l.length ≤ r.length then .ok t else .error .index) := by
  induction l generalizing r t0 with
  | nil => simp [pure, Except.pure, ok_bind]
  | cons x xs ih =>
    have hshift : List.range' 1 xs.length = (List.range' 0 xs.length).map (· + 1) := by
      simp [List.range'_eq_map_range, Nat.add_comm]
    cases r with
    | nil => simp [List.range'_succ, List.foldlM_cons, idx, ok_bind, error_bind, pure, Except.pure]
    | cons y ys =>
      simp only [List.length_cons, List.range'_succ, List.foldlM_cons, List.zip_cons_cons]
      have h0 : idx (x :: xs) 0 = .ok x := rfl
      have h0' : idx (y :: ys) 0 = .ok y := rfl
      rw [h0, h0']
      simp only [ok_bind]
      cases h t0 x y with
      | error e => simp [error_bind]
      | ok t1 =>
        simp only [ok_bind, Nat.zero_add]
        rw [hshift, List.foldlM_map]
        simp only [idx_cons_succ]
        rw [ih]
        simp

omit [Val α] in
theorem idx_ge (l : List α) (k : Nat) (h : l.length ≤ k) : idx l k = .error .index := by
  simp [idx, List.getElem?_eq_none h]

omit [Val α] in
theorem foldlM_idx2_rev_take {τ : Type} (h : τ → α → α → Except PyErr τ) (l r : List α) :
    ∀ n, n ≤ l.length → n ≤ r.length → ∀ t0,
    (List.range n).reverse.foldlM (fun t k => idx l k >>= fun a => idx r k >>= fun b => h t a b) t0
      = ((l.zip r).take n).reverse.foldlM (fun t p => h t p.1 p.2) t0 := by
  intro n
  induction n with
  | zero => intro _ _ t0; simp
  | succ n ih =>
    intro hl hr t0
    have hz : n < (l.zip r).length := by simp; omega
    rw [List.range_succ, List.reverse_append, List.take_succ_eq_append_getElem hz, List.reverse_append]
    simp only [List.reverse_cons, List.reverse_nil, List.nil_append, List.singleton_append, List.foldlM_cons]
    have h1 : idx l n = .ok l[n] := idx_lt l n (by omega)
    have h2 : idx r n = .ok r[n] := idx_lt r n (by omega)
    rw [h1, h2]
    simp only [ok_bind, List.getElem_zip]
    cases h t0 l[n] r[n] with
    | error e => rfl
    | ok t1 => simp only [ok_bind]; exact ih (by omega) (by omega) t1

omit [Val α] in
/-- `for i in range(len(l) - 1, -1, -1): .. l[i] .. r[i] ..` -/
theorem foldlM_idx2_rev {τ : Type} (h : τ → α → α → Except PyErr τ) (l r : List α) (t0 : τ) :
    (List.range l.length).reverse.foldlM (fun t k => idx l k >>= fun a => idx r k >>= fun b => h t a b) t0
      = if l.length ≤ r.length then (l.zip r).reverse.foldlM (fun t p => h t p.1 p.2) t0
        else .error .index := by
  split
  · rename_i hle
    rw [foldlM_idx2_rev_take h l r l.length (Nat.le_refl _) hle t0]
    have : (l.zip r).take l.length = l.zip r := by
      apply List.take_of_length_le; simp; omega
    rw [this]
  · rename_i hgt
    cases hn : l.length with
    | zero => omega
    | succ n =>
      rw [List.range_succ, List.reverse_append]
      simp only [List.reverse_cons, List.reverse_nil, List.nil_append, List.singleton_append, List.foldlM_cons]
      have h1 : idx l n = .ok l[n] := idx_lt l n (by omega)
      have h2 : idx r n = .error .index := idx_ge r n (by omega)
      rw [h1, h2]; rfl

omit [Val α] in
theorem pySlice_dropLast (l : List α) : pySlice l 0 (some (-1)) = l.dropLast := by
  simp only [pySlice, sliceIdx]
  have h1 : ((l.length : Int) + -1).toNat = l.length - 1 := by omega
  simp [h1, List.dropLast_eq_take]

omit [Val α] in
theorem pySlice_tail (l : List α) : pySlice l 1 none = l.drop 1 := by
  simp only [pySlice, sliceIdx]
  cases l with
  | nil => simp
  | cons x xs => simp

omit [Val α] in
theorem pySlice_take (l : List α) (n : Nat) : pySlice l 0 (some (n : Int)) = l.take n := by
  simp only [pySlice, sliceIdx]
  simp [natCast_lt_zero, List.take_eq_take_iff]

omit [Val α] in
/-- Python's clamping of slice bounds does not change `l[i:j]` for non-negative bounds. -/
theorem pySlice_nat (l : List α) (i j : Int) (hi : 0 ≤ i) (hj : 0 ≤ j) :
    pySlice l i (some j) = slice l i.toNat j.toNat := by
  have h1 : ¬ i < 0 := by omega
  have h2 : ¬ j < 0 := by omega
  simp only [pySlice, sliceIdx, slice, h1, h2, if_false]
  generalize i.toNat = a
  generalize j.toNat = b
  rcases Nat.lt_or_ge a l.length with ha | ha
  · rw [Nat.min_eq_left (Nat.le_of_lt ha)]
    rcases Nat.lt_or_ge b l.length with hb | hb
    · rw [Nat.min_eq_left (Nat.le_of_lt hb)]
    · rw [Nat.min_eq_right hb, List.take_of_length_le (by simp), List.take_of_length_le (by simp; omega)]
  · rw [Nat.min_eq_right ha, List.drop_eq_nil_of_le (Nat.le_refl _), List.drop_eq_nil_of_le ha]
    simp

end Rtamt.Py
