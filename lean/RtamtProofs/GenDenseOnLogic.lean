/-
  The logic of the translated dense-time online classes, between `exec` / `callAt` and the theorems about one class.
  * The judgment is `Exc.Sim`: the run of translated code raises what a computation of the mirror raises, or returns a
    related result.  It is carried along `exec`: through `a; b` (`exec.seq_sim`, `exec.seq_sim_right`, `exec.seq_sim_pure`),
    a `for` loop over a list (`forLoop_sim`; `exec.forEnum_inv` for `for i, x in enumerate(…)` that always runs through,
    with an invariant over the index and the items still to come), a method call statement (`exec_mcall_sim`, `exec_update_sim`), the call of a
    method of the table on an object (`method_sim`; `method_none` for `__init__`), the runner's `updateObj`
    (`updateObj_sim_out`) and `construct` (`construct_of_init`), and the call of `intersection` (`InterOnSpec.sim`).
  * The frame rule `exec_frame_of`: a statement changes its locals only by assigning to the names `mods`.  It is read in
    two ways: what a local or an attribute holds after a block is what it held before, unless the block names it on the
    left of an assignment (`exec_frame`, with `Frame`; a judgment about a statement may use it, `exec.sim_frame`); and a
    method that assigns no attribute returns the object as it is (`exec_keeps_attrs`, `method_sim_same`).
  * No theorem about a class compares strings.  The table of functions has no name twice, so the function
    that stands at position `i` is the one a lookup by name finds (`fns_at`).  The keys of the table of the construction
    visitor are the `visitX` of a list of node classes, so it is searched by class (`ctorOf_eq`, `ctorOf_class`).
  * `LibFree`: no local shadows a function of the library; it holds when a method starts and every assignment to another
    name keeps it.
-/
import RtamtProofs.GenDenseOnBase
import RtamtProofs.Lemmas.Exc
import RtamtProofs.Lemmas.Loop
import RtamtProofs.Lemmas.Sim
import RtamtProofs.Lemmas.VisitName

namespace Rtamt.Py.DnOn
open Rtamt Val Rtamt.Dense Rtamt.Dense.Alg
open Rtamt.Exc (Sim)

variable {α : Type}

theorem fns_nodup : (Gen.DenseOn.fns.map Prod.fst).Nodup := by decide +kernel

theorem fns_at (i : Nat) {name : String} {fn : Fn} (h : Gen.DenseOn.fns[i]? = some (name, fn)) :
    Gen.DenseOn.fns.lookup name = some fn := Assoc.lookup_of_getElem? fns_nodup h

theorem fns_at_append (i : Nat) {cls meth name : String} {fn : Fn} (h : Gen.DenseOn.fns[i]? = some (name, fn))
    (hn : cls ++ meth = name) : Gen.DenseOn.fns.lookup (cls ++ meth) = some fn :=
  hn ▸ fns_at i h

/-- The node classes in the order of the `visitX` methods of the construction visitor. -/
def order : List Kind :=
  [.Variable, .Predicate, .Abs, .Sqrt, .Exp, .Pow, .Addition, .Subtraction, .Negate, .Multiplication, .Division, .Log, .Ln, .Neg,
   .Conjunction, .Disjunction, .Implies, .Iff, .Xor, .Eventually, .Always, .Until, .Once, .Historically, .Since, .Rise, .Fall,
   .Previous, .Next, .StrongPrevious, .StrongNext, .TimedPrecedes, .TimedOnce, .TimedHistorically, .TimedSince, .TimedAlways,
   .TimedEventually, .TimedUntil]

/-- `ctorOf` searches the table of the construction visitor by node class: its keys are the `visitX` of `order` -/
theorem ctorOf_eq (k : Kind) : ctorOf k = (order.zip (Gen.DenseOn.table.map Prod.snd)).lookup k :=
  lookup_of_keys (ks := order) rfl k

theorem ctorOf_class {k : Kind} {a : CtorAction} (h : (order.zip (Gen.DenseOn.table.map Prod.snd)).lookup k = some a) :
    ctorOf k = some a :=
  (ctorOf_eq k).trans h

/-- what a class theorem needs of a method `name` of the generated table: found, a method, with parameters `self, ps` -/
structure IsMethod (name : String) (fn : Fn) (ps : List String) : Prop where
  look : Gen.DenseOn.fns.lookup name = some fn
  meth : fn.isMethod = true
  params : fn.params = "self" :: ps
  nonself : ∀ p ∈ ps, isSelfKey p = false

/-- the names a statement assigns to -/
def mods : S → List String
  | .skip | .ret _ | .brk | .raise _ | .unsupported _ => []
  | .seq a b => mods a ++ mods b
  | .setLoc x _ | .appendLoc x _ | .insert0 x _ | .delIdx x _ => [x]
  | .unpack xs _ => xs
  | .ite _ t e => mods t ++ mods e
  | .while_ _ b => mods b
  | .forIn x _ b => x :: mods b
  | .forEnum i x _ _ b => i :: x :: mods b
  | .mcall t o _ _ => o :: t.toList
  | .new t _ _ => [t]

def Frame (xs : List String) (env env' : Env α) : Prop := ∀ k, k ∉ xs → env'.lookup k = env.lookup k

theorem Frame.refl (xs : List String) (env : Env α) : Frame xs env env := fun _ _ => rfl

theorem Frame.trans {xs : List String} {a b c : Env α} (h1 : Frame xs a b) (h2 : Frame xs b c) : Frame xs a c :=
  fun k hk => (h2 k hk).trans (h1 k hk)

theorem Frame.mono {xs ys : List String} {a b : Env α} (h : Frame xs a b) (hs : ∀ x ∈ xs, x ∈ ys) : Frame ys a b :=
  fun k hk => h k (fun hm => hk (hs k hm))

theorem Frame.append {xs ys : List String} {a b c : Env α} (h1 : Frame xs a b) (h2 : Frame ys b c) : Frame (xs ++ ys) a c :=
  (h1.mono fun _ => List.mem_append_left _).trans (h2.mono fun _ => List.mem_append_right _)

theorem Frame.set {xs : List String} {a b : Env α} (h : Frame xs a b) {x : String} (hx : x ∈ xs) (v : DV α) :
    Frame xs a (setLoc x v b) :=
  fun k hk => (lookup_setLoc_ne k x v b (fun e => hk (e ▸ hx))).trans (h k hk)

theorem frame_setLoc (x : String) (v : DV α) (env : Env α) : Frame [x] env (setLoc x v env) :=
  (Frame.refl _ env).set (List.mem_singleton_self x) v

theorem frame_setLoc2 (a b : String) (v w : DV α) (env : Env α) : Frame [a, b] env (setLoc a v (setLoc b w env)) :=
  ((Frame.refl _ env).set (List.mem_cons_of_mem _ (List.mem_singleton_self b)) w).set List.mem_cons_self v

theorem Frame.getLoc {xs : List String} {a b : Env α} (h : Frame xs a b) {k : String} (hk : k ∉ xs) :
    getLoc k b = getLoc k a := by
  unfold DnOn.getLoc; rw [h k hk]

/-- the predicate `runFn` filters the final locals of a method with: the attributes stay, the other locals go -/
abbrev selfP : String × DV α → Bool := fun p => isSelfKey p.1

theorem filter_setLoc_nonself (k : String) (v : DV α) (env : Env α) (hk : isSelfKey k = false) :
    (setLoc k v env).filter selfP = env.filter selfP := by
  induction env with
  | nil => simp [setLoc, List.filter, selfP, hk]
  | cons p env ih =>
      obtain ⟨k', v'⟩ := p
      unfold setLoc
      cases h : (k' == k) with
      | true =>
          have e : k' = k := by simpa using h
          subst e
          simp [selfP, hk]
      | false =>
          simp only [Bool.false_eq_true, if_false, List.filter_cons, ih]

theorem Frame.getSelf {xs : List String} {a b : Env α} (h : Frame xs a b) (hxs : ∀ x ∈ xs, isSelfKey x = false) {k : String}
    (hk : isSelfKey k = true) : DnOn.getLoc k b = DnOn.getLoc k a :=
  h.getLoc fun hm => by rw [hxs k hm] at hk; cases hk

variable [Val α]

section frame
variable {Rl : Env α → Env α → Prop} (hr : ∀ e, Rl e e) (ht : ∀ a b c, Rl a b → Rl b c → Rl a c)
include hr ht

theorem whileLoop_frame (cond : Env α → Except PyErr Bool) (body : Env α → Except PyErr (Res α))
    (hb : ∀ e e' c, body e = .ok (e', c) → Rl e e') :
    ∀ (n : Nat) (env env' : Env α) (c : Ctl α), whileLoop cond body n env = .ok (env', c) → Rl env env' := by
  intro n
  induction n with
  | zero => intro env env' c h; cases h
  | succ n ih =>
      intro env env' c h
      rw [whileLoop_succ] at h
      obtain ⟨b, -, h⟩ := Exc.bind_ok h
      cases b with
      | false => cases h; exact hr _
      | true =>
          rw [if_pos rfl] at h
          obtain ⟨⟨e1, r⟩, hbd, h⟩ := Exc.bind_ok h
          have h1 := hb _ _ _ hbd
          cases r with
          | ret v => cases h; exact h1
          | brk => cases h; exact h1
          | none => exact ht _ _ _ h1 (ih _ _ _ h)

theorem forLoop_frame (bind : DV α × Nat → Env α → Env α) (body : Env α → Except PyErr (Res α))
    (hb : ∀ it e e' c, body (bind it e) = .ok (e', c) → Rl e e') :
    ∀ (its : List (DV α × Nat)) (env env' : Env α) (c : Ctl α), forLoop bind body its env = .ok (env', c) →
      Rl env env' := by
  intro its
  induction its with
  | nil => intro env env' c h; cases h; exact hr _
  | cons it rest ih =>
      intro env env' c h
      rw [forLoop_cons] at h
      obtain ⟨⟨e1, r⟩, hbd, h⟩ := Exc.bind_ok h
      have h1 := hb _ _ _ _ hbd
      cases r with
      | ret v => cases h; exact h1
      | brk => cases h; exact h1
      | none => exact ht _ _ _ h1 (ih _ _ _ h)

/-- **The frame rule**: a statement changes its locals only by assigning to the names `mods`.  So a reflexive transitive
    relation `Rl` on environments that every assignment to a name with `P` respects holds between the locals before and
    after a statement all of whose assigned names have `P`.  Each case reads the successful steps of the statement off
    its `do` block (`Exc.bind_ok`); what is left is a `setLoc` on a name of `mods`, or the induction hypothesis. -/
theorem exec_frame_of {P : String → Prop} (hs : ∀ x v e, P x → Rl e (setLoc x v e)) (call : Call α) (fuel : Nat) :
    ∀ (s : S) (env env' : Env α) (c : Ctl α), (∀ x ∈ mods s, P x) → exec call fuel s env = .ok (env', c) →
      Rl env env' := by
  intro s
  induction s with
  | skip => intro env env' c _ h; rw [exec] at h; cases h; exact hr _
  | brk => intro env env' c _ h; rw [exec] at h; cases h; exact hr _
  | raise k => intro env env' c _ h; rw [exec] at h; cases h
  | unsupported w => intro env env' c _ h; rw [exec] at h; cases h
  | ret e =>
      intro env env' c _ h
      rw [exec] at h
      obtain ⟨v, -, h⟩ := Exc.bind_ok h
      cases h; exact hr _
  | seq a b iha ihb =>
      intro env env' c hm h
      rw [exec] at h
      obtain ⟨⟨e1, r⟩, ha, h⟩ := Exc.bind_ok h
      have h1 := iha _ _ _ (fun x hx => hm x (List.mem_append_left _ hx)) ha
      cases r with
      | none => exact ht _ _ _ h1 (ihb _ _ _ (fun x hx => hm x (List.mem_append_right _ hx)) h)
      | ret v => cases h; exact h1
      | brk => cases h; exact h1
  | setLoc x e =>
      intro env env' c hm h
      rw [exec] at h
      obtain ⟨v, -, h⟩ := Exc.bind_ok h
      cases h; exact hs x v env (hm x (List.mem_singleton_self x))
  | unpack xs e =>
      intro env env' c hm h
      rw [exec] at h
      obtain ⟨v, -, h⟩ := Exc.bind_ok h
      cases v <;> first | (cases h; done) | skip
      rename_i l
      dsimp only at h
      split at h
      · cases h
      · cases h
        have : ∀ (ps : List (String × DV α)) (e0 : Env α), (∀ p ∈ ps, p.1 ∈ xs) →
            Rl e0 (ps.foldl (fun env p => setLoc p.1 p.2 env) e0) := by
          intro ps
          induction ps with
          | nil => intro e0 _; exact hr _
          | cons p ps ih =>
              intro e0 hp
              exact ht _ _ _ (hs p.1 p.2 e0 (hm _ (hp p List.mem_cons_self)))
                (ih _ (fun q hq => hp q (List.mem_cons_of_mem _ hq)))
        exact this _ _ (fun p hp => (List.of_mem_zip hp).1)
  | appendLoc x e =>
      intro env env' c hm h
      rw [exec] at h
      obtain ⟨v, -, h⟩ := Exc.bind_ok h
      obtain ⟨w, -, h⟩ := Exc.bind_ok h
      cases w <;> first | (cases h; done) | skip
      cases h; exact hs x _ env (hm x (List.mem_singleton_self x))
  | insert0 x e =>
      intro env env' c hm h
      rw [exec] at h
      obtain ⟨v, -, h⟩ := Exc.bind_ok h
      obtain ⟨w, -, h⟩ := Exc.bind_ok h
      cases w <;> first | (cases h; done) | skip
      cases h; exact hs x _ env (hm x (List.mem_singleton_self x))
  | delIdx x i =>
      intro env env' c hm h
      rw [exec] at h
      obtain ⟨w, -, h⟩ := Exc.bind_ok h
      obtain ⟨iv, -, h⟩ := Exc.bind_ok h
      cases w <;> cases iv <;> first | (cases h; done) | skip
      obtain ⟨l', -, h⟩ := Exc.bind_ok h
      cases h; exact hs x _ env (hm x (List.mem_singleton_self x))
  | ite cnd t e iht ihe =>
      intro env env' c hm h
      rw [exec] at h
      obtain ⟨v, -, h⟩ := Exc.bind_ok h
      obtain ⟨b, -, h⟩ := Exc.bind_ok h
      cases b with
      | true => exact iht _ _ _ (fun x hx => hm x (List.mem_append_left _ hx)) h
      | false => exact ihe _ _ _ (fun x hx => hm x (List.mem_append_right _ hx)) h
  | while_ cnd b ih =>
      intro env env' c hm h
      rw [exec] at h
      exact whileLoop_frame hr ht _ _ (fun e e' c => ih e e' c hm) fuel env env' c h
  | forIn x it b ih =>
      intro env env' c hm h
      rw [exec] at h
      obtain ⟨v, -, h⟩ := Exc.bind_ok h
      cases v <;> first | (cases h; done) | skip
      refine forLoop_frame hr ht _ _ ?_ _ env env' c h
      intro p e e' c hb
      exact ht _ _ _ (hs x p.1 e (hm x List.mem_cons_self))
        (ih _ _ _ (fun y hy => hm y (List.mem_cons_of_mem _ hy)) hb)
  | forEnum i x it rev b ih =>
      intro env env' c hm h
      rw [exec] at h
      obtain ⟨v, -, h⟩ := Exc.bind_ok h
      cases v <;> first | (cases h; done) | skip
      refine forLoop_frame hr ht _ _ ?_ _ env env' c h
      intro p e e' c hb
      exact ht _ _ _ (ht _ _ _ (hs i (.int p.2) e (hm i List.mem_cons_self))
          (hs x p.1 _ (hm x (List.mem_cons_of_mem _ List.mem_cons_self))))
        (ih _ _ _ (fun y hy => hm y (List.mem_cons_of_mem _ (List.mem_cons_of_mem _ hy))) hb)
  | mcall t o m args =>
      intro env env' c hm h
      rw [exec] at h
      obtain ⟨vs, -, h⟩ := Exc.bind_ok h
      obtain ⟨w, -, h⟩ := Exc.bind_ok h
      cases w <;> first | (cases h; done) | skip
      obtain ⟨r, -, h⟩ := Exc.bind_ok h
      cases r <;> first | (cases h; done) | skip
      rename_i l
      rcases l with _ | ⟨o', _ | ⟨r, _ | _⟩⟩ <;> first | (cases h; done) | skip
      cases h
      have ho := hs o o' env (hm o List.mem_cons_self)
      cases t with
      | none => exact ho
      | some t => exact ht _ _ _ ho (hs t r _ (hm t (List.mem_cons_of_mem _ List.mem_cons_self)))
  | new t cls args =>
      intro env env' c hm h
      rw [exec] at h
      obtain ⟨vs, -, h⟩ := Exc.bind_ok h
      obtain ⟨r, -, h⟩ := Exc.bind_ok h
      cases r <;> first | (cases h; done) | skip
      rename_i l
      rcases l with _ | ⟨o', _ | ⟨r, _ | _⟩⟩ <;> first | (cases h; done) | skip
      cases h
      exact hs t _ env (hm t (List.mem_singleton_self t))

end frame

/-- the first reading: what a local or an attribute the statement does not assign holds stays what it was -/
theorem exec_frame (call : Call α) (fuel : Nat) (s : S) (env env' : Env α) (c : Ctl α)
    (h : exec call fuel s env = .ok (env', c)) : Frame (mods s) env env' :=
  exec_frame_of (Frame.refl _) (fun _ _ _ => Frame.trans) (fun _ v e hx => (Frame.refl _ e).set hx v) call fuel s env env' c
    (fun _ hx => hx) h

/-- the second reading: a statement that assigns no attribute leaves the list of attributes as it is -/
theorem exec_keeps_attrs {call : Call α} {fuel : Nat} {s : S} {env env' : Env α} {c : Ctl α}
    (hm : ∀ x ∈ mods s, isSelfKey x = false) (h : exec call fuel s env = .ok (env', c)) :
    env'.filter selfP = env.filter selfP :=
  exec_frame_of (Rl := fun a b => b.filter selfP = a.filter selfP) (fun _ => rfl) (fun _ _ _ h1 h2 => h2.trans h1)
    (fun x v e hx => filter_setLoc_nonself x v e hx) call fuel s env env' c hm h

section stmts
variable {σ σ' : Type} {call : Call α} {fuel : Nat} {env : Env α}

theorem exec.seq_sim {a b : S} {m : Except PyErr σ} {k : σ → Except PyErr σ'} {Q1 : σ → Res α → Prop}
    {Q : σ' → Res α → Prop} (h1 : Sim (exec call fuel a env) m Q1)
    (h2 : ∀ x r, m = .ok x → Q1 x r → r.2 = .none ∧ Sim (exec call fuel b r.1) (k x) Q) :
    Sim (exec call fuel (.seq a b) env) (m >>= k) Q := by
  rw [exec]
  refine h1.bind ?_
  rintro x ⟨env', r⟩ hm hq
  obtain ⟨hr, h⟩ := h2 x _ hm hq
  cases hr
  exact h

theorem exec.seq_sim_right {a b : S} {m : Except PyErr σ} {Q1 : σ → Res α → Prop} {Q : σ → Res α → Prop}
    (h1 : Sim (exec call fuel a env) m Q1)
    (h2 : ∀ x r, Q1 x r → r.2 = .none ∧ ∃ r', exec call fuel b r.1 = .ok r' ∧ Q x r') :
    Sim (exec call fuel (.seq a b) env) m Q := by
  rw [exec]
  refine h1.bind_right ?_
  rintro x ⟨env', r⟩ hq
  obtain ⟨hr, h⟩ := h2 x _ hq
  cases hr
  exact h

/-- `a; b` where `a` does a step of the mirror that cannot raise (a `let x := …` of its `do` block) -/
theorem exec.seq_sim_pure {τ : Type} {a b : S} {x : τ} {m : Except PyErr σ} {Q1 : τ → Res α → Prop}
    {Q : σ → Res α → Prop} (h1 : Sim (exec call fuel a env) (.ok x) Q1)
    (h2 : ∀ r, Q1 x r → r.2 = .none ∧ Sim (exec call fuel b r.1) m Q) : Sim (exec call fuel (.seq a b) env) m Q :=
  exec.seq_sim (k := fun _ => m) h1 fun _ r hx hq => by cases hx; exact h2 r hq

theorem exec.sim_frame {s : S} {m : Except PyErr σ} {Q : σ → Res α → Prop} (h : Sim (exec call fuel s env) m Q) :
    Sim (exec call fuel s env) m fun x r => Q x r ∧ Frame (mods s) env r.1 := by
  cases m with
  | error e => exact h
  | ok x => obtain ⟨r, hr, hq⟩ := h; exact ⟨r, hr, hq, exec_frame _ _ _ _ _ _ hr⟩

theorem forLoop_sim {τ ι : Type} (step : τ → ι → Except PyErr τ) (enc : ι → DV α × Nat)
    (bind : DV α × Nat → Env α → Env α) (body : Env α → Except PyErr (Res α)) (I : τ → Env α → Prop)
    (hbody : ∀ t x env, I t env →
      Sim (body (bind (enc x) env)) (step t x) fun t' (r : Res α) => r.2 = .none ∧ I t' r.1) :
    ∀ (l : List ι) (t : τ) (env : Env α), I t env →
      Sim (forLoop bind body (l.map enc) env) (l.foldlM step t) fun t' (r : Res α) => r.2 = .none ∧ I t' r.1 := by
  intro l
  induction l with
  | nil => intro t env h; exact Sim.ok (r := (env, .none)) rfl ⟨rfl, h⟩
  | cons x l ih =>
      intro t env h
      rw [List.foldlM_cons, List.map_cons, forLoop_cons]
      refine (hbody t x env h).bind ?_
      rintro t' ⟨env', c⟩ - ⟨hc, hi⟩
      cases hc
      exact ih t' env' hi

theorem exec.forEnum_inv {ι : Type} (call : Call α) (fuel : Nat) (enc : ι → DV α) (x i : String) (it : E) (body : S)
    (l : List ι) (env : Env α) (hit : evalE call env it = .ok (.list (l.map enc))) (I : Nat → List ι → Env α → Prop)
    (hstep : ∀ k p rest env, I k (p :: rest) env →
      ∃ env', exec call fuel body (DnOn.setLoc x (enc p) (DnOn.setLoc i (.int k) env)) = .ok (env', .none) ∧
        I (k + 1) rest env')
    (h0 : I 0 l env) :
    ∃ env' k', exec call fuel (.forEnum i x it false body) env = .ok (env', .none) ∧ I k' [] env' := by
  have key : ∀ (l : List ι) (k : Nat) (env : Env α), I k l env →
      ∃ env' k', forLoop (fun p env => DnOn.setLoc x p.1 (DnOn.setLoc i (.int p.2) env)) (exec call fuel body)
        ((l.map enc).zipIdx k) env = .ok (env', .none) ∧ I k' [] env' := by
    intro l
    induction l with
    | nil => intro k env h; exact ⟨env, k, rfl, h⟩
    | cons p rest ih =>
        intro k env h
        obtain ⟨env1, h1, hI⟩ := hstep k p rest env h
        obtain ⟨env2, k', h2, hI2⟩ := ih (k + 1) env1 hI
        exact ⟨env2, k', by rw [List.map_cons, List.zipIdx_cons, forLoop_cons, h1]; exact h2, hI2⟩
  obtain ⟨env', k', h, hI⟩ := key l 0 env h0
  exact ⟨env', k', by simp only [exec, hit, ok_bind]; exact h, hI⟩

/-- `[t =] o.meth(args)`; the call returns a pair `[object, result]` -/
theorem exec_mcall_sim {t : Option String} {o meth name : String} {args : List E} {vs : List (DV α)} {cls : String}
    {store : Env α} {m : Except PyErr σ} {Qc : σ → DV α → Prop}
    (ha : args.mapM (evalE call env) = .ok vs) (ho : getLoc o env = .ok (.obj cls store))
    (hn : cls ++ "." ++ meth = name) (hc : Sim (call name (.obj cls store :: vs)) m Qc)
    (hs : ∀ x r, Qc x r → ∃ o' v, r = .list [o', v]) :
    Sim (exec call fuel (.mcall t o meth args) env) m fun x (r : Res α) => r.2 = .none ∧ ∃ o' v,
      Qc x (.list [o', v]) ∧
        r.1 = (match t with | some t => setLoc t v (setLoc o o' env) | none => setLoc o o' env) := by
  subst hn
  rw [exec, ha, ho]
  simp only [ok_bind]
  refine hc.bind_right ?_
  intro x r hq
  obtain ⟨o', v, rfl⟩ := hs x r hq
  exact ⟨_, rfl, rfl, o', v, hq, rfl⟩

/-- `t = o.update(args)` on a nested operation object `o`.  `exec` looks the method up under `cls ++ "." ++ "update"`, the
    runner's `updateObj` under `cls ++ ".update"`: the same name. -/
theorem exec_update_sim {t o name : String} {args : List E} {vs : List (DV α)} {cls : String} {store : Env α}
    {m : Except PyErr (σ × ASig α)} {R : σ → DV α → Prop}
    (ha : args.mapM (evalE call env) = .ok vs) (ho : getLoc o env = .ok (.obj cls store))
    (hn : cls ++ ".update" = name)
    (hc : Sim (call name (.obj cls store :: vs)) m fun p r => ∃ o', r = .list [o', encSig p.2] ∧ R p.1 o') :
    Sim (exec call fuel (.mcall (some t) o "update" args) env) m fun p r =>
      ∃ o', R p.1 o' ∧ r = (setLoc t (encSig p.2) (setLoc o o' env), .none) := by
  have hn' : cls ++ "." ++ "update" = name := by rw [String.append_assoc]; exact hn
  refine (exec_mcall_sim ha ho hn' hc fun _ _ ⟨o', h, _⟩ => ⟨o', _, h⟩).mono ?_
  rintro p ⟨_, _⟩ ⟨⟨⟩, o', _, ⟨_, ⟨⟩, hR⟩, ⟨⟩⟩
  exact ⟨o', hR, rfl⟩

/-- `t = Cls(args)` -/
theorem exec_new_ok {t cls name : String} {args : List E} {vs : List (DV α)} {o' r : DV α}
    (ha : args.mapM (evalE call env) = .ok vs) (hn : cls ++ ".__init__" = name)
    (hc : call name (.obj cls [] :: vs) = .ok (.list [o', r])) :
    exec call fuel (.new t cls args) env = .ok (setLoc t o' env, .none) := by
  subst hn; simp only [exec, ha, hc, ok_bind, pure_eq_ok]

end stmts

section method
variable {σ : Type} {name cls : String} {fn : Fn} {ps : List String} {store : Env α} {args : List (DV α)} {fuel k : Nat}

theorem method_sim (hM : IsMethod name fn ps) (hlen : args.length = ps.length) {m : Except PyErr σ}
    {Q : σ → Env α → DV α → Prop}
    (hbody : Sim (exec (callAt Gen.DenseOn.fns fuel k) fuel fn.body (store ++ ps.zip args)) m
      fun x (r : Res α) => ∃ v, r.2 = .ret v ∧ Q x r.1 v) :
    Sim (callAt Gen.DenseOn.fns fuel (k + 1) name (.obj cls store :: args)) m
      fun x r => ∃ env' v, r = .list [.obj cls (env'.filter selfP), v] ∧ Q x env' v := by
  rw [callAt_fn _ _ _ _ fn _ hM.look, runFn_method _ fuel fn cls store args hM.meth (by rw [hM.params]; simp [hlen]),
    hM.params]
  refine hbody.bind_right ?_
  rintro x ⟨env', c⟩ ⟨v, hc, hq⟩
  cases hc
  exact ⟨_, rfl, env', v, rfl, hq⟩

theorem method_sim_same (hM : IsMethod name fn ps) (hlen : args.length = ps.length)
    (hs : ∀ p ∈ store, isSelfKey p.1 = true) (hm : ∀ x ∈ mods fn.body, isSelfKey x = false) {m : Except PyErr σ}
    {Q : σ → DV α → Prop}
    (hbody : Sim (exec (callAt Gen.DenseOn.fns fuel k) fuel fn.body (store ++ ps.zip args)) m
      fun x (r : Res α) => ∃ v, r.2 = .ret v ∧ Q x v) :
    Sim (callAt Gen.DenseOn.fns fuel (k + 1) name (.obj cls store :: args)) m
      fun x r => ∃ v, r = .list [.obj cls store, v] ∧ Q x v := by
  have h0 : (store ++ ps.zip args).filter selfP = store := by
    rw [List.filter_append, List.filter_eq_self.mpr hs, List.filter_eq_nil_iff.mpr, List.append_nil]
    intro p hp
    rw [show selfP p = false from hM.nonself p.1 (List.of_mem_zip hp).1]
    exact Bool.false_ne_true
  have hb : Sim (exec (callAt Gen.DenseOn.fns fuel k) fuel fn.body (store ++ ps.zip args)) m
      fun x (r : Res α) => ∃ v, r.2 = .ret v ∧ r.1.filter selfP = store ∧ Q x v := by
    cases m with
    | error e => exact hbody
    | ok x => obtain ⟨r, hr, v, hv, hq⟩ := hbody; exact ⟨r, hr, v, hv, (exec_keeps_attrs hm hr).trans h0, hq⟩
  refine (method_sim hM hlen (Q := fun x env' v => env'.filter selfP = store ∧ Q x v) hb).mono ?_
  rintro x r ⟨env', v, rfl, he, hq⟩
  exact ⟨v, by rw [he], hq⟩

/-- a method whose body runs to its end without `return` (`__init__`): the call returns the object and `None` -/
theorem method_none {env' : Env α} (hM : IsMethod name fn ps) (hlen : args.length = ps.length)
    (h : exec (callAt Gen.DenseOn.fns fuel k) fuel fn.body (store ++ ps.zip args) = .ok (env', .none)) :
    callAt Gen.DenseOn.fns fuel (k + 1) name (.obj cls store :: args) =
      .ok (.list [.obj cls (env'.filter selfP), .none]) := by
  rw [callAt_fn _ _ _ _ fn _ hM.look, runFn_method _ fuel fn cls store args hM.meth (by rw [hM.params]; simp [hlen]),
    hM.params]
  exact Exc.bind_ok_eq h

theorem lookup_filter_get {env' : Env α} {x : String} {v : DV α} (hx : isSelfKey x = true) (h : getLoc x env' = .ok v) :
    (env'.filter selfP).lookup x = some v :=
  (lookup_filter_self env' x hx).trans (getLoc_ok_iff.mp h)

/-- `updateObj` of the runner: the method `cls.update` at call depth `depth`, the returned list decoded; `out x` is the
    output of the mirror's result `x` -/
theorem updateObj_sim_out {argsS : List (ASig α)} {m : Except PyErr σ} {out : σ → ASig α} {R : σ → DV α → Prop}
    (hn : cls ++ ".update" = name)
    (h : Sim (callAt Gen.DenseOn.fns fuel depth name (.obj cls store :: argsS.map encSig)) m
      fun x r => ∃ o', r = .list [o', encSig (out x)] ∧ R x o') :
    Sim (updateObj fuel (.obj cls store) argsS) m fun x r => r.2 = out x ∧ R x r.1 := by
  subst hn
  unfold updateObj
  refine h.bind_right ?_
  rintro x r ⟨o', rfl, hr⟩
  exact ⟨(o', out x), by simp, rfl, hr⟩

/-- … for a mirror that returns the new state and the output -/
theorem updateObj_sim {argsS : List (ASig α)} {m : Except PyErr (σ × ASig α)} {R : σ → DV α → Prop}
    (hn : cls ++ ".update" = name)
    (h : Sim (callAt Gen.DenseOn.fns fuel depth name (.obj cls store :: argsS.map encSig)) m
      fun x r => ∃ o', r = .list [o', encSig x.2] ∧ R x.1 o') :
    Sim (updateObj fuel (.obj cls store) argsS) m fun x r => r.2 = x.2 ∧ R x.1 r.1 :=
  updateObj_sim_out (out := Prod.snd) (R := fun x => R x.1) hn h

/-- … and for a class whose `update` cannot raise -/
theorem updateObj_of_update {args : List (ASig α)} {out : ASig α} {R : DV α → Prop} (hn : cls ++ ".update" = name)
    (h : ∃ o', callAt Gen.DenseOn.fns fuel depth name (.obj cls store :: args.map encSig) =
      .ok (.list [o', encSig out]) ∧ R o') :
    ∃ o', updateObj fuel (.obj cls store) args = .ok (o', out) ∧ R o' := by
  obtain ⟨o', h1, h2⟩ := h
  obtain ⟨r, hr, h3, h4⟩ := updateObj_sim_out (m := (.ok () : Except PyErr Unit)) (out := fun _ => out) (R := fun _ => R) hn
    (.ok h1 ⟨o', rfl, h2⟩)
  exact ⟨r.1, hr.trans (congrArg Except.ok (Prod.ext rfl h3)), h4⟩

/-- `construct` of the runner: `cls.__init__` at call depth `depth` -/
theorem construct_of_init {vs : List (DV α)} {R : DV α → Prop} (hn : cls ++ ".__init__" = name)
    (h : ∃ o, callAt Gen.DenseOn.fns fuel depth name (.obj cls [] :: vs) = .ok (.list [o, .none]) ∧ R o) :
    ∃ o, construct fuel cls vs = .ok o ∧ R o := by
  obtain ⟨o, h1, h2⟩ := h
  subst hn
  exact ⟨o, by simp only [construct, h1, ok_bind, pure_eq_ok], h2⟩

theorem build_nullary {k : Kind} {op : Option Cmp} {iv : Option (Rat × Rat)} (hc : ctorOf k = some (.builds cls [])) :
    build (α := α) fuel k op iv = construct fuel cls [] := by
  simp only [build, hc, List.mapM_nil, pure_eq_ok, ok_bind]

theorem build_operator {k : Kind} {c : Cmp} {iv : Option (Rat × Rat)} (hc : ctorOf k = some (.builds cls [.operator])) :
    build (α := α) fuel k (some c) iv = construct fuel cls [.cmp c] := by
  simp only [build, hc, List.mapM_cons, List.mapM_nil, pure_eq_ok, ok_bind]

theorem build_interval {k : Kind} {op : Option Cmp} {a b : Rat} (hc : ctorOf k = some (.builds cls [.begin_, .end_])) :
    build (α := α) fuel k op (some (a, b)) = construct fuel cls [.tm (.fin a), .tm (.fin b)] := by
  simp only [build, hc, List.mapM_cons, List.mapM_nil, pure_eq_ok, ok_bind]

end method

/-- the contract of the translated `intersection`, as a statement about what the call does -/
theorem InterOnSpec.sim {fuel k : Nat} (hI : InterOnSpec α fuel k) {β : Type} (encP : β → DV α)
    (f : α → α → β) (ne : β → β → Bool) (m : String)
    (hm : ∀ a b, callAt Gen.DenseOn.fns fuel (k + 1) m [.val a, .val b] = .ok (encP (f a b)))
    (hpay : ∀ x, toPayload (encP x) = .ok (encP x)) (hne : ∀ x y, cmpDV .ne (encP x) (encP y) = .ok (ne x y))
    (s1 s2 : ASig α) (hfuel : 2 * (s1.length + s2.length) + 4 ≤ fuel) :
    Sim (callAt Gen.DenseOn.fns fuel (k + 2) "intersection" [encSig s1, encSig s2, .fn m])
      (Rtamt.Dense.AlgOn.interOn f ne s1 s2)
      fun p r => r = .list [encSigP encP p.1, encLast encP p.2.1, encSig p.2.2.1, encSig p.2.2.2] := by
  have h := hI β encP f ne m hm hpay hne s1 s2 hfuel
  cases hio : Rtamt.Dense.AlgOn.interOn f ne s1 s2 with
  | error e => rw [hio] at h; exact h
  | ok p => rw [hio] at h; exact ⟨_, h, rfl⟩

def LibFree (env : Env α) : Prop := ∀ f ∈ libNames, resolve env f = f

theorem LibFree.set {env : Env α} (h : LibFree env) {k : String} (hk : k ∉ libNames) (v : DV α) :
    LibFree (setLoc k v env) :=
  fun f hf => (resolve_setLoc_ne f k v env (fun e => hk (e ▸ hf))).trans (h f hf)

/-- a method starts with its attributes and its parameters `ps` as locals: none of them is a name of the library -/
theorem libFree_start {store : Env α} (hs : ∀ p ∈ store, isSelfKey p.1 = true) {ps : List String}
    (hp : ∀ f ∈ libNames, f ∉ ps) (args : List (DV α)) : LibFree (store ++ ps.zip args) := by
  intro f hf
  have hself : isSelfKey f = false := (by decide +kernel : ∀ f ∈ libNames, isSelfKey f = false) f hf
  have hl : (ps.zip args).lookup f = none :=
    List.lookup_eq_none_iff.mpr fun p hm => bne_iff_ne.mpr fun e => hp f hf (e ▸ (List.of_mem_zip hm).1)
  unfold resolve
  rw [List.lookup_append, lookup_none_of_selfKeys store hs f hself, hl]
  rfl

end Rtamt.Py.DnOn
