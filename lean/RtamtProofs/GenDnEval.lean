/-
  The dense-time offline `evaluate(dataset)` as a whole method, as translated from the Python source
  (`Rtamt/Py/GeneratedDnEval.lean`, regenerated on every run by `harness/py2lean.py`: `evaluate` of
  `AbstractDenseTimeOfflineInterpreter` with `AbstractInterpreter.exist_ast` and
  `DenseTimeInterpreter.set_variable_to_ast_from_dataset` inlined, and `AbstractAstVisitor.visitAst`), run by `evaluateDnG`
  (`Rtamt/Py/RunDnEval.lean`), denotes the hand-written mirror `evaluateDnSpecs` (`Rtamt/Dense/OfflineSpecs.lean`) - the list
  returned, the exception raised, and `var_object_dict` afterwards, ALSO after an exception - and, for a specification with
  one assertion, `evalAlg`, on which C04 is stated (`C04_alg_eq_rhoD_partial`).  Composed with `genD_eval_list` (the
  translated visitor is `evalAlg`, for enough fuel).

  The residue of a failed call: the `fromkeys` clearing comes after `visitAst`, so when the visit of an assertion raises
  `var_object_dict` keeps the batches of that call, and a later call whose data set leaves a variable out reads the batch of
  the FAILED call (`genDnEval_residue`; the real library does the same).  When the data set covers the variables of the
  assertions the result does not depend on the earlier dictionary (`genDnEval_repeat`).

  As in `GenOffEval.lean`, each Python statement of `evaluate` is first a lemma about an arbitrary environment (`callE_eq`,
  `exist_ast`, `bind_step` for the body of the first loop, `call_visitAst`, `clear_dict`, `last_rob`, and the two loops), so
  that `genDnEval_evaluate_fuel` is one rewrite per statement and `genDnEval_no_ast` stops at the first.
-/
import Rtamt.Py.RunDnEval
import RtamtProofs.GenDenseC04
import RtamtProofs.GenEvalBase

namespace Rtamt.Py.DnEval
open Rtamt Val Rtamt.Py Rtamt.Dense Rtamt.Dense.Alg

variable {α : Type} [Val α]

/-- A Python list of results: `[]` or a non-empty list. -/
def evOfList : List (ASig α) → EV α
  | [] => .nil
  | x :: xs => .sigs (x :: xs)

theorem pure_ok {ε σ : Type} (a : σ) : (pure a : Except ε σ) = .ok a := rfl
theorem throw_err {ε σ : Type} (e : ε) : (throw e : Except ε σ) = .error e := rfl

omit [Val α] in
theorem liftE_ok {β : Type} (st : DState α) (v : β) : liftE st (.ok v) = .ok v := rfl
omit [Val α] in
theorem liftE_error {β : Type} (st : DState α) (e : PyErr) : liftE (β := β) st (.error e) = .error (e, st) := rfl

theorem execES_seq (c : VCtx) (va : VisitAst α) (a b : ES) (env : EEnv α) :
    execES c va (.seq a b) env = (execES c va a env >>= execES c va b) := by
  simp only [execES]

theorem execES_setLoc (c : VCtx) (va : VisitAst α) (x : String) (e : EE) (env : EEnv α) :
    execES c va (.setLoc x e) env
      = (liftE env.st (evalEE c va env e) >>= fun v => .ok { env with loc := setKey x v env.loc }) := by
  simp only [execES]; rfl

theorem execES_forIn_nodes (c : VCtx) (va : VisitAst α) (x : String) (it : EE) (body : ES) (env : EEnv α) (l : List (F α))
    (h : evalEE c va env it = .ok (.nodes l)) :
    execES c va (.forIn x it body) env
      = (l.map EV.node).foldlM (fun env v => execES c va body { env with loc := setKey x v env.loc }) env := by
  simp only [execES, h, ok_bind, pure_ok, liftE_ok]

theorem execES_forIn_data (c : VCtx) (va : VisitAst α) (x : String) (it : EE) (body : ES) (env : EEnv α) (d : DData α)
    (h : evalEE c va env it = .ok (.data d)) :
    execES c va (.forIn x it body) env
      = (d.map fun r => EV.row r.1 r.2).foldlM (fun env v => execES c va body { env with loc := setKey x v env.loc }) env := by
  simp only [execES, h, ok_bind, pure_ok, liftE_ok]

theorem callE_eq (c : VCtx) (va : VisitAst α) (m : EMethod) (ret : EE) (hret : m.ret = some ret) (st : DState α)
    (args : List (EV α)) (h : args.length = m.params.length) :
    callE c va m st args = (execES c va m.body ⟨st, m.params.zip args⟩ >>= fun env =>
      liftE env.st (evalEE c va env ret) >>= fun v => .ok (v, env.st)) := by
  simp only [callE, h, ne_eq, not_true_eq_false, if_false, hret]
  rfl

/-- `exist_ast()`, the first statement of `evaluate`. -/
theorem exist_ast (c : VCtx) (va : VisitAst α) (env : EEnv α) :
    execES c va (.ite .astIsNone (.raise .rtamt) .skip) env
      = match env.st.ast with
        | .unset => .error (.other, env.st)
        | .none => .error (.rtamt, env.st)
        | .some _ => .ok env := by
  simp only [execES, evalEE]
  cases env.st.ast <;> rfl

/-- stated for `DnEval.pyIdx`; `Rtamt.Py.pyIdx_last` is about `OffEval.pyIdx`, which has the same body -/
theorem pyIdx_last {β : Type} (l : List β) :
    pyIdx l ((l.length : Int) - 1) = match l.getLast? with | none => .error .index | some x => .ok x :=
  Rtamt.Py.pyIdx_last l

/-- `rob[len(rob) - 1]`. -/
theorem last_rob (c : VCtx) (va : VisitAst α) (env : EEnv α) (robs : List (ASig α))
    (h : getKey "rob" env.loc = .ok (evOfList robs)) :
    evalEE c va env (.idx (.loc "rob") (.sub (.len (.loc "rob")) (.intLit 1)))
      = match robs.getLast? with
        | none => .error .index
        | some rob => .ok (.samples rob) := by
  cases robs with
  | nil => simp only [evalEE, h, evOfList, ok_bind, pure_ok, throw_err, List.getLast?_nil]
  | cons r0 rs =>
    simp only [evalEE, h, evOfList, ok_bind, pure_ok, pyIdx_last]
    cases (r0 :: rs).getLast? <;> rfl

/-- The loop of `visitAst` followed by `return out`: the state of the object is the one the loop starts on, also in an
    exception. -/
theorem visit_loop (c : VCtx) (st : DState α) (a : DAst α) (hst : st.ast = .some a) (specs : List (F α))
    (hs : ∀ φ ∈ specs, Dn.evalAlgG c.fuel c.cfg a.vars φ = evalAlg c.cfg a.vars φ)
    (acc : List (ASig α)) (loc : List (String × EV α)) (hargs : getKey "args" loc = .ok .tuple0)
    (hkw : getKey "kwargs" loc = .ok .kw0) (hout : getKey "out" loc = .ok (evOfList acc)) :
    ((specs.map EV.node).foldlM (fun env v => execES c noVisitAst
          (.appendLoc "out" (.visit (.loc "spec") "args" "kwargs")) { env with loc := setKey "spec" v env.loc })
        (⟨st, loc⟩ : EEnv α) >>= fun env => liftE env.st (getKey "out" env.loc) >>= fun v => .ok (v, env.st))
      = liftE st (evalSpecsD c.cfg a.vars specs >>= fun rs => .ok (evOfList (acc ++ rs), st)) := by
  induction specs generalizing acc loc with
  | nil => simp only [List.map_nil, List.foldlM_nil, pure_ok, ok_bind, hout, evalSpecsD, List.append_nil, liftE_ok]
  | cons φ rest ih =>
    have hstep : execES c noVisitAst (.appendLoc "out" (.visit (.loc "spec") "args" "kwargs"))
        (⟨st, setKey "spec" (.node φ) loc⟩ : EEnv α)
        = (liftE st (evalAlg c.cfg a.vars φ) >>= fun r =>
            .ok ⟨st, setKey "out" (evOfList (acc ++ [r])) (setKey "spec" (.node φ) loc)⟩) := by
      simp only [execES, evalEE, getKey_setKey_ite, String.reduceEq, ↓reduceIte, hout, hargs, hkw, ok_bind, DState.getAst, hst,
        hs φ (List.mem_cons_self ..), liftE_ok]
      cases evalAlg c.cfg a.vars φ with
      | error e => rfl
      | ok r =>
        simp only [ok_bind, liftE_ok]
        cases acc <;> rfl
    simp only [List.map_cons, List.foldlM_cons, hstep, evalSpecsD]
    cases evalAlg c.cfg a.vars φ with
    | error e => rfl
    | ok r =>
      simp only [ok_bind, liftE_ok]
      rw [ih (fun ψ hψ => hs ψ (List.mem_cons_of_mem _ hψ)) (acc ++ [r]) _
        (by simp only [getKey_setKey_ite, String.reduceEq, ↓reduceIte, hargs])
        (by simp only [getKey_setKey_ite, String.reduceEq, ↓reduceIte, hkw])
        (getKey_setKey_same ..)]
      cases evalSpecsD c.cfg a.vars rest with
      | error e => rfl
      | ok rs => simp only [ok_bind, pure_ok, List.append_assoc, List.singleton_append]

/-- `self.visitAst(self.ast)` in `evaluate`, through the translated `visitAst`: every assertion is visited in order; the
    list of the results. -/
theorem call_visitAst (c : VCtx) (env : EEnv α) (a : DAst α) (ha : env.st.ast = .some a)
    (hs : ∀ φ ∈ a.specs, Dn.evalAlgG c.fuel c.cfg a.vars φ = evalAlg c.cfg a.vars φ) :
    evalEE c (visitAstG c) env (.callVisitAst .selfAst)
      = (evalSpecsD c.cfg a.vars a.specs >>= fun rs => .ok (evOfList rs)) := by
  have hloop := visit_loop c env.st a ha a.specs hs []
    [("ast", (EV.astRef : EV α)), ("args", .tuple0), ("kwargs", .kw0), ("out", .nil)] rfl rfl rfl
  simp only [List.nil_append] at hloop
  have hspecs : evalEE c noVisitAst (⟨env.st, [("ast", (EV.astRef : EV α)), ("args", .tuple0), ("kwargs", .kw0), ("out", .nil)]⟩ : EEnv α)
      (.specsOf "ast") = .ok (.nodes a.specs) := by
    simp only [evalEE, getKey_cons_same, ok_bind, DState.getAst, ha, pure_ok]
  simp only [evalEE, ha, ok_bind, pure_ok]
  rw [visitAstG, callE_eq _ _ _ (.loc "out") rfl _ _ rfl]
  simp only [Gen.DnEval.visitAst, List.zip_cons_cons, List.zip_nil_right]
  rw [execES_seq, execES_setLoc]
  simp only [evalEE, liftE_ok, ok_bind, setKey, String.reduceBEq, Bool.false_eq_true, if_false]
  rw [execES_forIn_nodes _ _ _ _ _ _ _ hspecs, hloop]
  cases evalSpecsD c.cfg a.vars a.specs <;> rfl

/-- the body of the loop of `set_variable_to_ast_from_dataset`, as translated -/
abbrev bindBody : ES :=
  (.seq (.setLoc "var_name" (.idx (.loc "data") (.intLit 0))) (.seq (.setLoc "var_object" (.idx (.loc "data") (.intLit 1))) (.ite (.isIn (.idx (.loc "data") (.intLit 0)) .freeVars) (.setVar (.loc "var_name") (.loc "var_object")) .skip)))

theorem bind_step (c : VCtx) (va : VisitAst α) (specs : List (F α)) (free : List String) (w : DEnv α)
    (x : String) (s : DSig α) (loc : List (String × EV α)) :
    execES c va bindBody (⟨⟨.some ⟨specs, w, free⟩⟩, setKey "data" (.row x s) loc⟩ : EEnv α)
      = .ok ⟨⟨.some ⟨specs, if free.contains x then (x, s) :: w else w, free⟩⟩,
          setKey "var_object" (.sig s) (setKey "var_name" (.str x) (setKey "data" (.row x s) loc))⟩ := by
  -- `data[i]` wherever the local `data` holds the row
  have hidx : ∀ (st : DState α) (l : List (String × EV α)) (i : Int) (v : EV α), getKey "data" l = .ok (.row x s) →
      pyIdx [EV.str x, EV.sig s] i = .ok v → evalEE c va ⟨st, l⟩ (.idx (.loc "data") (.intLit i)) = .ok v := by
    intro st l i v hl hv
    simp only [evalEE, hl, ok_bind, hv, pure_ok]
  unfold bindBody
  rw [execES_seq, execES_setLoc, hidx _ _ 0 _ (getKey_setKey_same ..) rfl, liftE_ok, ok_bind, ok_bind,
    execES_seq, execES_setLoc, hidx _ _ 1 _ (by simp only [getKey_setKey_ite, String.reduceEq, ↓reduceIte]) rfl, liftE_ok, ok_bind, ok_bind]
  have hc : evalEE c va (⟨⟨.some ⟨specs, w, free⟩⟩, setKey "var_object" (.sig s) (setKey "var_name" (.str x)
      (setKey "data" (.row x s) loc))⟩ : EEnv α) (.isIn (.idx (.loc "data") (.intLit 0)) .freeVars) =
      .ok (.bool (free.contains x)) := by
    rw [evalEE, hidx _ _ 0 _ (by simp only [getKey_setKey_ite, String.reduceEq, ↓reduceIte]) rfl]
    simp only [evalEE, DState.getAst, ok_bind, pure_ok]
  rw [execES, hc]
  cases free.contains x <;>
    simp only [execES, evalEE, DState.getAst, ok_bind, pure_ok, liftE_ok, getKey_setKey_same,
      getKey_setKey_ne "var_name" "var_object" _ _ (by decide), if_true, if_false, Bool.false_eq_true]

theorem bind_loop (c : VCtx) (va : VisitAst α) (specs : List (F α)) (free : List String) :
    ∀ (rows : DData α) (w : DEnv α) (loc : List (String × EV α)),
      ∃ loc', (rows.map fun r => EV.row r.1 r.2).foldlM (fun env v => execES c va bindBody
            { env with loc := setKey "data" v env.loc })
          (⟨⟨.some ⟨specs, w, free⟩⟩, loc⟩ : EEnv α)
        = .ok ⟨⟨.some ⟨specs, bindRows free rows w, free⟩⟩, loc'⟩ := by
  intro rows
  induction rows with
  | nil => intro w loc; exact ⟨loc, rfl⟩
  | cons r rest ih =>
    intro w loc
    obtain ⟨loc', h⟩ := ih (if free.contains r.1 then (r.1, r.2) :: w else w)
      (setKey "var_object" (.sig r.2) (setKey "var_name" (.str r.1) (setKey "data" (.row r.1 r.2) loc)))
    refine ⟨loc', ?_⟩
    simp only [List.map_cons, List.foldlM_cons, bind_step, ok_bind]
    rw [h]
    rfl

/-- `self.ast.var_object_dict = self.ast.var_object_dict.fromkeys(self.ast.var_object_dict, [])`. -/
theorem clear_dict (c : VCtx) (va : VisitAst α) (env : EEnv α) (a : DAst α) (ha : env.st.ast = .some a) :
    execES c va (.setVarDict (.fromkeys .varDict .varDict .emptyList)) env
      = .ok { env with st := ⟨.some { a with vars := clearVars a.vars }⟩ } := by
  simp only [execES, evalEE, DState.getAst, ha, ok_bind, pure_ok, liftE_ok, clearVars]

/-- The interpreter object after `set_ast(a)`. -/
def mkState (a : DAst α) : DState α := ⟨.some a⟩

/-- The translated `evaluate(dataset)` is the mirror `evaluateDnSpecs`, for a fuel with which the translated visitor is the
    mirror of the visitor on every assertion (`genD_eval_list`). -/
theorem genDnEval_evaluate_fuel (fuel : Nat) (cfg : DCfg) (a : DAst α) (d : DData α)
    (hf : ∀ φ ∈ a.specs, Dn.evalAlgG fuel cfg (bindRows a.free d a.vars) φ = evalAlg cfg (bindRows a.free d a.vars) φ) :
    evaluateDnG fuel cfg (mkState a) d =
      ((evaluateDnSpecs cfg a.specs a.free d a.vars).1,
        mkState { a with vars := (evaluateDnSpecs cfg a.specs a.free d a.vars).2 }) := by
  obtain ⟨specs, w, free⟩ := a
  obtain ⟨loc1, hl1⟩ := bind_loop ⟨fuel, cfg⟩ (visitAstG ⟨fuel, cfg⟩) specs free d w [("dataset", .data d)]
  rw [evaluateDnG, callE_eq _ _ _ (.idx (.loc "rob") (.sub (.len (.loc "rob")) (.intLit 1))) rfl _ _ rfl]
  simp only [Gen.DnEval.evaluate, List.zip_cons_cons, List.zip_nil_right, mkState]
  rw [execES_seq, exist_ast]
  simp only [ok_bind]
  rw [execES_seq, execES_forIn_data _ _ _ _ _ _ d rfl, hl1, ok_bind]
  -- rob = self.visitAst(self.ast)
  rw [execES_seq, execES_setLoc, call_visitAst ⟨fuel, cfg⟩ _ ⟨specs, bindRows free d w, free⟩ rfl hf]
  simp only [evaluateDnSpecs]
  cases evalSpecsD cfg (bindRows free d w) specs with
  | error e => rfl
  | ok robs =>
    -- the clearing, then `return rob[len(rob) - 1]`
    simp only [ok_bind, liftE_ok]
    rw [clear_dict _ _ _ _ rfl, ok_bind, last_rob _ _ _ robs (getKey_setKey_same ..)]
    cases robs.getLast? <;> rfl

/-- **The translated `evaluate(dataset)` is the mirror `evaluateDnSpecs`** (with enough fuel for the `while` loops of the
    visitor): the first exception raised by the visit of an assertion - `var_object_dict` then keeps the batches of the data
    set, the clearing is not reached -, otherwise `var_object_dict` is cleared (every key kept, every batch `[]`) and the call
    returns the list of the last assertion, or raises `IndexError` for a specification without assertions. -/
theorem genDnEval_evaluate (cfg : DCfg) (a : DAst α) (d : DData α) :
    ∃ N, ∀ fuel, N ≤ fuel →
      evaluateDnG fuel cfg (mkState a) d =
        ((evaluateDnSpecs cfg a.specs a.free d a.vars).1,
          mkState { a with vars := (evaluateDnSpecs cfg a.specs a.free d a.vars).2 }) := by
  obtain ⟨N, hN⟩ := Dn.genD_eval_list cfg (bindRows a.free d a.vars) a.specs (fun φ _ => φ.denseSupported_all)
  exact ⟨N, fun fuel hf => genDnEval_evaluate_fuel fuel cfg a d (hN fuel hf)⟩

/-- Before `set_ast` the object has no attribute `ast`: `exist_ast()` raises `AttributeError`, not the `RTAMTException`
    it is written for; after `set_ast(None)` it raises the `RTAMTException`.  The state is unchanged. -/
theorem genDnEval_no_ast (fuel : Nat) (cfg : DCfg) (d : DData α) :
    evaluateDnG fuel cfg (⟨.unset⟩ : DState α) d = (.error .other, ⟨.unset⟩) ∧
    evaluateDnG fuel cfg (⟨.none⟩ : DState α) d = (.error .rtamt, ⟨.none⟩) := by
  constructor <;>
    rw [evaluateDnG, callE_eq _ _ _ (.idx (.loc "rob") (.sub (.len (.loc "rob")) (.intLit 1))) rfl _ _ rfl,
      Gen.DnEval.evaluate, execES_seq, exist_ast] <;> rfl

theorem evaluateDnSpecs_single (cfg : DCfg) (φ : F α) (free : List String) (d : DData α) (w : DEnv α) :
    evaluateDnSpecs cfg [φ] free d w =
      match evalAlg cfg (bindRows free d w) φ with
      | .error e => (.error e, bindRows free d w)
      | .ok s => (.ok s, clearVars (bindRows free d w)) := by
  simp only [evaluateDnSpecs, evalSpecsD]
  cases evalAlg cfg (bindRows free d w) φ with
  | error e => rfl
  | ok r => rfl

/-- For a specification with one assertion the translated `evaluate(dataset)` is exactly the visitor (`evalAlg`) on the
    data set written into `var_object_dict`; the dictionary is cleared when the visitor returns, not when it raises. -/
theorem genDnEval_single (cfg : DCfg) (a : DAst α) (φ : F α) (hφ : a.specs = [φ]) (d : DData α) :
    ∃ N, ∀ fuel, N ≤ fuel →
      evaluateDnG fuel cfg (mkState a) d =
        match evalAlg cfg (bindRows a.free d a.vars) φ with
        | .error e => (.error e, mkState { a with vars := bindRows a.free d a.vars })
        | .ok s => (.ok s, mkState { a with vars := clearVars (bindRows a.free d a.vars) }) := by
  obtain ⟨N, hN⟩ := genDnEval_evaluate cfg a d
  refine ⟨N, fun fuel hf => ?_⟩
  rw [hN fuel hf, hφ, evaluateDnSpecs_single]
  cases evalAlg cfg (bindRows a.free d a.vars) φ with
  | error e => rfl
  | ok r => rfl

/-- **C04 on the run of the translated `evaluate()`** (fragment and hypotheses of `C04_alg_eq_rhoD_partial`, on the
    dictionary the visitor reads: the data set written over what `var_object_dict` held): for a specification with the one
    assertion `φ`, with enough fuel the translated `evaluate(dataset)` returns a sample list with strictly increasing time
    stamps that starts at the beginning of the common input domain and, read as a step function, equals the dense-time
    robustness at every time of the domain; `var_object_dict` is cleared afterwards. -/
theorem C04_evaluate_translated_partial [LawfulVal α] (cfg : DCfg) (hs : 0 ≤ cfg.scale) (a : DAst α) (φ : F α)
    (hφ : a.specs = [φ]) (d : DData α)
    (hsup : supported φ = true) (hia : noIA φ = true) (hnp : noPartialOps φ = true)
    (hw : (bindRows a.free d a.vars).WF φ.vars) (h0 : StartsAt0 (bindRows a.free d a.vars) φ.vars)
    (hsub : ∀ a b : α, Val.neg (Val.sub a b) = Val.sub b a) :
    ∃ N s, (∀ fuel, N ≤ fuel →
        evaluateDnG fuel cfg (mkState a) d
          = (.ok s, mkState { a with vars := clearVars (bindRows a.free d a.vars) })) ∧
      Sorted s ∧ (times s).head? = some (Tm.fin (dom (bindRows a.free d a.vars) φ)) ∧
      ∀ t, dom (bindRows a.free d a.vars) φ ≤ t → valAtA s t = rhoD cfg (bindRows a.free d a.vars) φ t := by
  obtain ⟨s, he, h1, h2, h3⟩ := C04_alg_eq_rhoD_partial cfg hs (bindRows a.free d a.vars) φ hsup hia hnp hw h0 hsub
  obtain ⟨N, hN⟩ := genDnEval_single cfg a φ hφ d
  exact ⟨N, s, fun fuel hf => by rw [hN fuel hf, he], h1, h2, h3⟩

omit [Val α] in
/-- `set_variable_to_ast_from_dataset` in closed form: the rows of the free variables, the last one first, in front of what
    the dictionary held. -/
theorem bindRows_eq (free : List String) (d : DData α) (w : DEnv α) :
    bindRows free d w = (d.filter fun r => free.contains r.1).reverse ++ w := by
  induction d generalizing w with
  | nil => rfl
  | cons r rest ih =>
    rw [bindRows, List.foldl_cons, ← bindRows, ih, List.filter_cons]
    cases free.contains r.1 <;> simp

omit [Val α] in
/-- `var_object_dict[x]` after `set_variable_to_ast_from_dataset`, for a free variable: the LAST row of that name, if there
    is one; otherwise what the dictionary held before. -/
theorem bindRows_lookup (free : List String) (x : String) (hx : x ∈ free) (d : DData α) (w : DEnv α) :
    (bindRows free d w).lookup x = (d.reverse.lookup x).or (w.lookup x) := by
  rw [bindRows_eq, List.lookup_append, ← List.filter_reverse, Assoc.lookup_filter x _ (fun _ => by simpa using hx)]

omit [Val α] in
/-- The dictionary the visitor reads does not depend on what `var_object_dict` held before, for the free variables that
    have a row in the data set. -/
theorem bindRows_lookup_indep (free : List String) (x : String) (d : DData α) (w w' : DEnv α)
    (hx : x ∈ free) (hd : x ∈ d.map (·.1)) : (bindRows free d w).lookup x = (bindRows free d w').lookup x := by
  obtain ⟨s, hs⟩ := (Assoc.mem_keys_iff d.reverse x).1 (by simpa using hd)
  simp [bindRows_lookup, hx, hs]

omit [Val α] in
theorem bindRows_sig (free : List String) (x : String) (d : DData α) (w : DEnv α) (s : DSig α)
    (hx : x ∈ free) (hs : d.reverse.lookup x = some s) : (bindRows free d w).sig x = s := by
  simp [DEnv.sig, bindRows_lookup, hx, hs]

/-- `C04_evaluate_translated_partial` with the hypotheses on the data set itself: every variable of the assertion is a
    free variable of the specification and its last row in the data set is a non-empty sample list with strictly increasing
    time stamps that starts at time 0 - whatever `var_object_dict` held before (in particular the residue of a failed
    call). -/
theorem C04_evaluate_translated_dataset_partial [LawfulVal α] (cfg : DCfg) (hs : 0 ≤ cfg.scale) (a : DAst α) (φ : F α)
    (hφ : a.specs = [φ]) (d : DData α)
    (hsup : supported φ = true) (hia : noIA φ = true) (hnp : noPartialOps φ = true)
    (hd : ∀ x ∈ φ.vars, x ∈ a.free ∧ ∃ s : DSig α, d.reverse.lookup x = some s ∧ s ≠ [] ∧
      s.times.Pairwise (· < ·) ∧ s.times.head? = some 0)
    (hsub : ∀ a b : α, Val.neg (Val.sub a b) = Val.sub b a) :
    ∃ N s, (∀ fuel, N ≤ fuel →
        evaluateDnG fuel cfg (mkState a) d
          = (.ok s, mkState { a with vars := clearVars (bindRows a.free d a.vars) })) ∧
      Sorted s ∧ (times s).head? = some (Tm.fin (dom (bindRows a.free d a.vars) φ)) ∧
      ∀ t, dom (bindRows a.free d a.vars) φ ≤ t → valAtA s t = rhoD cfg (bindRows a.free d a.vars) φ t := by
  refine C04_evaluate_translated_partial cfg hs a φ hφ d hsup hia hnp ?_ ?_ hsub
  · intro x hx
    obtain ⟨hf, s, h1, h2, h3, _⟩ := hd x hx
    rw [bindRows_sig a.free x d a.vars s hf h1]
    exact ⟨h2, h3⟩
  · intro x hx
    obtain ⟨hf, s, h1, _, _, h4⟩ := hd x hx
    rw [bindRows_sig a.free x d a.vars s hf h1]
    exact h4

theorem evalAlg_congr (cfg : DCfg) (w w' : DEnv α) (φ : F α) (h : ∀ x ∈ φ.vars, w.lookup x = w'.lookup x) :
    evalAlg cfg w φ = evalAlg cfg w' φ := by
  induction φ with
  | var x => simp only [evalAlg, h x (by simp [F.vars])]
  | const c => rfl
  | un op φ ih => simp only [evalAlg, ih (fun x hx => h x (by simpa [F.vars] using hx))]
  | bin op φ ψ ih1 ih2 =>
    simp only [evalAlg, ih1 (fun x hx => h x (by simp [F.vars, hx])), ih2 (fun x hx => h x (by simp [F.vars, hx]))]
  | tmp1 op φ ih => simp only [evalAlg, ih (fun x hx => h x (by simpa [F.vars] using hx))]
  | tmp2 op φ ψ ih1 ih2 =>
    simp only [evalAlg, ih1 (fun x hx => h x (by simp [F.vars, hx])), ih2 (fun x hx => h x (by simp [F.vars, hx]))]
  | tb1 op a b φ ih => simp only [evalAlg, ih (fun x hx => h x (by simpa [F.vars] using hx))]
  | tb2 op a b φ ψ ih1 ih2 =>
    simp only [evalAlg, ih1 (fun x hx => h x (by simp [F.vars, hx])), ih2 (fun x hx => h x (by simp [F.vars, hx]))]

theorem evalSpecsD_congr (cfg : DCfg) (w w' : DEnv α) (specs : List (F α))
    (h : ∀ φ ∈ specs, ∀ x ∈ φ.vars, w.lookup x = w'.lookup x) : evalSpecsD cfg w specs = evalSpecsD cfg w' specs := by
  induction specs with
  | nil => rfl
  | cons φ rest ih =>
    simp only [evalSpecsD, evalAlg_congr cfg w w' φ (h φ (List.mem_cons_self ..)),
      ih (fun ψ hψ => h ψ (List.mem_cons_of_mem _ hψ))]

/-- The data set names every variable the assertions read, and they are free variables of the specification. -/
def Covers (specs : List (F α)) (free : List String) (d : DData α) : Prop :=
  ∀ φ ∈ specs, ∀ x ∈ φ.vars, x ∈ free ∧ x ∈ d.map (·.1)

/-- What `evaluate` returns or raises does not depend on the earlier content of `var_object_dict` when the data set
    covers the variables of the assertions. -/
theorem evaluateDnSpecs_indep (cfg : DCfg) (specs : List (F α)) (free : List String) (d : DData α) (w w' : DEnv α)
    (hc : Covers specs free d) :
    (evaluateDnSpecs cfg specs free d w).1 = (evaluateDnSpecs cfg specs free d w').1 := by
  have h := evalSpecsD_congr cfg (bindRows free d w) (bindRows free d w') specs
    (fun φ hφ x hx => bindRows_lookup_indep free x d w w' (hc φ hφ x hx).1 (hc φ hφ x hx).2)
  simp only [evaluateDnSpecs, h]
  cases evalSpecsD cfg (bindRows free d w') specs with
  | error e => rfl
  | ok robs =>
    simp only
    cases robs.getLast? <;> rfl

/-- **Two successive `evaluate()` calls on one interpreter object** (the first may have raised): with enough fuel the state
    the second call runs on is the specification with `var_object_dict` as the first call left it (`evaluateDnSpecs … .2`:
    the batches of the first data set, uncleared, if the visit raised; every batch `[]` otherwise), the second call is the
    mirror on that dictionary, and when the second data set covers the variables of the assertions it returns (or raises)
    what a call on any other dictionary `w0` - a fresh object - returns for that data set. -/
theorem genDnEval_repeat (cfg : DCfg) (a : DAst α) (d1 d2 : DData α) :
    ∃ N, ∀ fuel, N ≤ fuel →
      (evaluateDnG fuel cfg (mkState a) d1).2
        = mkState { a with vars := (evaluateDnSpecs cfg a.specs a.free d1 a.vars).2 } ∧
      evaluateDnG fuel cfg (evaluateDnG fuel cfg (mkState a) d1).2 d2
        = ((evaluateDnSpecs cfg a.specs a.free d2 (evaluateDnSpecs cfg a.specs a.free d1 a.vars).2).1,
            mkState { a with vars :=
              (evaluateDnSpecs cfg a.specs a.free d2 (evaluateDnSpecs cfg a.specs a.free d1 a.vars).2).2 }) ∧
      (Covers a.specs a.free d2 → ∀ w0 : DEnv α,
        (evaluateDnG fuel cfg (evaluateDnG fuel cfg (mkState a) d1).2 d2).1
          = (evaluateDnSpecs cfg a.specs a.free d2 w0).1) := by
  obtain ⟨N1, h1⟩ := genDnEval_evaluate cfg a d1
  obtain ⟨N2, h2⟩ := genDnEval_evaluate cfg { a with vars := (evaluateDnSpecs cfg a.specs a.free d1 a.vars).2 } d2
  refine ⟨N1 + N2, fun fuel hf => ?_⟩
  have e1 := h1 fuel (by omega)
  have e2 := h2 fuel (by omega)
  refine ⟨by rw [e1], by rw [e1]; exact e2, fun hc w0 => ?_⟩
  rw [e1]
  simp only at e2 ⊢
  rw [e2]
  exact evaluateDnSpecs_indep cfg a.specs a.free d2 _ w0 hc

/-- **The residue of a failed call** (the model exhibits the behaviour of the real code): when the visit of an assertion
    raises, the `fromkeys` clearing is not reached and `var_object_dict` keeps the batches of the failed call; a later call
    whose data set leaves the variable `x` out reads, for `x`, the batch `s` the FAILED call was given. -/
theorem genDnEval_residue (cfg : DCfg) (a : DAst α) (d1 d2 : DData α) (e : PyErr)
    (hfail : evalSpecsD cfg (bindRows a.free d1 a.vars) a.specs = .error e)
    (x : String) (s : DSig α) (hx : x ∈ a.free) (hs : d1.reverse.lookup x = some s) (hno : d2.reverse.lookup x = none) :
    ∃ N, ∀ fuel, N ≤ fuel →
      evaluateDnG fuel cfg (mkState a) d1 = (.error e, mkState { a with vars := bindRows a.free d1 a.vars }) ∧
      (bindRows a.free d2 (bindRows a.free d1 a.vars)).lookup x = some s ∧
      (evaluateDnG fuel cfg (evaluateDnG fuel cfg (mkState a) d1).2 d2).1
        = (evaluateDnSpecs cfg a.specs a.free d2 (bindRows a.free d1 a.vars)).1 := by
  have hm : evaluateDnSpecs cfg a.specs a.free d1 a.vars = (.error e, bindRows a.free d1 a.vars) := by
    simp only [evaluateDnSpecs, hfail]
  obtain ⟨N, hN⟩ := genDnEval_repeat cfg a d1 d2
  obtain ⟨N1, h1⟩ := genDnEval_evaluate cfg a d1
  refine ⟨N + N1, fun fuel hf => ⟨?_, ?_, ?_⟩⟩
  · rw [h1 fuel (by omega), hm]
  · simp [bindRows_lookup, hx, hs, hno]
  · rw [(hN fuel (by omega)).2.1, hm]

/-- Non-vacuity of `genDnEval_residue`, on the mirror: two assertions `x` and `y`; the first call is given `x` only and
    raises (`KeyError` for `y`), the second call is given `y` only and RETURNS - it reads the `x` of the failed call - where
    the same call on an object that has not seen the failed call raises. -/
theorem residue_witness (cfg : DCfg) (s s' : DSig α) :
    (evaluateDnSpecs cfg [F.var "x", F.var "y"] ["x", "y"] [("x", s)] ([] : DEnv α)) = (.error .key, [("x", s)]) ∧
    (evaluateDnSpecs cfg [F.var "x", F.var "y"] ["x", "y"] [("y", s')] [("x", s)]).1 = .ok (ofDSig s') ∧
    (evaluateDnSpecs cfg [F.var "x", F.var "y"] ["x", "y"] [("y", s')] ([] : DEnv α)).1 = .error .key := by
  refine ⟨?_, ?_, ?_⟩ <;>
    simp [evaluateDnSpecs, bindRows, evalSpecsD, evalAlg, List.lookup]

/-- Nothing in the two translated methods is outside the translated subset; the methods are those of the classes
    `self.evaluate`, `self.set_variable_to_ast_from_dataset`, `self.exist_ast`, `self.visitAst` and `self.visit` resolve to
    along the MRO of `DenseTimeOfflineInterpreter` (`visitSpec` of `AbstractOfflineInterpreter` is not called by them). -/
theorem genDnEval_supported :
    Gen.DnEval.evaluate.unsup = [] ∧ Gen.DnEval.visitAst.unsup = [] ∧
    Gen.DnEval.resolution =
      [("evaluate", "AbstractDenseTimeOfflineInterpreter"),
       ("set_variable_to_ast_from_dataset", "DenseTimeInterpreter"),
       ("exist_ast", "AbstractInterpreter"), ("visitAst", "AbstractAstVisitor"),
       ("visit", "StlDenseTimeOfflineAstVisitor"), ("visitSpec", "AbstractOfflineInterpreter")] ∧
    Gen.DnEval.bases =
      [("DenseTimeOfflineInterpreter", ["AbstractDenseTimeOfflineInterpreter", "AstVisitor"]),
       ("AbstractDenseTimeOfflineInterpreter", ["AbstractOfflineInterpreter", "DenseTimeInterpreter"]),
       ("AbstractOfflineInterpreter", ["AbstractInterpreter"]), ("AbstractInterpreter", ["object"]),
       ("DenseTimeInterpreter", ["TimeInterpreter"]), ("TimeInterpreter", ["object"]),
       ("StlDenseTimeOfflineAstVisitor", ["StlAstVisitor"]), ("StlAstVisitor", ["LtlAstVisitor"]),
       ("LtlAstVisitor", ["AbstractAstVisitor"]), ("AbstractAstVisitor", ["object"])] := by
  refine ⟨by decide, by decide, by decide, by decide⟩

end Rtamt.Py.DnEval

section axioms_check
open Rtamt.Py.DnEval
#print axioms genDnEval_evaluate
#print axioms genDnEval_single
#print axioms genDnEval_no_ast
#print axioms C04_evaluate_translated_partial
#print axioms C04_evaluate_translated_dataset_partial
#print axioms genDnEval_repeat
#print axioms genDnEval_residue
#print axioms genDnEval_supported
end axioms_check
