/-
  The translated unbounded temporal operators of the dense-time offline monitor (`visitOnce`, `visitHistorically`,
  `visitEventually`, `visitAlways`, `since_operation`, `until_operation` of `Rtamt/Py/GeneratedDense.lean`), run under the
  semantics of `Rtamt/Py/Dn.lean`, compute what the mirror `Rtamt/Dense/Alg.lean` computes (`fwdScan`, `backScan`,
  `sinceOp`, `untilOp`).
-/
import RtamtProofs.GenDenseLogic
import RtamtProofs.GenDenseEmit

namespace Rtamt.Py.Dn
open Rtamt Val Rtamt.Dense Rtamt.Dense.Alg

set_option linter.unusedSectionVars false

variable {α : Type} [Val α]

/- helper lemmas live in the namespace `Rtamt.Py.Dn.GenScan` (several `GenDense*.lean` files define helpers of the same name) -/
namespace GenScan

@[simp] theorem except_map_ok {ε σ ρ : Type} (a : σ) (f : σ → ρ) : Except.map f (Except.ok a : Except ε σ) = .ok (f a) := rfl
@[simp] theorem except_map_error {ε σ ρ : Type} (e : ε) (f : σ → ρ) : Except.map f (Except.error e : Except ε σ) = .error e := rfl

@[simp] theorem resolve_nil (f : String) : resolve ([] : Env α) f = f := rfl

attribute [simp] resolve_cons

theorem cmpDV_int_eq (a b : Int) : cmpDV .eq (.int a : DV α) (.int b) = .ok (decide (a = b)) := rfl
theorem cmpDV_int_lt (a b : Int) : cmpDV .lt (.int a : DV α) (.int b) = .ok (decide (a < b)) := rfl

/-! The loops of `visitOnce` / `visitHistorically` and of `since_operation` end with the output statement `emitS` of
`GenDenseEmit.lean`; those of `visitEventually` / `visitAlways` and of `until_operation` end alike too (drop the head when
the value repeats, insert, remember); the two unary and the two binary loops begin alike.  Each piece is run once, for any
names of the locals, and says what it leaves in the locals it writes; the others are covered by a `Frame`. -/

section pieces
variable {call : Call α} {fuel : Nat} {env : Env α}

/-- `out_time = in_sample[0]; out_value = f(in_sample[1], acc); acc = out_value`, then `R` -/
def scanHead (f acc : String) (R : S) : S :=
  .seq (.setLoc "out_time" (.idx (.loc "in_sample") (.int 0))) (.seq (.setLoc "out_value" (.call2 f (.idx (.loc "in_sample") (.int 1)) (.loc acc))) (.seq (.setLoc acc (.loc "out_value")) R))

theorem scanHead_exec {f acc : String} {comb : α → α → α} {t : Tm} {v a : α} {sp : DV α}
    (hcomb : ∀ (a : α) (y : DV α) (b : α), toVal y = .ok b → call f [.val a, y] = .ok (.val (comb a b)))
    (hin : getLoc "in_sample" env = .ok (.smp t (.val v)))
    (hacc : getLoc acc env = .ok sp) (hsp : toVal sp = .ok a) (hrf : resolve env f = f)
    (hne : acc ≠ "out_time") :
    ∃ env', (∀ R, exec call fuel (scanHead f acc R) env = exec call fuel R env') ∧
      getLoc "out_time" env' = .ok (.tm t) ∧ getLoc "out_value" env' = .ok (.val (comb v a)) ∧
      getLoc acc env' = .ok (.val (comb v a)) ∧ Frame ["out_time", "out_value", acc] env env' := by
  refine ⟨setLoc acc (.val (comb v a)) (setLoc "out_value" (.val (comb v a)) (setLoc "out_time" (.tm t) env)),
    fun R => ?_, by dn_step [hne.symm], by dn_step [ite_self], by dn_step [], by frame_tac⟩
  dn_step [scanHead, hin, hacc, hne, hrf, ite_self, hcomb v sp a hsp]

/-- `t = sample[0]; o1_val = sample[1][0]; o2_val = sample[1][1]; result = max(min(o1_val, o2_val), min(o1_val, pv))`,
    then `R` -/
def pairHead (pv : String) (R : S) : S :=
  .seq (.setLoc "t" (.idx (.loc "sample") (.int 0))) (.seq (.setLoc "o1_val" (.idx (.idx (.loc "sample") (.int 1)) (.int 0))) (.seq (.setLoc "o2_val" (.idx (.idx (.loc "sample") (.int 1)) (.int 1))) (.seq (.setLoc "result" (.call2 "max" (.call2 "min" (.loc "o1_val") (.loc "o2_val")) (.call2 "min" (.loc "o1_val") (.loc pv)))) R)))

theorem pairHead_exec {pv : String} {t : Tm} {a b acc : α} {pvv : DV α}
    (hc : LibOK call)
    (hin : getLoc "sample" env = .ok (.smp t (.pair (.val a) (.val b))))
    (hpv : getLoc pv env = .ok pvv) (hpvv : toVal pvv = .ok acc)
    (hrmax : resolve env "max" = "max") (hrmin : resolve env "min" = "min")
    (hne : pv ∉ ["t", "o1_val", "o2_val"]) :
    ∃ env', (∀ R, exec call fuel (pairHead pv R) env = exec call fuel R env') ∧
      getLoc "t" env' = .ok (.tm t) ∧ getLoc "result" env' = .ok (.val (sinceVal acc (a, b))) ∧
      Frame ["t", "o1_val", "o2_val", "result"] env env' := by
  have n1 : pv ≠ "t" := fun e => hne (by simp [e])
  have n2 : pv ≠ "o1_val" := fun e => hne (by simp [e])
  have n3 : pv ≠ "o2_val" := fun e => hne (by simp [e])
  refine ⟨setLoc "result" (.val (sinceVal acc (a, b))) (setLoc "o2_val" (.val b) (setLoc "o1_val" (.val a)
    (setLoc "t" (.tm t) env))), fun R => ?_, by dn_step [], by dn_step [], by frame_tac⟩
  dn_step [pairHead, hin, hpv, n1, n2, n3, hrmax, hrmin, evalIdx.pair0, evalIdx.pair1, hc.min a (.val b) b rfl,
    hc.min a pvv acc hpvv, hc.max (pmin a b) (.val (pmin a acc)) (pmin a acc) rfl]
  rfl

/-- `ov == next and i < len(lst) - 2` -/
def dropCond (ov lst : String) : E :=
  .and_ (.bin .eq (.loc ov) (.loc "next")) (.bin .lt (.loc "i") (.bin .sub (.call1 "len" (.loc lst)) (.int 2)))

theorem dropCond_eval {ov lst : String} {o : α} {nv : DV α} {b1 : Bool} {i n : Nat} {L : List (DV α)}
    (hlen : ∀ l : List (DV α), call "len" [.list l] = .ok (.int l.length))
    (hov : getLoc ov env = .ok (.val o)) (hnv : getLoc "next" env = .ok nv) (hcmp : cmpDV .eq (.val o) nv = .ok b1)
    (hi : getLoc "i" env = .ok (.int i)) (hL : getLoc lst env = .ok (.list L)) (hn : L.length = n)
    (hrlen : resolve env "len" = "len") :
    evalE call env (dropCond ov lst) = .ok (.bool (b1 && decide (i + 2 < n))) := by
  have e1 : evalE call env (.bin .eq (.loc ov) (.loc "next")) = .ok (.bool b1) := by
    rw [evalE.bin (evalE.loc hov) (evalE.loc hnv), evalBin.cmp rfl, hcmp]; rfl
  rw [dropCond, evalE.and_ e1 rfl]
  cases b1 with
  | false => rfl
  | true =>
      subst hn
      exact (evalE.bin (evalE.loc hi) (evalE_lenSub hlen hL hrlen 2)).trans
        (congrArg (fun b => Except.ok (DV.bool b)) (decide_eq_decide.mpr (by omega)))

/-- `if c: del sample_return[0]`, then `sample_return.insert(0, [tv, ov]); nx = ov` -/
def dropTail (c : E) (tv ov nx : String) : S :=
  .seq (.ite c (.delIdx "sample_return" (.int 0)) .skip) (.seq (.insert0 "sample_return" (.list2 (.loc tv) (.loc ov))) (.setLoc nx (.loc ov)))

theorem dropTail_exec {c : E} {tv ov nx : String} {b : Bool} {t : Tm} {o : α} {out : ASig α}
    (hc : evalE call env c = .ok (.bool b)) (htv : getLoc tv env = .ok (.tm t)) (hov : getLoc ov env = .ok (.val o))
    (hret : getLoc "sample_return" env = .ok (encSig out)) (hout : b = true → out ≠ [])
    (hne : tv ≠ "sample_return" ∧ ov ≠ "sample_return" ∧ nx ≠ "sample_return") :
    ∃ env', exec call fuel (dropTail c tv ov nx) env = .ok (env', none) ∧
      getLoc "sample_return" env' = .ok (encSig ((t, o) :: if b then out.tail else out)) ∧
      getLoc nx env' = .ok (.val o) ∧ Frame ["sample_return", nx] env env' := by
  -- `if c: del sample_return[0]`
  obtain ⟨env1, run1, hret1, F1⟩ : ∃ env1,
      exec call fuel (.ite c (.delIdx "sample_return" (.int 0)) .skip) env = .ok (env1, none) ∧
      getLoc "sample_return" env1 = .ok (encSig (if b then out.tail else out)) ∧ Frame ["sample_return"] env env1 := by
    cases b with
    | false => exact ⟨env, exec.ite_false hc rfl, hret, Frame.refl _ _⟩
    | true =>
        obtain ⟨p, out', rfl⟩ := List.exists_cons_of_ne_nil (hout rfl)
        exact ⟨_, (exec.ite_true hc rfl).trans ((exec.delIdx hret rfl).trans
          (by rw [List.map_cons, delAt_cons_zero]; rfl)), getLoc_setLoc_same _ _ _, by frame_tac⟩
  have htv1 := (F1.getLoc (by simpa using hne.1)).trans htv
  have hov1 := (F1.getLoc (by simpa using hne.2.1)).trans hov
  exact ⟨_, (exec.seq_ok run1).trans ((exec.seq_ok (exec.insert0 (v := .smp t (.val o))
      ((evalE.list2 (evalE.loc htv1) (evalE.loc hov1)).trans rfl) hret1)).trans
      (exec.setLoc (evalE.loc ((getLoc_setLoc_ne _ _ _ _ hne.2.1).trans hov1)))),
    (getLoc_setLoc_ne _ _ _ _ hne.2.2.symm).trans (getLoc_setLoc_same _ _ _), getLoc_setLoc_same _ _ _,
    ((F1.mono (by simp)).set (by simp) _).set (by simp) _⟩

end pieces

/-- what no loop body assigns: the list `lst` it traverses, of length `n`, and the names of the library functions -/
structure Fixed (lst : String) (n : Nat) (env : Env α) : Prop where
  list : ∃ L, getLoc lst env = .ok (.list L) ∧ L.length = n
  len : resolve env "len" = "len"
  max : resolve env "max" = "max"
  min : resolve env "min" = "min"

theorem Fixed.frame {lst : String} {n : Nat} {vs : List String} {env env' : Env α} (h : Fixed lst n env)
    (F : Frame vs env env') (hd : ∀ x ∈ [lst, "len", "max", "min"], x ∉ vs) : Fixed lst n env' := by
  simp only [List.forall_mem_cons] at hd
  exact ⟨by rw [F.getLoc hd.1]; exact h.list, (F.resolve hd.2.1).trans h.len, (F.resolve hd.2.2.1).trans h.max,
    (F.resolve hd.2.2.2.1).trans h.min⟩

/-- what the unary loops assume of the callees: `f` is `max` or `min`, computing `comb` -/
structure CombOK (call : Call α) (f : String) (comb : α → α → α) : Prop where
  hf : f = "max" ∨ f = "min"
  len : ∀ l : List (DV α), call "len" [.list l] = .ok (.int l.length)
  comb : ∀ (a : α) (y : DV α) (b : α), toVal y = .ok b → call f [.val a, y] = .ok (.val (comb a b))

theorem CombOK.resolve {call : Call α} {f : String} {comb : α → α → α} (hK : CombOK call f comb) {lst : String} {n : Nat}
    {env : Env α} (h : Fixed lst n env) : resolve env f = f := by
  rcases hK.hf with rfl | rfl
  · exact h.max
  · exact h.min

/-- the body of the loop of `visitOnce` (`f = "max"`) and `visitHistorically` (`f = "min"`) -/
def fwdBody (f : String) : S :=
  scanHead f "self.prev"
    (emitS (keepE (.loc "out_value") "sample") (.loc "out_time") (.loc "out_value") "sample_return" "prev")

/-- what the loop of `visitOnce` maintains: `n` is the length of the whole input, `acc` the running maximum
    (`self.prev`), `prev` the previous output value (`nan` at the start), `out` the output built so far -/
structure FwdInv (n : Nat) (env : Env α) (acc : α) (prev : Option α) (out : ASig α) : Prop where
  fixed : Fixed "sample" n env
  hsp : ∃ sp, getLoc "self.prev" env = .ok sp ∧ toVal sp = .ok acc
  hpv : getLoc "prev" env = .ok (encPrev prev)
  hout : getLoc "sample_return" env = .ok (encSig out)

theorem fwdBody_step (call : Call α) (fuel : Nat) (f : String) (comb : α → α → α) (hK : CombOK call f comb)
    (n k : Nat) (last : Bool) (hlast : last = decide (k + 1 = n))
    (env : Env α) (acc : α) (prev : Option α) (out : ASig α) (t : Tm) (v : α)
    (inv : FwdInv n env acc prev out) :
    ∃ env', exec call fuel (fwdBody f) (setLoc "in_sample" (.smp t (.val v)) (setLoc "i" (.int k) env)) = .ok (env', none) ∧
      FwdInv n env' (comb v acc) (some (comb v acc))
        (out ++ if keepB prev (comb v acc) || last then [(t, comb v acc)] else []) := by
  obtain ⟨fx, ⟨sp, hsp, hspv⟩, hpv, hout⟩ := inv
  obtain ⟨env0, he, hin, hi, F0⟩ := Frame.item "in_sample" "i" (by decide) (.smp t (.val v)) k env
  have fx0 := fx.frame F0 (by decide)
  obtain ⟨env1, run1, htv, hov, hacc, F1⟩ := scanHead_exec (call := call) (fuel := fuel) hK.comb hin
    ((F0.getLoc (by decide)).trans hsp) hspv (hK.resolve fx0) (by decide)
  have fx1 := fx0.frame F1 (by decide)
  obtain ⟨L, hL, rfl⟩ := fx1.list
  subst hlast
  obtain ⟨env2, run2, hret, hprev, F2⟩ := emitS_frame (fuel := fuel) (pv := "prev")
    (keepE_eval hK.len (evalE.loc hov) ((F1.getLoc (by decide)).trans ((F0.getLoc (by decide)).trans hpv))
      ((F1.getLoc (by decide)).trans hi) hL fx1.len)
    (evalE.loc htv) (fun _ => evalE.loc ((getLoc_setLoc_ne _ _ _ _ (by decide)).trans hov)) (evalE.loc hov)
    ((F1.getLoc (by decide)).trans ((F0.getLoc (by decide)).trans hout)) (by decide)
  exact ⟨env2, by rw [he, fwdBody, run1]; exact run2, fx1.frame F2 (by decide),
    ⟨_, (F2.getLoc (by decide)).trans hacc, rfl⟩, hprev, hret⟩

theorem fwdGo_isEmpty (comb : α → α → α) (acc : α) (s : ASig α) : (fwdScan.go comb acc s).isEmpty = s.isEmpty := by
  cases s with
  | nil => rfl
  | cons p r => obtain ⟨t, v⟩ := p; rfl

theorem isEmpty_eq_last {β : Type} (rest : List β) (k n : Nat) (h : k + (rest.length + 1) = n) :
    rest.isEmpty = decide (k + 1 = n) := by
  cases rest with
  | nil => simpa using h
  | cons p r => simp at h; simp; omega

/-- the body of `visitOnce` / `visitHistorically`; `ie` is the initial value of `self.prev` -/
def fwdMethodBody (f : String) (ie : E) : S :=
  (.seq (.setLoc "sample_return" .emptyList) (.seq (.setLoc "self.prev" ie) (.seq (.setLoc "prev" .nan) (.seq (.forEnum "i" "in_sample" (.loc "sample") false (fwdBody f)) (.ret (.loc "sample_return"))))))

theorem fwdMethod_exec (call : Call α) (fuel : Nat) (f : String) (comb : α → α → α) (hK : CombOK call f comb)
    (ie : E) (iv : DV α) (init : α) (hie : ∀ env, evalE call env ie = .ok iv) (hiv : toVal iv = .ok init) (s : ASig α) :
    Rets (exec call fuel (fwdMethodBody f ie) [("sample", encSig s)]) (.ok (fwdScan comb init s)) encSig := by
  obtain ⟨env', _, h1, _, acc, prev, out, inv, hT⟩ := exec.forEnum_inv call fuel encSmp "in_sample" "i"
    (.loc "sample") (fwdBody f) s (setLoc "prev" .nan (setLoc "self.prev" iv (setLoc "sample_return" (.list []) [("sample", encSig s)])))
    (evalE.loc (by simp [encSig]))
    (fun k rest env => k + rest.length = s.length ∧ ∃ acc prev out, FwdInv s.length env acc prev out ∧
      out ++ dedupGo prev (fwdScan.go comb acc rest) = fwdScan comb init s)
    (by
      rintro k ⟨t, v⟩ rest env ⟨hk, acc, prev, out, inv, hT⟩
      obtain ⟨env1, h1, inv1⟩ := fwdBody_step call fuel f comb hK s.length k rest.isEmpty
        (isEmpty_eq_last rest k _ (by simpa using hk)) env acc prev out t v inv
      exact ⟨env1, h1, by simp at hk ⊢; omega, _, _, _, inv1,
        by rw [← hT]; simp [fwdScan.go, dedupGo_cons, fwdGo_isEmpty]⟩)
    ⟨by simp, init, none, [], ⟨⟨⟨s.map encSmp, by simp [encSig], by simp⟩, by simp, by simp, by simp⟩, ⟨iv, by simp, hiv⟩,
      by simp [encPrev], by simp [encSig]⟩, by simp [fwdScan, dedup]⟩
  refine Rets.intro (env' := env') ?_
  rw [fwdMethodBody, exec.seq_ok (exec.setLoc (v := .list []) rfl), exec.seq_ok (exec.setLoc (hie _)),
    exec.seq_ok (exec.setLoc (v := .nan) rfl), exec.seq_ok h1, exec.ret (evalE.loc inv.hout), ← hT]
  simp [fwdScan.go, dedupGo]

theorem visitOnce_body : Gen.Dense.visitOnce.body = fwdMethodBody "max" (.neg .inf) := rfl
theorem visitHistorically_body : Gen.Dense.visitHistorically.body = fwdMethodBody "min" .inf := rfl

theorem _root_.Rtamt.Py.Dn.gen_visitOnce (fuel : Nat) (s : ASig α) :
    callD fuel Gen.Dense.visitOnce [s] none [] = .ok (fwdScan pmax Val.ninf s) :=
  callD_of_rets rfl (visitOnce_body ▸ fwdMethod_exec (callAt Gen.Dense.fns fuel depth) fuel "max" pmax
    ⟨.inl rfl, callAt_len fuel depth, callAt_max fuel depth⟩ (.neg .inf) (.uinf true) Val.ninf
    (fun env => by simp [evalE, evalNeg]) rfl s)

theorem _root_.Rtamt.Py.Dn.gen_visitHistorically (fuel : Nat) (s : ASig α) :
    callD fuel Gen.Dense.visitHistorically [s] none [] = .ok (fwdScan pmin Val.pinf s) :=
  callD_of_rets rfl (visitHistorically_body ▸ fwdMethod_exec (callAt Gen.Dense.fns fuel depth) fuel "min" pmin
    ⟨.inr rfl, callAt_len fuel depth, callAt_min fuel depth⟩ .inf (.uinf false) Val.pinf
    (fun env => by simp [evalE]) rfl s)

/-- `out_value == next`, where `next` is `nan` at the start -/
def eqNextB (nx : Option α) (o : α) : Bool :=
  match nx with
  | none => false
  | some x => !vne o x

def bstep {γ : Type} (g : α → γ → α) (n : Nat) (st : α × Option α × ASig α × Nat) (p : Tm × γ) :
    α × Option α × ASig α × Nat :=
  let (acc, nx, out, i) := st
  let ov := g acc p.2
  (ov, some ov, (p.1, ov) :: (if eqNextB nx ov && decide (i + 2 < n) then out.tail else out), i - 1)

theorem backScanG_eq {γ : Type} (g : α → γ → α) (init : α) (nx0 : Option α) (s : List (Tm × γ)) :
    backScanG g init nx0 s = (s.reverse.foldl (bstep g s.length) (init, nx0, [], s.length - 1)).2.2.1 := rfl

theorem cmpDV_eq_val_of (o acc : α) (pv : DV α) (h : pv = .val acc ∨ (pv = .uinf true ∧ acc = Val.ninf)) :
    cmpDV .eq (.val o) pv = .ok (!vne o acc) := by
  rcases h with rfl | ⟨rfl, rfl⟩ <;> simp [cmpDV, isTimeLike, isValLike, toVal, cmpVal, numEq, vne]

theorem cmpDV_eq_val (a b : α) : cmpDV .eq (.val a) (.val b) = .ok (!vne a b) := cmpDV_eq_val_of a b _ (.inl rfl)
theorem cmpDV_eq_nan (a : α) : cmpDV .eq (.val a) (.nan) = .ok false := by
  simp [cmpDV, isCmp]

/-- the body of the loop of `visitEventually` (`f = "max"`) and `visitAlways` (`f = "min"`) -/
def bwdBody (f : String) : S :=
  scanHead f "self.next" (dropTail (dropCond "out_value" "sample") "out_time" "out_value" "next")

/-- what the loop of `visitEventually` maintains: `n` is the length of the whole input, `acc` the running maximum
    (`self.next`), `nx` the value of the sample after this one (`nan` at the start), `out` the output built so far,
    `i` the index of the next item -/
structure BwdInv (n : Nat) (env : Env α) (acc : α) (nx : Option α) (out : ASig α) (i : Nat) : Prop where
  fixed : Fixed "sample" n env
  hsn : ∃ sn, getLoc "self.next" env = .ok sn ∧ toVal sn = .ok acc
  hnx : ∃ nv, getLoc "next" env = .ok nv ∧ ∀ o : α, cmpDV .eq (.val o) nv = .ok (eqNextB nx o)
  hout : getLoc "sample_return" env = .ok (encSig out)
  hne : i + 2 < n → out ≠ []

theorem bwdBody_step (call : Call α) (fuel : Nat) (f : String) (comb : α → α → α) (hK : CombOK call f comb)
    (n i : Nat) (env : Env α) (acc : α) (nx : Option α) (out : ASig α) (t : Tm) (v : α)
    (inv : BwdInv n env acc nx out i) :
    ∃ env', exec call fuel (bwdBody f) (setLoc "in_sample" (.smp t (.val v)) (setLoc "i" (.int i) env)) = .ok (env', none) ∧
      BwdInv n env' (comb v acc) (some (comb v acc))
        ((t, comb v acc) :: (if eqNextB nx (comb v acc) && decide (i + 2 < n) then out.tail else out)) (i - 1) := by
  obtain ⟨fx, ⟨sn, hsn, hsnv⟩, ⟨nv, hnv, hnvc⟩, hout, hne⟩ := inv
  obtain ⟨env0, he, hin, hi, F0⟩ := Frame.item "in_sample" "i" (by decide) (.smp t (.val v)) i env
  have fx0 := fx.frame F0 (by decide)
  obtain ⟨env1, run1, htv, hov, hacc, F1⟩ := scanHead_exec (call := call) (fuel := fuel) hK.comb hin
    ((F0.getLoc (by decide)).trans hsn) hsnv (hK.resolve fx0) (by decide)
  have fx1 := fx0.frame F1 (by decide)
  obtain ⟨L, hL, hLn⟩ := fx1.list
  obtain ⟨env2, run2, hret, hnext, F2⟩ := dropTail_exec (call := call) (fuel := fuel) (nx := "next")
    (dropCond_eval hK.len hov ((F1.getLoc (by decide)).trans ((F0.getLoc (by decide)).trans hnv)) (hnvc _)
      ((F1.getLoc (by decide)).trans hi) hL hLn fx1.len)
    htv hov ((F1.getLoc (by decide)).trans ((F0.getLoc (by decide)).trans hout))
    (fun h => hne (of_decide_eq_true (Bool.and_eq_true _ _ ▸ h).2)) (by decide)
  exact ⟨env2, by rw [he, bwdBody, run1]; exact run2, fx1.frame F2 (by decide),
    ⟨_, (F2.getLoc (by decide)).trans hacc, rfl⟩, ⟨_, hnext, fun o => cmpDV_eq_val o _⟩, hret,
    fun _ => List.cons_ne_nil _ _⟩

/-- the body of `visitEventually` / `visitAlways`; `ie` is the initial value of `self.next` -/
def bwdMethodBody (f : String) (ie : E) : S :=
  (.seq (.setLoc "sample_return" .emptyList) (.seq (.setLoc "self.next" ie) (.seq (.setLoc "next" .nan) (.seq (.forEnum "i" "in_sample" (.loc "sample") true (bwdBody f)) (.ret (.loc "sample_return"))))))

theorem bwdMethod_exec (call : Call α) (fuel : Nat) (f : String) (comb : α → α → α) (hK : CombOK call f comb)
    (ie : E) (iv : DV α) (init : α) (hie : ∀ env, evalE call env ie = .ok iv) (hiv : toVal iv = .ok init) (s : ASig α) :
    Rets (exec call fuel (bwdMethodBody f ie) [("sample", encSig s)]) (.ok (backScan comb init s)) encSig := by
  obtain ⟨env', _, h1, acc, nx, out, inv, hT⟩ := exec.forEnumRev_inv call fuel encSmp "in_sample" "i"
    (.loc "sample") (bwdBody f) s (setLoc "next" .nan (setLoc "self.next" iv (setLoc "sample_return" (.list []) [("sample", encSig s)])))
    (evalE.loc (by simp [encSig]))
    (fun i rest env => ∃ acc nx out, BwdInv s.length env acc nx out i ∧
      (rest.foldl (bstep (fun acc v => comb v acc) s.length) (acc, nx, out, i)).2.2.1 = backScan comb init s)
    (by
      rintro i ⟨t, v⟩ rest env ⟨acc, nx, out, inv, hT⟩
      obtain ⟨env1, h1, inv1⟩ := bwdBody_step call fuel f comb hK s.length i env acc nx out t v inv
      -- `hT`: the fold over `(t, v) :: rest` computes to the fold over `rest` from the state `bstep` leaves
      exact ⟨env1, h1, _, _, _, inv1, hT⟩)
    ⟨init, none, [], ⟨⟨⟨s.map encSmp, by simp [encSig], by simp⟩, by simp, by simp, by simp⟩, ⟨iv, by simp, hiv⟩,
      ⟨.nan, by simp, fun o => by simp [cmpDV_eq_nan, eqNextB]⟩, by simp [encSig], by omega⟩,
      by simp [backScan, backScanG_eq]⟩
  refine Rets.intro (env' := env') ?_
  rw [bwdMethodBody, exec.seq_ok (exec.setLoc (v := .list []) rfl), exec.seq_ok (exec.setLoc (hie _)),
    exec.seq_ok (exec.setLoc (v := .nan) rfl), exec.seq_ok h1, exec.ret (evalE.loc inv.hout), ← hT]
  rfl

theorem visitEventually_body : Gen.Dense.visitEventually.body = bwdMethodBody "max" (.neg .inf) := rfl
theorem visitAlways_body : Gen.Dense.visitAlways.body = bwdMethodBody "min" .inf := rfl

theorem _root_.Rtamt.Py.Dn.gen_visitEventually (fuel : Nat) (s : ASig α) :
    callD fuel Gen.Dense.visitEventually [s] none [] = .ok (backScan pmax Val.ninf s) :=
  callD_of_rets rfl (visitEventually_body ▸ bwdMethod_exec (callAt Gen.Dense.fns fuel depth) fuel "max" pmax
    ⟨.inl rfl, callAt_len fuel depth, callAt_max fuel depth⟩ (.neg .inf) (.uinf true) Val.ninf
    (fun env => by simp [evalE, evalNeg]) rfl s)

theorem _root_.Rtamt.Py.Dn.gen_visitAlways (fuel : Nat) (s : ASig α) :
    callD fuel Gen.Dense.visitAlways [s] none [] = .ok (backScan pmin Val.pinf s) :=
  callD_of_rets rfl (visitAlways_body ▸ bwdMethod_exec (callAt Gen.Dense.fns fuel depth) fuel "min" pmin
    ⟨.inr rfl, callAt_len fuel depth, callAt_min fuel depth⟩ .inf (.uinf false) Val.pinf
    (fun env => by simp [evalE]) rfl s)

/-- a sample of the list `intersection(l, r, split)` returns -/
def encSmpPair (p : Tm × (α × α)) : DV α := .smp p.1 (encPair p.2)

theorem encSigP_pair (o : List (Tm × (α × α))) : encSigP encPair o = (.list (o.map encSmpPair) : DV α) := rfl

/-- The body `iout, last, a, b = intersection(sample_left, sample_right, split)`, then `tail` (`since_operation`,
    `until_operation`): if `tail` returns `F iout`, the body returns `F` of the mirror's `inter` - or raises what `inter`
    raises. -/
theorem viaIntersection (fuel k : Nat) (hI : InterSpec α fuel k) (tail : S) (F : List (Tm × (α × α)) → ASig α)
    (htail : ∀ (env : Env α) (o : List (Tm × (α × α))), getLoc "iout" env = .ok (encSigP encPair o) →
      resolve env "len" = "len" → resolve env "max" = "max" → resolve env "min" = "min" →
      Rets (exec (callAt Gen.Dense.fns fuel (k + 2)) fuel tail env) (.ok (F o)) encSig)
    (l r : ASig α) (h : l.length + r.length + 4 ≤ fuel) :
    Rets (exec (callAt Gen.Dense.fns fuel (k + 2)) fuel
      (.seq (.unpack ["iout", "last", "a", "b"]
        (.call3 "intersection" (.loc "sample_left") (.loc "sample_right") (.fnRef "split"))) tail)
      [("sample_left", encSig l), ("sample_right", encSig r)])
      (do let o ← inter (fun a b => (a, b)) pairNe l r; pure (F o)) encSig := by
  refine Runs.seq_sim (Runs.unpackInter (evalE.loc (by simp)) (evalE.loc (by simp)) rfl
    (hI.sim (gen_split fuel k) toPayload_encPair cmpDV_ne_encPair l r h)) ?_
  rintro o env1 - ⟨a, b, c, he⟩
  exact htail env1 o (by simp [he]) (by simp [he]) (by simp [he]) (by simp [he])

/-- the body of the loop of `since_operation` -/
def sinceBody : S :=
  pairHead "prev" (emitS (.or_ (.bin .eq (.loc "i") (.int 0)) (keepE (.loc "result") "iout")) (.loc "t") (.loc "result")
    "sample_return" "prev")

/-- what the loop of `since_operation` maintains before the item of index `k`: `n` is the length of `iout`, `acc` the
    previous result (`prev`; it is `-inf` before the first item, where `i == 0` decides and `prev` is not compared),
    `out` the output built so far -/
structure SinceInv (n k : Nat) (env : Env α) (acc : α) (out : ASig α) : Prop where
  fixed : Fixed "iout" n env
  hpv : ∃ pv, getLoc "prev" env = .ok pv ∧ toVal pv = .ok acc ∧ (k ≠ 0 → pv = .val acc)
  hout : getLoc "sample_return" env = .ok (encSig out)

theorem sinceBody_step (call : Call α) (fuel : Nat)
    (hc : LibOK call)
    (n k : Nat) (last : Bool) (hlast : last = decide (k + 1 = n))
    (env : Env α) (acc : α) (out : ASig α) (t : Tm) (a b : α)
    (inv : SinceInv n k env acc out) :
    ∃ env', exec call fuel sinceBody (setLoc "sample" (.smp t (.pair (.val a) (.val b))) (setLoc "i" (.int k) env))
        = .ok (env', none) ∧
      SinceInv n (k + 1) env' (sinceVal acc (a, b))
        (out ++ if decide (k = 0) || (vne (sinceVal acc (a, b)) acc || last) then [(t, sinceVal acc (a, b))] else []) := by
  obtain ⟨fx, ⟨pv, hpv, hpvv, hpk⟩, hout⟩ := inv
  obtain ⟨env0, he, hin, hi, F0⟩ := Frame.item "sample" "i" (by decide) (.smp t (.pair (.val a) (.val b))) k env
  have fx0 := fx.frame F0 (by decide)
  obtain ⟨env1, run1, htv, hov, F1⟩ := pairHead_exec (call := call) (fuel := fuel) hc hin
    ((F0.getLoc (by decide)).trans hpv) hpvv fx0.max fx0.min (by decide)
  have fx1 := fx0.frame F1 (by decide)
  obtain ⟨L, hL, rfl⟩ := fx1.list
  subst hlast
  have hi1 := (F1.getLoc (by decide)).trans hi
  have hpv1 := (F1.getLoc (by decide)).trans ((F0.getLoc (by decide)).trans hpv)
  -- `i == 0 or (result != prev or i == len(iout) - 1)`
  have hc : evalE call env1 (.or_ (.bin .eq (.loc "i") (.int 0)) (keepE (.loc "result") "iout"))
      = .ok (.bool (decide (k = 0) || (vne (sinceVal acc (a, b)) acc || decide (k + 1 = L.length)))) := by
    have e0 : evalE call env1 (.bin .eq (.loc "i") (.int 0)) = .ok (.bool (decide (k = 0))) := by
      rw [evalE.bin (evalE.loc hi1) rfl, evalBin.cmp rfl, cmpDV_int_eq]; simp
    rw [evalE.or_ e0 rfl]
    cases k with
    | zero => rfl
    | succ j =>
        obtain rfl := hpk (Nat.succ_ne_zero j)
        exact keepE_eval (prev := some acc) hc.len (evalE.loc hov) hpv1 hi1 hL fx1.len
  obtain ⟨env2, run2, hret, hprev, F2⟩ := emitS_frame (fuel := fuel) (pv := "prev") hc (evalE.loc htv)
    (fun _ => evalE.loc ((getLoc_setLoc_ne _ _ _ _ (by decide)).trans hov)) (evalE.loc hov)
    ((F1.getLoc (by decide)).trans ((F0.getLoc (by decide)).trans hout)) (by decide)
  exact ⟨env2, by rw [he, sinceBody, run1]; exact run2, fx1.frame F2 (by decide), ⟨_, hprev, rfl, fun _ => rfl⟩, hret⟩

theorem sinceGo_isEmpty (acc : α) (s : List (Tm × (α × α))) : (sinceOp.go acc s).isEmpty = s.isEmpty := by
  cases s with
  | nil => rfl
  | cons p r => obtain ⟨t, v⟩ := p; rfl

/-- `since_operation` after the call of `intersection` -/
def sinceTail : S :=
  (.seq (.setLoc "sample_return" .emptyList) (.seq (.setLoc "prev" (.neg .inf)) (.seq (.forEnum "i" "sample" (.loc "iout") false sinceBody) (.ret (.loc "sample_return")))))

theorem sinceTail_exec (call : Call α) (fuel : Nat)
    (hc : LibOK call)
    (env : Env α) (o : List (Tm × (α × α))) (hiout : getLoc "iout" env = .ok (encSigP encPair o))
    (hrlen : resolve env "len" = "len") (hrmax : resolve env "max" = "max") (hrmin : resolve env "min" = "min") :
    Rets (exec call fuel sinceTail env) (.ok (dedup (sinceOp.go Val.ninf o))) encSig := by
  obtain ⟨env', _, h1, _, acc, out, inv, hT⟩ := exec.forEnum_inv call fuel encSmpPair "sample" "i"
    (.loc "iout") sinceBody o (setLoc "prev" (.uinf true) (setLoc "sample_return" (.list []) env))
    (evalE.loc (by simp [hiout, encSigP_pair]))
    (fun k rest env => k + rest.length = o.length ∧ ∃ acc out, SinceInv o.length k env acc out ∧
      out ++ dedupGo (if k = 0 then none else some acc) (sinceOp.go acc rest) = dedup (sinceOp.go Val.ninf o))
    (by
      rintro k ⟨t, a, b⟩ rest env ⟨hk, acc, out, inv, hT⟩
      obtain ⟨env1, h1, inv1⟩ := sinceBody_step call fuel hc o.length k rest.isEmpty
        (isEmpty_eq_last rest k _ (by simpa using hk)) env acc out t a b inv
      exact ⟨env1, h1, by simp at hk ⊢; omega, _, _, inv1, by
        rw [← hT]; by_cases hk0 : k = 0 <;> simp [sinceOp.go, dedupGo_cons, sinceGo_isEmpty, keepB, hk0]⟩)
    ⟨by simp, Val.ninf, [],
      ⟨⟨⟨o.map encSmpPair, by simp [hiout, encSigP_pair], by simp⟩, by simp [hrlen], by simp [hrmax], by simp [hrmin]⟩,
        ⟨.uinf true, by simp, rfl, fun h => absurd rfl h⟩, by simp [encSig]⟩, by simp [dedup]⟩
  refine Rets.intro (env' := env') ?_
  rw [sinceTail, exec.seq_ok (exec.setLoc (v := .list []) rfl), exec.seq_ok (exec.setLoc (v := .uinf true) rfl),
    exec.seq_ok h1, exec.ret (evalE.loc inv.hout), ← hT]
  simp [sinceOp.go, dedupGo]

theorem _root_.Rtamt.Py.Dn.gen_since_operation' (fuel k : Nat) (hI : InterSpec α fuel k) (l r : ASig α) (h : l.length + r.length + 4 ≤ fuel) :
    callAt Gen.Dense.fns fuel (k + 3) "since_operation" [encSig l, encSig r] = (sinceOp l r).map encSig :=
  callAt_of_rets (fn := Gen.Dense.fn_since_operation) (fns_at 24 rfl) rfl
    (viaIntersection fuel k hI sinceTail _ (sinceTail_exec _ fuel (libOK_callAt fuel (k + 2))) l r h)

/-- the body of the loop of `until_operation` -/
def untilBody : S := pairHead "next" (dropTail (dropCond "result" "iout") "t" "result" "next")

/-- what the loop of `until_operation` maintains: `n` is the length of `iout`, `acc` the result at the sample after this
    one (`next`, `-inf` at the start), `out` the output built so far, `i` the index of the next item -/
structure UntilInv (n : Nat) (env : Env α) (acc : α) (out : ASig α) (i : Nat) : Prop where
  fixed : Fixed "iout" n env
  hnv : ∃ nv, getLoc "next" env = .ok nv ∧ toVal nv = .ok acc ∧ ∀ o : α, cmpDV .eq (.val o) nv = .ok (!vne o acc)
  hout : getLoc "sample_return" env = .ok (encSig out)
  hne : i + 2 < n → out ≠ []

theorem untilBody_step (call : Call α) (fuel : Nat)
    (hc : LibOK call)
    (n i : Nat) (env : Env α) (acc : α) (out : ASig α) (t : Tm) (a b : α)
    (inv : UntilInv n env acc out i) :
    ∃ env', exec call fuel untilBody (setLoc "sample" (.smp t (.pair (.val a) (.val b))) (setLoc "i" (.int i) env))
        = .ok (env', none) ∧
      UntilInv n env' (sinceVal acc (a, b))
        ((t, sinceVal acc (a, b)) ::
          (if !vne (sinceVal acc (a, b)) acc && decide (i + 2 < n) then out.tail else out)) (i - 1) := by
  obtain ⟨fx, ⟨nv, hnv, hnvv, hnvc⟩, hout, hne⟩ := inv
  obtain ⟨env0, he, hin, hi, F0⟩ := Frame.item "sample" "i" (by decide) (.smp t (.pair (.val a) (.val b))) i env
  have fx0 := fx.frame F0 (by decide)
  obtain ⟨env1, run1, htv, hov, F1⟩ := pairHead_exec (call := call) (fuel := fuel) hc hin
    ((F0.getLoc (by decide)).trans hnv) hnvv fx0.max fx0.min (by decide)
  have fx1 := fx0.frame F1 (by decide)
  obtain ⟨L, hL, hLn⟩ := fx1.list
  obtain ⟨env2, run2, hret, hnext, F2⟩ := dropTail_exec (call := call) (fuel := fuel) (nx := "next")
    (dropCond_eval hc.len hov ((F1.getLoc (by decide)).trans ((F0.getLoc (by decide)).trans hnv)) (hnvc _)
      ((F1.getLoc (by decide)).trans hi) hL hLn fx1.len)
    htv hov ((F1.getLoc (by decide)).trans ((F0.getLoc (by decide)).trans hout))
    (fun h => hne (of_decide_eq_true (Bool.and_eq_true _ _ ▸ h).2)) (by decide)
  exact ⟨env2, by rw [he, untilBody, run1]; exact run2, fx1.frame F2 (by decide),
    ⟨_, hnext, rfl, fun o' => cmpDV_eq_val_of o' _ _ (.inl rfl)⟩, hret, fun _ => List.cons_ne_nil _ _⟩

/-- `until_operation` after the call of `intersection` -/
def untilTail : S :=
  (.seq (.setLoc "sample_return" .emptyList) (.seq (.setLoc "next" (.neg .inf)) (.seq (.forEnum "i" "sample" (.loc "iout") true untilBody) (.ret (.loc "sample_return")))))

theorem untilTail_exec (call : Call α) (fuel : Nat)
    (hc : LibOK call)
    (env : Env α) (o : List (Tm × (α × α))) (hiout : getLoc "iout" env = .ok (encSigP encPair o))
    (hrlen : resolve env "len" = "len") (hrmax : resolve env "max" = "max") (hrmin : resolve env "min" = "min") :
    Rets (exec call fuel untilTail env) (.ok (backScanG sinceVal Val.ninf (some Val.ninf) o)) encSig := by
  obtain ⟨env', _, h1, acc, out, inv, hT⟩ := exec.forEnumRev_inv call fuel encSmpPair "sample" "i"
    (.loc "iout") untilBody o (setLoc "next" (.uinf true) (setLoc "sample_return" (.list []) env))
    (evalE.loc (by simp [hiout, encSigP_pair]))
    (fun i rest env => ∃ acc out, UntilInv o.length env acc out i ∧
      (rest.foldl (bstep sinceVal o.length) (acc, some acc, out, i)).2.2.1 = backScanG sinceVal Val.ninf (some Val.ninf) o)
    (by
      rintro i ⟨t, a, b⟩ rest env ⟨acc, out, inv, hT⟩
      obtain ⟨env1, h1, inv1⟩ := untilBody_step call fuel hc o.length i env acc out t a b inv
      exact ⟨env1, h1, _, _, inv1, hT⟩)  -- as in `bwdMethod_exec`
    ⟨Val.ninf, [],
      ⟨⟨⟨o.map encSmpPair, by simp [hiout, encSigP_pair], by simp⟩, by simp [hrlen], by simp [hrmax], by simp [hrmin]⟩,
        ⟨.uinf true, by simp, rfl, fun o' => cmpDV_eq_val_of o' _ _ (.inr ⟨rfl, rfl⟩)⟩, by simp [encSig], by omega⟩,
      by simp [backScanG_eq]⟩
  refine Rets.intro (env' := env') ?_
  rw [untilTail, exec.seq_ok (exec.setLoc (v := .list []) rfl), exec.seq_ok (exec.setLoc (v := .uinf true) rfl),
    exec.seq_ok h1, exec.ret (evalE.loc inv.hout), ← hT]
  rfl

theorem _root_.Rtamt.Py.Dn.gen_until_operation' (fuel k : Nat) (hI : InterSpec α fuel k) (l r : ASig α) (h : l.length + r.length + 4 ≤ fuel) :
    callAt Gen.Dense.fns fuel (k + 3) "until_operation" [encSig l, encSig r] = (untilOp l r).map encSig :=
  callAt_of_rets (fn := Gen.Dense.fn_until_operation) (fns_at 30 rfl) rfl
    (viaIntersection fuel k hI untilTail _ (untilTail_exec _ fuel (libOK_callAt fuel (k + 2))) l r h)

end GenScan

end Rtamt.Py.Dn
