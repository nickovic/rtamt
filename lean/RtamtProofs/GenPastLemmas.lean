/-
  Symbolic execution of the method shapes of the translated pastifier (`Rtamt/Py/GeneratedPast.lean`):
  the method of each node class (`pastM`); the delayed shape, which 28 of the 39 methods have, once (`call_delayed`: a head of
  three statements, a middle that builds `node` on children visited at the node's own horizon, and the tail that wraps what
  remains of the caller's horizon around it); one lemma for each of the six other shapes.  Used by `RtamtProofs/GenPast.lean`.
-/
import Rtamt.Py.RunPast
import RtamtProofs.SemBase
import RtamtProofs.Lemmas.VisitName
import RtamtProofs.Lemmas.Horizon

namespace Rtamt.Py
open Rtamt Val

variable {α : Type}

/-- The method `StlPastifier` defines for a node class. -/
def pastM : Kind → PMethod
  | .Variable => Gen.Past.visitVariable | .Constant => Gen.Past.visitConstant | .Predicate => Gen.Past.visitPredicate
  | .Abs => Gen.Past.visitAbs | .Sqrt => Gen.Past.visitSqrt | .Exp => Gen.Past.visitExp | .Ln => Gen.Past.visitLn
  | .Negate => Gen.Past.visitNegate | .Neg => Gen.Past.visitNot
  | .Addition => Gen.Past.visitAddition | .Subtraction => Gen.Past.visitSubtraction
  | .Multiplication => Gen.Past.visitMultiplication | .Division => Gen.Past.visitDivision
  | .Pow => Gen.Past.visitPow | .Log => Gen.Past.visitLog
  | .Conjunction => Gen.Past.visitAnd | .Disjunction => Gen.Past.visitOr | .Implies => Gen.Past.visitImplies
  | .Iff => Gen.Past.visitIff | .Xor => Gen.Past.visitXor
  | .Rise => Gen.Past.visitRise | .Fall => Gen.Past.visitFall | .Previous => Gen.Past.visitPrevious
  | .StrongPrevious => Gen.Past.visitStrongPrevious | .Next => Gen.Past.visitNext | .StrongNext => Gen.Past.visitStrongNext
  | .Once => Gen.Past.visitOnce | .Historically => Gen.Past.visitHistorically | .Eventually => Gen.Past.visitEventually
  | .Always => Gen.Past.visitAlways | .Since => Gen.Past.visitSince | .Until => Gen.Past.visitUntil
  | .TimedOnce => Gen.Past.visitTimedOnce | .TimedHistorically => Gen.Past.visitTimedHistorically
  | .TimedEventually => Gen.Past.visitTimedEventually | .TimedAlways => Gen.Past.visitTimedAlways
  | .TimedSince => Gen.Past.visitTimedSince | .TimedUntil => Gen.Past.visitTimedUntil
  | .TimedPrecedes => Gen.Past.visitTimedPrecedes

/-- The node classes in the order of the `visitX` methods in the source. -/
def pastOrder : List Kind :=
  [.Variable, .TimedEventually, .TimedAlways, .TimedUntil, .TimedOnce, .TimedHistorically, .TimedSince, .TimedPrecedes, .Constant,
   .Predicate, .Addition, .Multiplication, .Subtraction, .Division, .Abs, .Sqrt, .Exp, .Pow, .Log, .Ln, .Negate, .Rise, .Fall, .Neg,
   .Conjunction, .Disjunction, .Implies, .Iff, .Xor, .Eventually, .Always, .Until, .Once, .Previous, .StrongPrevious, .Next,
   .StrongNext, .Historically, .Since]

theorem pastMethods_eq : Gen.Past.methods = pastOrder.map fun k => (visitName k, pastM k) := rfl

theorem lookupP_eq (k : Kind) : lookupP k = some (pastM k) := by
  rw [lookupP, pastMethods_eq]
  exact lookup_visitName pastM _ (Kind.forall_of_all (p := (· ∈ pastOrder)) (by decide +kernel) k)

/-! The node classes the bodies construct with an interval, at the class names that occur. -/

@[simp] theorem mkNodeT1_once (a b : Nat) (φ : F α) : mkNodeT1 "TimedOnce" a b φ = some (.tb1 .once a b φ) := by
  simp [mkNodeT1]

@[simp] theorem mkNodeT1_hist (a b : Nat) (φ : F α) :
    mkNodeT1 "TimedHistorically" a b φ = some (.tb1 .hist a b φ) := by
  simp [mkNodeT1]

@[simp] theorem mkNodeT2_since (a b : Nat) (φ ψ : F α) :
    mkNodeT2 "TimedSince" a b φ ψ = some (.tb2 .since a b φ ψ) := by
  simp [mkNodeT2]

@[simp] theorem mkNodeT2_precedes (a b : Nat) (φ ψ : F α) :
    mkNodeT2 "TimedPrecedes" a b φ ψ = some (.tb2 .precedes a b φ ψ) := by
  simp [mkNodeT2]

/-- Symbolic execution of a loop-free body on a concrete store. -/
macro "past_exec" "[" ls:Lean.Parser.Tactic.simpLemma,* "]" : tactic =>
  `(tactic| simp [execPS, evalPE, getKey_setKey_same, getKey_setKey_ne, getKey_cons_same, getKey_cons_ne, bind, Except.bind, pure, Except.pure, ofOpt,
      natCast_lt_zero, $ls,*])

/-- the tail `if horizon > 0: node = TimedOnce(node, Interval(horizon, horizon))` against `delay`. -/
macro "past_delay" R:ident H:ident : tactic =>
  `(tactic| (
      by_cases h : ($H : Int) < $R
      · have h1 : ¬ ($R - ($H : Int) < 0) := by omega
        have h2 : 0 < Int.toNat $R - $H := by omega
        simp [h, h1, h2, mkNodeT1, delay, List.lookup]
      · have h2 : ¬ (0 < Int.toNat $R - $H) := by omega
        simp [h, h2, delay, List.lookup]))

attribute [local simp] getKey_setKey_same getKey_setKey_ne getKey_cons_same getKey_cons_ne

/-- A block without its last statement, and the last statement. -/
def PS.init : PS → PS
  | .seq a b => match b with | .seq _ _ => .seq a b.init | _ => a
  | _ => .skip

def PS.last : PS → PS
  | .seq _ b => match b with | .seq _ _ => b.last | _ => b
  | s => s

theorem execPS_init_last (rec : Nat → Int → Except PyErr (F α)) (s : PS) (loc : PStore α) :
    execPS rec s loc = (execPS rec s.init loc >>= execPS rec s.last) := by
  induction s generalizing loc with
  | seq a b _ ihb =>
    cases b with
    | seq c d =>
      show (execPS rec a loc >>= execPS rec (.seq c d)) = (execPS rec a loc >>= execPS rec (PS.init (.seq c d))) >>= _
      rw [bind_assoc]; exact bind_congr fun l => ihb l
    | _ => rfl
  | _ => rfl

/-- `node_horizon = self.subformula_horizons[node]; remaining_horizon = horizon; horizon = remaining_horizon - node_horizon`,
    then `rest`.  In `m.body = delayHead rest` unification reads `rest` off the generated body. -/
abbrev delayHead (rest : PS) : PS :=
  .seq (.setLoc "node_horizon" (.loc "$node_horizon")) (.seq (.setLoc "remaining_horizon" (.loc "$horizon"))
    (.seq (.setLoc "horizon" (.sub (.loc "remaining_horizon") (.loc "node_horizon"))) rest))

/-- `if horizon > 0: node = TimedOnce(node, Interval(horizon, horizon))` -/
def delayTail : PS :=
  .ite (.gt (.loc "horizon") (.int 0)) (.setLoc "node" (.mk2 "TimedOnce" (.loc "node") (.interval (.loc "horizon") (.loc "horizon")))) .skip

/-- The locals after the head, `ex` being the arguments the node class adds (`$operator`; `$begin`, `$end`). -/
def delayLoc (R : Int) (H : Nat) (ex : PStore α) : PStore α :=
  setKey "horizon" (.int (R - H)) (setKey "remaining_horizon" (.int R) (setKey "node_horizon" (.int H)
    ([("$horizon", .int R), ("$node_horizon", .int H)] ++ ex)))

/-- A method that rebuilds its node `n` on children visited with the node's own horizon `H` and ends with the delay: what remains
    of the caller's horizon goes into a `TimedOnce` around `n`.  The middle is `rest.init`, whatever it is: it has to leave
    `n` in `node` and `horizon` alone. -/
theorem call_delayed (rec : Nat → Int → Except PyErr (F α)) (m : PMethod) (rest : PS) (ex : PStore α) (n : F α) (R : Int) (H : Nat)
    (hbody : m.body = delayHead rest) (hret : m.ret = some (.loc "node")) (hlast : rest.last = delayTail)
    (hmid : okAnd (execPS rec rest.init (delayLoc R H ex)) fun loc' =>
      getKey "node" loc' = .ok (.fml n) ∧ getKey "horizon" loc' = .ok (.int (R - H))) :
    callPast rec m ([("$horizon", .int R), ("$node_horizon", .int H)] ++ ex) = .ok (delay (R.toNat - H) n) := by
  obtain ⟨loc', hmid, hn, hh⟩ := hmid
  simp only [delayLoc, List.cons_append, List.nil_append] at hmid
  have key : ∀ loc, execPS rec rest loc = (execPS rec rest.init loc >>= execPS rec delayTail) := fun loc =>
    hlast ▸ execPS_init_last rec rest loc
  simp only [callPast, hbody, hret, execPS, key]
  by_cases h : (H : Int) < R
  · have h1 : ¬ (R - (H : Int) < 0) := by omega
    have h2 : 0 < R.toNat - H := by omega
    past_exec [hmid, delayTail, hn, hh, h, h1, h2, mkNodeT1, delay]
  · have h2 : ¬ (0 < R.toNat - H) := by omega
    past_exec [hmid, delayTail, hn, hh, h, h2, delay]

theorem call_variable (rec : Nat → Int → Except PyErr (F α)) (x : String) (R : Int) :
    callPast rec Gen.Past.visitVariable [("$horizon", .int R), ("$node_horizon", .int 0), ("$self", .fml (.var x))]
      = .ok (delay R.toNat (.var x)) := by
  simp only [callPast, Gen.Past.visitVariable]
  past_exec []
  by_cases h : 0 < R
  · have h1 : ¬ (R < 0) := by omega
    simp [h, h1, delay]
  · have h2 : ¬ (0 < R.toNat) := by omega
    simp [h, h2, delay]

theorem call_constant (rec : Nat → Int → Except PyErr (F α)) (v : α) (R : Int) :
    callPast rec Gen.Past.visitConstant [("$horizon", .int R), ("$node_horizon", .int 0), ("$self", .fml (.const v))]
      = .ok (.const v) := by
  simp only [callPast, Gen.Past.visitConstant]
  past_exec []

def bodyNext : PS :=
  (.seq (.setLoc "horizon" (.sub (.loc "$horizon") (.int 1))) (.setLoc "child_node" (.visit 0 (.loc "horizon"))))

theorem call_next (rec : Nat → Int → Except PyErr (F α)) (m : PMethod) (c : F α) (R : Int) (H : Nat)
    (hbody : m.body = bodyNext) (hret : m.ret = some (.loc "child_node"))
    (hrec : rec 0 (R - 1) = .ok c) :
    callPast rec m [("$horizon", .int R), ("$node_horizon", .int H)] = .ok c := by
  simp only [callPast, hbody, hret, bodyNext]
  past_exec [hrec]

theorem call_timedOnce (rec : Nat → Int → Except PyErr (F α)) (c : F α) (a b : Nat) (R : Int) (H : Nat)
    (hrec : rec 0 (H : Int) = .ok c) :
    callPast rec Gen.Past.visitTimedOnce
        [("$horizon", .int R), ("$node_horizon", .int H), ("$begin", .int a), ("$end", .int b)]
      = .ok (if R.toNat - H > 0 then .tb1 .once (a + (R.toNat - H)) (b + (R.toNat - H)) c else .tb1 .once a b c) := by
  simp only [callPast, Gen.Past.visitTimedOnce]
  past_exec [hrec]
  by_cases h : (H : Int) < R
  · have h1 : ¬ ((a : Int) + (R - H) < 0 ∨ (b : Int) + (R - H) < 0) := by omega
    have h2 : 0 < R.toNat - H := by omega
    have h3 : ((a : Int) + (R - H)).toNat = a + (R.toNat - H) := by omega
    have h4 : ((b : Int) + (R - H)).toNat = b + (R.toNat - H) := by omega
    simp [h, h1, h2, h3, h4]
  · have h2 : ¬ (0 < R.toNat - H) := by omega
    simp [h, h2]

def bodyTimedFuture (cls : String) : PS :=
  (.seq (.setLoc "begin" (.loc "$begin")) (.seq (.setLoc "end" (.loc "$end")) (.seq (.setLoc "horizon" (.sub (.loc "$horizon") (.loc "end"))) (.seq (.setLoc "node" (.visit 0 (.loc "horizon"))) (.ite (.gt (.sub (.loc "end") (.loc "begin")) (.int 0)) (.setLoc "node" (.mk2 cls (.loc "node") (.interval (.int 0) (.sub (.loc "end") (.loc "begin"))))) .skip)))))

theorem call_timedFuture (rec : Nat → Int → Except PyErr (F α)) (m : PMethod) (cls : String) (c n : F α)
    (a b : Nat) (R : Int) (H : Nat)
    (hbody : m.body = bodyTimedFuture cls) (hret : m.ret = some (.loc "node"))
    (hrec : rec 0 (R - (b : Int)) = .ok c) (hmk : mkNodeT1 cls 0 (b - a) c = some n) :
    callPast rec m [("$horizon", .int R), ("$node_horizon", .int H), ("$begin", .int a), ("$end", .int b)]
      = .ok (if b - a > 0 then n else c) := by
  simp only [callPast, hbody, hret, bodyTimedFuture]
  past_exec [hrec]
  by_cases h : a < b
  · have h1 : ¬ ((b : Int) - a < 0) := by omega
    have h2 : 0 < b - a := by omega
    simp [h, h1, h2, hmk]
  · have h2 : ¬ (0 < b - a) := by omega
    simp [h, h2]

theorem call_timedUntil (rec : Nat → Int → Except PyErr (F α)) (c1 c2 : F α) (a b : Nat) (R : Int) (H : Nat)
    (hrec1 : rec 0 (R - (b : Int)) = .ok c1) (hrec2 : rec 1 (R - (b : Int)) = .ok c2) :
    callPast rec Gen.Past.visitTimedUntil
        [("$horizon", .int R), ("$node_horizon", .int H), ("$begin", .int a), ("$end", .int b)]
      = .ok (.tb2 .precedes a b c1 c2) := by
  simp only [callPast, Gen.Past.visitTimedUntil]
  past_exec [hrec1, hrec2]

end Rtamt.Py
