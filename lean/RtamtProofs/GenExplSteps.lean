/-
  Symbolic execution of the translated functions of `explanations.py`: what it needs beyond the step equations of
  `GenOps`, `SemSteps` and `GenOffLemmas` — unpacking, tuples, integer comparison, an interval
  list in its two representations (`encZ`: truth value, `append`, last element), the loop over an interval list — and the
  simp set `ltla_simp`.
-/
import RtamtProofs.GenExplDefs
import RtamtProofs.GenOffLemmas

namespace Rtamt.Py.ExplSteps
open Rtamt Val

variable {α : Type} [Val α]

/- `id rfl`: see the note at `ok_bind` in `SemSteps.lean`. -/
theorem exec_unpack (a b : String) (e : E) (env : Env α) :
    exec (.unpack a b e) env = (evalE env e >>= fun v => match v with
      | .pair x y => .ok { env with loc := setKey b y (setKey a x env.loc) }
      | _ => .error .type) := id rfl

theorem evalE_tuple (env : Env α) (a b : E) :
    evalE env (.tuple a b) = (evalE env a >>= fun x => evalE env b >>= fun y => .ok (.pair x y)) := id rfl

/-- The translator writes `False` as `0 == 1`. -/
theorem evalE_False (env : Env α) : evalE env (.bin .eq (.int 0) (.int 1)) = .ok (.bool false) := by
  rw [evalE_bin, evalE_int, evalE_int, ok_bind, ok_bind, evalBin_eq_int]; rfl

omit [Val α] in
theorem encZ_cons (p : Int × Int) (l : IvsZ) : (encZ (p :: l) : V α) = .ivs (p :: l) := rfl
omit [Val α] in
theorem encZ_ne_nil {l : IvsZ} (h : l ≠ []) : (encZ l : V α) = .ivs l := by
  cases l with
  | nil => exact absurd rfl h
  | cons p l => rfl

/-- `if intervals:` on an interval list, whichever of its two representations it has. -/
theorem truthy_encZ (l : IvsZ) : evalUn (α := α) .truthy (encZ l) = .ok (.bool (!l.isEmpty)) := by
  cases l <;> rfl

omit [Val α] in
/-- `x.append([a, b])` on an interval list (uniform in the representation switch `[]` → `ivs`). -/
theorem appendV_encZ (l : IvsZ) (a b : Int) :
    appendV (α := α) (encZ l) (.pair (.int a) (.int b)) = .ok (encZ (l ++ [(a, b)])) := by
  cases l <;> simp [encZ, appendV]

omit [Val α] in
/-- `l[len(l) - 1]` on a non-empty interval list. -/
theorem evalIdx_last (l : IvsZ) (q : Int × Int) (h : l.getLast? = some q) :
    evalIdx (α := α) (.ivs l) (.int ((l.length : Int) - 1)) = .ok (.pair (.int q.1) (.int q.2)) := by
  have hpos : 0 < l.length := List.length_pos_iff.2 (by rintro rfl; simp at h)
  have h1 : ¬ ((l.length : Int) - 1 < 0) := by omega
  have h2 : ((l.length : Int) - 1).toNat = l.length - 1 := by omega
  rw [List.getLast?_eq_getElem?] at h
  simp only [evalIdx, h1, if_false, h2, h]

theorem exec_forPair_encZ (a b : String) (it : E) (body : S) (env : Env α) (l : IvsZ)
    (h : evalE env it = .ok (encZ l)) :
    exec (.forPair a b it body) env = l.foldlM (fun env p =>
          exec body { env with loc := setKey b (.int p.2) (setKey a (.int p.1) env.loc) }) env := by
  cases l with
  | nil => simp [encZ] at h; simp [exec, h, bind, Except.bind, pure, Except.pure]
  | cons p l => simp [encZ] at h; simp [exec, h, bind, Except.bind]

/-- Symbolic execution of straight-line code; the store is described through `getKey`. -/
macro "ltla_simp" "[" ls:Lean.Parser.Tactic.simpLemma,* "]" : tactic =>
  `(tactic| simp only [ok_bind, exec_skip, exec_seq, exec_setLoc, exec_ite, exec_appendLoc, exec_unpack,
      evalE_loc, evalE_int, evalE_emptyList, evalE_un, evalE_bin, evalE_idx, evalE_tuple, evalE_ifExp,
      evalBin_lt_int, evalBin_le_int, evalBin_gt_int, evalBin_eq_int, evalBin_add_int, evalBin_sub_int, appendV_encZ,
      getKey_setKey_same, getKey_setKey_ne, getKey_cons_same, getKey_cons_ne, ne_eq, String.reduceEq, not_false_eq_true, not_true_eq_false,
      $ls,*])

end Rtamt.Py.ExplSteps
