/-
  C04 — Dense-time offline robustness equals the dense-time STL semantics.

  The executable M-spec `rhoD` (Rtamt/Dense/Ref.lean, what the driver runs and what the real
  dense-time offline monitor is compared with on every run) is shown here to *be* the
  supremum / infimum semantics over closed windows: for step-function inputs every clause of
  the dense-time robustness definition holds with `IsLUB` / `IsGLB` over the (infinite) set of
  time points of the window — finitary interpretation: last value held, windows clipped to the
  domain `[dom, ∞)`, closed intervals, non-strict until/since with the left operand required on
  the closed interval up to the witness.

  Every temporal clause has one shape, `SupFn S T f` / `InfFn S T f`: on the times `T` the function `f` is the
  point-wise supremum / infimum of the sets `S t`.  There is one clause per operator (`rhoD_once_sup` …
  `rhoD_untilB_sup`); a window clipped to the domain may be empty, and then the clause says `ninf` (`pinf`), so the
  past operators need no case of their own for the times at which nothing is in reach yet (`SupFn.cases` reads the two
  cases off the clause).  The specifications of the list algorithms (Dense/Alg*.lean) and of the online monitor
  (Dense/On*.lean) have the same shape, and two functions that satisfy the same clause agree (`SupFn.agree`).
  `C04_once_bounded` … `C04_until_since_bounded` put the clauses of an operator and its dual, or of a past operator and
  its future counterpart, into one statement.
-/
import RtamtProofs.Dense.Step

namespace Rtamt.Dense
open Rtamt Val

variable {α : Type} [Val α] [LawfulVal α]

def valuesOn (g : Rat → Option α) (lo hi : Rat) : Set α := {y | ∃ t, lo ≤ t ∧ t ≤ hi ∧ g t = some y}
def valuesFrom (g : Rat → Option α) (lo : Rat) : Set α := {y | ∃ t, lo ≤ t ∧ g t = some y}

omit [Val α] [LawfulVal α] in
theorem valuesOn_eq_winSet (g : Rat → Option α) (lo hi : Rat) :
    valuesOn g lo hi = winSet g lo (some hi) := rfl

omit [Val α] [LawfulVal α] in
theorem valuesFrom_eq_winSet (g : Rat → Option α) (lo : Rat) :
    valuesFrom g lo = winSet g lo none := (winSet_none_eq g lo).symm

def SupFn (S : Rat → Set α) (T : Rat → Prop) (f : Rat → Option α) : Prop :=
  ∀ t, T t → ∃ v, f t = some v ∧ IsLUB (S t) v

/-- `SupFn` read in `αᵒᵈ`. -/
def InfFn (S : Rat → Set α) (T : Rat → Prop) (f : Rat → Option α) : Prop :=
  ∀ t, T t → ∃ v, f t = some v ∧ IsGLB (S t) v

section shape
variable {S : Rat → Set α} {T T' : Rat → Prop} {f f' : Rat → Option α}

theorem SupFn.eq_some (h : SupFn S T f) {t : Rat} (ht : T t) {v : α} (hv : IsLUB (S t) v) : f t = some v := by
  obtain ⟨v', e, l⟩ := h t ht
  rw [e, l.unique hv]

theorem InfFn.eq_some (h : InfFn S T f) {t : Rat} (ht : T t) {v : α} (hv : IsGLB (S t) v) : f t = some v :=
  SupFn.eq_some (α := αᵒᵈ) h ht hv

theorem SupFn.agree (h : SupFn S T f) (h' : SupFn S T' f') {t : Rat} (ht : T t) (ht' : T' t) : f t = f' t := by
  obtain ⟨v, e, l⟩ := h' t ht'
  rw [e, h.eq_some ht l]

theorem InfFn.agree (h : InfFn S T f) (h' : InfFn S T' f') {t : Rat} (ht : T t) (ht' : T' t) : f t = f' t :=
  SupFn.agree (α := αᵒᵈ) h h' ht ht'

end shape

theorem isLUB_ninf_of_empty {S : Set α} (h : ∀ y, y ∉ S) : IsLUB S (ninf : α) :=
  ⟨fun y hy => absurd hy (h y), fun _ _ => LawfulVal.ninf_bot (α := α) ▸ bot_le⟩

theorem isLUB_valuesOn_empty (g : Rat → Option α) {lo hi : Rat} (h : hi < lo) : IsLUB (valuesOn g lo hi) (ninf : α) :=
  isLUB_ninf_of_empty fun _ ⟨_, h1, h2, _⟩ => not_le.2 h (h1.trans h2)

theorem isGLB_valuesOn_empty (g : Rat → Option α) {lo hi : Rat} (h : hi < lo) : IsGLB (valuesOn g lo hi) (pinf : α) :=
  isLUB_valuesOn_empty (α := αᵒᵈ) g h

/-- The witnesses of `since` over an empty window: the set is `Alg.sinceSet g1 g2 lo hi t` of Dense/AlgDefs.lean. -/
theorem isLUB_since_empty (g1 g2 : Rat → Option α) {lo hi : Rat} (t : Rat) (h : hi < lo) :
    IsLUB {y | ∃ t' l r, lo ≤ t' ∧ t' ≤ hi ∧ g2 t' = some r ∧ IsGLB (valuesOn g1 t' t) l ∧ y = min l r} (ninf : α) :=
  isLUB_ninf_of_empty fun _ ⟨_, _, _, h1, h2, _⟩ => not_le.2 h (h1.trans h2)

/-- The two-case form in which the bounded past operators are also specified (`ninf` while `t - a < 0`, the supremum over
    the clipped window from then on) follows from the one clause: while `t - a < 0` the clipped window
    `[max (t - b) 0, t - a]` is empty. -/
theorem SupFn.cases {g f : Rat → Option α} {T : Rat → Prop} {a b : Rat}
    (h : SupFn (fun t => valuesOn g (max (t - b) 0) (t - a)) T f) (t : Rat) (ht : T t) :
    (t - a < 0 → f t = some ninf) ∧
      (0 ≤ t - a → ∃ v, f t = some v ∧ IsLUB (valuesOn g (max (t - b) 0) (t - a)) v) :=
  ⟨fun hc => h.eq_some ht (isLUB_valuesOn_empty g (hc.trans_le (le_max_right _ _))), fun _ => h t ht⟩

theorem InfFn.cases {g f : Rat → Option α} {T : Rat → Prop} {a b : Rat}
    (h : InfFn (fun t => valuesOn g (max (t - b) 0) (t - a)) T f) (t : Rat) (ht : T t) :
    (t - a < 0 → f t = some pinf) ∧
      (0 ≤ t - a → ∃ v, f t = some v ∧ IsGLB (valuesOn g (max (t - b) 0) (t - a)) v) :=
  SupFn.cases (α := αᵒᵈ) h t ht

/-- The common body of `untilInner` and `sinceInner`: `min` of a value of `ψ` and the infimum of `φ`
    over a closed window, declaratively. -/
theorem inner_some_iff {g1 : Rat → Option α} {B1 : List Rat} {lo hi : Rat}
    (h1 : StepOn g1 B1 lo (some hi)) (hle : lo ≤ hi) (x : Option α) (y : α) :
    (do let r ← x
        let l ← foldWin pmin pinf g1 B1 lo (some hi)
        pure (pmin l r)) = some y ↔
      ∃ l r, x = some r ∧ IsGLB (valuesOn g1 lo hi) l ∧ y = min l r := by
  obtain ⟨v, hv, hglb⟩ := foldWin_min_spec h1 hle
  rw [hv]
  cases x with
  | none => exact ⟨nofun, fun ⟨_, _, h, _⟩ => nomatch h⟩
  | some r =>
    show some (pmin v r) = some y ↔ _
    rw [pmin_eq]
    constructor
    · intro h
      exact ⟨v, r, rfl, hglb, (Option.some.inj h).symm⟩
    · rintro ⟨l, r', hr, hl, rfl⟩
      cases hr
      rw [hglb.unique hl]

/-- `foldWin` of `untilInner` over a window of witnesses `[lo, hi]`, `t ≤ lo`, declaratively -/
theorem foldWin_untilInner {g1 g2 : Rat → Option α} {B1 B2 : List Rat} {d1 d2 t lo : Rat} (h1 : StepOn g1 B1 d1 none)
    (h2 : StepOn g2 B2 d2 none) (hi : Option Rat) (ht : max d1 d2 ≤ t) (hlo : t ≤ lo) (hle : leHi lo hi) :
    ∃ v, foldWin pmax ninf (untilInner g1 g2 B1 t) (B1 ++ B2) lo hi = some v ∧
      IsLUB {y | ∃ t' l r, lo ≤ t' ∧ leHi t' hi ∧ g2 t' = some r ∧ IsGLB (valuesOn g1 t t') l ∧ y = min l r} v := by
  obtain ⟨v, hv, hl⟩ := foldWin_max_spec ((untilInner_stepOn h1 h2 ht).restrict hlo hi) hle
  refine ⟨v, hv, ?_⟩
  have hd : d1 ≤ t := le_trans (le_max_left _ _) ht
  convert hl using 1
  ext y
  constructor
  · rintro ⟨t', l, r, k0, k1, k⟩
    exact ⟨t', k0, k1, (inner_some_iff (h1.restrict hd _) (le_trans hlo k0) _ y).2 ⟨l, r, k⟩⟩
  · rintro ⟨t', k0, k1, k3⟩
    obtain ⟨l, r, k⟩ := (inner_some_iff (h1.restrict hd _) (le_trans hlo k0) _ y).1 k3
    exact ⟨t', l, r, k0, k1, k⟩

/-- `foldWin` of `sinceInner` over a window of witnesses `[lo, hi]`, `hi ≤ t`, declaratively -/
theorem foldWin_sinceInner {g1 g2 : Rat → Option α} {B1 B2 : List Rat} {d1 d2 t lo hi : Rat} (h1 : StepOn g1 B1 d1 none)
    (h2 : StepOn g2 B2 d2 none) (hd : max d1 d2 ≤ lo) (hhi : hi ≤ t) (hle : lo ≤ hi) :
    ∃ v, foldWin pmax ninf (sinceInner g1 g2 B1 t) (B1 ++ B2) lo (some hi) = some v ∧
      IsLUB {y | ∃ t' l r, lo ≤ t' ∧ t' ≤ hi ∧ g2 t' = some r ∧ IsGLB (valuesOn g1 t' t) l ∧ y = min l r} v := by
  obtain ⟨v, hv, hl⟩ := foldWin_max_spec (sinceInner_stepOn h1 h2 hd hhi) hle
  refine ⟨v, hv, ?_⟩
  have hd1 : d1 ≤ lo := le_trans (le_max_left _ _) hd
  convert hl using 1
  ext y
  constructor
  · rintro ⟨t', l, r, k0, k1, k⟩
    exact ⟨t', k0, k1,
      (inner_some_iff (h1.restrict (le_trans hd1 k0) _) (le_trans k1 hhi) _ y).2 ⟨l, r, k⟩⟩
  · rintro ⟨t', k0, k1, k3⟩
    obtain ⟨l, r, k⟩ :=
      (inner_some_iff (h1.restrict (le_trans hd1 k0) _) (le_trans k1 hhi) _ y).1 k3
    exact ⟨t', l, r, k0, k1, k⟩

variable (cfg : DCfg) (hs : 0 ≤ cfg.scale) (w : DEnv α)

omit [LawfulVal α] in
theorem C04_pointwise (op : Un) (op2 : Bin) (φ ψ : F α) (t : Rat) :
    rhoD cfg w (.un op φ) t = (rhoD cfg w φ t).map op.app ∧
    rhoD cfg w (.bin op2 φ ψ) t =
      (match rhoD cfg w φ t, rhoD cfg w ψ t with | some l, some r => some (op2.app l r) | _, _ => none) := by
  refine ⟨rfl, ?_⟩
  rw [rhoD_bin]
  cases rhoD cfg w φ t <;> cases rhoD cfg w ψ t <;> rfl

/-! One clause per temporal operator.  The operand is a step function from `dom` on (`rhoD_stepOn`), and on a step
function `foldWin` is the supremum / infimum over the window (`foldWin_max_spec`, `foldWin_min_spec`). -/

section unary
variable (φ : F α) (hsup : supported φ = true) (hw : w.WF φ.vars)
include hs hsup hw

theorem rhoD_once_sup :
    SupFn (fun t => valuesOn (rhoD cfg w φ) (dom w φ) t) (dom w φ ≤ ·) (rhoD cfg w (.tmp1 .once φ)) := fun t ht => by
  rw [rhoD_tmp1_once, if_neg (not_lt.2 ht)]
  exact foldWin_max_spec ((rhoD_stepOn cfg hs w φ hsup hw).restrict le_rfl (some t)) ht

theorem rhoD_hist_inf :
    InfFn (fun t => valuesOn (rhoD cfg w φ) (dom w φ) t) (dom w φ ≤ ·) (rhoD cfg w (.tmp1 .hist φ)) := fun t ht => by
  rw [rhoD_tmp1_hist, if_neg (not_lt.2 ht)]
  exact foldWin_min_spec ((rhoD_stepOn cfg hs w φ hsup hw).restrict le_rfl (some t)) ht

theorem rhoD_ev_sup :
    SupFn (fun t => valuesFrom (rhoD cfg w φ) t) (dom w φ ≤ ·) (rhoD cfg w (.tmp1 .ev φ)) := fun t ht => by
  show ∃ v, _ = some v ∧ IsLUB (valuesFrom (rhoD cfg w φ) t) v
  rw [rhoD_tmp1_ev, if_neg (not_lt.2 ht), valuesFrom_eq_winSet]
  exact foldWin_max_spec ((rhoD_stepOn cfg hs w φ hsup hw).mono_lo ht) trivial

theorem rhoD_alw_inf :
    InfFn (fun t => valuesFrom (rhoD cfg w φ) t) (dom w φ ≤ ·) (rhoD cfg w (.tmp1 .alw φ)) := fun t ht => by
  show ∃ v, _ = some v ∧ IsGLB (valuesFrom (rhoD cfg w φ) t) v
  rw [rhoD_tmp1_alw, if_neg (not_lt.2 ht), valuesFrom_eq_winSet]
  exact foldWin_min_spec ((rhoD_stepOn cfg hs w φ hsup hw).mono_lo ht) trivial

variable (a b : Nat) (hab : a ≤ b)
include hab

/-- `once[a,b]`: the window `[t - b, t - a]` clipped to the domain; it is empty, and the value `ninf`, while `t - a < dom`. -/
theorem rhoD_onceB_sup :
    SupFn (fun t => valuesOn (rhoD cfg w φ) (max (t - b * cfg.scale) (dom w φ)) (t - a * cfg.scale)) (dom w φ ≤ ·)
      (rhoD cfg w (.tb1 .once a b φ)) := fun t ht => by
  rw [rhoD_tb1_once, if_neg (not_lt.2 ht)]
  split
  · exact ⟨_, rfl, isLUB_valuesOn_empty _ (lt_of_lt_of_le ‹_› (le_max_right _ _))⟩
  · exact foldWin_max_spec ((rhoD_stepOn cfg hs w φ hsup hw).restrict (le_max_right _ _) _)
      (max_le (sub_le_sub_left (scale_bounds cfg hs hab).2 t) (not_lt.1 ‹_›))

theorem rhoD_histB_inf :
    InfFn (fun t => valuesOn (rhoD cfg w φ) (max (t - b * cfg.scale) (dom w φ)) (t - a * cfg.scale)) (dom w φ ≤ ·)
      (rhoD cfg w (.tb1 .hist a b φ)) := fun t ht => by
  rw [rhoD_tb1_hist, if_neg (not_lt.2 ht)]
  split
  · exact ⟨_, rfl, isGLB_valuesOn_empty _ (lt_of_lt_of_le ‹_› (le_max_right _ _))⟩
  · exact foldWin_min_spec ((rhoD_stepOn cfg hs w φ hsup hw).restrict (le_max_right _ _) _)
      (max_le (sub_le_sub_left (scale_bounds cfg hs hab).2 t) (not_lt.1 ‹_›))

theorem rhoD_evB_sup :
    SupFn (fun t => valuesOn (rhoD cfg w φ) (t + a * cfg.scale) (t + b * cfg.scale)) (dom w φ ≤ ·)
      (rhoD cfg w (.tb1 .ev a b φ)) := fun t ht => by
  obtain ⟨ha', hab'⟩ := scale_bounds cfg hs hab
  rw [rhoD_tb1_ev, if_neg (not_lt.2 ht)]
  exact foldWin_max_spec ((rhoD_stepOn cfg hs w φ hsup hw).restrict (le_trans ht (le_add_of_nonneg_right ha')) _)
    (add_le_add_right hab' t)

theorem rhoD_alwB_inf :
    InfFn (fun t => valuesOn (rhoD cfg w φ) (t + a * cfg.scale) (t + b * cfg.scale)) (dom w φ ≤ ·)
      (rhoD cfg w (.tb1 .alw a b φ)) := fun t ht => by
  obtain ⟨ha', hab'⟩ := scale_bounds cfg hs hab
  rw [rhoD_tb1_alw, if_neg (not_lt.2 ht)]
  exact foldWin_min_spec ((rhoD_stepOn cfg hs w φ hsup hw).restrict (le_trans ht (le_add_of_nonneg_right ha')) _)
    (add_le_add_right hab' t)

end unary

section binary
variable (φ ψ : F α) (hsφ : supported φ = true) (hsψ : supported ψ = true) (hw : w.WF (φ.vars ++ ψ.vars))
include hs hsφ hsψ hw

theorem rhoD_until_sup :
    SupFn (fun t => {y | ∃ t' l r, t ≤ t' ∧ rhoD cfg w ψ t' = some r ∧
        IsGLB (valuesOn (rhoD cfg w φ) t t') l ∧ y = min l r})
      (max (dom w φ) (dom w ψ) ≤ ·) (rhoD cfg w (.tmp2 .until φ ψ)) := fun t ht => by
  rw [rhoD_until, if_neg (not_lt.2 ht)]
  simpa only [leHi, true_and] using foldWin_untilInner (rhoD_stepOn cfg hs w φ hsφ hw.left)
    (rhoD_stepOn cfg hs w ψ hsψ hw.right) none ht le_rfl trivial

theorem rhoD_since_sup :
    SupFn (fun t => {y | ∃ t' l r, max (dom w φ) (dom w ψ) ≤ t' ∧ t' ≤ t ∧ rhoD cfg w ψ t' = some r ∧
        IsGLB (valuesOn (rhoD cfg w φ) t' t) l ∧ y = min l r})
      (max (dom w φ) (dom w ψ) ≤ ·) (rhoD cfg w (.tmp2 .since φ ψ)) := fun t ht => by
  rw [rhoD_since, if_neg (not_lt.2 ht)]
  exact foldWin_sinceInner (rhoD_stepOn cfg hs w φ hsφ hw.left) (rhoD_stepOn cfg hs w ψ hsψ hw.right) le_rfl le_rfl ht

variable (a b : Nat) (hab : a ≤ b)
include hab

theorem rhoD_untilB_sup :
    SupFn (fun t => {y | ∃ t' l r, t + a * cfg.scale ≤ t' ∧ t' ≤ t + b * cfg.scale ∧ rhoD cfg w ψ t' = some r ∧
        IsGLB (valuesOn (rhoD cfg w φ) t t') l ∧ y = min l r})
      (max (dom w φ) (dom w ψ) ≤ ·) (rhoD cfg w (.tb2 .until a b φ ψ)) := fun t ht => by
  obtain ⟨ha', hab'⟩ := scale_bounds cfg hs hab
  rw [rhoD_tb2_until, if_neg (not_lt.2 ht)]
  exact foldWin_untilInner (rhoD_stepOn cfg hs w φ hsφ hw.left) (rhoD_stepOn cfg hs w ψ hsψ hw.right) _ ht
    (le_add_of_nonneg_right ha') (add_le_add_right hab' t)

/-- `since[a,b]`: the witness ranges over `[t - b, t - a]` clipped to the domain; no witness, and the value `ninf`, while
    `t - a < dom`. -/
theorem rhoD_sinceB_sup :
    SupFn (fun t => {y | ∃ t' l r, max (t - b * cfg.scale) (max (dom w φ) (dom w ψ)) ≤ t' ∧ t' ≤ t - a * cfg.scale ∧
        rhoD cfg w ψ t' = some r ∧ IsGLB (valuesOn (rhoD cfg w φ) t' t) l ∧ y = min l r})
      (max (dom w φ) (dom w ψ) ≤ ·) (rhoD cfg w (.tb2 .since a b φ ψ)) := fun t ht => by
  obtain ⟨ha', hab'⟩ := scale_bounds cfg hs hab
  rw [rhoD_tb2_since, if_neg (not_lt.2 ht)]
  split
  · exact ⟨_, rfl, isLUB_since_empty _ _ t (lt_of_lt_of_le ‹_› (le_max_right _ _))⟩
  · exact foldWin_sinceInner (rhoD_stepOn cfg hs w φ hsφ hw.left) (rhoD_stepOn cfg hs w ψ hsψ hw.right)
      (le_max_right _ _) (sub_le_self t ha') (max_le (sub_le_sub_left hab' t) (not_lt.1 ‹_›))

end binary

include hs in
/-- `once[a,b] φ` at `t`: `-inf` while the window `[t-b, t-a]` lies entirely before the domain,
    otherwise the supremum of `φ` over `[max(t-b, dom), t-a]`; dually `historically[a,b]`. -/
theorem C04_once_bounded (a b : Nat) (hab : a ≤ b) (φ : F α) (hsup : supported φ = true)
    (hw : w.WF φ.vars) (t : Rat) (ht : dom w φ ≤ t) :
    (t - a * cfg.scale < dom w φ → rhoD cfg w (.tb1 .once a b φ) t = some ninf ∧
        rhoD cfg w (.tb1 .hist a b φ) t = some pinf) ∧
    (dom w φ ≤ t - a * cfg.scale →
      (∃ v, rhoD cfg w (.tb1 .once a b φ) t = some v ∧
        IsLUB (valuesOn (rhoD cfg w φ) (max (t - b * cfg.scale) (dom w φ)) (t - a * cfg.scale)) v) ∧
      (∃ v, rhoD cfg w (.tb1 .hist a b φ) t = some v ∧
        IsGLB (valuesOn (rhoD cfg w φ) (max (t - b * cfg.scale) (dom w φ)) (t - a * cfg.scale)) v)) := by
  have O := rhoD_onceB_sup cfg hs w φ hsup hw a b hab
  have H := rhoD_histB_inf cfg hs w φ hsup hw a b hab
  exact ⟨fun h => ⟨O.eq_some ht (isLUB_valuesOn_empty _ (h.trans_le (le_max_right _ _))),
    H.eq_some ht (isGLB_valuesOn_empty _ (h.trans_le (le_max_right _ _)))⟩, fun _ => ⟨O t ht, H t ht⟩⟩

include hs in
/-- `eventually[a,b] φ` / `always[a,b] φ` at `t`: supremum / infimum over `[t+a, t+b]`. -/
theorem C04_eventually_bounded (a b : Nat) (hab : a ≤ b) (φ : F α) (hsup : supported φ = true)
    (hw : w.WF φ.vars) (t : Rat) (ht : dom w φ ≤ t) :
    (∃ v, rhoD cfg w (.tb1 .ev a b φ) t = some v ∧
        IsLUB (valuesOn (rhoD cfg w φ) (t + a * cfg.scale) (t + b * cfg.scale)) v) ∧
    (∃ v, rhoD cfg w (.tb1 .alw a b φ) t = some v ∧
        IsGLB (valuesOn (rhoD cfg w φ) (t + a * cfg.scale) (t + b * cfg.scale)) v) :=
  ⟨rhoD_evB_sup cfg hs w φ hsup hw a b hab t ht, rhoD_alwB_inf cfg hs w φ hsup hw a b hab t ht⟩

include hs in
/-- Unbounded `once` / `historically` (window `[dom, t]`) and `eventually` / `always` (`[t, ∞)`). -/
theorem C04_unbounded (φ : F α) (hsup : supported φ = true) (hw : w.WF φ.vars) (t : Rat)
    (ht : dom w φ ≤ t) :
    (∃ v, rhoD cfg w (.tmp1 .once φ) t = some v ∧ IsLUB (valuesOn (rhoD cfg w φ) (dom w φ) t) v) ∧
    (∃ v, rhoD cfg w (.tmp1 .hist φ) t = some v ∧ IsGLB (valuesOn (rhoD cfg w φ) (dom w φ) t) v) ∧
    (∃ v, rhoD cfg w (.tmp1 .ev φ) t = some v ∧ IsLUB (valuesFrom (rhoD cfg w φ) t) v) ∧
    (∃ v, rhoD cfg w (.tmp1 .alw φ) t = some v ∧ IsGLB (valuesFrom (rhoD cfg w φ) t) v) :=
  ⟨rhoD_once_sup cfg hs w φ hsup hw t ht, rhoD_hist_inf cfg hs w φ hsup hw t ht,
    rhoD_ev_sup cfg hs w φ hsup hw t ht, rhoD_alw_inf cfg hs w φ hsup hw t ht⟩

include hs in
/-- `φ until ψ` at `t`: supremum over witnesses `t' ≥ t` of `min(ψ(t'), inf_{[t,t']} φ)`;
    `φ since ψ`: supremum over `t' ∈ [dom, t]` of `min(ψ(t'), inf_{[t',t]} φ)`. -/
theorem C04_until_since (φ ψ : F α) (hsφ : supported φ = true) (hsψ : supported ψ = true)
    (hw : w.WF (φ.vars ++ ψ.vars)) (t : Rat) (ht : max (dom w φ) (dom w ψ) ≤ t) :
    (∃ v, rhoD cfg w (.tmp2 .until φ ψ) t = some v ∧
      IsLUB {y | ∃ t' l r, t ≤ t' ∧ rhoD cfg w ψ t' = some r ∧
                  IsGLB (valuesOn (rhoD cfg w φ) t t') l ∧ y = min l r} v) ∧
    (∃ v, rhoD cfg w (.tmp2 .since φ ψ) t = some v ∧
      IsLUB {y | ∃ t' l r, max (dom w φ) (dom w ψ) ≤ t' ∧ t' ≤ t ∧ rhoD cfg w ψ t' = some r ∧
                  IsGLB (valuesOn (rhoD cfg w φ) t' t) l ∧ y = min l r} v) :=
  ⟨rhoD_until_sup cfg hs w φ ψ hsφ hsψ hw t ht, rhoD_since_sup cfg hs w φ ψ hsφ hsψ hw t ht⟩

include hs in
/-- Bounded `until[a,b]` / `since[a,b]`: the witness ranges over `[t+a, t+b]`, resp.
    `[max(t-b, dom), t-a]` (`-inf` while that window lies before the domain). -/
theorem C04_until_since_bounded (a b : Nat) (hab : a ≤ b) (φ ψ : F α) (hsφ : supported φ = true)
    (hsψ : supported ψ = true) (hw : w.WF (φ.vars ++ ψ.vars)) (t : Rat)
    (ht : max (dom w φ) (dom w ψ) ≤ t) :
    (∃ v, rhoD cfg w (.tb2 .until a b φ ψ) t = some v ∧
      IsLUB {y | ∃ t' l r, t + a * cfg.scale ≤ t' ∧ t' ≤ t + b * cfg.scale ∧ rhoD cfg w ψ t' = some r ∧
                  IsGLB (valuesOn (rhoD cfg w φ) t t') l ∧ y = min l r} v) ∧
    (t - a * cfg.scale < max (dom w φ) (dom w ψ) → rhoD cfg w (.tb2 .since a b φ ψ) t = some ninf) ∧
    (max (dom w φ) (dom w ψ) ≤ t - a * cfg.scale →
      ∃ v, rhoD cfg w (.tb2 .since a b φ ψ) t = some v ∧
        IsLUB {y | ∃ t' l r, max (t - b * cfg.scale) (max (dom w φ) (dom w ψ)) ≤ t' ∧ t' ≤ t - a * cfg.scale ∧
                    rhoD cfg w ψ t' = some r ∧ IsGLB (valuesOn (rhoD cfg w φ) t' t) l ∧ y = min l r} v) := by
  have S := rhoD_sinceB_sup cfg hs w φ ψ hsφ hsψ hw a b hab
  exact ⟨rhoD_untilB_sup cfg hs w φ ψ hsφ hsψ hw a b hab t ht,
    fun h => S.eq_some ht (isLUB_since_empty _ _ t (h.trans_le (le_max_right _ _))), fun _ => S t ht⟩

include hs in
/-- The robustness signal is defined from the start of the common input domain on, and the
    evaluator agrees with it there.  (Before `dom` it may be defined too: `rhoD_isStep_false_const`.) -/
theorem C04_domain (φ : F α) (hsup : supported φ = true) (hw : w.WF φ.vars) (t : Rat) (ht : dom w φ ≤ t) :
    (rhoD cfg w φ t).isSome = true ∧ evalAt cfg w φ t = rhoD cfg w φ t :=
  ⟨(rhoD_stepOn cfg hs w φ hsup hw).1 t ht trivial, evalAt_eq_rhoD_partial cfg hs w φ hsup hw t ht⟩

end Rtamt.Dense
