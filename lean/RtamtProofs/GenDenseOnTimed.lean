/-
  The translated bounded operation classes of the dense-time ONLINE monitor, `OnceTimedOperation` and
  `HistoricallyTimedOperation`, compute what the mirror `timedUpdate` (`Rtamt/Dense/AlgOn.lean`) computes on the record
  `TimedSt`: values, exceptions and the new state, for all sample lists, with fuel `GOnTimed.G st s`.  The two classes are one
  text up to `GOnTimed.Par` (`<`/`>`, `>=`/`<=`, the neutral element, the initial `residual_start`) and the order of the three
  statements between the two loops (`midSeq`), so the proof is done once, as in `GenDenseFwd.lean` for the offline functions.

  Each piece of the body is a judgment `Exc.Sim` against its piece of the mirror: the two `while` loops by `Sim.loop`
  (`innerLoop` against `popWhile`, `outerLoop` against the fold of `pushSeg`), the output loop by `exec.forEnum_inv`
  (`emitFor_ok` against `timedEmit`).  The pieces are joined along `;` (`upd_sim`), the methods follow by `method_sim` and
  `method_none` (`update_sim`, `init_ok`).  What a piece leaves alone is read off the names it assigns to (`exec_frame`,
  with one evaluated fact `…_mods` / `…_keeps` per piece; `Inv.frame` for the locals the `while` loops keep).

  `TimedRel cls neg a b st o` relates the record to the object through lookups in its store.  It contains
  `st.rs = none → st.segs = []`: before the first sample the mirror never compares with `residual_start`, while the code
  compares with the initial `-inf` / `+inf`.  The one input on which code and mirror differ for that reason is excluded by
  the hypothesis `hs` of `gen_hist_timed_sim`.
-/
import RtamtProofs.GenDenseOnLogic
import RtamtProofs.Dense.StackDir

namespace Rtamt.Py.DnOn
open Rtamt Val Rtamt.Dense Rtamt.Dense.Alg Rtamt.Dense.AlgOn

set_option linter.unusedSectionVars false

variable {α : Type} [Val α]

namespace GOnTimed

@[simp] theorem exceptMap_ok {ε σ ρ : Type} (a : σ) (f : σ → ρ) : Except.map f (Except.ok a : Except ε σ) = .ok (f a) := rfl
@[simp] theorem exceptMap_error {ε σ ρ : Type} (e : ε) (f : σ → ρ) : Except.map f (Except.error e : Except ε σ) = .error e := rfl

theorem pyIndex_nat (n k : Nat) (h : k < n) : pyIndex n (k : Int) = .ok k := by
  unfold pyIndex; simp [h]

theorem evalIdx_last (l : List (DV α)) (x : DV α) :
    evalIdx (.list (l ++ [x])) (.int (((l ++ [x]).length : Nat) - 1 : Int)) = .ok x := by
  have : (((l ++ [x]).length : Nat) - 1 : Int) = (l.length : Nat) := by simp
  rw [this]
  exact evalIdx.nat _ _ _ (by simp)

attribute [simp] evalIdx.seg0 evalIdx.seg1 evalIdx.seg2 evalIdx.smp0 evalIdx.smp1

theorem evalIdx_last_nil : evalIdx (.list ([] : List (DV α))) (.int ((([] : List (DV α)).length : Nat) - 1 : Int)) = .error .index := by
  simp [evalIdx, pyIndex]

theorem delAt_last (l : List (DV α)) (x : DV α) :
    delAt (l ++ [x]) (((l ++ [x]).length : Nat) - 1 : Int) = .ok l := by
  have : (((l ++ [x]).length : Nat) - 1 : Int) = (l.length : Nat) := by simp
  rw [this]
  unfold delAt
  rw [pyIndex_nat _ _ (by simp)]
  simp [List.eraseIdx_append_of_length_le]

theorem evalIdx_list_nat (l : List (DV α)) (k : Nat) :
    evalIdx (.list l) (.int (k : Int)) = (match l[k]? with | some v => .ok v | none => .error .index) := by
  cases h : l[k]? with
  | some v => exact evalIdx.nat l k v h
  | none =>
      have h2 : ¬ k < l.length := by simpa using h
      simp [evalIdx, pyIndex, h2]

theorem evalIdx_list_succ (l : List (DV α)) (k : Nat) :
    evalIdx (.list l) (.int ((k : Int) + 1)) = (match l[k + 1]? with | some v => .ok v | none => .error .index) := by
  have : ((k : Int) + 1) = ((k + 1 : Nat) : Int) := by simp
  rw [this, evalIdx_list_nat]

end GOnTimed

/-- `intersect.intersects` -/
theorem gen_intersects (fuel k : Nat) (x1 x2 y1 y2 : Tm) :
    callAt Gen.DenseOn.fns fuel (k + 1) "intersects" [.tm x1, .tm x2, .tm y1, .tm y2]
      = .ok (.bool (intersects x1 x2 y1 y2) : DV α) := by
  rw [callAt_fn _ _ _ _ _ _ (fns_at 2 rfl)]
  have hx : exec (callAt Gen.DenseOn.fns fuel k) fuel Gen.DenseOn.fn_intersects.body
      (Gen.DenseOn.fn_intersects.params.zip [.tm x1, .tm x2, .tm y1, (.tm y2 : DV α)])
      = .ok (Gen.DenseOn.fn_intersects.params.zip [.tm x1, .tm x2, .tm y1, .tm y2],
        .ret (.bool (intersects x1 x2 y1 y2))) := by
    unfold intersects
    refine (exec.ite (evalE.and_bool (a := .bin .le (.loc "x1") (.loc "y2")) (b := .bin .le (.loc "y1") (.loc "x2"))
      ((evalE.bin (x := .tm x1) (y := .tm y2) rfl rfl).trans (evalBin.le_tm _ _))
      ((evalE.bin (x := .tm y1) (y := .tm x2) rfl rfl).trans (evalBin.le_tm _ _))) rfl).trans ?_
    cases (Tm.le x1 y2 && Tm.le y1 x2) <;> rfl
  unfold runFn
  rw [hx]
  rfl

namespace GOnTimed

/-! The bodies of `update` and `__init__`, cut into named pieces (`opW`: `<` / `>`, `opK`: `>=` / `<=`, `ninit`: `-inf` / `inf`). -/

def lenOutM1 : E := .bin .sub (.call1 "len" (.loc "out")) (.int 1)

def innerCond (opW : BinOp) : E :=
  .and_ (.bin opW (.idx (.loc "a") (.int 2)) (.idx (.loc "b") (.int 2))) (.bin .lt (.idx (.loc "b") (.int 0)) (.idx (.loc "a") (.int 0)))

def innerBody : S := .seq (.delIdx "out" lenOutM1) (.setLoc "a" (.idx (.loc "out") lenOutM1))

def splitStmt : S :=
  .seq (.delIdx "out" lenOutM1) (.seq (.ite (.bin .gt (.idx (.loc "b") (.int 0)) (.idx (.loc "a") (.int 0))) (.appendLoc "out" (.tup3 (.idx (.loc "a") (.int 0)) (.idx (.loc "b") (.int 0)) (.idx (.loc "a") (.int 2)))) .skip) (.appendLoc "out" (.tup3 (.idx (.loc "b") (.int 0)) (.idx (.loc "b") (.int 1)) (.idx (.loc "b") (.int 2)))))

def tailStmt (opK : BinOp) : S :=
  .ite (.not (.call4 "intersects" (.idx (.loc "a") (.int 0)) (.idx (.loc "a") (.int 1)) (.idx (.loc "b") (.int 0)) (.idx (.loc "b") (.int 1)))) (.appendLoc "out" (.loc "b")) (.ite (.bin opK (.idx (.loc "a") (.int 2)) (.idx (.loc "b") (.int 2))) (.appendLoc "out" (.tup3 (.idx (.loc "a") (.int 1)) (.idx (.loc "b") (.int 1)) (.idx (.loc "b") (.int 2)))) splitStmt)

def pushStmt (opW opK : BinOp) : S :=
  .ite (.not (.loc "out")) (.appendLoc "out" (.loc "b")) (.seq (.setLoc "a" (.idx (.loc "out") lenOutM1)) (.seq (.while_ (innerCond opW) innerBody) (tailStmt opK)))

def initCond : E :=
  .and_ (.bin .eq (.loc "i") (.int 1)) (.and_ (.bin .eq (.idx (.idx (.loc "sample") (.int 0)) (.int 0)) (.int 0)) (.and_ (.bin .gt (.loc "begin") (.int 0)) (.not (.loc "self.started"))))

def initStmt (ninit : E) : S :=
  .ite initCond (.appendLoc "out" (.tup3 (.int 0) (.bin .add (.idx (.idx (.loc "sample") (.int 0)) (.int 0)) (.loc "begin")) ninit)) .skip

def bStmt : S :=
  .ite (.bin .eq (.loc "i") (.call1 "len" (.loc "sample"))) (.setLoc "b" (.tup3 (.bin .add (.idx (.idx (.loc "sample") (.bin .sub (.loc "i") (.int 1))) (.int 0)) (.loc "begin")) (.bin .add (.idx (.idx (.loc "sample") (.bin .sub (.loc "i") (.int 1))) (.int 0)) (.loc "end")) (.idx (.idx (.loc "sample") (.bin .sub (.loc "i") (.int 1))) (.int 1)))) (.setLoc "b" (.tup3 (.bin .add (.idx (.idx (.loc "sample") (.bin .sub (.loc "i") (.int 1))) (.int 0)) (.loc "begin")) (.bin .add (.idx (.idx (.loc "sample") (.loc "i")) (.int 0)) (.loc "end")) (.idx (.idx (.loc "sample") (.bin .sub (.loc "i") (.int 1))) (.int 1))))

def incStmt : S := .setLoc "i" (.bin .add (.loc "i") (.int 1))

def outerBody (opW opK : BinOp) (ninit : E) : S := .seq (initStmt ninit) (.seq bStmt (.seq (pushStmt opW opK) incStmt))

def outerCond : E := .bin .ge (.call1 "len" (.loc "sample")) (.loc "i")

def dropStmt : S :=
  .ite (.and_ (.loc "sample") (.bin .eq (.idx (.idx (.loc "sample") (.int 0)) (.int 0)) (.loc "self.residual_start"))) (.setLoc "sample" (.sliceFrom (.loc "sample") 1)) .skip

def reendInner : S :=
  .seq (.setLoc "last_prev" (.idx (.loc "out") lenOutM1)) (.seq (.setLoc "first_now" (.idx (.loc "sample") (.int 0))) (.seq (.delIdx "out" lenOutM1) (.appendLoc "out" (.tup3 (.idx (.loc "last_prev") (.int 0)) (.bin .add (.idx (.loc "first_now") (.int 0)) (.loc "end")) (.idx (.loc "last_prev") (.int 2))))))

def reendStmt : S :=
  .ite (.loc "sample") (.seq (.setLoc "self.residual_start" (.idx (.idx (.loc "sample") (.neg (.int 1))) (.int 0))) (.ite (.loc "out") reendInner .skip)) .skip

def startedStmt : S := .ite (.loc "sample") (.setLoc "self.started" (.boolLit true)) .skip

def keepCond : E := .or_ (.bin .ne (.idx (.loc "b") (.int 2)) (.loc "prev")) (.bin .eq (.loc "i") lenOutM1)

def resAppend : S := .ite keepCond (.appendLoc "sample_result" (.loc "last")) .skip

def setLastB : S := .setLoc "last" (.list2 (.idx (.loc "b") (.int 0)) (.idx (.loc "b") (.int 2)))

def emitSplit : S :=
  .seq setLastB (.seq resAppend (.seq (.ite (.bin .gt (.loc "self.residual_start") (.idx (.loc "b") (.int 0))) (.setLoc "last" (.list2 (.loc "self.residual_start") (.idx (.loc "b") (.int 2)))) .skip) (.appendLoc "self.prev" (.tup3 (.loc "self.residual_start") (.idx (.loc "b") (.int 1)) (.idx (.loc "b") (.int 2))))))

def emitBody : S :=
  .seq (.ite (.bin .ge (.loc "self.residual_start") (.idx (.loc "b") (.int 1))) (.seq setLastB resAppend) (.ite (.and_ (.bin .le (.idx (.loc "b") (.int 0)) (.loc "self.residual_start")) (.bin .lt (.loc "self.residual_start") (.idx (.loc "b") (.int 1)))) emitSplit (.appendLoc "self.prev" (.loc "b")))) (.setLoc "prev" (.idx (.loc "b") (.int 2)))

def finalStmt : S :=
  .ite (.loc "last") (.ite (.not (.loc "sample_result")) (.appendLoc "sample_result" (.loc "last")) (.ite (.bin .gt (.idx (.loc "last") (.int 0)) (.idx (.idx (.loc "sample_result") (.neg (.int 1))) (.int 0))) (.appendLoc "sample_result" (.loc "last")) .skip)) .skip

def endStmt : S := .seq (.forEnum "i" "b" (.loc "out") false emitBody) (.seq finalStmt (.ret (.loc "sample_result")))

/-- the three statements between the two loops, in the order of `OnceTimedOperation` (`true`) or of
    `HistoricallyTimedOperation` (`false`) -/
def midSeq (ord : Bool) (rest : S) : S :=
  match ord with
  | true => .seq (.setLoc "last" .emptyList) (.seq startedStmt (.seq (.setLoc "prev" .nan) rest))
  | false => .seq startedStmt (.seq (.setLoc "prev" .nan) (.seq (.setLoc "last" .emptyList) rest))

def updBody (opW opK : BinOp) (ninit : E) (ord : Bool) : S :=
  .seq (.setLoc "sample_result" .emptyList) (.seq (.setLoc "out" (.loc "self.prev")) (.seq (.setLoc "self.prev" .emptyList) (.seq (.setLoc "begin" (.loc "self.begin")) (.seq (.setLoc "end" (.loc "self.end")) (.seq dropStmt (.seq reendStmt (.seq (.setLoc "i" (.int 1)) (.seq (.while_ outerCond (outerBody opW opK ninit)) (midSeq ord endStmt)))))))))

theorem once_body_eq : Gen.DenseOn.OnceTimedOperation_update.body = updBody .lt .ge (.neg .inf) true := rfl
theorem hist_body_eq : Gen.DenseOn.HistoricallyTimedOperation_update.body = updBody .gt .le .inf false := rfl

def initBody (ninit : E) : S :=
  .seq (.setLoc "self.prev" .emptyList) (.seq (.setLoc "self.residual_start" ninit) (.seq (.setLoc "self.max" ninit) (.seq (.setLoc "self.begin" (.loc "begin")) (.seq (.setLoc "self.end" (.loc "end")) (.setLoc "self.started" (.boolLit false))))))

/-- What the proof uses of the pieces in which `OnceTimedOperation` and `HistoricallyTimedOperation` differ. -/
structure Par (α : Type) [Val α] (opW opK : BinOp) (ninit : E) (neg : Bool) (worse : α → α → Bool) (neutral : α) : Prop where
  hW : ∀ x y : α, evalBin opW (.val x : DV α) (.val y) = .ok (.bool (worse x y))
  hK : ∀ x y : α, evalBin opK (.val x : DV α) (.val y) = .ok (.bool (!worse x y))
  hN : ∀ (call : Call α) (env : Env α), evalE call env ninit = .ok (.uinf neg)
  hV : toVal (.uinf neg : DV α) = .ok neutral

theorem par_once : Par α .lt .ge (.neg .inf) true ltW Val.ninf where
  hW := fun x y => by simp [evalBin, isCmp, cmpDV, isTimeLike, isValLike, toVal, cmpVal, ltW]
  hK := fun x y => by simp [evalBin, isCmp, cmpDV, isTimeLike, isValLike, toVal, cmpVal, ltW]
  hN := fun call env => by simp [evalE, evalNeg]
  hV := rfl

theorem par_hist : Par α .gt .le .inf false gtW Val.pinf where
  hW := fun x y => by simp [evalBin, isCmp, cmpDV, isTimeLike, isValLike, toVal, cmpVal, gtW]
  hK := fun x y => by simp [evalBin, isCmp, cmpDV, isTimeLike, isValLike, toVal, cmpVal, gtW]
  hN := fun call env => by simp [evalE]
  hV := rfl

structure CallOK (call : Call α) : Prop where
  len : ∀ l : List (DV α), call "len" [.list l] = .ok (.int l.length)
  ints : ∀ x1 x2 y1 y2 : Tm, call "intersects" [.tm x1, .tm x2, .tm y1, .tm y2] = .ok (.bool (intersects x1 x2 y1 y2))

theorem callOK_callAt (fuel k : Nat) : CallOK (callAt Gen.DenseOn.fns fuel (k + 1) : Call α) where
  len := fun l => callAt_lib fuel (k + 1) (lib_at 0 rfl) [.list l]
  ints := gen_intersects fuel k

def encSeg (g : Seg α) : DV α := .seg g.lo g.hi g.v

/-- the Python list `out`: the top of the stack is its last element -/
def pyStk (stk : List (Seg α)) : List (DV α) := stk.reverse.map encSeg

theorem pyStk_cons (x : Seg α) (stk : List (Seg α)) : pyStk (x :: stk) = pyStk stk ++ [encSeg x] := by
  simp [pyStk]

@[simp] theorem pyStk_nil : pyStk ([] : List (Seg α)) = [] := rfl

theorem evalE_seg0 (call : Call α) {env : Env α} {x : String} {g : Seg α} (h : getLoc x env = .ok (encSeg g)) :
    evalE call env (.idx (.loc x) (.int 0)) = .ok (.tm g.lo) :=
  (evalE.idx (e := .loc x) h rfl).trans (evalIdx.seg0 _ _ _)

theorem evalE_seg1 (call : Call α) {env : Env α} {x : String} {g : Seg α} (h : getLoc x env = .ok (encSeg g)) :
    evalE call env (.idx (.loc x) (.int 1)) = .ok (.tm g.hi) :=
  (evalE.idx (e := .loc x) h rfl).trans (evalIdx.seg1 _ _ _)

theorem evalE_seg2 (call : Call α) {env : Env α} {x : String} {g : Seg α} (h : getLoc x env = .ok (encSeg g)) :
    evalE call env (.idx (.loc x) (.int 2)) = .ok (.val g.v) :=
  (evalE.idx (e := .loc x) h rfl).trans (evalIdx.seg2 _ _ _)

theorem mkSeg_tm (x y : Tm) (v : α) : mkSeg (.tm x) (.tm y) (.val v : DV α) = .ok (.seg x y v) := by
  simp [mkSeg, toTm, toVal]

theorem evalE_mkSeg {call : Call α} {env : Env α} {e1 e2 e3 : E} {x y : Tm} {v : α} (h1 : evalE call env e1 = .ok (.tm x))
    (h2 : evalE call env e2 = .ok (.tm y)) (h3 : evalE call env e3 = .ok (.val v)) :
    evalE call env (.tup3 e1 e2 e3) = .ok (.seg x y v) :=
  (evalE.tup3 h1 h2 h3).trans (mkSeg_tm x y v)

theorem eval_lenOutM1 {call : Call α} (hc : CallOK call) {env : Env α} {l : List (DV α)}
    (hout : getLoc "out" env = .ok (.list l)) (hlen : getLoc "len" env = .error .key) :
    evalE call env lenOutM1 = .ok (.int ((l.length : Nat) - 1 : Int)) :=
  (evalE.bin ((evalE.call1 (evalE.loc hout)).trans (resolve_of_key hlen ▸ hc.len l)) rfl).trans rfl

/-- `out[len(out)-1]` -/
theorem evalE_outLast {call : Call α} (hc : CallOK call) {env : Env α} {l : List (DV α)} {x : DV α}
    (hout : getLoc "out" env = .ok (.list (l ++ [x]))) (hlen : getLoc "len" env = .error .key) :
    evalE call env (.idx (.loc "out") lenOutM1) = .ok x := by
  simp only [evalE, hout, eval_lenOutM1 hc hout hlen, ok_bind, evalIdx_last]

/-- `del out[len(out)-1]` -/
theorem exec_delLast {call : Call α} (hc : CallOK call) (fuel : Nat) {env : Env α} {l : List (DV α)} {x : DV α}
    (hout : getLoc "out" env = .ok (.list (l ++ [x]))) (hlen : getLoc "len" env = .error .key) :
    exec call fuel (.delIdx "out" lenOutM1) env = .ok (setLoc "out" (.list l) env, .none) := by
  simp only [exec, hout, eval_lenOutM1 hc hout hlen, ok_bind, delAt_last, pure_eq_ok]

/-! The inner loop: `while a[2] < b[2] and b[0] < a[0]: del out[len(out)-1]; a = out[len(out)-1]`. -/

theorem innerCond_eval {opW opK : BinOp} {ninit : E} {neg : Bool} {worse : α → α → Bool} {neutral : α}
    (hp : Par α opW opK ninit neg worse neutral) (call : Call α) {env : Env α} {sa sb : Seg α}
    (ha : getLoc "a" env = .ok (encSeg sa)) (hb : getLoc "b" env = .ok (encSeg sb)) :
    (do truthy (← evalE call env (innerCond opW))) = .ok (worse sa.v sb.v && Tm.lt sb.lo sa.lo) := by
  rw [innerCond, evalE.and_bool ((evalE.bin (evalE_seg2 call ha) (evalE_seg2 call hb)).trans (hp.hW _ _))
    ((evalE.bin (evalE_seg0 call hb) (evalE_seg0 call ha)).trans (evalBin.lt_tm _ _))]
  rfl

theorem innerBody_ok {call : Call α} (hc : CallOK call) (fuel : Nat) {env : Env α} {l : List (DV α)} {x y : DV α}
    (hout : getLoc "out" env = .ok (.list ((l ++ [y]) ++ [x]))) (hlen : getLoc "len" env = .error .key) :
    exec call fuel innerBody env = .ok (setLoc "a" y (setLoc "out" (.list (l ++ [y])) env), .none) := by
  unfold innerBody
  rw [exec.seq_ok (exec_delLast hc fuel hout hlen)]
  exact exec.setLoc (evalE_outLast hc (l := l) (x := y) (by simp) (by simp [hlen]))

theorem innerBody_err {call : Call α} (hc : CallOK call) (fuel : Nat) {env : Env α} {x : DV α}
    (hout : getLoc "out" env = .ok (.list ([] ++ [x]))) (hlen : getLoc "len" env = .error .key) :
    exec call fuel innerBody env = .error .index := by
  unfold innerBody
  rw [exec.seq_ok (exec_delLast hc fuel hout hlen)]
  have hout' : getLoc "out" (setLoc "out" (.list []) env) = .ok (.list ([] : List (DV α))) := by simp
  have hlen' : getLoc "len" (setLoc "out" (.list []) env) = .error .key := by simp [hlen]
  simp only [exec, evalE, hout', eval_lenOutM1 hc hout' hlen', ok_bind, evalIdx_last_nil, error_bind]

/-- the inner loop stands at the non-empty stack `stk`, whose top is in `a` -/
def AtTop (sb : Seg α) (stk : List (Seg α)) (env : Env α) : Prop :=
  ∃ x rest, stk = x :: rest ∧ getLoc "out" env = .ok (.list (pyStk stk)) ∧ getLoc "a" env = .ok (encSeg x) ∧
    getLoc "b" env = .ok (encSeg sb) ∧ getLoc "len" env = .error .key ∧ getLoc "intersects" env = .error .key

theorem innerLoop {opW opK : BinOp} {ninit : E} {neg : Bool} {worse : α → α → Bool} {neutral : α}
    (hp : Par α opW opK ninit neg worse neutral) {call : Call α} (hc : CallOK call) (fuel : Nat) (sb : Seg α) :
    ∀ (f : Nat) (stk : List (Seg α)) (env : Env α), AtTop sb stk env → stk.length < f →
      Exc.Sim (whileLoop (fun env => do truthy (← evalE call env (innerCond opW))) (exec call fuel innerBody) f env)
        (popWhile worse sb stk) fun stk' r => r.2 = .none ∧ AtTop sb stk' r.1 := by
  refine Exc.Sim.loop (fun f env => whileLoop _ (exec call fuel innerBody) f env) (popWhile worse sb) (AtTop sb) _
    List.length ?_
  -- one round: the condition fails and both sides end; or the last element goes and both raise `IndexError`; or one
  -- element is popped on both sides
  rintro n _ env ⟨x, rest, rfl, hout, ha, hb, hlen, hint⟩
  have hcond := innerCond_eval hp call ha hb
  cases hw : (worse x.v sb.v && Tm.lt sb.lo x.lo) with
  | false =>
      rw [hw] at hcond
      rw [show popWhile worse sb (x :: rest) = .ok (x :: rest) by simp [popWhile, hw]]
      exact .inl (Exc.Sim.ok (whileLoop_done _ _ _ _ hcond) ⟨rfl, x, rest, rfl, hout, ha, hb, hlen, hint⟩)
  | true =>
      rw [hw] at hcond
      cases rest with
      | nil =>
          rw [show popWhile worse sb [x] = .error .index by simp [popWhile, hw]]
          exact .inl (whileLoop_raise _ _ _ _ _ hcond (innerBody_err hc fuel (by simpa [pyStk] using hout) hlen))
      | cons y rest =>
          refine .inr ⟨y :: rest, _, ⟨y, rest, rfl, ?_, ?_, ?_, ?_, ?_⟩, by simp, by rw [popWhile]; simp [hw],
            whileLoop_step _ _ _ _ _ hcond (innerBody_ok hc fuel (l := pyStk rest) (y := encSeg y) (x := encSeg x)
              (by rw [hout, pyStk_cons, pyStk_cons]) hlen)⟩
          · simp [pyStk_cons]
          · simp
          · simp [hb]
          · simp [hlen]
          · simp [hint]

theorem tailStmt_ok {opW opK : BinOp} {ninit : E} {neg : Bool} {worse : α → α → Bool} {neutral : α}
    (hp : Par α opW opK ninit neg worse neutral) {call : Call α} (hc : CallOK call) (fuel : Nat) {env : Env α}
    {top sb : Seg α} {rest : List (Seg α)}
    (hout : getLoc "out" env = .ok (.list (pyStk (top :: rest)))) (ha : getLoc "a" env = .ok (encSeg top))
    (hb : getLoc "b" env = .ok (encSeg sb)) (hlen : getLoc "len" env = .error .key)
    (hint : getLoc "intersects" env = .error .key) :
    ∃ env', exec call fuel (tailStmt opK) env = .ok (env', .none) ∧
      getLoc "out" env' = .ok (.list (pyStk (place fwdDir worse top rest sb))) := by
  have hcond : evalE call env (.not (.call4 "intersects" (.idx (.loc "a") (.int 0)) (.idx (.loc "a") (.int 1))
      (.idx (.loc "b") (.int 0)) (.idx (.loc "b") (.int 1)))) = .ok (.bool (!intersects top.lo top.hi sb.lo sb.hi)) := by
    simp [evalE, ha, hb, encSeg, resolve_of_key hint, hc.ints, truthy]
  unfold tailStmt
  rw [exec.ite hcond rfl]
  cases hi : intersects top.lo top.hi sb.lo sb.hi with
  | false =>
      simp only [Bool.not_false, if_true]
      rw [exec.appendLoc (v := encSeg sb) (by simp [evalE, hb]) hout]
      exact ⟨_, rfl, by simp [place, hi, pyStk_cons]⟩
  | true =>
      simp only [Bool.not_true, Bool.false_eq_true, if_false]
      have hcond2 : evalE call env (.bin opK (.idx (.loc "a") (.int 2)) (.idx (.loc "b") (.int 2)))
          = .ok (.bool (!worse top.v sb.v)) :=
        (evalE.bin (evalE_seg2 call ha) (evalE_seg2 call hb)).trans (hp.hK _ _)
      rw [exec.ite hcond2 rfl]
      cases hw : worse top.v sb.v with
      | false =>
          simp only [Bool.not_false, if_true]
          rw [exec.appendLoc (evalE_mkSeg (evalE_seg1 call ha) (evalE_seg1 call hb) (evalE_seg2 call hb)) hout]
          exact ⟨_, rfl, by simp [place, fwdDir, hi, hw, pyStk_cons, encSeg]⟩
      | true =>
          simp only [Bool.not_true, Bool.false_eq_true, if_false]
          unfold splitStmt
          rw [exec.seq_ok (exec_delLast hc fuel (pyStk_cons top rest ▸ hout) hlen)]
          have ha1 : getLoc "a" (setLoc "out" (.list (pyStk rest)) env) = .ok (encSeg top) := by simp [ha]
          have hb1 : getLoc "b" (setLoc "out" (.list (pyStk rest)) env) = .ok (encSeg sb) := by simp [hb]
          have hcond3 := (evalE.bin (evalE_seg0 call hb1) (evalE_seg0 call ha1)).trans (evalBin.gt_tm (α := α) _ _)
          cases hl : Tm.lt top.lo sb.lo with
          | false =>
              rw [exec.seq_ok (by rw [exec.ite hcond3 rfl, hl, if_neg (by simp)]; exact exec.skip),
                exec.appendLoc (evalE_mkSeg (evalE_seg0 call hb1) (evalE_seg1 call hb1) (evalE_seg2 call hb1))
                  (getLoc_setLoc_same _ _ _)]
              exact ⟨_, rfl, by simp [place, fwdDir, hi, hw, hl, pyStk_cons, encSeg]⟩
          | true =>
              rw [exec.seq_ok (by
                rw [exec.ite hcond3 rfl, hl, if_pos rfl]
                exact exec.appendLoc (evalE_mkSeg (evalE_seg0 call ha1) (evalE_seg0 call hb1) (evalE_seg2 call ha1))
                  (getLoc_setLoc_same _ _ _)),
                exec.appendLoc (evalE_mkSeg (evalE_seg0 call (g := sb) (by simp [hb])) (evalE_seg1 call (g := sb) (by simp [hb]))
                  (evalE_seg2 call (g := sb) (by simp [hb]))) (getLoc_setLoc_same _ _ _)]
              exact ⟨_, rfl, by simp [place, fwdDir, hi, hw, hl, pyStk_cons, encSeg]⟩

theorem pushStmt_sim {opW opK : BinOp} {ninit : E} {neg : Bool} {worse : α → α → Bool} {neutral : α}
    (hp : Par α opW opK ninit neg worse neutral) {call : Call α} (hc : CallOK call) (fuel : Nat) {env : Env α}
    {stk : List (Seg α)} {sb : Seg α} (hf : stk.length + 1 ≤ fuel)
    (hout : getLoc "out" env = .ok (.list (pyStk stk))) (hb : getLoc "b" env = .ok (encSeg sb))
    (hlen : getLoc "len" env = .error .key) (hint : getLoc "intersects" env = .error .key) :
    Exc.Sim (exec call fuel (pushStmt opW opK) env) (pushSeg worse stk sb) fun stk' r =>
      r.2 = .none ∧ getLoc "out" r.1 = .ok (.list (pyStk stk')) := by
  unfold pushStmt
  cases stk with
  | nil =>
      rw [exec.ite_true (evalE.not (evalE.loc hout) rfl) rfl]
      exact Exc.Sim.ok (exec.appendLoc (v := encSeg sb) (by simp [evalE, hb]) hout)
        ⟨rfl, by simp [pyStk_cons]⟩
  | cons x rest =>
      have hout' := pyStk_cons x rest ▸ hout
      rw [exec.ite_false (evalE.not (b := true) (evalE.loc hout') (by simp [truthy])) rfl,
        exec.seq_ok (exec.setLoc (evalE_outLast hc hout' hlen)), pushSeg_eq, pushSegG_cons, ← popWhile_eq]
      refine exec.seq_sim (by
        rw [exec.while_]
        exact innerLoop hp hc fuel sb fuel _ _
          ⟨x, rest, rfl, by simp [hout], by simp, by simp [hb], by simp [hlen], by simp [hint]⟩ hf) ?_
      rintro _ ⟨env1, _⟩ - ⟨rfl, top, rest', rfl, h1, h2, h3, h4, h5⟩
      obtain ⟨env2, e1, e2⟩ := tailStmt_ok hp hc fuel h1 h2 h3 h4 h5
      exact ⟨rfl, Exc.Sim.ok e1 ⟨rfl, e2⟩⟩

/-- the attributes `begin` / `end`: any value that reads as a finite time stamp (a time stamp, or - `SinceTimedOperation`
    builds `HistoricallyTimedOperation(0, self.begin)` - an integer literal) -/
def FinOK (x : DV α) (a : Rat) : Prop := toTm x = .ok (.fin a)

theorem FinOK.tm (a : Rat) : FinOK (.tm (.fin a) : DV α) a := rfl
theorem FinOK.int (n : Int) : FinOK (.int n : DV α) (n : Rat) := rfl

theorem FinOK.cases {x : DV α} {a : Rat} (h : FinOK x a) : x = .tm (.fin a) ∨ ∃ n : Int, x = .int n ∧ (n : Rat) = a := by
  unfold FinOK at h
  cases x with
  | tm t => simp [toTm] at h; subst h; exact .inl rfl
  | int n => simp [toTm] at h; exact .inr ⟨n, rfl, h⟩
  | uinf s => cases s <;> simp [toTm] at h
  | _ => simp [toTm] at h

theorem FinOK.gt {x : DV α} {a : Rat} (h : FinOK x a) : evalBin .gt x (.int 0 : DV α) = .ok (.bool (decide (0 < a))) := by
  rcases h.cases with rfl | ⟨n, rfl, rfl⟩
  · simp [evalBin, isCmp, cmpDV, isTimeLike, toXT, toTm, cmpXT, XT.lt, Tm.lt]
  · simp [evalBin, isCmp, cmpDV, cmpInt, Rat.intCast_pos]

theorem FinOK.add {x : DV α} {a : Rat} (h : FinOK x a) (t : Tm) :
    evalBin .add (.tm t : DV α) x = .ok (.tm (t.add a)) := by
  rcases h.cases with rfl | ⟨n, rfl, rfl⟩ <;> simp [evalBin, isCmp, arith, isTimeLike, toTm]

/-- the locals the loops do not touch -/
structure Inv (env : Env α) (s : ASig α) (a b : Rat) (started : Bool) : Prop where
  hin : getLoc "sample" env = .ok (encSig s)
  hbeg : ∃ xb, getLoc "begin" env = .ok xb ∧ FinOK xb a
  hend : ∃ xe, getLoc "end" env = .ok xe ∧ FinOK xe b
  hst : getLoc "self.started" env = .ok (.bool started)
  hlen : getLoc "len" env = .error .key
  hint : getLoc "intersects" env = .error .key

theorem Inv.frame {env env' : Env α} {s : ASig α} {a b : Rat} {started : Bool} {xs : List String}
    (h : Inv env s a b started) (hF : Frame xs env env')
    (hx : ∀ k ∈ ["sample", "begin", "end", "self.started", "len", "intersects"], k ∉ xs := by decide +kernel) :
    Inv env' s a b started :=
  have hk := fun k hk => hF.getLoc (hx k hk)
  { hin := (hk _ (by simp)).trans h.hin
    hbeg := h.hbeg.imp fun _ e => ⟨(hk _ (by simp)).trans e.1, e.2⟩
    hend := h.hend.imp fun _ e => ⟨(hk _ (by simp)).trans e.1, e.2⟩
    hst := (hk _ (by simp)).trans h.hst
    hlen := (hk _ (by simp)).trans h.hlen
    hint := (hk _ (by simp)).trans h.hint }

/-- the segment `b` of iteration `i = j + 1`, where `p = sample[j]` -/
def segAt (a b : Rat) (s : ASig α) (j : Nat) (p : Tm × α) : Seg α :=
  ⟨p.1.add a, (match s[j + 1]? with | some q => q.1.add b | none => p.1.add b), p.2⟩

/-- the stack after `if i == 1 and sample[0][0] == 0 and begin > 0 and not self.started: out.append(…)` -/
def withInit (neutral : α) (a : Rat) (started : Bool) (s : ASig α) (j : Nat) (stk : List (Seg α)) : List (Seg α) :=
  match j, s with
  | 0, (t0, _) :: _ =>
      if t0 == Tm.zero && decide (0 < a) && !started then ⟨Tm.zero, t0.add a, neutral⟩ :: stk else stk
  | _, _ => stk

theorem eqTm0 (t : Tm) : evalBin .eq (.tm t : DV α) (.int 0) = .ok (.bool (t == Tm.zero)) := by
  simp [evalBin, isCmp, cmpDV, isTimeLike, toXT, toTm, cmpXT, xt_beq, Tm.zero]

theorem eqInt (n m : Int) : evalBin .eq (.int n : DV α) (.int m) = .ok (.bool (decide (n = m))) := by
  simp [evalBin, isCmp, cmpDV, cmpInt]

theorem evalE_first_stamp (call : Call α) {env : Env α} {x : String} {t0 : Tm} {v0 : α} {rest : ASig α}
    (h : getLoc x env = .ok (encSig ((t0, v0) :: rest))) :
    evalE call env (.idx (.idx (.loc x) (.int 0)) (.int 0)) = .ok (.tm t0) :=
  (evalE.idxInt ((evalE.idxInt (evalE.loc h)).trans (evalIdx.cons0 _ _))).trans (evalIdx.smp0 _ _)

theorem initStmt_ok {opW opK : BinOp} {ninit : E} {neg : Bool} {worse : α → α → Bool} {neutral : α}
    (hp : Par α opW opK ninit neg worse neutral) (call : Call α) (fuel : Nat) {env : Env α} {s : ASig α} {a b : Rat}
    {started : Bool} {j : Nat} {p : Tm × α} {stk : List (Seg α)} (hj : s[j]? = some p) (hI : Inv env s a b started)
    (hi : getLoc "i" env = .ok (.int ((j : Int) + 1))) (hout : getLoc "out" env = .ok (.list (pyStk stk))) :
    exec call fuel (initStmt ninit) env =
      .ok (setLoc "out" (.list (pyStk (withInit neutral a started s j stk))) env, .none) := by
  obtain ⟨xb, hbeg, hxb⟩ := hI.hbeg
  unfold initStmt
  cases j with
  | succ j =>
      have hne : ¬ ((j : Int) + 1 + 1 = 1) := by omega
      rw [exec.ite_false (c := initCond) (evalE.and_ (b := _) (x := .bool false) (t := false)
        (by simp [evalE, hi, eqInt, hne]) rfl) rfl]
      exact exec.skip_set hout
  | zero =>
      rcases s with _ | ⟨⟨t0, v0⟩, rest⟩
      · simp at hj
      have c1 : evalE call env (.bin .eq (.loc "i") (.int 1)) = .ok (.bool true) := by
        simp [evalE, hi, eqInt]
      have c2 : evalE call env (.bin .eq (.idx (.idx (.loc "sample") (.int 0)) (.int 0)) (.int 0))
          = .ok (.bool (t0 == Tm.zero)) :=
        (evalE.bin (evalE_first_stamp call hI.hin) rfl).trans (eqTm0 t0)
      have c3 : evalE call env (.bin .gt (.loc "begin") (.int 0)) = .ok (.bool (decide (0 < a))) :=
        (evalE.bin (a := .loc "begin") hbeg rfl).trans hxb.gt
      have c4 : evalE call env (.not (.loc "self.started")) = .ok (.bool (!started)) :=
        evalE.not (evalE.loc hI.hst) rfl
      have hcond : evalE call env initCond = .ok (.bool (t0 == Tm.zero && decide (0 < a) && !started)) := by
        rw [Bool.and_assoc, ← Bool.true_and (t0 == Tm.zero && _)]
        exact evalE.and_bool c1 (evalE.and_bool c2 (evalE.and_bool c3 c4))
      rw [exec.ite hcond rfl]
      cases hc : (t0 == Tm.zero && decide (0 < a) && !started) with
      | true =>
          rw [if_pos rfl, exec.appendLoc (v := .seg Tm.zero (t0.add a) neutral) ((evalE.tup3 rfl
            ((evalE.bin (b := .loc "begin") (evalE_first_stamp call hI.hin) hbeg).trans (hxb.add t0))
            (hp.hN _ _)).trans (by simp [mkSeg, toTm, hp.hV, Tm.zero])) hout]
          simp [withInit, hc, pyStk_cons, encSeg]
      | false =>
          rw [if_neg Bool.false_ne_true]
          simpa [withInit, hc] using exec.skip_set (call := call) (fuel := fuel) hout

theorem bStmt_ok {call : Call α} (hc : CallOK call) (fuel : Nat) {env : Env α} {s : ASig α} {a b : Rat} {started : Bool}
    {j : Nat} {p : Tm × α} (hj : s[j]? = some p) (hI : Inv env s a b started)
    (hi : getLoc "i" env = .ok (.int ((j : Int) + 1))) :
    exec call fuel bStmt env = .ok (setLoc "b" (encSeg (segAt a b s j p)) env, .none) := by
  obtain ⟨xb, hbeg, hxb⟩ := hI.hbeg
  obtain ⟨xe, hend, hxe⟩ := hI.hend
  obtain ⟨hjl, -⟩ := List.getElem?_eq_some_iff.mp hj
  have hsub : evalBin .sub (.int ((j : Int) + 1) : DV α) (.int 1) = .ok (.int (j : Int)) :=
    congrArg (fun n => Except.ok (DV.int n)) (Int.add_sub_cancel _ _)
  have hcond : evalE call env (.bin .eq (.loc "i") (.call1 "len" (.loc "sample")))
      = .ok (.bool (decide ((j : Int) + 1 = (s.length : Int)))) := by
    simp [evalE, hi, hI.hin, resolve_of_key hI.hlen, encSig, hc.len, eqInt]
  unfold bStmt
  rw [exec.ite hcond rfl]
  cases hq : s[j + 1]? with
  | none =>
      have := List.getElem?_eq_none_iff.mp hq
      rw [if_pos (decide_eq_true (by omega))]
      apply exec.setLoc
      simp [evalE, hi, hI.hin, hbeg, hend, hsub, encSig, evalIdx_list_nat, hj, hq, encSmp, hxb.add, hxe.add, mkSeg_tm,
        segAt, encSeg]
  | some q =>
      obtain ⟨hq', -⟩ := List.getElem?_eq_some_iff.mp hq
      rw [if_neg (by simp; omega)]
      apply exec.setLoc
      simp [evalE, hi, hI.hin, hbeg, hend, hsub, encSig, evalIdx_list_nat, evalIdx_list_succ, hj, hq, encSmp, hxb.add, hxe.add,
        mkSeg_tm, segAt, encSeg]

theorem pushStmt_mods (opW opK : BinOp) : ∀ x ∈ mods (pushStmt opW opK), x ∈ ["out", "a", "b"] := by
  show ∀ x ∈ mods (pushStmt .lt .ge), _
  decide +kernel

theorem outerBody_sim {opW opK : BinOp} {ninit : E} {neg : Bool} {worse : α → α → Bool} {neutral : α}
    (hp : Par α opW opK ninit neg worse neutral) {call : Call α} (hc : CallOK call) (fuel : Nat) {env : Env α}
    {s : ASig α} {a b : Rat} {started : Bool} {j : Nat} {p : Tm × α} {stk : List (Seg α)} (hj : s[j]? = some p)
    (hI : Inv env s a b started)
    (hi : getLoc "i" env = .ok (.int ((j : Int) + 1))) (hout : getLoc "out" env = .ok (.list (pyStk stk)))
    (hf : (withInit neutral a started s j stk).length + 1 ≤ fuel) :
    Exc.Sim (exec call fuel (outerBody opW opK ninit) env)
      (pushSeg worse (withInit neutral a started s j stk) (segAt a b s j p)) fun stk' r =>
        r.2 = .none ∧ Inv r.1 s a b started ∧ getLoc "i" r.1 = .ok (.int (((j + 1 : Nat) : Int) + 1)) ∧
          getLoc "out" r.1 = .ok (.list (pyStk stk')) := by
  have hI2 := hI.frame (frame_setLoc2 "b" "out" (encSeg (segAt a b s j p))
    (.list (pyStk (withInit neutral a started s j stk))) env)
  unfold outerBody
  rw [exec.seq_ok (initStmt_ok hp call fuel hj hI hi hout),
    exec.seq_ok (bStmt_ok hc fuel hj (hI.frame (frame_setLoc "out" _ env)) (by simp [hi]))]
  refine exec.seq_sim_right (exec.sim_frame
    (pushStmt_sim (opW := opW) hp hc fuel hf (by simp) (by simp) hI2.hlen hI2.hint)) ?_
  rintro stk' ⟨env3, _⟩ ⟨⟨rfl, hout3⟩, hF3⟩
  have hF3' := hF3.mono (pushStmt_mods opW opK)
  have hi3 : getLoc "i" env3 = .ok (.int ((j : Int) + 1)) := (hF3'.getLoc (by simp)).trans (by simp [hi])
  have h4 : exec call fuel incStmt env3 = .ok (setLoc "i" (.int (((j + 1 : Nat) : Int) + 1)) env3, .none) :=
    exec.setLoc ((evalE.bin (evalE.loc hi3) rfl).trans rfl)
  exact ⟨rfl, _, h4, rfl, (hI2.frame hF3').frame (frame_setLoc "i" _ env3), by simp, by simp [hout3]⟩

theorem onSegs_get (a b : Rat) : ∀ (s : ASig α) (j : Nat) (p : Tm × α), s[j]? = some p →
    (onSegs a b s)[j]? = some (segAt a b s j p)
  | [], j, p, h => by simp at h
  | [(t, v)], j, p, h => by
      cases j with
      | zero => simp at h; subst h; simp [onSegs, segAt]
      | succ j => simp at h
  | (t, v) :: (t', v') :: rest, 0, p, h => by simp at h; subst h; simp [onSegs, segAt]
  | (t, v) :: (t', v') :: rest, j + 1, p, h => by
      have h' : ((t', v') :: rest)[j]? = some p := by simpa using h
      have := onSegs_get a b ((t', v') :: rest) j p h'
      simpa [onSegs, segAt] using this

theorem onSegs_length (a b : Rat) : ∀ (s : ASig α), (onSegs a b s).length = s.length
  | [] => rfl
  | [(t, v)] => rfl
  | (t, v) :: (t', v') :: rest => by
      have := onSegs_length a b ((t', v') :: rest)
      simp [onSegs, this]

theorem withInit_none (neutral : α) (a : Rat) (started : Bool) (s : ASig α) (j : Nat) (stk : List (Seg α))
    (h : s[j]? = none) : withInit neutral a started s j stk = stk := by
  cases j with
  | zero =>
      cases s with
      | nil => rfl
      | cons q rest => simp at h
  | succ j => rfl

theorem withInit_length (neutral : α) (a : Rat) (started : Bool) (s : ASig α) (j : Nat) (stk : List (Seg α)) :
    (withInit neutral a started s j stk).length ≤ stk.length + 1 := by
  unfold withInit
  split
  · split <;> simp
  · simp

theorem outerCond_eval {call : Call α} (hc : CallOK call) {env : Env α} {s : ASig α} {a b : Rat} {started : Bool} {j : Nat}
    (hI : Inv env s a b started) (hi : getLoc "i" env = .ok (.int ((j : Int) + 1))) :
    (do truthy (← evalE call env outerCond)) = .ok (decide (j + 1 ≤ s.length)) := by
  have h : evalE call env outerCond = .ok (.bool (decide ((j : Int) + 1 ≤ ((s.map encSmp).length : Nat)))) :=
    (evalE.bin ((evalE.call1 (evalE.loc hI.hin)).trans (resolve_of_key hI.hlen ▸ hc.len _)) (evalE.loc hi)).trans rfl
  rw [h]
  exact congrArg Except.ok (decide_eq_decide.mpr (by rw [List.length_map]; omega))

/-- the outer loop stands before iteration `i = j + 1` with the stack `stk` -/
def AtIter (neutral : α) (s : ASig α) (a b : Rat) (started : Bool) (n0 : Nat) (js : Nat × List (Seg α)) (env : Env α) :
    Prop :=
  js.1 ≤ s.length ∧ (withInit neutral a started s js.1 js.2).length ≤ n0 + js.1 + 1 ∧ Inv env s a b started ∧
    getLoc "i" env = .ok (.int ((js.1 : Int) + 1)) ∧ getLoc "out" env = .ok (.list (pyStk js.2))

theorem outerLoop {opW opK : BinOp} {ninit : E} {neg : Bool} {worse : α → α → Bool} {neutral : α}
    (hp : Par α opW opK ninit neg worse neutral) {call : Call α} (hc : CallOK call) (fuel : Nat)
    {s : ASig α} {a b : Rat} {started : Bool} (n0 : Nat) (hfuel : n0 + s.length + 1 ≤ fuel) :
    ∀ (f : Nat) (js : Nat × List (Seg α)) (env : Env α), AtIter neutral s a b started n0 js env → s.length - js.1 < f →
      Exc.Sim
        (whileLoop (fun env => do truthy (← evalE call env outerCond)) (exec call fuel (outerBody opW opK ninit)) f env)
        (((onSegs a b s).drop js.1).foldlM (pushSeg worse) (withInit neutral a started s js.1 js.2)) fun stk' r =>
          r.2 = .none ∧ Inv r.1 s a b started ∧ getLoc "out" r.1 = .ok (.list (pyStk stk')) := by
  refine Exc.Sim.loop (fun f env => whileLoop _ (exec call fuel (outerBody opW opK ninit)) f env)
    (fun js => ((onSegs a b s).drop js.1).foldlM (pushSeg worse) (withInit neutral a started s js.1 js.2))
    (AtIter neutral s a b started n0) _ (fun js => s.length - js.1) ?_
  rintro n ⟨j, stk⟩ env ⟨hjl, hlen, hI, hi, hout⟩
  have hcond := outerCond_eval hc hI hi
  dsimp only at hjl hlen hi hout ⊢
  rcases Nat.lt_or_ge j s.length with hj | hj
  · have hjs : s[j]? = some s[j] := by simp [hj]
    rw [decide_eq_true (by omega)] at hcond
    rw [drop_of_get _ _ _ (onSegs_get a b s j _ hjs), List.foldlM_cons]
    have hb := outerBody_sim (opW := opW) (opK := opK) hp hc fuel hjs hI hi hout (by omega)
    cases hps : pushSeg worse (withInit neutral a started s j stk) (segAt a b s j s[j]) with
    | error e => exact .inl (whileLoop_raise _ _ _ _ _ hcond (hb.of_error hps))
    | ok stk' =>
        obtain ⟨⟨env1, _⟩, hb1, rfl, hI1, hi1, hout1⟩ := hb.of_ok hps
        have hl := pushSeg_length worse _ _ _ hps
        exact .inr ⟨(j + 1, stk'), env1, ⟨by omega, by show stk'.length ≤ _; omega, hI1, hi1, hout1⟩, by omega, rfl,
          whileLoop_step _ _ _ _ _ hcond hb1⟩
  · rw [decide_eq_false (by omega)] at hcond
    rw [List.drop_eq_nil_of_le (by rw [onSegs_length]; omega), withInit_none _ _ _ _ _ _ (List.getElem?_eq_none hj)]
    exact .inl (Exc.Sim.ok (whileLoop_done _ _ _ _ hcond) ⟨rfl, hI, hout⟩)

/-- one iteration of the output loop, for `self.residual_start = r` -/
def emitStep (r : Tm) (g : Seg α) (isLast : Bool) (prev : Option α) (res : ASig α) (last : Option (Tm × α))
    (keep : List (Seg α)) : ASig α × Option (Tm × α) × List (Seg α) :=
  let res1 := if keepB prev g.v || isLast then res ++ [(g.lo, g.v)] else res
  if Tm.le g.hi r then (res1, some (g.lo, g.v), keep)
  else if Tm.le g.lo r && Tm.lt r g.hi then
    (res1, (if Tm.lt g.lo r then some (r, g.v) else some (g.lo, g.v)), keep ++ [⟨r, g.hi, g.v⟩])
  else (res, last, keep ++ [g])

theorem timedEmit_cons (r : Tm) (g : Seg α) (rest : List (Seg α)) (prev : Option α) (res : ASig α)
    (last : Option (Tm × α)) (keep : List (Seg α)) :
    timedEmit (some r) (g :: rest) prev res last keep =
      timedEmit (some r) rest (some g.v) (emitStep r g rest.isEmpty prev res last keep).1
        (emitStep r g rest.isEmpty prev res last keep).2.1 (emitStep r g rest.isEmpty prev res last keep).2.2 := by
  simp only [timedEmit]
  unfold emitStep keepB
  cases h1 : Tm.le g.hi r
  · cases h2 : (Tm.le g.lo r && Tm.lt r g.hi)
    · simp
    · cases prev <;> simp
  · cases prev <;> simp

/-- `self.residual_start`: a time stamp, or the initial untyped infinity (`-inf` for `neg = true`) -/
def encRS (neg : Bool) : Option Tm → DV α
  | none => .uinf neg
  | some r => .tm r

structure EmitSt (env : Env α) (L : List (DV α)) (rs : DV α) (prev : Option α) (res : ASig α) (last : Option (Tm × α))
    (keep : List (Seg α)) : Prop where
  hout : getLoc "out" env = .ok (.list L)
  hlen : getLoc "len" env = .error .key
  hrs : getLoc "self.residual_start" env = .ok rs
  hprev : getLoc "prev" env = .ok (encPrev prev)
  hres : getLoc "sample_result" env = .ok (encSig res)
  hlast : getLoc "last" env = .ok (encOptSmp last)
  hkeep : getLoc "self.prev" env = .ok (.list (keep.map encSeg))

theorem setLastB_ok {call : Call α} (fuel : Nat) {env : Env α} {g : Seg α} (hb : getLoc "b" env = .ok (encSeg g)) :
    exec call fuel setLastB env = .ok (setLoc "last" (.smp g.lo (.val g.v)) env, .none) := by
  exact exec.setLoc ((evalE.list2 (evalE_seg0 call hb) (evalE_seg2 call hb)).trans rfl)

theorem resAppend_ok {call : Call α} (hc : CallOK call) (fuel : Nat) {env : Env α} {g : Seg α} {k n : Nat}
    {L : List (DV α)} {prev : Option α} {res : ASig α}
    (hb : getLoc "b" env = .ok (encSeg g)) (hi : getLoc "i" env = .ok (.int (k : Int)))
    (hout : getLoc "out" env = .ok (.list L)) (hL : L.length = n) (hlen : getLoc "len" env = .error .key)
    (hprev : getLoc "prev" env = .ok (encPrev prev)) (hres : getLoc "sample_result" env = .ok (encSig res))
    (hlast : getLoc "last" env = .ok (.smp g.lo (.val g.v))) :
    exec call fuel resAppend env = .ok (setLoc "sample_result"
      (encSig (if keepB prev g.v || decide (k + 1 = n) then res ++ [(g.lo, g.v)] else res)) env, .none) := by
  have e : ((k : Int) = (L.length : Int) - 1) ↔ (k + 1 = n) := by omega
  have hlast' : evalE call env (.bin .eq (.loc "i") lenOutM1) = .ok (.bool (decide (k + 1 = n))) := by
    rw [evalE.bin (a := .loc "i") hi (eval_lenOutM1 hc hout hlen), eqInt]
    simp [e]
  have hcond : evalE call env keepCond = .ok (.bool (keepB prev g.v || decide (k + 1 = n))) := by
    unfold keepCond
    cases prev with
    | none =>
        rw [evalE.or_ (x := .bool true) (t := true)
          ((evalE.bin (b := .loc "prev") (evalE_seg2 call hb) hprev).trans (by simp [encPrev, evalBin, isCmp, cmpDV])) rfl]
        simp [keepB]
    | some x =>
        rw [evalE.or_ (x := .bool (vne g.v x)) (t := vne g.v x)
          ((evalE.bin (b := .loc "prev") (evalE_seg2 call hb) hprev).trans
            (by simp [encPrev, evalBin, isCmp, cmpDV, isTimeLike, isValLike, toVal, cmpVal])) rfl, hlast']
        cases hv : vne g.v x <;> simp [keepB, hv]
  unfold resAppend
  rw [exec.ite hcond rfl]
  cases hk : keepB prev g.v || decide (k + 1 = n) with
  | false =>
      simp only [Bool.false_eq_true, if_false]
      exact exec.skip_set hres
  | true =>
      simp only [if_true]
      rw [exec.appendLoc (v := .smp g.lo (.val g.v)) (by simp [evalE, hlast]) hres]
      simp [encSig, encSmp]

/-- `if self.residual_start > b[0]: last = [self.residual_start, b[2]]` -/
theorem relast_ok {call : Call α} (fuel : Nat) {env : Env α} {g : Seg α} {r : Tm} (hb : getLoc "b" env = .ok (encSeg g))
    (hrs : getLoc "self.residual_start" env = .ok (.tm r)) (hlast : getLoc "last" env = .ok (.smp g.lo (.val g.v))) :
    exec call fuel (.ite (.bin .gt (.loc "self.residual_start") (.idx (.loc "b") (.int 0)))
        (.setLoc "last" (.list2 (.loc "self.residual_start") (.idx (.loc "b") (.int 2)))) .skip) env
      = .ok (setLoc "last" (encOptSmp (if Tm.lt g.lo r then some (r, g.v) else some (g.lo, g.v))) env, .none) := by
  rw [exec.ite ((evalE.bin (a := .loc "self.residual_start") hrs (evalE_seg0 call hb)).trans (evalBin.gt_tm _ _)) rfl]
  cases h3 : Tm.lt g.lo r with
  | true =>
      simp only [if_true]
      exact exec.setLoc ((evalE.list2 (evalE.loc hrs) (evalE_seg2 call hb)).trans rfl)
  | false =>
      simp only [Bool.false_eq_true, if_false]
      exact exec.skip_set (by simp [hlast, encOptSmp, encSmp])

/-- One iteration of the output loop.  Every branch is written as the assignments it amounts to (`exec.skip_set`), so that
    the final locals are read off by `simp`. -/
theorem emitBody_step {call : Call α} (hc : CallOK call) (fuel : Nat) {env : Env α} {g : Seg α} {k n : Nat}
    {L : List (DV α)} {r : Tm} {prev : Option α} {res : ASig α} {last : Option (Tm × α)} {keep : List (Seg α)}
    (hE : EmitSt env L (.tm r) prev res last keep) (hL : L.length = n)
    (hb : getLoc "b" env = .ok (encSeg g)) (hi : getLoc "i" env = .ok (.int (k : Int))) :
    ∃ env', exec call fuel emitBody env = .ok (env', .none) ∧
      EmitSt env' L (.tm r) (some g.v) (emitStep r g (decide (k + 1 = n)) prev res last keep).1
        (emitStep r g (decide (k + 1 = n)) prev res last keep).2.1
        (emitStep r g (decide (k + 1 = n)) prev res last keep).2.2 := by
  have hset : ∀ env1 : Env α, getLoc "b" env1 = .ok (encSeg g) →
      exec call fuel (.setLoc "prev" (.idx (.loc "b") (.int 2))) env1 = .ok (setLoc "prev" (.val g.v) env1, .none) :=
    fun env1 h1 => exec.setLoc (evalE_seg2 call h1)
  have hc1 : evalE call env (.bin .ge (.loc "self.residual_start") (.idx (.loc "b") (.int 1)))
      = .ok (.bool (Tm.le g.hi r)) :=
    (evalE.bin (a := .loc "self.residual_start") hE.hrs (evalE_seg1 call hb)).trans (evalBin.ge_tm _ _)
  -- `last = [b[0], b[2]]; if …: sample_result.append(last)`, which the first and the third branch begin with
  have hs1 := setLastB_ok (call := call) fuel hb
  have hs2 := resAppend_ok hc fuel (env := setLoc "last" (.smp g.lo (.val g.v)) env)
    (g := g) (k := k) (n := n) (L := L) (prev := prev) (res := res) (by simp [hb]) (by simp [hi]) (by simp [hE.hout]) hL
    (by simp [hE.hlen]) (by simp [hE.hprev]) (by simp [hE.hres]) (by simp)
  unfold emitBody
  cases h1 : Tm.le g.hi r with
  | true =>
      -- the segment ends before the residual start: it is emitted
      rw [exec.seq_ok (by rw [exec.ite hc1 rfl, h1, if_pos rfl, exec.seq_ok hs1]; exact hs2), hset _ (by simp [hb])]
      refine ⟨_, rfl, ?_⟩
      simp only [emitStep, h1, if_true]
      exact {
        hout := by simp [hE.hout]
        hlen := by simp [hE.hlen]
        hrs := by simp [hE.hrs]
        hprev := by simp [encPrev]
        hres := by simp
        hlast := by simp [encOptSmp, encSmp]
        hkeep := by simp [hE.hkeep] }
  | false =>
      have hc2 : evalE call env (.and_ (.bin .le (.idx (.loc "b") (.int 0)) (.loc "self.residual_start"))
          (.bin .lt (.loc "self.residual_start") (.idx (.loc "b") (.int 1))))
          = .ok (.bool (Tm.le g.lo r && Tm.lt r g.hi)) :=
        evalE.and_bool ((evalE.bin (b := .loc "self.residual_start") (evalE_seg0 call hb) hE.hrs).trans (evalBin.le_tm _ _))
          ((evalE.bin (a := .loc "self.residual_start") hE.hrs (evalE_seg1 call hb)).trans (evalBin.lt_tm _ _))
      cases h2 : (Tm.le g.lo r && Tm.lt r g.hi) with
      | false =>
          -- the segment lies after the residual start: it is kept
          rw [exec.seq_ok (by
              rw [exec.ite hc1 rfl, h1, if_neg (by simp), exec.ite hc2 rfl, h2, if_neg (by simp)]
              exact exec.appendLoc (v := encSeg g) (by simp [evalE, hb]) hE.hkeep),
            hset _ (by simp [hb])]
          refine ⟨_, rfl, ?_⟩
          simp only [emitStep, h1, h2, Bool.false_eq_true, if_false]
          exact {
            hout := by simp [hE.hout]
            hlen := by simp [hE.hlen]
            hrs := by simp [hE.hrs]
            hprev := by simp [encPrev]
            hres := by simp [hE.hres]
            hlast := by simp [hE.hlast]
            hkeep := by simp }
      | true =>
          -- the segment contains the residual start: it is split
          rw [exec.seq_ok (by
              rw [exec.ite hc1 rfl, h1, if_neg (by simp), exec.ite hc2 rfl, h2, if_pos rfl, emitSplit, exec.seq_ok hs1,
                exec.seq_ok hs2, exec.seq_ok (relast_ok fuel (g := g) (r := r) (by simp [hb]) (by simp [hE.hrs]) (by simp))]
              exact exec.appendLoc (l := keep.map encSeg) (evalE_mkSeg (x := r) (evalE.loc (by simp [hE.hrs]))
                (evalE_seg1 call (g := g) (by simp [hb])) (evalE_seg2 call (g := g) (by simp [hb]))) (by simp [hE.hkeep])),
            hset _ (by simp [hb])]
          refine ⟨_, rfl, ?_⟩
          simp only [emitStep, h1, h2, Bool.false_eq_true, if_false, if_true]
          exact {
            hout := by simp [hE.hout]
            hlen := by simp [hE.hlen]
            hrs := by simp [hE.hrs]
            hprev := by simp [encPrev]
            hres := by simp
            hlast := by simp
            hkeep := by simp [encSeg] }

/-- The output loop `for i, b in enumerate(out): …` computes `timedEmit`.  It compares with `self.residual_start` as a time
    stamp, which the attribute is from the first sample on; before that nothing is pending (`hnil`) and the loop does not
    run. -/
theorem emitFor_ok {call : Call α} (hc : CallOK call) (fuel : Nat) (neg : Bool) (rs : Option Tm) (segs : List (Seg α))
    {env : Env α} (hE : EmitSt env (segs.map encSeg) (encRS neg rs) none [] none []) (hnil : rs = none → segs = []) :
    ∃ env' prev', exec call fuel (.forEnum "i" "b" (.loc "out") false emitBody) env = .ok (env', .none) ∧
      EmitSt env' (segs.map encSeg) (encRS neg rs) prev' (timedEmit rs segs none [] none []).1
        (timedEmit rs segs none [] none []).2.1 (timedEmit rs segs none [] none []).2.2 := by
  obtain ⟨env', _, h, -, prev', res, last, keep, hE', he⟩ := exec.forEnum_inv call fuel encSeg "b" "i" (.loc "out")
    emitBody segs env (evalE.loc hE.hout)
    (fun k rest env => k + rest.length = segs.length ∧ ∃ prev res last keep,
      EmitSt env (segs.map encSeg) (encRS neg rs) prev res last keep ∧
        timedEmit rs rest prev res last keep = timedEmit rs segs none [] none [])
    (by
      rintro k g rest env ⟨hk, prev, res, last, keep, hE, he⟩
      obtain ⟨r, rfl⟩ : ∃ r, rs = some r := by
        cases rs with
        | none => simp [hnil rfl] at hk
        | some r => exact ⟨r, rfl⟩
      obtain ⟨env1, h1, hE1⟩ := emitBody_step hc fuel (g := g) (k := k) (n := segs.length) (L := segs.map encSeg) (r := r)
        (prev := prev) (res := res) (last := last) (keep := keep) (env := setLoc "b" (encSeg g) (setLoc "i" (.int k) env))
        ⟨by simp [hE.hout], by simp [hE.hlen], by simp [hE.hrs, encRS], by simp [hE.hprev], by simp [hE.hres],
          by simp [hE.hlast], by simp [hE.hkeep]⟩ (by simp) (by simp) (by simp)
      have hlast : decide (k + 1 = segs.length) = rest.isEmpty := by
        cases rest with
        | nil => simp at hk ⊢; omega
        | cons h t => simp at hk ⊢; omega
      rw [hlast] at hE1
      exact ⟨env1, h1, by simp at hk; omega, _, _, _, _, hE1, by rw [← he, timedEmit_cons]⟩)
    ⟨by simp, none, [], none, [], hE, rfl⟩
  refine ⟨env', prev', h, ?_⟩
  rw [← he]
  simpa [timedEmit] using hE'

/-- `self.residual_start` after `if sample: self.residual_start = sample[-1][0]` -/
def newRS (rs : Option Tm) (s : ASig α) : Option Tm :=
  match s.getLast? with
  | some (t, _) => some t
  | none => rs

/-- the stack (top first) after the last pending segment is re-ended at the first new time stamp plus `end` -/
def reend (b : Rat) (s : ASig α) (stk : List (Seg α)) : List (Seg α) :=
  match s, stk with
  | (t0, _) :: _, lp :: rest => ⟨lp.lo, t0.add b, lp.v⟩ :: rest
  | _, _ => stk

theorem reend_length (b : Rat) (s : ASig α) (stk : List (Seg α)) : (reend b s stk).length = stk.length := by
  unfold reend
  split <;> rfl

/-- the closing `if last: …` -/
def finalRes (res : ASig α) (last : Option (Tm × α)) : ASig α :=
  match last with
  | none => res
  | some (t, v) =>
      match res.getLast? with
      | none => [(t, v)]
      | some (t', _) => if Tm.lt t' t then res ++ [(t, v)] else res

theorem evalIdx_neg1_encSig (s : ASig α) (q : Tm × α) (h : s.getLast? = some q) :
    evalIdx (encSig s) (.int (-1)) = .ok (encSmp q) := by
  rcases List.eq_nil_or_concat s with rfl | ⟨l, q', hs⟩
  · simp at h
  · rw [List.concat_eq_append] at hs
    subst hs
    simp at h
    subst h
    have : encSig (l ++ [q']) = .list (l.map encSmp ++ [encSmp q']) := by simp [encSig]
    rw [this, evalIdx.last]

theorem dropStmt_ok (call : Call α) (fuel : Nat) {env : Env α} {s : ASig α} {neg : Bool} {rs : Option Tm}
    (hs : getLoc "sample" env = .ok (encSig s)) (hrs : getLoc "self.residual_start" env = .ok (encRS neg rs))
    (hinf : rs = none → neg = false → ∀ t v rest, s = (t, v) :: rest → t ≠ .inf) :
    exec call fuel dropStmt env = .ok (setLoc "sample" (encSig (dropRepeat rs s)) env, .none) := by
  unfold dropStmt
  cases s with
  | nil =>
      have hcond : evalE call env (.and_ (.loc "sample") (.bin .eq (.idx (.idx (.loc "sample") (.int 0)) (.int 0))
          (.loc "self.residual_start"))) = .ok (.list []) := by
        rw [evalE.and_ (x := .list []) (t := false) (evalE.loc hs) rfl]; rfl
      rw [exec.ite_false hcond rfl, show dropRepeat rs ([] : ASig α) = [] by cases rs <;> rfl]
      exact exec.skip_set hs
  | cons p rest =>
      obtain ⟨t, v⟩ := p
      have hdrop : ∃ c : Bool, evalBin .eq (.tm t : DV α) (encRS neg rs) = .ok (.bool c) ∧
          dropRepeat rs ((t, v) :: rest) = if c then rest else (t, v) :: rest := by
        cases rs with
        | some r =>
            refine ⟨t == r, by simp [encRS, evalBin.eq_tm], ?_⟩
            simp [dropRepeat]
        | none =>
            refine ⟨false, ?_, by simp [dropRepeat]⟩
            cases neg with
            | true => simp [encRS, evalBin, isCmp, cmpDV, isTimeLike, toXT, toTm, cmpXT]
            | false =>
                have hne := hinf rfl rfl t v rest rfl
                have : (XT.t t == XT.t Tm.inf) = false := by
                  rw [xt_beq, beq_eq_false_iff_ne]; exact hne
                simp [encRS, evalBin, isCmp, cmpDV, isTimeLike, toXT, toTm, cmpXT, this]
      obtain ⟨c, hc1, hc2⟩ := hdrop
      have hcond : evalE call env (.and_ (.loc "sample") (.bin .eq (.idx (.idx (.loc "sample") (.int 0)) (.int 0))
          (.loc "self.residual_start"))) = .ok (.bool c) := by
        rw [evalE.and_ (t := true) (evalE.loc hs) (by simp [encSig, truthy]), if_pos rfl]
        exact (evalE.bin (b := .loc "self.residual_start") (evalE_first_stamp call hs) hrs).trans hc1
      rw [exec.ite hcond rfl, hc2]
      cases c with
      | false =>
          simp only [Bool.false_eq_true, if_false]
          exact exec.skip_set hs
      | true =>
          simp only [if_true]
          exact exec.setLoc (by simp [evalE, hs, encSig])

theorem reendStmt_spec {call : Call α} (hc : CallOK call) (fuel : Nat) {env : Env α} {s : ASig α} {neg : Bool}
    {rs : Option Tm} {stk : List (Seg α)} {b : Rat} {xe : DV α}
    (hs : getLoc "sample" env = .ok (encSig s)) (hrs : getLoc "self.residual_start" env = .ok (encRS neg rs))
    (hout : getLoc "out" env = .ok (.list (pyStk stk))) (hend : getLoc "end" env = .ok xe) (hxe : FinOK xe b)
    (hlen : getLoc "len" env = .error .key) :
    ∃ env', exec call fuel reendStmt env = .ok (env', .none) ∧
      getLoc "self.residual_start" env' = .ok (encRS neg (newRS rs s)) ∧
      getLoc "out" env' = .ok (.list (pyStk (reend b s stk))) := by
  unfold reendStmt
  cases s with
  | nil =>
      rw [exec.ite_false (evalE.loc hs) rfl]
      exact ⟨env, exec.skip, by simpa [newRS] using hrs, by simpa [reend] using hout⟩
  | cons p0 rest =>
      obtain ⟨t0, v0⟩ := p0
      obtain ⟨q, hq⟩ : ∃ q, ((t0, v0) :: rest).getLast? = some q :=
        ⟨_, List.getLast?_eq_some_getLast (List.cons_ne_nil _ _)⟩
      rw [exec.ite_true (evalE.loc hs) (by simp [encSig, truthy])]
      have e1 : evalE call env (.idx (.loc "sample") (.neg (.int 1))) = .ok (encSmp q) :=
        (evalE.idx (k := .int (-1)) (evalE.loc hs) (by simp [evalE, evalNeg])).trans
          (evalIdx_neg1_encSig _ _ hq)
      rw [exec.seq_setLoc (v := .tm q.1) ((evalE.idx (k := .int 0) e1 rfl).trans (by simp [encSmp]))]
      have hnew : newRS rs ((t0, v0) :: rest) = some q.1 := by
        unfold newRS; rw [hq]
      rw [hnew]
      cases stk with
      | nil =>
          rw [exec.ite_false (d := .list []) (by simp [evalE, hout]) rfl]
          exact ⟨_, exec.skip, by simp [encRS], by simpa [reend] using hout⟩
      | cons lp restk =>
          have hout' : getLoc "out" env = .ok (.list (pyStk restk ++ [encSeg lp])) := by rw [hout, pyStk_cons]
          rw [exec.ite_true (d := .list (pyStk restk ++ [encSeg lp])) (by simp [evalE, hout'])
            (by simp [truthy])]
          unfold reendInner
          rw [exec.seq_setLoc (v := encSeg lp) (evalE_outLast hc (l := pyStk restk) (by simp [hout']) (by simp [hlen])),
            exec.seq_setLoc (v := .smp t0 (.val v0)) ?e3,
            exec.seq_ok (exec_delLast hc fuel (l := pyStk restk) (x := encSeg lp) (by simp [hout']) (by simp [hlen])),
            exec.appendLoc (v := .seg lp.lo (t0.add b) lp.v) (l := pyStk restk) ?e5 (by simp)]
          case e3 =>
            exact (evalE.idxInt (evalE.loc (v := encSig ((t0, v0) :: rest)) (by simp [hs]))).trans (evalIdx.cons0 _ _)
          case e5 =>
            exact evalE_mkSeg (evalE_seg0 call (g := lp) (by simp)) ((evalE.bin (b := .loc "end")
              (evalE.time (t := t0) (p := .val v0) (evalE.loc (by simp))) (evalE.loc (by simp [hend]))).trans (hxe.add t0))
              (evalE_seg2 call (g := lp) (by simp))
          exact ⟨_, rfl, by simp [encRS], by simp [reend, pyStk_cons, encSeg]⟩

theorem midSeq_spec (call : Call α) (fuel : Nat) (ord : Bool) {env : Env α} {s : ASig α} {started : Bool}
    (hs : getLoc "sample" env = .ok (encSig s)) (hst : getLoc "self.started" env = .ok (.bool started)) :
    ∃ env', (∀ rest, exec call fuel (midSeq ord rest) env = exec call fuel rest env') ∧
      getLoc "last" env' = .ok (.list []) ∧ getLoc "prev" env' = .ok .nan ∧
      getLoc "self.started" env' = .ok (.bool (started || !s.isEmpty)) ∧
      Frame ["last", "prev", "self.started"] env env' := by
  have hstarted : ∀ env1 : Env α, getLoc "sample" env1 = .ok (encSig s) → getLoc "self.started" env1 = .ok (.bool started) →
      exec call fuel startedStmt env1 = .ok (setLoc "self.started" (.bool (started || !s.isEmpty)) env1, .none) := by
    intro env1 h1 h2
    unfold startedStmt
    cases s with
    | nil =>
        rw [exec.ite_false (d := .list []) (by simp [evalE, h1, encSig]) rfl]
        exact exec.skip_set (by simpa using h2)
    | cons p rest =>
        rw [exec.ite_true (d := encSig (p :: rest)) (by simp [evalE, h1]) (by simp [encSig, truthy])]
        exact exec.setLoc (by simp [evalE])
  cases ord with
  | true =>
      refine ⟨setLoc "prev" .nan (setLoc "self.started" (.bool (started || !s.isEmpty)) (setLoc "last" (.list []) env)),
        fun rest => ?_, by simp, by simp, by simp, (((Frame.refl _ _).set (by simp) _).set (by simp) _).set (by simp) _⟩
      unfold midSeq
      rw [exec.seq_setLoc (v := .list []) (by simp [evalE]), exec.seq_ok (hstarted _ (by simp [hs]) (by simp [hst])),
        exec.seq_setLoc (v := .nan) (by simp [evalE])]
  | false =>
      refine ⟨setLoc "last" (.list []) (setLoc "prev" .nan (setLoc "self.started" (.bool (started || !s.isEmpty)) env)),
        fun rest => ?_, by simp, by simp, by simp, (((Frame.refl _ _).set (by simp) _).set (by simp) _).set (by simp) _⟩
      unfold midSeq
      rw [exec.seq_ok (hstarted _ hs hst), exec.seq_setLoc (v := .nan) (by simp [evalE]),
        exec.seq_setLoc (v := .list []) (by simp [evalE])]

theorem finalStmt_ok (call : Call α) (fuel : Nat) {env : Env α} {res : ASig α} {last : Option (Tm × α)}
    (hres : getLoc "sample_result" env = .ok (encSig res)) (hlast : getLoc "last" env = .ok (encOptSmp last)) :
    exec call fuel finalStmt env = .ok (setLoc "sample_result" (encSig (finalRes res last)) env, .none) := by
  unfold finalStmt
  cases last with
  | none =>
      rw [exec.ite_false (d := .list []) (by simp [evalE, hlast, encOptSmp]) rfl]
      exact exec.skip_set hres
  | some p =>
      obtain ⟨t, v⟩ := p
      rw [exec.ite_true (d := .smp t (.val v)) (by simp [evalE, hlast, encOptSmp, encSmp]) rfl]
      rcases List.eq_nil_or_concat res with rfl | ⟨l, q, hq⟩
      · rw [exec.ite_true (evalE.not (evalE.loc hres) rfl) rfl]
        rw [exec.appendLoc (v := .smp t (.val v)) (l := []) (by simp [evalE, hlast, encOptSmp, encSmp]) (by simpa [encSig] using hres)]
        simp [finalRes, encSig, encSmp]
      · rw [List.concat_eq_append] at hq
        subst hq
        have henc : encSig (l ++ [q]) = .list (l.map encSmp ++ [encSmp q]) := by simp [encSig]
        rw [henc] at hres
        rw [exec.ite_false (evalE.not (b := true) (evalE.loc hres) (by simp [truthy])) rfl]
        have hcond : evalE call env (.bin .gt (.idx (.loc "last") (.int 0))
            (.idx (.idx (.loc "sample_result") (.neg (.int 1))) (.int 0))) = .ok (.bool (Tm.lt q.1 t)) :=
          (evalE.bin (evalE.time (p := .val v) (evalE.loc hlast)) (evalE.time (p := .val q.2) (evalE.last hres))).trans
            (evalBin.gt_tm _ _)
        rw [exec.ite hcond rfl]
        have hfin : finalRes (l ++ [q]) (some (t, v)) = if Tm.lt q.1 t then (l ++ [q]) ++ [(t, v)] else l ++ [q] := by
          simp [finalRes]
        rw [hfin]
        cases Tm.lt q.1 t with
        | false =>
            simp only [Bool.false_eq_true, if_false]
            exact exec.skip_set (henc ▸ hres)
        | true =>
            simp only [if_true]
            rw [exec.appendLoc (v := .smp t (.val v)) (by simp [evalE, hlast, encOptSmp, encSmp]) hres]
            simp [encSig, encSmp]

/-- the mirror, in the shape the code has -/
theorem timedUpdateCore_eq (worse : α → α → Bool) (neutral : α) (a b : Rat) (st : TimedSt α) (s : ASig α) :
    timedUpdateCore worse neutral a b st s =
      (do let stk ← (onSegs a b s).foldlM (pushSeg worse) (withInit neutral a st.started s 0 (reend b s st.segs.reverse))
          pure ({ segs := (timedEmit (newRS st.rs s) stk.reverse none [] none []).2.2, rs := newRS st.rs s,
                  started := st.started || !s.isEmpty },
                finalRes (timedEmit (newRS st.rs s) stk.reverse none [] none []).1
                  (timedEmit (newRS st.rs s) stk.reverse none [] none []).2.1)) := by
  unfold timedUpdateCore
  cases s with
  | nil =>
      simp only [withInit, reend]
      rfl
  | cons p rest =>
      obtain ⟨t0, v0⟩ := p
      cases hseg : st.segs.reverse with
      | nil =>
          have : st.segs = [] := by simpa using hseg
          simp only [withInit, reend, this]
          cases (t0 == Tm.zero && decide (0 < a) && !st.started) <;> rfl
      | cons lp restRev =>
          simp only [withInit, reend]
          cases (t0 == Tm.zero && decide (0 < a) && !st.started)
          · simp only [Bool.false_eq_true, if_false, List.reverse_reverse]; rfl
          · simp only [if_true, List.reverse_append, List.reverse_reverse, List.reverse_cons, List.reverse_nil,
              List.nil_append, List.cons_append]; rfl

theorem dropRepeat_length (rs : Option Tm) (s : ASig α) : (dropRepeat rs s).length ≤ s.length := by
  unfold dropRepeat
  split
  · split <;> simp
  · simp

theorem newRS_none {rs : Option Tm} {s : ASig α} (h : newRS rs s = none) : s = [] ∧ rs = none := by
  unfold newRS at h
  cases hs : s.getLast? with
  | none => rw [hs] at h; exact ⟨by simpa using hs, h⟩
  | some q => rw [hs] at h; cases h

theorem outerBody_mods (opW opK : BinOp) (ninit : E) :
    ∀ x ∈ mods (outerBody opW opK ninit), x ∈ ["out", "a", "b", "i"] := by
  show ∀ x ∈ mods (outerBody .lt .ge .inf), _
  decide +kernel

theorem reendStmt_mods : ∀ x ∈ mods reendStmt, x ∈ ["self.residual_start", "last_prev", "first_now", "out"] := by
  decide +kernel

theorem emitFor_mods : ∀ x ∈ mods (.forEnum "i" "b" (.loc "out") false emitBody),
    x ∈ ["i", "b", "last", "sample_result", "self.prev", "prev"] := by
  decide +kernel

/-- what `update` leaves in its locals, against the outcome `p` of the mirror -/
def UpdPost (neg : Bool) (p : TimedSt α × ASig α) (r : Res α) : Prop :=
  r.2 = .ret (encSig p.2) ∧ getLoc "self.prev" r.1 = .ok (.list (p.1.segs.map encSeg)) ∧
    getLoc "self.residual_start" r.1 = .ok (encRS neg p.1.rs) ∧ getLoc "self.started" r.1 = .ok (.bool p.1.started) ∧
    (p.1.rs = none → p.1.segs = [])

/-- Up to the outer loop every statement runs through; the loop does what the fold of `pushSeg` does (`outerLoop`); what
    follows runs through again. -/
theorem upd_sim {opW opK : BinOp} {ninit : E} {neg : Bool} {worse : α → α → Bool} {neutral : α}
    (hp : Par α opW opK ninit neg worse neutral) {call : Call α} (hc : CallOK call) (fuel : Nat) (ord : Bool)
    {env0 : Env α} {st : TimedSt α} {s : ASig α} {a b : Rat} {xb xe : DV α}
    (hs : getLoc "sample" env0 = .ok (encSig s))
    (hprev : getLoc "self.prev" env0 = .ok (.list (st.segs.map encSeg)))
    (hrs : getLoc "self.residual_start" env0 = .ok (encRS neg st.rs))
    (hst : getLoc "self.started" env0 = .ok (.bool st.started))
    (hbeg : getLoc "self.begin" env0 = .ok xb) (hxb : FinOK xb a)
    (hend : getLoc "self.end" env0 = .ok xe) (hxe : FinOK xe b)
    (hlen : getLoc "len" env0 = .error .key) (hint : getLoc "intersects" env0 = .error .key)
    (hinv : st.rs = none → st.segs = [])
    (hinf : st.rs = none → neg = false → ∀ t v rest, s = (t, v) :: rest → t ≠ .inf)
    (hfuel : st.segs.length + s.length + 1 ≤ fuel) :
    Exc.Sim (exec call fuel (updBody opW opK ninit ord) env0) (timedUpdate worse neutral a b st s) (UpdPost neg) := by
  unfold updBody
  rw [exec.seq_setLoc (v := .list []) (by simp [evalE]),
    exec.seq_setLoc (v := .list (st.segs.map encSeg)) (by simp [evalE, hprev]),
    exec.seq_setLoc (v := .list []) (by simp [evalE]),
    exec.seq_setLoc (v := xb) (by simp [evalE, hbeg]),
    exec.seq_setLoc (v := xe) (by simp [evalE, hend]),
    exec.seq_ok (dropStmt_ok call fuel (s := s) (neg := neg) (rs := st.rs) (by simp [hs]) (by simp [hrs]) hinf)]
  generalize hs' : dropRepeat st.rs s = s'
  have hlen' : s'.length ≤ s.length := by rw [← hs']; exact dropRepeat_length _ _
  -- the locals after the assignments the body begins with
  generalize henv6 : setLoc "sample" (encSig s') _ = env6
  have hI6 : Inv env6 s' a b st.started := by
    subst henv6
    exact ⟨by simp, ⟨xb, by simp, hxb⟩, ⟨xe, by simp, hxe⟩, by simp [hst], by simp [hlen], by simp [hint]⟩
  have hrs6 : getLoc "self.residual_start" env6 = .ok (encRS neg st.rs) := by subst henv6; simp [hrs]
  have hout6 : getLoc "out" env6 = .ok (.list (pyStk st.segs.reverse)) := by subst henv6; simp [pyStk]
  have hprev6 : getLoc "self.prev" env6 = .ok (.list []) := by subst henv6; simp
  have hres6 : getLoc "sample_result" env6 = .ok (.list []) := by subst henv6; simp
  have hend6 : getLoc "end" env6 = .ok xe := by subst henv6; simp
  clear henv6
  obtain ⟨env7, h7, hrs7, hout7⟩ := reendStmt_spec hc fuel (b := b) hI6.hin hrs6 hout6 hend6 hxe hI6.hlen
  have hF7 := (exec_frame _ _ _ _ _ _ h7).mono reendStmt_mods
  rw [exec.seq_ok h7, exec.seq_setLoc (v := .int 1) (by simp [evalE])]
  have hF78 := frame_setLoc "i" (.int 1) env7
  have hi8 : getLoc "i" (setLoc "i" (.int 1) env7) = .ok (.int (((0 : Nat) : Int) + 1)) := by simp
  generalize setLoc "i" (DV.int 1) env7 = env8 at hF78 hi8 ⊢
  have hF68 := hF7.append hF78
  have hrs8 := (hF78.getLoc (by simp)).trans hrs7
  have hout8 := (hF78.getLoc (by simp)).trans hout7
  have hI8 := hI6.frame hF68
  have hw : (withInit neutral a st.started s' 0 (reend b s' st.segs.reverse)).length ≤ st.segs.length + 0 + 1 := by
    simpa [reend_length] using withInit_length neutral a st.started s' 0 (reend b s' st.segs.reverse)
  unfold timedUpdate
  rw [hs', timedUpdateCore_eq]
  refine exec.seq_sim (exec.sim_frame (by
    rw [exec.while_]
    exact outerLoop (opW := opW) (opK := opK) hp hc fuel (s := s') (a := a) (b := b) (started := st.started)
      st.segs.length (by omega) fuel (0, reend b s' st.segs.reverse) env8 ⟨Nat.zero_le _, hw, hI8, hi8, hout8⟩
      (by simp; omega))) ?_
  rintro stk ⟨env9, _⟩ hfold ⟨⟨rfl, hI9, hout9⟩, hF9'⟩
  have hF9 := hF9'.mono (outerBody_mods opW opK ninit)
  refine ⟨rfl, ?_⟩
  obtain ⟨env10, h10, hlast10, hprev10, hst10, hF10⟩ := midSeq_spec call fuel ord hI9.hin hI9.hst
  rw [h10]
  have hF810 := hF9.append hF10
  have hF610 := hF68.append hF810
  have hout10 := (hF10.getLoc (by simp)).trans hout9
  have hlen10 := (hF10.getLoc (by simp)).trans hI9.hlen
  have hrs10 := (hF810.getLoc (by simp)).trans hrs8
  have hres10 := (hF610.getLoc (by simp)).trans hres6
  have hkeep10 := (hF610.getLoc (by simp)).trans hprev6
  -- no sample so far, hence (`hinv`) nothing pending
  have hnil : newRS st.rs s' = none → stk = [] := fun hnr => by
    obtain ⟨hs'nil, hrsn⟩ := newRS_none hnr
    rw [hs'nil, hinv hrsn] at hfold
    simpa [onSegs, withInit, reend] using hfold
  obtain ⟨env11, _, h11, hE11⟩ := emitFor_ok hc fuel neg (newRS st.rs s') stk.reverse
    ⟨hout10, hlen10, hrs10, hprev10, by simpa [encSig] using hres10, hlast10, by simpa using hkeep10⟩
    fun h => by simp [hnil h]
  unfold endStmt
  rw [exec.seq_ok h11, exec.seq_ok (finalStmt_ok call fuel hE11.hres hE11.hlast)]
  refine Exc.Sim.ok (exec.ret (evalE.loc (getLoc_setLoc_same _ _ _)))
    ⟨rfl, by simp [hE11.hkeep], by simp [hE11.hrs], ?_, fun h => by rw [hnil h]; simp [timedEmit]⟩
  rw [getLoc_setLoc_ne _ _ _ _ (by simp), ((exec_frame _ _ _ _ _ _ h11).mono emitFor_mods).getLoc (by simp)]
  exact hst10

end GOnTimed

open GOnTimed

/-- `TimedSt` against an object of class `cls` (`neg`: the initial `residual_start` / `max` is `-inf`, i.e. `OnceTimedOperation`;
    otherwise `+inf`, i.e. `HistoricallyTimedOperation`).  The last component is an invariant of the reachable states
    (nothing is pending before the first sample). -/
def TimedRel (cls : String) (neg : Bool) (a b : Rat) (st : TimedSt α) (o : DV α) : Prop :=
  ∃ (store : Env α) (xb xe : DV α), o = .obj cls store ∧
    store.lookup "self.prev" = some (.list (st.segs.map (fun g => DV.seg g.lo g.hi g.v))) ∧
    store.lookup "self.residual_start" = some (match st.rs with | some r => .tm r | none => .uinf neg) ∧
    store.lookup "self.started" = some (.bool st.started) ∧
    store.lookup "self.begin" = some xb ∧ toTm xb = .ok (.fin a) ∧
    store.lookup "self.end" = some xe ∧ toTm xe = .ok (.fin b) ∧
    store.lookup "self.max" = some (.uinf neg) ∧
    (∀ p ∈ store, isSelfKey p.1 = true) ∧
    (st.rs = none → st.segs = [])

namespace GOnTimed

theorem encRS_eq (neg : Bool) (rs : Option Tm) :
    (encRS neg rs : DV α) = (match rs with | some r => .tm r | none => .uinf neg) := by
  cases rs <;> rfl

/-- the fuel `update` needs: the outer loop runs once per new sample, the inner loop at most the height of the stack -/
def G (st : TimedSt α) (s : ASig α) : Nat := st.segs.length + s.length + 1

/-! The names the two classes use: their attributes; the parameters of `update` / `__init__` and the functions `update`
    calls, which are no attributes. -/

theorem self_attrs : ∀ x ∈ ["self.prev", "self.residual_start", "self.started", "self.begin", "self.end", "self.max"],
    isSelfKey x = true := by
  decide +kernel

theorem nonself_update : ∀ x ∈ ["sample", "len", "intersects"], isSelfKey x = false := by decide +kernel

theorem nonself_sample : ∀ x ∈ ["sample"], isSelfKey x = false := by decide +kernel

theorem nonself_init : ∀ x ∈ ["begin", "end"], isSelfKey x = false := by decide +kernel

theorem timedRel_of_env {cls : String} {neg : Bool} {a b : Rat} {st : TimedSt α} {env : Env α} {xb xe : DV α}
    (hprev : getLoc "self.prev" env = .ok (.list (st.segs.map encSeg)))
    (hrs : getLoc "self.residual_start" env = .ok (encRS neg st.rs))
    (hst : getLoc "self.started" env = .ok (.bool st.started))
    (hbeg : getLoc "self.begin" env = .ok xb) (hxb : FinOK xb a)
    (hend : getLoc "self.end" env = .ok xe) (hxe : FinOK xe b)
    (hmax : getLoc "self.max" env = .ok (.uinf neg)) (hinv : st.rs = none → st.segs = []) :
    TimedRel cls neg a b st (.obj cls (env.filter selfP)) :=
  have hk := fun x hx v (h : getLoc x env = .ok v) => lookup_filter_get (self_attrs x hx) h
  ⟨_, xb, xe, rfl, hk _ (by simp) _ hprev, hk _ (by simp) _ (hrs.trans (congrArg _ (encRS_eq _ _))), hk _ (by simp) _ hst,
    hk _ (by simp) _ hbeg, hxb, hk _ (by simp) _ hend, hxe, hk _ (by simp) _ hmax, selfKeys_filter _, hinv⟩

theorem init_ok {opW opK : BinOp} {ninit : E} {neg : Bool} {worse : α → α → Bool} {neutral : α}
    (hp : Par α opW opK ninit neg worse neutral) {cls name : String} {f : Fn} (hM : IsMethod name f ["begin", "end"])
    (hbody : f.body = initBody ninit) (fuel k : Nat) (xb xe : DV α) (a b : Rat) (hxb : FinOK xb a) (hxe : FinOK xe b) :
    ∃ o, callAt Gen.DenseOn.fns fuel (k + 1) name [.obj cls [], xb, xe] = .ok (.list [o, .none]) ∧
      TimedRel cls neg a b {} o := by
  refine ⟨_, method_none (cls := cls) (store := []) (args := [xb, xe]) (env' := ?env) hM rfl ?hx, ?_⟩
  case hx =>
    rw [hbody]
    unfold initBody
    rw [exec.seq_setLoc (v := .list []) (by simp [evalE]), exec.seq_setLoc (hp.hN _ _), exec.seq_setLoc (hp.hN _ _),
      exec.seq_setLoc (v := xb) (by simp [evalE]), exec.seq_setLoc (v := xe) (by simp [evalE]),
      exec.setLoc (v := .bool false) (by simp [evalE])]
  exact timedRel_of_env (by simp) (by simp [encRS]) (by simp) (by simp) hxb (by simp) hxe (by simp) fun _ => rfl

theorem updBody_keeps (opW opK : BinOp) (ninit : E) (ord : Bool) :
    ∀ x ∈ ["self.begin", "self.end", "self.max"], x ∉ mods (updBody opW opK ninit ord) := by
  show ∀ x ∈ _, x ∉ mods (updBody .lt .ge .inf ord)
  cases ord <;> decide +kernel

/-- The attributes `update` does not assign (`updBody_keeps`) are those of the object it is called on. -/
theorem update_sim {opW opK : BinOp} {ninit : E} {neg : Bool} {worse : α → α → Bool} {neutral : α}
    (hp : Par α opW opK ninit neg worse neutral) (ord : Bool) {cls name : String} {f : Fn}
    (hM : IsMethod name f ["sample"]) (hbody : f.body = updBody opW opK ninit ord) (fuel k : Nat)
    (a b : Rat) (st : TimedSt α) (o : DV α) (hrel : TimedRel cls neg a b st o) (s : ASig α)
    (hinf : st.rs = none → neg = false → ∀ t v rest, s = (t, v) :: rest → t ≠ .inf) (hfuel : G st s ≤ fuel) :
    Exc.Sim (callAt Gen.DenseOn.fns fuel (k + 2) name [o, encSig s]) (timedUpdate worse neutral a b st s)
      fun p r => ∃ o', r = .list [o', encSig p.2] ∧ TimedRel cls neg a b p.1 o' := by
  obtain ⟨store, xb, xe, rfl, hprev, hrs, hst, hbeg, hxb, hend, hxe, hmax, hself, hinv⟩ := hrel
  have hloc : ∀ x ∈ ["sample", "len", "intersects"],
      getLoc x (store ++ [("sample", encSig s)]) = getLoc x ([("sample", encSig s)] : Env α) :=
    fun x hx => getLoc_append_right (lookup_none_of_selfKeys store hself x (nonself_update x hx))
  have hatt : ∀ x v, store.lookup x = some v → getLoc x (store ++ [("sample", encSig s)]) = .ok v :=
    fun x v hv => getLoc_append_left hv
  have hb := exec.sim_frame (upd_sim hp (callOK_callAt (α := α) fuel k) fuel ord
    (env0 := store ++ [("sample", encSig s)]) (st := st) (s := s) (a := a) (b := b) (xb := xb) (xe := xe)
    ((hloc _ (by simp)).trans (by simp)) (hatt _ _ hprev)
    (hatt _ _ (by rw [hrs, encRS_eq])) (hatt _ _ hst) (hatt _ _ hbeg) hxb (hatt _ _ hend) hxe
    ((hloc _ (by simp)).trans (by simp))
    ((hloc _ (by simp)).trans (by simp)) hinv hinf hfuel)
  have hm := method_sim hM (args := [encSig s]) (cls := cls) (store := store) (fuel := fuel) (k := k + 1) rfl
    (Q := fun (p : TimedSt α × ASig α) env' v =>
      v = encSig p.2 ∧ TimedRel cls neg a b p.1 (.obj cls (env'.filter selfP))) (by
      rw [hbody]
      refine hb.mono ?_
      rintro p ⟨env', _⟩ ⟨⟨rfl, hprev', hrs', hst', hinv'⟩, hF⟩
      have hk := updBody_keeps opW opK ninit ord
      exact ⟨_, rfl, rfl, timedRel_of_env hprev' hrs' hst' ((hF.getLoc (hk _ (by simp))).trans (hatt _ _ hbeg)) hxb
        ((hF.getLoc (hk _ (by simp))).trans (hatt _ _ hend)) hxe ((hF.getLoc (hk _ (by simp))).trans (hatt _ _ hmax)) hinv'⟩)
  exact hm.mono fun p r ⟨env', v, hr, hv, hrel'⟩ => ⟨_, hv ▸ hr, hrel'⟩

theorem upd_exec {worse : α → α → Bool} {neutral : α} {a b : Rat} {st : TimedSt α} {s : ASig α} {x : Except PyErr (DV α)}
    {R : TimedSt α → DV α → Prop}
    (h : Exc.Sim x (timedUpdate worse neutral a b st s) fun p r => ∃ o', r = .list [o', encSig p.2] ∧ R p.1 o') :
    match timedUpdate worse neutral a b st s with
    | .ok (st', out) => ∃ o', x = .ok (.list [o', encSig out]) ∧ R st' o'
    | .error e => x = .error e := by
  cases hb : timedUpdate worse neutral a b st s with
  | error e => exact h.of_error hb
  | ok p => obtain ⟨_, hr, o', rfl, ho⟩ := h.of_ok hb; exact ⟨o', hr, ho⟩

end GOnTimed

theorem name_OnceTimed_update : "OnceTimedOperation" ++ ".update" = "OnceTimedOperation.update" := by decide +kernel
theorem name_OnceTimed_init : "OnceTimedOperation" ++ ".__init__" = "OnceTimedOperation.__init__" := by decide +kernel
theorem name_HistoricallyTimed_update :
    "HistoricallyTimedOperation" ++ ".update" = "HistoricallyTimedOperation.update" := by decide +kernel
theorem name_HistoricallyTimed_init :
    "HistoricallyTimedOperation" ++ ".__init__" = "HistoricallyTimedOperation.__init__" := by decide +kernel

/-- `begin` / `end` may be any values that read as finite time stamps (`.tm (.fin a)`, or an integer literal as in
    `HistoricallyTimedOperation(0, self.begin)`). -/
theorem gen_once_timed_init (fuel k : Nat) (xb xe : DV α) (a b : Rat) (hxb : toTm xb = .ok (.fin a))
    (hxe : toTm xe = .ok (.fin b)) :
    ∃ o, callAt Gen.DenseOn.fns fuel (k + 1) "OnceTimedOperation.__init__" [.obj "OnceTimedOperation" [], xb, xe]
        = .ok (.list [o, .none]) ∧ TimedRel "OnceTimedOperation" true a b {} o :=
  init_ok par_once ⟨fns_at 35 rfl, rfl, rfl, nonself_init⟩ rfl fuel k xb xe a b hxb hxe

theorem gen_hist_timed_init (fuel k : Nat) (xb xe : DV α) (a b : Rat) (hxb : toTm xb = .ok (.fin a))
    (hxe : toTm xe = .ok (.fin b)) :
    ∃ o, callAt Gen.DenseOn.fns fuel (k + 1) "HistoricallyTimedOperation.__init__"
        [.obj "HistoricallyTimedOperation" [], xb, xe]
        = .ok (.list [o, .none]) ∧ TimedRel "HistoricallyTimedOperation" false a b {} o :=
  init_ok par_hist ⟨fns_at 25 rfl, rfl, rfl, nonself_init⟩ rfl fuel k xb xe a b hxb hxe

theorem gen_timed_update {opW opK : BinOp} {ninit : E} {neg : Bool} {worse : α → α → Bool} {neutral : α}
    (hp : GOnTimed.Par α opW opK ninit neg worse neutral) (ord : Bool) (cls : String) (f : Fn)
    (hf : Gen.DenseOn.fns.lookup (cls ++ ".update") = some f) (hm : f.isMethod = true)
    (hparams : f.params = ["self", "sample"]) (hbody : f.body = GOnTimed.updBody opW opK ninit ord)
    (fuel k : Nat) (a b : Rat) (st : TimedSt α) (o : DV α) (hrel : TimedRel cls neg a b st o) (s : ASig α)
    (hinf : st.rs = none → neg = false → ∀ t v rest, s = (t, v) :: rest → t ≠ .inf) (hfuel : GOnTimed.G st s ≤ fuel) :
    match timedUpdate worse neutral a b st s with
    | .ok (st', out) => ∃ o', callAt Gen.DenseOn.fns fuel (k + 2) (cls ++ ".update") [o, encSig s]
          = .ok (.list [o', encSig out]) ∧ TimedRel cls neg a b st' o'
    | .error e => callAt Gen.DenseOn.fns fuel (k + 2) (cls ++ ".update") [o, encSig s] = .error e :=
  upd_exec (update_sim hp ord ⟨hf, hm, hparams, nonself_sample⟩ hbody fuel k a b st o hrel s hinf hfuel)

theorem gen_once_timed_sim (fuel k : Nat) (a b : Rat) (st : TimedSt α) (o : DV α)
    (hrel : TimedRel "OnceTimedOperation" true a b st o) (s : ASig α) (hfuel : GOnTimed.G st s ≤ fuel) :
    Exc.Sim (callAt Gen.DenseOn.fns fuel (k + 2) "OnceTimedOperation.update" [o, encSig s])
      (timedUpdate ltW Val.ninf a b st s)
      fun p r => ∃ o', r = .list [o', encSig p.2] ∧ TimedRel "OnceTimedOperation" true a b p.1 o' :=
  update_sim par_once true ⟨fns_at 36 rfl, rfl, rfl, nonself_sample⟩ once_body_eq fuel k a b st o hrel s
    (fun _ h => by cases h) hfuel

/-- `HistoricallyTimedOperation.update(sample)`.  The hypothesis `hs` excludes the one input on which the code and the mirror
    differ: before the first sample `self.residual_start` is `+inf`, so a first sample stamped `inf` is taken for a repetition
    and dropped by the code (`sample[0][0] == self.residual_start`), while the mirror (`rs = none`) keeps it.  E.g.
    `update([[inf, 5.0]])`: code `[]` (state unchanged), mirror `[(inf, 5.0)]` (`started = true`). -/
theorem gen_hist_timed_sim (fuel k : Nat) (a b : Rat) (st : TimedSt α) (o : DV α)
    (hrel : TimedRel "HistoricallyTimedOperation" false a b st o) (s : ASig α)
    (hs : st.rs = none → ∀ t v rest, s = (t, v) :: rest → t ≠ .inf) (hfuel : GOnTimed.G st s ≤ fuel) :
    Exc.Sim (callAt Gen.DenseOn.fns fuel (k + 2) "HistoricallyTimedOperation.update" [o, encSig s])
      (timedUpdate gtW Val.pinf a b st s)
      fun p r => ∃ o', r = .list [o', encSig p.2] ∧ TimedRel "HistoricallyTimedOperation" false a b p.1 o' :=
  update_sim par_hist false ⟨fns_at 26 rfl, rfl, rfl, nonself_sample⟩ hist_body_eq fuel k a b st o hrel s
    (fun h _ => hs h) hfuel

theorem gen_once_timed_update (fuel k : Nat) (a b : Rat) (st : TimedSt α) (o : DV α)
    (hrel : TimedRel "OnceTimedOperation" true a b st o) (s : ASig α) (hfuel : GOnTimed.G st s ≤ fuel) :
    match timedUpdate ltW Val.ninf a b st s with
    | .ok (st', out) => ∃ o', callAt Gen.DenseOn.fns fuel (k + 2) "OnceTimedOperation.update" [o, encSig s]
          = .ok (.list [o', encSig out]) ∧ TimedRel "OnceTimedOperation" true a b st' o'
    | .error e => callAt Gen.DenseOn.fns fuel (k + 2) "OnceTimedOperation.update" [o, encSig s] = .error e :=
  upd_exec (gen_once_timed_sim fuel k a b st o hrel s hfuel)

theorem gen_hist_timed_update (fuel k : Nat) (a b : Rat) (st : TimedSt α) (o : DV α)
    (hrel : TimedRel "HistoricallyTimedOperation" false a b st o) (s : ASig α)
    (hs : st.rs = none → ∀ t v rest, s = (t, v) :: rest → t ≠ .inf) (hfuel : GOnTimed.G st s ≤ fuel) :
    match timedUpdate gtW Val.pinf a b st s with
    | .ok (st', out) => ∃ o', callAt Gen.DenseOn.fns fuel (k + 2) "HistoricallyTimedOperation.update" [o, encSig s]
          = .ok (.list [o', encSig out]) ∧ TimedRel "HistoricallyTimedOperation" false a b st' o'
    | .error e => callAt Gen.DenseOn.fns fuel (k + 2) "HistoricallyTimedOperation.update" [o, encSig s] = .error e :=
  upd_exec (gen_hist_timed_sim fuel k a b st o hrel s hs hfuel)

end Rtamt.Py.DnOn
