/-
  C10 — reset() returns an online monitor to its initial state.

  "For every specification and every sequence of updates fed before it, after reset()
   all subsequent update() calls return exactly what a freshly constructed, parsed (and
   pastified) monitor returns for the same subsequent inputs, and the sampling-violation
   counter restarts at 0 … calling reset() before the first update is harmless."

  Discrete time: mirror of every operation's `reset()` and of the reset visitor.
  (Dense time: `reset()` reconstructs the operators — `set_ast` — so the statement is
  the definition of a fresh monitor there; it is covered by the correspondence stream.)

  Per operator object: the states it can reach (`NodeSt`: full deques for the bounded operations) are kept by `update`
  and sent to the constructor's state by `reset()`.  Per tree: `TreeShape`, every node in such a state.
-/
import RtamtProofs.C02
import RtamtProofs.Lemmas.Deque
import Rtamt.Discrete.Sampling

namespace Rtamt
open Val

variable {α : Type} [Val α]

omit [Val α] in
/-- A full `deque(maxlen = m)` that receives `m` copies of `x` holds `m` copies of `x`,
    whatever it held before (the `reset()` of the bounded operations). -/
theorem pushN_full (l : List α) (x : α) (m : Nat) (hl : l.length = m) :
    pushN l x m = List.replicate m x := by
  subst hl
  rw [pushN_eq]
  simp

/-- The states the operator object of a node can be in: none for a point-wise operation, a full deque of `b + 1` elements
    (two for since / precedes) for a bounded one. -/
def NodeSt : F α → St α → Prop
  | .tmp1 _ _, _ | .tmp2 _ _ _, _ => True
  | .tb1 op _ b _, s =>
      match op with
      | .once | .hist => ∃ l, s = .buf l ∧ l.length = b + 1
      | _ => s = .unit
  | .tb2 op _ b _ _, s =>
      match op with
      | .until => s = .unit
      | _ => ∃ l r, s = .buf2 l r ∧ l.length = b + 1 ∧ r.length = b + 1
  | _, s => s = .unit

private theorem NodeSt.init (χ : F α) : NodeSt χ (initNode χ) := by
  cases χ with
  | tmp1 | tmp2 => trivial
  | var | const | un | bin => rfl
  | tb1 op =>
    cases op with
    | once | hist => exact ⟨_, rfl, List.length_replicate⟩
    | ev | alw => rfl
  | tb2 op =>
    cases op with
    | since | precedes => exact ⟨_, _, rfl, List.length_replicate, List.length_replicate⟩
    | «until» => rfl

private theorem NodeSt.step1 {χ φ : F α} (hn : Dense.C09Dense.Node1 χ φ) {s s' : St α} {v o : α} (hs : NodeSt χ s)
    (h : Py.stepNode χ s [v] = .ok (s', o)) : NodeSt χ s' := by
  cases hn with
  | un op => cases h; exact hs
  | tmp1 op => trivial
  | tb1 op a b =>
    cases op with
    | once | hist =>
      obtain ⟨l, rfl, hl⟩ := hs
      simp only [Py.stepNode, stepTB1, bind, Except.bind, pure, Except.pure] at h
      split at h <;> cases h
      exact ⟨_, rfl, by rw [dqPush_length, hl]⟩
    | ev | alw => simp only [NodeSt] at hs; subst hs; simp [Py.stepNode, stepTB1] at h

private theorem NodeSt.step2 {χ φ ψ : F α} (hn : Dense.C09Dense.Node2 χ φ ψ) {s s' : St α} {v1 v2 o : α}
    (hs : NodeSt χ s) (h : Py.stepNode χ s [v1, v2] = .ok (s', o)) : NodeSt χ s' := by
  cases hn with
  | bin op => cases h; exact hs
  | tmp2 op => trivial
  | tb2 op a b =>
    cases op with
    | since | precedes =>
      obtain ⟨l, r, rfl, hl, hr⟩ := hs
      simp only [Py.stepNode, stepTB2, bind, Except.bind, pure, Except.pure] at h
      split at h <;> cases h
      exact ⟨_, _, rfl, by rw [dqPush_length, hl], by rw [dqPush_length, hr]⟩
    | «until» => simp only [NodeSt] at hs; subst hs; simp [Py.stepNode, stepTB2] at h

private theorem NodeSt.reset {χ : F α} {s : St α} (hs : NodeSt χ s) : resetNode χ s = initNode χ := by
  cases χ with
  | tmp1 | tmp2 => rfl
  | var | const | un | bin => exact hs
  | tb1 op a b φ =>
    cases op with
    | once | hist => obtain ⟨l, rfl, hl⟩ := hs; simp [resetNode, initNode, resetTB1, initTB1, pushN_full l _ _ hl]
    | ev | alw => simp only [NodeSt] at hs; subst hs; rfl
  | tb2 op a b φ ψ =>
    cases op with
    | since | precedes =>
      obtain ⟨l, r, rfl, hl, hr⟩ := hs
      simp [resetNode, initNode, resetTB2, initTB2, pushN_full l _ _ hl, pushN_full r _ _ hr]
    | «until» => simp only [NodeSt] at hs; subst hs; rfl

open Dense.C09Dense in
/-- `TreeShape φ st st0`: `st0` is the state tree the constructor builds for `φ`, and `st` differs from it only in that
    every operator object is in some state it can reach. -/
inductive TreeShape : F α → STree α → STree α → Prop
  | var (x : String) : TreeShape (.var x) .leaf .leaf
  | const (c : α) : TreeShape (.const c) .leaf .leaf
  | n1 {χ φ : F α} {s : St α} {c c0 : STree α} :
      Node1 χ φ → NodeSt χ s → TreeShape φ c c0 → TreeShape χ (.n1 s c) (.n1 (initNode χ) c0)
  | n2 {χ φ ψ : F α} {s : St α} {c1 c2 d1 d2 : STree α} :
      Node2 χ φ ψ → NodeSt χ s → TreeShape φ c1 d1 → TreeShape ψ c2 d2 →
        TreeShape χ (.n2 s c1 c2) (.n2 (initNode χ) d1 d2)

private theorem init_shape {h r : Kind → Bool} {φ : F α} {st0 : STree α} (hi : initTree h r φ = .ok st0) :
    TreeShape φ st0 st0 := by
  induction φ using Dense.C09Dense.nodeInduction generalizing st0 with
  | var x =>
    simp only [initTree] at hi
    split at hi
    · cases hi
    · split at hi <;> cases hi
      exact .var x
  | const c => cases hi; exact .const c
  | n1 hn ih =>
    obtain ⟨-, c, hc, rfl⟩ := hn.initTree_eq_ok.1 hi
    exact .n1 hn (NodeSt.init _) (ih hc)
  | n2 hn ih1 ih2 =>
    obtain ⟨-, c1, c2, hc1, hc2, rfl⟩ := hn.initTree_eq_ok.1 hi
    exact .n2 hn (NodeSt.init _) (ih1 hc1) (ih2 hc2)

private theorem reset_shape {φ : F α} {st st0 : STree α} (hs : TreeShape φ st st0) : resetTree φ st = st0 := by
  induction hs with
  | var x | const c => rfl
  | n1 hn hs _ ih => rw [hn.resetTree, hs.reset, ih]
  | n2 hn hs _ _ ih1 ih2 => rw [hn.resetTree, hs.reset, ih1, ih2]

private theorem step_shape {e : String → α} {φ : F α} {st st0 st' : STree α} {o : α} (hs : TreeShape φ st st0)
    (hst : stepTree e φ st = .ok (st', o)) : TreeShape φ st' st0 := by
  induction hs generalizing st' o with
  | var x => cases hst; exact .var x
  | const c => cases hst; exact .const c
  | n1 hn hs _ ih =>
    simp only [hn.stepTree, Exc.bind_eq_ok, Exc.pure_eq_ok, Prod.exists, Prod.mk.injEq] at hst
    obtain ⟨c', v, h1, s', o', h2, rfl, rfl⟩ := hst
    exact .n1 hn (hs.step1 hn h2) (ih h1)
  | n2 hn hs _ _ ih1 ih2 =>
    simp only [hn.stepTree, Exc.bind_eq_ok, Exc.pure_eq_ok, Prod.exists, Prod.mk.injEq] at hst
    obtain ⟨c1', v1, h1, c2', v2, h2, s', o', h3, rfl, rfl⟩ := hst
    exact .n2 hn (hs.step2 hn h3) (ih1 h1) (ih2 h2)

private theorem run_shape {φ : F α} {es : List (String → α)} {st st' st0 : STree α} {os : List α}
    (hs : TreeShape φ st st0) (hr : runTree φ st es = .ok (st', os)) : TreeShape φ st' st0 := by
  induction es generalizing st os with
  | nil =>
    simp only [runTree, Except.ok.injEq, Prod.mk.injEq] at hr
    exact hr.1 ▸ hs
  | cons e es ih =>
    obtain ⟨st1, o, os', h1, h2, _⟩ := runTree_cons hr
    exact ih (step_shape hs h1) h2

/-- Every state reachable from a freshly constructed monitor is reset to the state of a
    freshly constructed monitor. -/
theorem C10_reset_reachable (h r : Kind → Bool) (φ : F α) (st0 : STree α)
    (hinit : initTree h r φ = .ok st0) (es : List (String → α)) (st : STree α) (os : List α)
    (hrun : runTree φ st0 es = .ok (st, os)) :
    resetTree φ st = st0 :=
  reset_shape (run_shape (init_shape hinit) hrun)

/-- `reset()` before the first update is harmless. -/
theorem C10_reset_fresh (h r : Kind → Bool) (φ : F α) (st0 : STree α)
    (hinit : initTree h r φ = .ok st0) : resetTree φ st0 = st0 :=
  C10_reset_reachable h r φ st0 hinit [] st0 [] rfl

private theorem mon_run_tree (c : SamplingCfg) (φ : F α) (l : List (Rat × (String → α))) (m m' : Mon α)
    (os : List α) (hr : Mon.run c φ m l = .ok (m', os)) :
    runTree φ m.tree (l.map Prod.snd) = .ok (m'.tree, os) := by
  induction l generalizing m os with
  | nil =>
    simp only [Mon.run, Except.ok.injEq, Prod.mk.injEq] at hr
    obtain ⟨rfl, rfl⟩ := hr
    rfl
  | cons p l ih =>
    simp only [Mon.run, Mon.update, Exc.bind_eq_ok, Exc.pure_eq_ok, Prod.exists, Prod.mk.injEq] at hr
    obtain ⟨_, o, ⟨st1, _, h0, rfl, rfl⟩, m2, os', h2, rfl, rfl⟩ := hr
    simp only [List.map_cons, runTree, h0, Exc.ok_bind, ih _ _ h2]
    rfl

/-- After `reset()` every subsequent update returns what a fresh monitor returns, and the
    counters restart (`update_counter = 0`, `previous_time = 0`, violation counter `= 0`). -/
theorem C10_reset_then_run (c : SamplingCfg) (h r : Kind → Bool) (φ : F α) (st0 : STree α)
    (hinit : initTree h r φ = .ok st0)
    (pre : List (Rat × (String → α))) (m : Mon α) (os : List α)
    (hpre : Mon.run c φ { tree := st0, clock := {} } pre = .ok (m, os))
    (post : List (Rat × (String → α))) :
    Mon.run c φ (m.reset φ) post = Mon.run c φ { tree := st0, clock := {} } post ∧
      (m.reset φ).clock = {} := by
  have ht : resetTree φ m.tree = st0 :=
    C10_reset_reachable h r φ st0 hinit _ _ _ (mon_run_tree c φ pre _ _ _ hpre)
  have hm : m.reset φ = { tree := st0, clock := {} } := by
    simp [Mon.reset, ht, Clock.reset]
  rw [hm]
  exact ⟨rfl, rfl⟩

end Rtamt
