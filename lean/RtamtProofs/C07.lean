/-
  C07 — Robustness sign and magnitude are sound with respect to Boolean satisfaction.

  "For every specification without iff/xor, whenever a monitor reports a strictly
   positive (negative) value at time t the specification is satisfied (violated) at t
   under the Boolean semantics of STL. Moreover, if every predicate compares one
   variable with a constant, any trace whose samples all differ from the original by
   less than |rho| receives the same verdict at t."

  Stated on the M-spec `rho` instantiated at the extended reals (`EReal`, a `LawfulVal`
  instance) with real-valued signals and real constants; the monitors are tied to `rho`
  by C01 (offline), C02 (online) and C03 (pastified).
-/
import RtamtProofs.Lemmas.Instance
import Rtamt.Discrete.Sat

namespace Rtamt
open Val

/-- Real-valued signals seen as `EReal`-valued ones. -/
def sigOf (w : String → Nat → ℝ) : String → Nat → EReal := fun x t => ((w x t : ℝ) : EReal)

/-- All constants of the formula are real numbers. -/
def F.finConsts (φ : F EReal) : Prop := ∀ c ∈ φ.consts, c ≠ ⊤ ∧ c ≠ ⊥

/-- The constants of a binary node are those of its operands (for a unary node `finConsts` of the
    node *is* `finConsts` of the operand, by unfolding). -/
theorem F.finConsts.split {φ ψ : F EReal} (h : ∀ c ∈ φ.consts ++ ψ.consts, c ≠ ⊤ ∧ c ≠ ⊥) :
    φ.finConsts ∧ ψ.finConsts :=
  ⟨fun c hc => h c (List.mem_append_left _ hc), fun c hc => h c (List.mem_append_right _ hc)⟩

theorem EReal.exists_coe_of_fin {k : EReal} (h : k ≠ ⊤ ∧ k ≠ ⊥) : ∃ r : ℝ, k = (r : EReal) :=
  ⟨k.toReal, (EReal.coe_toReal h.1 h.2).symm⟩

private theorem anyOver_eq_true (lo hi : Nat) (p : Nat → Bool) :
    anyOver lo hi p = true ↔ ∃ t, lo ≤ t ∧ t < hi ∧ p t = true := by
  simp only [anyOver, List.any_eq_true, mem_window, and_assoc]

private theorem allOver_eq_true (lo hi : Nat) (p : Nat → Bool) :
    allOver lo hi p = true ↔ ∀ t, lo ≤ t → t < hi → p t = true := by
  simp only [allOver, List.all_eq_true, mem_window, and_imp]

private theorem anyOver_eq_false (lo hi : Nat) (p : Nat → Bool) :
    anyOver lo hi p = false ↔ ∀ t, lo ≤ t → t < hi → p t = false := by
  rw [← Bool.not_eq_true, anyOver_eq_true]
  push Not
  simp only [Bool.not_eq_true]

private theorem allOver_eq_false (lo hi : Nat) (p : Nat → Bool) :
    allOver lo hi p = false ↔ ∃ t, lo ≤ t ∧ t < hi ∧ p t = false := by
  rw [← Bool.not_eq_true, allOver_eq_true]
  push Not
  simp only [Bool.not_eq_true]

/-- `r ≥ B` forces the verdict `true`, `r ≤ -B` forces the verdict `false`. -/
def Snd (B r : EReal) (b : Bool) : Prop := (B ≤ r → b = true) ∧ (r ≤ -B → b = false)

theorem Snd.neg {B r : EReal} {b : Bool} (h : Snd B r b) : Snd B (-r) (!b) := by
  constructor
  · intro h1
    rw [EReal.le_neg] at h1
    simp [h.2 h1]
  · intro h1
    rw [EReal.neg_le_neg_iff] at h1
    simp [h.1 h1]

theorem Snd.min {B r1 r2 : EReal} {b1 b2 : Bool} (h1 : Snd B r1 b1) (h2 : Snd B r2 b2) :
    Snd B (pmin r1 r2) (b1 && b2) := by
  rw [pmin_eq]
  constructor
  · intro h
    rw [le_min_iff] at h
    simp [h1.1 h.1, h2.1 h.2]
  · intro h
    rw [min_le_iff] at h
    rcases h with h | h
    · simp [h1.2 h]
    · simp [h2.2 h]

theorem Snd.max {B r1 r2 : EReal} {b1 b2 : Bool} (h1 : Snd B r1 b1) (h2 : Snd B r2 b2) :
    Snd B (pmax r1 r2) (b1 || b2) := by
  rw [pmax_eq]
  constructor
  · intro h
    rw [le_max_iff] at h
    rcases h with h | h
    · simp [h1.1 h]
    · simp [h2.1 h]
  · intro h
    rw [max_le_iff] at h
    simp [h1.2 h.1, h2.2 h.2]

private theorem neg_lt_top {B : EReal} (hB : 0 < B) : -B < ⊤ := by
  rw [lt_top_iff_ne_top, Ne, EReal.neg_eq_top_iff]
  rintro rfl
  exact not_lt_bot hB

theorem Snd.top {B : EReal} (hB : 0 < B) : Snd B ⊤ true :=
  ⟨fun _ => rfl, fun h => absurd h (not_le.2 (neg_lt_top hB))⟩

theorem Snd.bot {B : EReal} (hB : 0 < B) : Snd B ⊥ false := by
  simpa using (Snd.top hB).neg

theorem Snd.maxOver {B : EReal} (hB : 0 < B) {lo hi : Nat} {f : Nat → EReal} {p : Nat → Bool}
    (h : ∀ t, lo ≤ t → t < hi → Snd B (f t) (p t)) :
    Snd B (maxOver lo hi f) (anyOver lo hi p) := by
  constructor
  · intro h1
    obtain ⟨t, h2, h3, h4⟩ := le_maxOver_exists lo hi f B (lt_trans EReal.bot_lt_zero hB) h1
    exact (anyOver_eq_true lo hi p).2 ⟨t, h2, h3, (h t h2 h3).1 h4⟩
  · intro h1
    rw [maxOver_le_iff] at h1
    exact (anyOver_eq_false lo hi p).2 (fun t h2 h3 => (h t h2 h3).2 (h1 t h2 h3))

theorem Snd.minOver {B : EReal} (hB : 0 < B) {lo hi : Nat} {f : Nat → EReal} {p : Nat → Bool}
    (h : ∀ t, lo ≤ t → t < hi → Snd B (f t) (p t)) :
    Snd B (minOver lo hi f) (allOver lo hi p) := by
  constructor
  · intro h1
    rw [le_minOver_iff] at h1
    exact (allOver_eq_true lo hi p).2 (fun t h2 h3 => (h t h2 h3).1 (h1 t h2 h3))
  · intro h1
    obtain ⟨t, h2, h3, h4⟩ := minOver_le_exists lo hi f (-B) (neg_lt_top hB) h1
    exact (allOver_eq_false lo hi p).2 ⟨t, h2, h3, (h t h2 h3).2 h4⟩

private theorem abs_coe (x : ℝ) : Val.abs ((x : ℝ) : EReal) = ((|x| : ℝ) : EReal) := by
  show Max.max ((x : ℝ) : EReal) (-((x : ℝ) : EReal)) = _
  rw [abs_eq_max_neg, ← EReal.coe_neg]
  exact (EReal.coe_strictMono.monotone.map_max).symm

theorem C07_term_real (τ : F EReal) (hterm : τ.isTerm = true) (har : τ.simpleArith = true)
    (hc : τ.finConsts) (w : String → Nat → ℝ) (n t : Nat) :
    ∃ r : ℝ, rho (sigOf w) n τ t = (r : EReal) := by
  induction τ with
  | var x => exact ⟨w x t, rfl⟩
  | const c => exact EReal.exists_coe_of_fin (hc c (by simp [F.consts]))
  | un op τ ih =>
    simp only [F.isTerm, F.simpleArith, Bool.and_eq_true] at hterm har
    obtain ⟨r, hr⟩ := ih hterm.2 har.2 hc
    cases op with
    | abs => exact ⟨|r|, (congrArg Val.abs hr).trans (abs_coe r)⟩
    | negate => exact ⟨-r, congrArg Val.neg hr⟩
    | not => exact absurd hterm.1 Bool.false_ne_true
    | sqrt | exp | ln => exact absurd har.1 Bool.false_ne_true
  | bin op τ₁ τ₂ ih1 ih2 =>
    simp only [F.isTerm, F.simpleArith, Bool.and_eq_true] at hterm har
    obtain ⟨r1, hr1⟩ := ih1 hterm.1.2 har.1.2 (F.finConsts.split hc).1
    obtain ⟨r2, hr2⟩ := ih2 hterm.2 har.2 (F.finConsts.split hc).2
    cases op with
    | add => exact ⟨r1 + r2, congrArg₂ Val.add hr1 hr2⟩
    | sub => exact ⟨r1 - r2, congrArg₂ Val.sub hr1 hr2⟩
    | mul => exact ⟨r1 * r2, congrArg₂ Val.mul hr1 hr2⟩
    | div | pow | log => exact absurd har.1.1 Bool.false_ne_true
    | _ => exact absurd hterm.1.1 Bool.false_ne_true
  | tmp1 | tmp2 | tb1 | tb2 => simp [F.isTerm] at hterm

/-- Robustness of a comparison of two reals. -/
noncomputable def Cmp.appR : Cmp → ℝ → ℝ → ℝ
  | .eq, l, r => -|l - r|
  | .ne, l, r => |l - r|
  | .le, l, r => r - l
  | .lt, l, r => r - l
  | .ge, l, r => l - r
  | .gt, l, r => l - r

/-- Truth of a comparison of two reals. -/
def Cmp.holdsP : Cmp → ℝ → ℝ → Prop
  | .lt, l, r => l < r
  | .le, l, r => l ≤ r
  | .gt, l, r => r < l
  | .ge, l, r => r ≤ l
  | .eq, l, r => l = r
  | .ne, l, r => l ≠ r

theorem Cmp.app_coe (c : Cmp) (a b : ℝ) :
    c.app ((a : ℝ) : EReal) ((b : ℝ) : EReal) = ((c.appR a b : ℝ) : EReal) := by
  have hsub : ∀ x y : ℝ, Val.sub ((x : ℝ) : EReal) ((y : ℝ) : EReal) = ((x - y : ℝ) : EReal) :=
    fun x y => rfl
  have hneg : ∀ x : ℝ, Val.neg ((x : ℝ) : EReal) = ((-x : ℝ) : EReal) := fun x => rfl
  cases c <;> simp only [Cmp.app, Cmp.appR, hsub, abs_coe, hneg]

theorem Cmp.holds_coe (c : Cmp) (a b : ℝ) :
    c.holds ((a : ℝ) : EReal) ((b : ℝ) : EReal) = true ↔ c.holdsP a b := by
  have hlt : ∀ x y : ℝ, Val.lt ((x : ℝ) : EReal) ((y : ℝ) : EReal) = decide (x < y) := by
    intro x y
    show decide (_ < _) = _
    simp only [EReal.coe_lt_coe_iff]
  cases c <;> simp only [Cmp.holds, Cmp.holdsP, hlt] <;> simp
  · exact ⟨fun h => le_antisymm h.2 h.1, fun h => ⟨h.ge, h.le⟩⟩

/-- A comparison whose robustness is at least `e` in absolute value keeps its truth value
    when the operands move by less than `e` in total. -/
theorem Cmp.pert (c : Cmp) (a b a' b' e : ℝ) (h : |a' - a| + |b' - b| < e) :
    (e ≤ c.appR a b → c.holdsP a' b') ∧ (c.appR a b ≤ -e → ¬ c.holdsP a' b') := by
  -- the difference of the operands moves by less than `e`
  obtain ⟨h1, h2⟩ := abs_lt.1 ((abs_sub (a' - a) (b' - b)).trans_lt h)
  have far : e ≤ |a - b| → a' ≠ b' := fun h6 h7 => by rcases le_abs.1 h6 with h8 | h8 <;> linarith
  have he : ¬ |a - b| ≤ -e := fun h6 => by linarith [abs_nonneg (a - b)]
  cases c <;> simp only [Cmp.appR, Cmp.holdsP]
  -- the four order comparisons are linear in the operands
  iterate 4 exact ⟨fun h6 => by linarith, fun h6 h7 => by linarith⟩
  · exact ⟨fun h6 => absurd (le_neg.1 h6) he, fun h6 => far (_root_.neg_le_neg_iff.1 h6)⟩
  · exact ⟨far, fun h6 => absurd h6 he⟩

theorem Snd_cmp (c : Cmp) (a b a' b' : ℝ) (B : EReal)
    (h : ((|a' - a| + |b' - b| : ℝ) : EReal) < B) :
    Snd B (c.app ((a : ℝ) : EReal) ((b : ℝ) : EReal)) (c.holds ((a' : ℝ) : EReal) ((b' : ℝ) : EReal)) := by
  rw [Cmp.app_coe]
  constructor
  · intro h1
    have h2 := lt_of_lt_of_le h h1
    rw [EReal.coe_lt_coe_iff] at h2
    exact (Cmp.holds_coe c a' b').2 ((Cmp.pert c a b a' b' _ h2).1 le_rfl)
  · intro h1
    rw [EReal.le_neg, ← EReal.coe_neg] at h1
    have h2 := lt_of_lt_of_le h h1
    rw [EReal.coe_lt_coe_iff] at h2
    have h3 := (Cmp.pert c a b a' b' _ h2).2 (by rw [neg_neg])
    rw [← Cmp.holds_coe] at h3
    simpa using h3

/-- `Q` holds at every predicate node. -/
def F.predsAll {α : Type} (Q : Cmp → F α → F α → Prop) : F α → Prop
  | .var _ => True
  | .const _ => True
  | .un _ φ => φ.predsAll Q
  | .bin (.pred c) φ ψ => Q c φ ψ
  | .bin _ φ ψ => φ.predsAll Q ∧ ψ.predsAll Q
  | .tmp1 _ φ => φ.predsAll Q
  | .tmp2 _ φ ψ => φ.predsAll Q ∧ ψ.predsAll Q
  | .tb1 _ _ _ φ => φ.predsAll Q
  | .tb2 _ _ _ φ ψ => φ.predsAll Q ∧ ψ.predsAll Q

/-- At every valid time, the predicate's robustness on `σ` is `B`-sound for its truth on `σ'`. -/
def PredOK (σ σ' : String → Nat → EReal) (n : Nat) (B : EReal) (V : Nat → Prop)
    (c : Cmp) (l r : F EReal) : Prop :=
  ∀ t, V t → Snd B (c.app (rho σ n l t) (rho σ n r t)) (c.holds (rho σ' n l t) (rho σ' n r t))

/-- The induction over the formula.  What it needs at the predicate nodes is the hypothesis `hp`;
    `V` is the set of times at which the predicates are known to be sound (all times for one trace,
    `t < n` for two traces that agree only on the samples). -/
theorem snd_main (σ σ' : String → Nat → EReal) (n : Nat) (B : EReal) (hB : 0 < B)
    (V : Nat → Prop) (hVle : ∀ t t', V t → t' ≤ t → V t') (hVlt : ∀ t', t' < n → V t')
    (φ : F EReal) (hform : φ.isFormula = true) (hnx : φ.noIffXor = true)
    (hp : φ.predsAll (PredOK σ σ' n B V)) :
    ∀ t, V t → Snd B (rho σ n φ t) (sat σ' n φ t) := by
  -- every time a window of an operator evaluated at a valid `t` reaches is valid
  have hV' : ∀ {t} s, V t → s ≤ t ∨ s < n → V s := fun s hV h => h.elim (hVle _ s hV) (hVlt s)
  induction φ with
  | var | const => exact absurd hform Bool.false_ne_true
  | un op φ ih =>
    simp only [F.isFormula, Bool.and_eq_true] at hform
    cases op with
    | not => exact fun t hV => (ih hform.2 hnx hp t hV).neg
    | _ => exact absurd hform.1 Bool.false_ne_true
  | bin op φ ψ ih1 ih2 =>
    simp only [F.noIffXor, Bool.and_eq_true] at hnx
    cases op with
    | pred c => exact hp
    | and =>
      simp only [F.isFormula, Bool.and_eq_true] at hform
      exact fun t hV => (ih1 hform.1 hnx.1.2 hp.1 t hV).min (ih2 hform.2 hnx.2 hp.2 t hV)
    | or =>
      simp only [F.isFormula, Bool.and_eq_true] at hform
      exact fun t hV => (ih1 hform.1 hnx.1.2 hp.1 t hV).max (ih2 hform.2 hnx.2 hp.2 t hV)
    | implies =>
      simp only [F.isFormula, Bool.and_eq_true] at hform
      exact fun t hV => (ih1 hform.1 hnx.1.2 hp.1 t hV).neg.max (ih2 hform.2 hnx.2 hp.2 t hV)
    | iff | xor => exact absurd hnx.1.1 Bool.false_ne_true
    | _ => exact absurd hform Bool.false_ne_true
  | tmp1 op φ ih =>
    have ih := ih hform hnx hp
    intro t hV
    cases op with
    | rise =>
      cases t with
      | zero =>
        simp only [rho, sat, ↓reduceIte, BEq.rfl, Bool.true_or, Bool.and_true]
        exact ih 0 hV
      | succ s =>
        simp only [rho, sat, Nat.add_one_ne_zero, if_false, Nat.add_sub_cancel]
        rw [Bool.and_comm]
        exact (ih s (hVle _ s hV (Nat.le_succ s))).neg.min (ih (s + 1) hV)
    | fall =>
      cases t with
      | zero =>
        simp only [rho, sat, ↓reduceIte, BEq.rfl, Bool.true_or, Bool.and_true]
        exact (ih 0 hV).neg
      | succ s =>
        simp only [rho, sat, Nat.add_one_ne_zero, if_false, Nat.add_sub_cancel]
        rw [Bool.and_comm]
        exact (ih s (hVle _ s hV (Nat.le_succ s))).min (ih (s + 1) hV).neg
    | prev =>
      cases t with
      | zero => exact Snd.top hB
      | succ s => exact ih s (hVle _ s hV (Nat.le_succ s))
    | sprev =>
      cases t with
      | zero => exact Snd.bot hB
      | succ s => exact ih s (hVle _ s hV (Nat.le_succ s))
    | next =>
      by_cases h1 : t + 1 < n
      · simpa [rho, sat, h1] using ih (t + 1) (hVlt _ h1)
      · simp only [rho, sat, h1, decide_false, Bool.not_false, Bool.true_or]
        exact Snd.top hB
    | snext =>
      by_cases h1 : t + 1 < n
      · simpa [rho, sat, h1] using ih (t + 1) (hVlt _ h1)
      · simp only [rho, sat, h1, decide_false, Bool.false_and]
        exact Snd.bot hB
    | once | ev => exact Snd.maxOver hB fun s _ _ => ih s (hV' s hV (by omega))
    | hist | alw => exact Snd.minOver hB fun s _ _ => ih s (hV' s hV (by omega))
  | tb1 op a b φ ih =>
    have ih := ih hform hnx hp
    intro t hV
    cases op with
    | once | ev => exact Snd.maxOver hB fun s _ _ => ih s (hV' s hV (by omega))
    | hist | alw => exact Snd.minOver hB fun s _ _ => ih s (hV' s hV (by omega))
  | tmp2 op φ ψ ih1 ih2 | tb2 op a b φ ψ ih1 ih2 =>
    simp only [F.isFormula, F.noIffXor, Bool.and_eq_true] at hform hnx
    have ih1 := ih1 hform.1 hnx.1 hp.1
    have ih2 := ih2 hform.2 hnx.2 hp.2
    intro t hV
    -- `since`, `until`, `precedes`: `ψ` at some `s` of the outer window and `φ` on an inner window
    cases op <;>
      exact Snd.maxOver hB fun s _ _ => (ih2 s (hV' s hV (by omega))).min
        (Snd.minOver hB fun u _ _ => ih1 u (hV' u hV (by omega)))

theorem predsAll_arith (φ : F EReal) (hform : φ.isFormula = true) (har : φ.simpleArith = true)
    (hc : φ.finConsts) (w : String → Nat → ℝ) (n : Nat) (B : EReal) (hB : 0 < B) :
    φ.predsAll (PredOK (sigOf w) (sigOf w) n B (fun _ => True)) := by
  induction φ with
  | var | const => trivial
  | un op φ ih =>
    simp only [F.isFormula, Bool.and_eq_true] at hform
    simp only [F.simpleArith, Bool.and_eq_true] at har
    exact ih hform.2 har.2 hc
  | bin op φ ψ ih1 ih2 =>
    obtain ⟨hc1, hc2⟩ := F.finConsts.split hc
    simp only [F.simpleArith, Bool.and_eq_true] at har
    cases op with
    | pred c =>
      simp only [F.isFormula, Bool.and_eq_true] at hform
      intro t _
      obtain ⟨a, ha⟩ := C07_term_real φ hform.1 har.1.2 hc1 w n t
      obtain ⟨b, hb⟩ := C07_term_real ψ hform.2 har.2 hc2 w n t
      rw [ha, hb]
      refine Snd_cmp _ a b a b B ?_
      rw [sub_self, sub_self, abs_zero, add_zero]
      exact hB
    | and | or | implies | iff | xor =>
      simp only [F.isFormula, Bool.and_eq_true] at hform
      exact ⟨ih1 hform.1 har.1.2 hc1, ih2 hform.2 har.2 hc2⟩
    | _ => exact absurd hform Bool.false_ne_true
  | tmp1 op φ ih | tb1 op a b φ ih => exact ih hform har hc
  | tmp2 op φ ψ ih1 ih2 | tb2 op a b φ ψ ih1 ih2 =>
    simp only [F.isFormula, Bool.and_eq_true] at hform
    simp only [F.simpleArith, Bool.and_eq_true] at har
    exact ⟨ih1 hform.1 har.1 (F.finConsts.split hc).1, ih2 hform.2 har.2 (F.finConsts.split hc).2⟩

theorem predsAll_simple (φ : F EReal) (hform : φ.isFormula = true) (hsp : φ.simplePreds = true)
    (hc : φ.finConsts) (w w' : String → Nat → ℝ) (n : Nat) (B : EReal)
    (hclose : ∀ x s, s < n → (((|w' x s - w x s| : ℝ)) : EReal) < B) :
    φ.predsAll (PredOK (sigOf w) (sigOf w') n B (fun t => t < n)) := by
  induction φ with
  | var | const => trivial
  | un op φ ih =>
    simp only [F.isFormula, Bool.and_eq_true] at hform
    exact ih hform.2 hsp hc
  | bin op φ ψ ih1 ih2 =>
    obtain ⟨hc1, hc2⟩ := F.finConsts.split hc
    cases op with
    | pred c =>
      cases φ with
      | var x =>
        cases ψ with
        | const k =>
          obtain ⟨kr, rfl⟩ := EReal.exists_coe_of_fin (hc2 k (List.mem_singleton_self k))
          intro t ht
          refine Snd_cmp _ (w x t) kr (w' x t) kr B ?_
          rw [sub_self, abs_zero, add_zero]
          exact hclose x t ht
        | _ => exact absurd hsp Bool.false_ne_true
      | const k =>
        cases ψ with
        | var x =>
          obtain ⟨kr, rfl⟩ := EReal.exists_coe_of_fin (hc1 k (List.mem_singleton_self k))
          intro t ht
          refine Snd_cmp _ kr (w x t) kr (w' x t) B ?_
          rw [sub_self, abs_zero, zero_add]
          exact hclose x t ht
        | _ => exact absurd hsp Bool.false_ne_true
      | _ => exact absurd hsp Bool.false_ne_true
    | and | or | implies | iff | xor =>
      simp only [F.isFormula, Bool.and_eq_true] at hform
      simp only [F.simplePreds, Bool.and_eq_true] at hsp
      exact ⟨ih1 hform.1 hsp.1 hc1, ih2 hform.2 hsp.2 hc2⟩
    | _ => exact absurd hform Bool.false_ne_true
  | tmp1 op φ ih | tb1 op a b φ ih => exact ih hform hsp hc
  | tmp2 op φ ψ ih1 ih2 | tb2 op a b φ ψ ih1 ih2 =>
    simp only [F.isFormula, Bool.and_eq_true] at hform
    simp only [F.simplePreds, Bool.and_eq_true] at hsp
    exact ⟨ih1 hform.1 hsp.1 (F.finConsts.split hc).1, ih2 hform.2 hsp.2 (F.finConsts.split hc).2⟩

theorem C07_pos_sat (φ : F EReal) (hform : φ.isFormula = true) (hnx : φ.noIffXor = true)
    (har : φ.simpleArith = true) (hc : φ.finConsts) (w : String → Nat → ℝ) (n t : Nat)
    (h : 0 < rho (sigOf w) n φ t) : sat (sigOf w) n φ t = true := by
  exact (snd_main (sigOf w) (sigOf w) n _ h (fun _ => True) (fun _ _ _ _ => trivial)
    (fun _ _ => trivial) φ hform hnx (predsAll_arith φ hform har hc w n _ h) t trivial).1 le_rfl

theorem C07_neg_unsat (φ : F EReal) (hform : φ.isFormula = true) (hnx : φ.noIffXor = true)
    (har : φ.simpleArith = true) (hc : φ.finConsts) (w : String → Nat → ℝ) (n t : Nat)
    (h : rho (sigOf w) n φ t < 0) : sat (sigOf w) n φ t = false := by
  have hB : 0 < -rho (sigOf w) n φ t := EReal.neg_pos.2 h
  exact (snd_main (sigOf w) (sigOf w) n _ hB (fun _ => True) (fun _ _ _ _ => trivial)
    (fun _ _ => trivial) φ hform hnx (predsAll_arith φ hform har hc w n _ hB) t trivial).2
    (by rw [neg_neg])

/-- Every trace whose samples all differ from the original by less than `|rho|` gets the
    same verdict at `t`. -/
theorem C07_perturb (φ : F EReal) (hform : φ.isFormula = true) (hnx : φ.noIffXor = true)
    (hsp : φ.simplePreds = true) (hc : φ.finConsts) (w w' : String → Nat → ℝ) (n t : Nat)
    (ht : t < n)
    (hclose : ∀ x s, s < n →
        (((|w' x s - w x s| : ℝ)) : EReal) < Val.abs (rho (sigOf w) n φ t)) :
    sat (sigOf w') n φ t = sat (sigOf w) n φ t := by
  -- `|rho| > 0` comes out of `hclose` itself, read at any variable (here the one named `""`)
  have hB : (0 : EReal) < Val.abs (rho (sigOf w) n φ t) :=
    lt_of_le_of_lt (by exact_mod_cast abs_nonneg (w' "" t - w "" t)) (hclose "" t ht)
  -- the value on `w` is sound for the verdict on every close trace, `w` itself included
  have key := fun w'' hclose => snd_main (sigOf w) (sigOf w'') n _ hB (fun s => s < n)
    (fun s s' h1 h2 => lt_of_le_of_lt h2 h1) (fun _ h => h) φ hform hnx
    (predsAll_simple φ hform hsp hc w w'' n _ hclose) t ht
  have h1 := key w' hclose
  have h2 := key w (fun x s _ => by simpa using hB)
  have habs : Val.abs (rho (sigOf w) n φ t)
      = max (rho (sigOf w) n φ t) (-rho (sigOf w) n φ t) := rfl
  rcases le_total 0 (rho (sigOf w) n φ t) with h0 | h0
  · have hle : Val.abs (rho (sigOf w) n φ t) ≤ rho (sigOf w) n φ t := by
      rw [habs]
      exact max_le le_rfl (le_trans (EReal.neg_le.1 (by simpa using h0)) h0)
    rw [h1.1 hle, h2.1 hle]
  · have hle : rho (sigOf w) n φ t ≤ -Val.abs (rho (sigOf w) n φ t) := by
      rw [habs, EReal.le_neg]
      exact max_le (le_trans h0 (EReal.le_neg.1 (by simpa using h0))) le_rfl
    rw [h1.2 hle, h2.2 hle]

end Rtamt
