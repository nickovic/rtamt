/-
  C03, obligations about the current source tree (table regenerated from /repo):
  the horizon visitor and the pastifier override `visitX` for every node class
  except the unbounded future operators, on which they raise RTAMTException; and the
  statement of C03 without the fragment hypothesis is false for the algorithm (F15).
-/
import RtamtProofs.C03
import Rtamt.Generated
import RtamtProofs.Lemmas.Instance

namespace Rtamt
open Val

theorem C03_table_pastifier :
    ∀ k ∈ Kind.all,
      (k = .Eventually ∨ k = .Always ∨ k = .Until →
          Generated.horizon.raises k = true ∧ Generated.pastifier.raises k = true) ∧
      (¬ (k = .Eventually ∨ k = .Always ∨ k = .Until) →
          Generated.horizon.handles k = true ∧ Generated.pastifier.handles k = true) := by
  decide

/-- The full statement (no fragment hypothesis) fails: for `φ = prev (eventually[0,1] a)`,
    horizon 1, the pastified formula is `prev (once[0,1] a)`, whose value at `i = 1` is `a[0]`,
    while the original at sample `0` is `+inf` (finding F15, replayed on the real code on every run). -/
theorem C03_counterexample :
    ∃ (φ : F EReal) (σ : String → Nat → EReal), φ.bounded = true ∧ φ.wf = true ∧ hor φ = 1 ∧
      rho σ 2 (pastify φ) 1 ≠ rho σ 2 φ (1 - hor φ) := by
  refine ⟨.tmp1 .prev (.tb1 .ev 0 1 (.var "a")), fun _ _ => 1, by decide, by decide, by decide, ?_⟩
  simp [pastify, past, hor, delay, rho, maxOver, lmax, lmaxFrom, pmax, Val.lt, Val.pinf, Val.ninf]
  rw [if_pos (by exact bot_lt_iff_ne_bot.2 (by decide))]
  decide

/-- Non-vacuity of `C03_pastified_monitor_partial`: a nested bounded-future formula in the fragment. -/
example :
    let φ : F EReal := .bin .implies (.bin (.pred .ge) (.var "req") (.const 3))
        (.tb1 .ev 0 2 (.tb1 .alw 0 3 (.bin .and (.tmp1 .once (.var "gnt")) (.tmp1 .next (.var "req")))))
    φ.frag = true ∧ φ.wf = true ∧ hor φ = 6 := by
  refine ⟨by decide, by decide, by decide⟩

end Rtamt
