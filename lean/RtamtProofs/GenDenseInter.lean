/-
  The translated `intersection` (`Gen.Dense.fn_intersection`: the 13-case `while` loop with `_append` inlined) computes
  what the mirror `Rtamt.Dense.Alg.inter` computes - values and the `RTAMTException` of the last `else` - for all inputs;
  the methods handed to `intersection`; `and_operation`, `subtraction_operation`, `intersection(·, ·, split)`.
-/
import RtamtProofs.GenDenseLogic

namespace Rtamt.Py.Dn
open Rtamt Val Rtamt.Dense Rtamt.Dense.Alg

set_option linter.unusedSectionVars false

variable {α : Type} [Val α]

/-! a structured copy of the generated body (checked by `rfl` against the generated term) -/

def tE (x : String) : E := .idx (.loc x) (.int 0)
def aLt (x y : String) : E := .bin .lt (tE x) (tE y)
def aEq (x y : String) : E := .bin .eq (tE x) (tE y)
def aGt (x y : String) : E := .bin .gt (tE x) (tE y)
def and3 (a b c : E) : E := .and_ a (.and_ b c)

def sAdv1 : S := .seq (.delIdx "in_samples_1" (.int 0)) (.setLoc "prev_in_sample_1" (.loc "current_in_sample_1"))
def sAdv2 : S := .seq (.delIdx "in_samples_2" (.int 0)) (.setLoc "prev_in_sample_2" (.loc "current_in_sample_2"))

def sOutVal : S :=
  .setLoc "out_value" (.call2 "method" (.idx (.loc "prev_in_sample_1") (.int 1)) (.idx (.loc "prev_in_sample_2") (.int 1)))

/-- the inlined `_append(out_samples, [src[0], out_value])` -/
def sAppend (src : String) : S :=
  .seq (.setLoc "_append$item" (.list2 (.idx (.loc src) (.int 0)) (.loc "out_value")))
    (.ite (.not (.loc "out_samples")) (.appendLoc "out_samples" (.loc "_append$item"))
      (.seq (.setLoc "_append$prev_item" (.idx (.loc "out_samples") (.neg (.int 1))))
        (.ite (.bin .ne (.idx (.loc "_append$prev_item") (.int 1)) (.idx (.loc "_append$item") (.int 1)))
          (.appendLoc "out_samples" (.loc "_append$item")) .skip)))

def sEmit (src : String) (adv : S) : S := .seq sOutVal (.seq (sAppend src) adv)

def interChain : S :=
  .ite (aLt "current_in_sample_1" "prev_in_sample_2") sAdv1
  (.ite (and3 (aLt "prev_in_sample_1" "current_in_sample_1") (aEq "current_in_sample_1" "prev_in_sample_2")
          (aLt "prev_in_sample_2" "current_in_sample_2")) sAdv1
  (.ite (and3 (aLt "prev_in_sample_1" "prev_in_sample_2") (aLt "prev_in_sample_2" "current_in_sample_1")
          (aLt "current_in_sample_1" "current_in_sample_2")) (sEmit "prev_in_sample_2" sAdv1)
  (.ite (and3 (aLt "prev_in_sample_1" "prev_in_sample_2") (aLt "prev_in_sample_2" "current_in_sample_1")
          (aEq "current_in_sample_1" "current_in_sample_2")) (sEmit "prev_in_sample_2" sAdv1)
  (.ite (and3 (aLt "prev_in_sample_2" "prev_in_sample_1") (aLt "prev_in_sample_1" "current_in_sample_1")
          (aEq "current_in_sample_1" "current_in_sample_2")) (sEmit "prev_in_sample_1" sAdv1)
  (.ite (and3 (aLt "prev_in_sample_1" "prev_in_sample_2") (aLt "prev_in_sample_2" "current_in_sample_2")
          (aLt "current_in_sample_2" "current_in_sample_1")) (sEmit "prev_in_sample_2" sAdv2)
  (.ite (and3 (aEq "prev_in_sample_1" "prev_in_sample_2") (aLt "prev_in_sample_2" "current_in_sample_2")
          (aLt "current_in_sample_2" "current_in_sample_1")) (sEmit "prev_in_sample_2" sAdv2)
  (.ite (and3 (aEq "prev_in_sample_1" "prev_in_sample_2") (aLt "prev_in_sample_2" "current_in_sample_2")
          (aEq "current_in_sample_2" "current_in_sample_1")) (sEmit "prev_in_sample_2" sAdv1)
  (.ite (and3 (aEq "prev_in_sample_1" "prev_in_sample_2") (aLt "prev_in_sample_2" "current_in_sample_1")
          (aLt "current_in_sample_1" "current_in_sample_2")) (sEmit "prev_in_sample_1" sAdv1)
  (.ite (and3 (aLt "prev_in_sample_2" "prev_in_sample_1") (aLt "prev_in_sample_1" "current_in_sample_1")
          (aLt "current_in_sample_1" "current_in_sample_2")) (sEmit "prev_in_sample_1" sAdv1)
  (.ite (and3 (aLt "prev_in_sample_2" "current_in_sample_2") (aEq "current_in_sample_2" "prev_in_sample_1")
          (aLt "prev_in_sample_1" "current_in_sample_1")) sAdv2
  (.ite (and3 (aLt "prev_in_sample_2" "prev_in_sample_1") (aLt "prev_in_sample_1" "current_in_sample_2")
          (aLt "current_in_sample_2" "current_in_sample_1")) (sEmit "prev_in_sample_1" sAdv2)
  (.ite (aGt "prev_in_sample_1" "current_in_sample_2") sAdv2
  (.raise .rtamt)))))))))))))

def interBody : S :=
  .seq (.setLoc "current_in_sample_1" (.idx (.loc "in_samples_1") (.int 1)))
    (.seq (.setLoc "current_in_sample_2" (.idx (.loc "in_samples_2") (.int 1))) interChain)

def interCond : E := .and_ (.sliceFrom (.loc "in_samples_1") 1) (.sliceFrom (.loc "in_samples_2") 1)

/-- `if x[-1][0] < float('inf'): x.append([float('inf'), x[-1][1]])` -/
def sExt (x : String) : S :=
  .ite (.bin .lt (.idx (.idx (.loc x) (.neg (.int 1))) (.int 0)) .inf)
    (.appendLoc x (.list2 .inf (.idx (.idx (.loc x) (.neg (.int 1))) (.int 1)))) .skip

def sEarly : S :=
  .ite (.or_ (.bin .eq (.call1 "len" (.loc "in_samples_1")) (.int 0)) (.bin .eq (.call1 "len" (.loc "in_samples_2")) (.int 0)))
    (.ret (.tup4 (.loc "out_samples") (.loc "ans") (.loc "in_samples_1") (.loc "in_samples_2"))) .skip

def interTail : S :=
  .seq (.setLoc "last" .emptyList) (.ret (.tup4 (.loc "out_samples") (.loc "last") (.loc "in_samples_1") (.loc "in_samples_2")))

def interRest : S :=
  .seq (sExt "in_samples_1") (.seq (sExt "in_samples_2")
    (.seq (.setLoc "prev_in_sample_1" (.idx (.loc "in_samples_1") (.int 0)))
      (.seq (.setLoc "prev_in_sample_2" (.idx (.loc "in_samples_2") (.int 0)))
        (.seq (.while_ interCond interBody) interTail))))

theorem fn_intersection_body : Gen.Dense.fn_intersection.body =
    .seq (.setLoc "in_samples_1" (.call1 "list" (.loc "in_samples_1")))
      (.seq (.setLoc "in_samples_2" (.call1 "list" (.loc "in_samples_2")))
        (.seq (.setLoc "out_samples" .emptyList) (.seq (.setLoc "ans" .emptyList) (.seq sEarly interRest)))) := rfl

section stmts
variable (call : Call α) (fuel : Nat)

theorem resolve_of_getLoc {env : Env α} {f g : String} (h : getLoc f env = .ok (.fn g)) : resolve env f = g := by
  unfold getLoc at h
  unfold resolve
  cases hl : env.lookup f with
  | none => rw [hl] at h; cases h
  | some v => rw [hl] at h; cases h; rfl

/-- No local holds a function reference, so a name in call position denotes itself.  This is the state of every
    function but `intersection`, whose parameter `method` is the only function-valued local of the code. -/
def NoFn (env : Env α) : Prop := ∀ k g, env.lookup k ≠ some (.fn g)

theorem NoFn.resolve {env : Env α} (h : NoFn env) (f : String) : resolve env f = f := by
  unfold Dn.resolve
  cases hl : env.lookup f with
  | none => rfl
  | some v =>
      cases v with
      | fn g => exact absurd hl (h _ g)
      | _ => rfl

theorem NoFn.nil : NoFn ([] : Env α) := fun _ _ h => nomatch h

theorem NoFn.cons {env : Env α} (h : NoFn env) (k : String) {v : DV α} (hv : ∀ g, v ≠ .fn g) : NoFn ((k, v) :: env) := by
  intro k' g
  rw [List.lookup_cons]
  cases k' == k with
  | true => exact fun e => hv g (Option.some.inj e)
  | false => exact h k' g

theorem NoFn.setLoc {env : Env α} (h : NoFn env) (k : String) {v : DV α} (hv : ∀ g, v ≠ .fn g) :
    NoFn (setLoc k v env) := by
  intro k' g
  by_cases hk : k' = k
  · subst hk; rw [lookup_setLoc_same]; exact fun e => hv g (Option.some.inj e)
  · rw [lookup_setLoc_ne _ _ _ _ hk]; exact h k' g

theorem encSig_ne_fn (s : ASig α) (g : String) : encSig s ≠ .fn g := fun h => nomatch h

theorem evalIdx_cons1 (a b : DV α) (l : List (DV α)) : evalIdx (.list (a :: b :: l)) (.int 1) = .ok b :=
  evalIdx.cons1 a b l

theorem evalE_tE {env : Env α} {x : String} {t : Tm} {p : DV α} (h : getLoc x env = .ok (.smp t p)) :
    evalE call env (tE x) = .ok (.tm t) :=
  evalE.idxInt (evalE.loc h)

theorem evalE_aLt {env : Env α} {x y : String} {t u : Tm} {p q : DV α} (hx : getLoc x env = .ok (.smp t p))
    (hy : getLoc y env = .ok (.smp u q)) : evalE call env (aLt x y) = .ok (.bool (Tm.lt t u)) :=
  evalE.bin (evalE_tE call hx) (evalE_tE call hy)

theorem evalE_aEq {env : Env α} {x y : String} {t u : Tm} {p q : DV α} (hx : getLoc x env = .ok (.smp t p))
    (hy : getLoc y env = .ok (.smp u q)) : evalE call env (aEq x y) = .ok (.bool (t == u)) :=
  evalE.bin (evalE_tE call hx) (evalE_tE call hy)

theorem evalE_aGt {env : Env α} {x y : String} {t u : Tm} {p q : DV α} (hx : getLoc x env = .ok (.smp t p))
    (hy : getLoc y env = .ok (.smp u q)) : evalE call env (aGt x y) = .ok (.bool (Tm.lt u t)) :=
  evalE.bin (evalE_tE call hx) (evalE_tE call hy)

theorem evalE_and3 {env : Env α} {a b c : E} {A B C : Bool} (ha : evalE call env a = .ok (.bool A))
    (hb : evalE call env b = .ok (.bool B)) (hc : evalE call env c = .ok (.bool C)) :
    evalE call env (and3 a b c) = .ok (.bool (A && B && C)) := by
  rw [and3, evalE.and_ ha rfl]
  cases A with
  | false => rfl
  | true =>
      rw [if_pos rfl, evalE.and_ hb rfl]
      cases B with
      | false => rfl
      | true => exact hc

theorem evalE_or_bool {env : Env α} {a b : E} {A B : Bool} (ha : evalE call env a = .ok (.bool A))
    (hb : evalE call env b = .ok (.bool B)) : evalE call env (.or_ a b) = .ok (.bool (A || B)) := by
  rw [evalE.or_ ha rfl]
  cases A with
  | false => exact hb
  | true => rfl

/-- `len(x) == 0` -/
theorem evalE_lenEq0 {env : Env α} {x : String} {s : ASig α} (hx : getLoc x env = .ok (encSig s))
    (hr : resolve env "len" = "len") (hlen : ∀ l, call "len" [.list l] = .ok (.int l.length)) :
    evalE call env (.bin .eq (.call1 "len" (.loc x)) (.int 0)) = .ok (.bool s.isEmpty) := by
  rw [evalE.bin (y := .int 0) ((evalE.call1 (evalE.loc hx)).trans (by rw [hr]; exact hlen _)) rfl]
  cases s with
  | nil => rfl
  | cons p r => exact congrArg (fun b => Except.ok (DV.bool b)) (decide_eq_false (by simp <;> omega))

end stmts

/-- which list advances (`true`: the first), and whether a sample is written - at `prev_in_sample_1[0]` (`some true`)
    or at `prev_in_sample_2[0]` (`some false`); `none`: the `raise` of the last `else` -/
def interDec (p1 c1 p2 c2 : Tm) : Option (Bool × Option Bool) :=
  sel13 p1 c1 p2 c2 (some (true, none)) (some (true, none)) (some (true, some false)) (some (true, some false))
    (some (true, some true)) (some (false, some false)) (some (false, some false)) (some (true, some false))
    (some (true, some true)) (some (true, some true)) (some (false, none)) (some (false, some true)) (some (false, none))
    none

section mirror
variable {β : Type}

def nextOut (f : α → α → β) (ne : β → β → Bool) (p1 p2 : Tm) (v1 v2 : α) (out : ASig β) : Option Bool → ASig β
  | none => out
  | some s => appendD ne out (if s then p1 else p2, f v1 v2)

/-- the continuation of the mirror's loop after the decision `d` -/
def decK (f : α → α → β) (ne : β → β → Bool) (p1 c1 p2 c2 : Tm) (v1 w1 v2 w2 : α) (r1 r2 : ASig α)
    (out : ASig β) : Option (Bool × Option Bool) → Except PyErr (ASig β)
  | none => .error .rtamt
  | some (a, e) =>
      interLoop f ne (if a then (c1, w1) :: r1 else (p1, v1) :: (c1, w1) :: r1)
        (if a then (p2, v2) :: (c2, w2) :: r2 else (c2, w2) :: r2) (nextOut f ne p1 p2 v1 v2 out e)

theorem interLoop_dec (f : α → α → β) (ne : β → β → Bool) (p1 c1 p2 c2 : Tm) (v1 w1 v2 w2 : α) (r1 r2 : ASig α)
    (out : ASig β) :
    interLoop f ne ((p1, v1) :: (c1, w1) :: r1) ((p2, v2) :: (c2, w2) :: r2) out =
      decK f ne p1 c1 p2 c2 v1 w1 v2 w2 r1 r2 out (interDec p1 c1 p2 c2) := by
  rw [interLoop, interDec, sel13_apply (decK f ne p1 c1 p2 c2 v1 w1 v2 w2 r1 r2 out)]
  rfl

theorem interLoop_short (f : α → α → β) (ne : β → β → Bool) (l1 l2 : ASig α) (out : ASig β)
    (h : l1.length < 2 ∨ l2.length < 2) : interLoop f ne l1 l2 out = .ok out := by
  unfold interLoop
  split
  · simp only [List.length_cons] at h; omega
  · rfl

end mirror

section loop
variable {β : Type} (encP : β → DV α) (m : String)

/-- the locals between two iterations -/
structure InterInv (env : Env α) (l1 l2 : ASig α) (out : ASig β) : Prop where
  in1 : getLoc "in_samples_1" env = .ok (encSig l1)
  in2 : getLoc "in_samples_2" env = .ok (encSig l2)
  out : getLoc "out_samples" env = .ok (encSigP encP out)
  p1 : ∀ x r, l1 = x :: r → getLoc "prev_in_sample_1" env = .ok (encSmp x)
  p2 : ∀ x r, l2 = x :: r → getLoc "prev_in_sample_2" env = .ok (encSmp x)
  m : getLoc "method" env = .ok (.fn m)

/-- the locals inside an iteration -/
structure InterBodyInv (env : Env α) (x1 y1 : Tm × α) (r1 : ASig α) (x2 y2 : Tm × α) (r2 : ASig α) (out : ASig β) : Prop where
  in1 : getLoc "in_samples_1" env = .ok (encSig (x1 :: y1 :: r1))
  in2 : getLoc "in_samples_2" env = .ok (encSig (x2 :: y2 :: r2))
  out : getLoc "out_samples" env = .ok (encSigP encP out)
  p1 : getLoc "prev_in_sample_1" env = .ok (encSmp x1)
  p2 : getLoc "prev_in_sample_2" env = .ok (encSmp x2)
  c1 : getLoc "current_in_sample_1" env = .ok (encSmp y1)
  c2 : getLoc "current_in_sample_2" env = .ok (encSmp y2)
  m : getLoc "method" env = .ok (.fn m)

theorem InterBodyInv.frame {env env' : Env α} {x1 y1 : Tm × α} {r1 : ASig α} {x2 y2 : Tm × α} {r2 : ASig α} {out out' : ASig β}
    (h : InterBodyInv encP m env x1 y1 r1 x2 y2 r2 out)
    (hF : Frame ["out_value", "_append$item", "_append$prev_item", "out_samples"] env env')
    (ho : getLoc "out_samples" env' = .ok (encSigP encP out')) : InterBodyInv encP m env' x1 y1 r1 x2 y2 r2 out' :=
  ⟨(hF.getLoc (by decide)).trans h.in1, (hF.getLoc (by decide)).trans h.in2, ho,
    (hF.getLoc (by decide)).trans h.p1, (hF.getLoc (by decide)).trans h.p2, (hF.getLoc (by decide)).trans h.c1,
    (hF.getLoc (by decide)).trans h.c2, (hF.getLoc (by decide)).trans h.m⟩

variable (call : Call α) (fuel : Nat) (f : α → α → β) (ne : β → β → Bool)

theorem adv1_spec {env : Env α} {x1 y1 : Tm × α} {r1 : ASig α} {x2 y2 : Tm × α} {r2 : ASig α} {out : ASig β}
    (h : InterBodyInv encP m env x1 y1 r1 x2 y2 r2 out) :
    ∃ env', exec call fuel sAdv1 env = .ok (env', none) ∧ InterInv encP m env' (y1 :: r1) (x2 :: y2 :: r2) out := by
  have hd : exec call fuel (.delIdx "in_samples_1" (.int 0)) env =
      .ok (setLoc "in_samples_1" (encSig (y1 :: r1)) env, none) :=
    (exec.delIdx (l := (x1 :: y1 :: r1).map encSmp) h.in1 rfl).trans (by rw [List.map_cons, delAt_cons_zero]; rfl)
  refine ⟨_, (exec.seq_ok hd).trans (exec.setLoc (v := encSmp y1) (by simp [evalE, h.c1])), ?_⟩
  constructor
  · simp
  · simp [h.in2]
  · simp [h.out]
  · intro x r hx; cases hx; simp
  · intro x r hx; cases hx; simp [h.p2]
  · simp [h.m]

theorem adv2_spec {env : Env α} {x1 y1 : Tm × α} {r1 : ASig α} {x2 y2 : Tm × α} {r2 : ASig α} {out : ASig β}
    (h : InterBodyInv encP m env x1 y1 r1 x2 y2 r2 out) :
    ∃ env', exec call fuel sAdv2 env = .ok (env', none) ∧ InterInv encP m env' (x1 :: y1 :: r1) (y2 :: r2) out := by
  have hd : exec call fuel (.delIdx "in_samples_2" (.int 0)) env =
      .ok (setLoc "in_samples_2" (encSig (y2 :: r2)) env, none) :=
    (exec.delIdx (l := (x2 :: y2 :: r2).map encSmp) h.in2 rfl).trans (by rw [List.map_cons, delAt_cons_zero]; rfl)
  refine ⟨_, (exec.seq_ok hd).trans (exec.setLoc (v := encSmp y2) (by simp [evalE, h.c2])), ?_⟩
  constructor
  · simp [h.in1]
  · simp
  · simp [h.out]
  · intro x r hx; cases hx; simp [h.p1]
  · intro x r hx; cases hx; simp
  · simp [h.m]

section emit
variable (hcall : ∀ a b, call m [.val a, .val b] = .ok (encP (f a b)))
  (hpay : ∀ x, toPayload (encP x) = .ok (encP x))
  (hne : ∀ x y, cmpDV .ne (encP x) (encP y) = .ok (ne x y))
include hcall hpay hne

/-- the inlined `_append(out_samples, [src[0], out_value])`, statement by statement, in the three cases of `appendD` -/
theorem append_spec {env : Env α} {out : ASig β} (src : String) (t : Tm) (p : DV α) (o : β)
    (hsrc : getLoc src env = .ok (.smp t p)) (hv : getLoc "out_value" env = .ok (encP o))
    (hout : getLoc "out_samples" env = .ok (encSigP encP out)) :
    ∃ env', exec call fuel (sAppend src) env = .ok (env', none) ∧
      getLoc "out_samples" env' = .ok (encSigP encP (appendD ne out (t, o))) ∧
      Frame ["out_value", "_append$item", "_append$prev_item", "out_samples"] env env' := by
  have ho1 := (getLoc_setLoc_ne "out_samples" "_append$item" (.smp t (encP o)) env (by decide)).trans hout
  have hc : evalE call (setLoc "_append$item" (.smp t (encP o)) env) (.not (.loc "out_samples")) =
      .ok (.bool out.isEmpty) := by
    rw [evalE.not (evalE.loc ho1) rfl]; simp
  rw [sAppend, exec.seq_ok (exec.setLoc (v := .smp t (encP o))
    ((evalE.list2 (evalE.idxInt (evalE.loc hsrc)) (evalE.loc hv)).trans (by simp [mkList2, hpay])))]
  rcases List.eq_nil_or_concat out with rfl | ⟨O, q, rfl⟩
  · rw [exec.ite_true hc rfl, exec.appendLoc (evalE.loc (getLoc_setLoc_same _ _ _)) ho1]
    exact ⟨_, rfl, by simp [appendD, encSigP], by frame_tac⟩
  · have ho2 := (getLoc_setLoc_ne "out_samples" "_append$prev_item" (.smp q.1 (encP q.2)) _ (by decide)).trans ho1
    have hit := (getLoc_setLoc_ne "_append$item" "_append$prev_item" (.smp q.1 (encP q.2)) _ (by decide)).trans
      (getLoc_setLoc_same _ (.smp t (encP o)) env)
    rw [exec.ite_false hc (congrArg Except.ok (by simp)), exec.seq_ok (exec.setLoc (v := .smp q.1 (encP q.2))
        ((evalE.idx (evalE.loc ho1) rfl).trans (by simp [encSigP, evalIdx.last]))),
      exec.ite (d := .bool (ne q.2 o)) ((evalE.bin (evalE.idxInt (evalE.loc (getLoc_setLoc_same _ _ _)))
        (evalE.idxInt (evalE.loc hit))).trans ((evalBin.cmp rfl _ _).trans (by rw [hne]; rfl))) rfl]
    cases hq : ne q.2 o
    · exact ⟨_, rfl, by simpa [appendD, hq] using ho2, by frame_tac⟩
    · rw [if_pos rfl, exec.appendLoc (evalE.loc hit) ho2]
      exact ⟨_, rfl, by simp [appendD, encSigP, hq], by frame_tac⟩

/-- `out_value = method(prev_in_sample_1[1], prev_in_sample_2[1]); _append(out_samples, [src[0], out_value])` -/
theorem emit_spec {env : Env α} {x1 y1 : Tm × α} {r1 : ASig α} {x2 y2 : Tm × α} {r2 : ASig α} {out : ASig β}
    (h : InterBodyInv encP m env x1 y1 r1 x2 y2 r2 out) (src : String) (t : Tm) (p : DV α)
    (hsrc : getLoc src env = .ok (.smp t p)) (hs : src ≠ "out_value") :
    ∃ env', (∀ adv, exec call fuel (sEmit src adv) env = exec call fuel adv env') ∧
      InterBodyInv encP m env' x1 y1 r1 x2 y2 r2 (appendD ne out (t, f x1.2 x2.2)) := by
  have h1 : exec call fuel sOutVal env = .ok (setLoc "out_value" (encP (f x1.2 x2.2)) env, none) := by
    apply exec.setLoc
    dn_step [h.p1, h.p2, encSmp, resolve_of_getLoc h.m, hcall]
  obtain ⟨env', h3, ho, hF⟩ := append_spec encP m call fuel f ne hcall hpay hne src t p (f x1.2 x2.2)
    ((getLoc_setLoc_ne _ _ _ _ hs).trans hsrc) (getLoc_setLoc_same _ _ _)
    ((getLoc_setLoc_ne _ _ _ _ (by decide)).trans h.out)
  exact ⟨env', fun adv => by unfold sEmit; rw [exec.seq_ok h1, exec.seq_ok h3],
    InterBodyInv.frame encP m h (((Frame.refl _ _).set (by simp) _).trans hF) ho⟩

end emit

/-- what the chain of `if … elif …` does after the decision `d` -/
def chainK (env : Env α) : Option (Bool × Option Bool) → Except PyErr (Res α)
  | none => .error .rtamt
  | some (a, none) => exec call fuel (if a then sAdv1 else sAdv2) env
  | some (a, some s) =>
      exec call fuel (sEmit (if s then "prev_in_sample_1" else "prev_in_sample_2") (if a then sAdv1 else sAdv2)) env

theorem chain_spec {env : Env α} (p1 c1 p2 c2 : Tm) {a1 b1 a2 b2 : DV α}
    (hp1 : getLoc "prev_in_sample_1" env = .ok (.smp p1 a1)) (hc1 : getLoc "current_in_sample_1" env = .ok (.smp c1 b1))
    (hp2 : getLoc "prev_in_sample_2" env = .ok (.smp p2 a2)) (hc2 : getLoc "current_in_sample_2" env = .ok (.smp c2 b2)) :
    exec call fuel interChain env = chainK call fuel env (interDec p1 c1 p2 c2) := by
  unfold interChain
  rw [exec.ite (evalE_aLt call hc1 hp2) rfl,
    exec.ite (evalE_and3 call (evalE_aLt call hp1 hc1) (evalE_aEq call hc1 hp2) (evalE_aLt call hp2 hc2)) rfl,
    exec.ite (evalE_and3 call (evalE_aLt call hp1 hp2) (evalE_aLt call hp2 hc1) (evalE_aLt call hc1 hc2)) rfl,
    exec.ite (evalE_and3 call (evalE_aLt call hp1 hp2) (evalE_aLt call hp2 hc1) (evalE_aEq call hc1 hc2)) rfl,
    exec.ite (evalE_and3 call (evalE_aLt call hp2 hp1) (evalE_aLt call hp1 hc1) (evalE_aEq call hc1 hc2)) rfl,
    exec.ite (evalE_and3 call (evalE_aLt call hp1 hp2) (evalE_aLt call hp2 hc2) (evalE_aLt call hc2 hc1)) rfl,
    exec.ite (evalE_and3 call (evalE_aEq call hp1 hp2) (evalE_aLt call hp2 hc2) (evalE_aLt call hc2 hc1)) rfl,
    exec.ite (evalE_and3 call (evalE_aEq call hp1 hp2) (evalE_aLt call hp2 hc2) (evalE_aEq call hc2 hc1)) rfl,
    exec.ite (evalE_and3 call (evalE_aEq call hp1 hp2) (evalE_aLt call hp2 hc1) (evalE_aLt call hc1 hc2)) rfl,
    exec.ite (evalE_and3 call (evalE_aLt call hp2 hp1) (evalE_aLt call hp1 hc1) (evalE_aLt call hc1 hc2)) rfl,
    exec.ite (evalE_and3 call (evalE_aLt call hp2 hc2) (evalE_aEq call hc2 hp1) (evalE_aLt call hp1 hc1)) rfl,
    exec.ite (evalE_and3 call (evalE_aLt call hp2 hp1) (evalE_aLt call hp1 hc2) (evalE_aLt call hc2 hc1)) rfl,
    exec.ite (evalE_aGt call hp1 hc2) rfl]
  rw [interDec, sel13_apply (chainK call fuel env)]
  rfl

theorem cond_spec {env : Env α} {l1 l2 : ASig α} {out : ASig β} (h : InterInv encP m env l1 l2 out) :
    (do truthy (← evalE call env interCond)) = .ok (decide (2 ≤ l1.length) && decide (2 ≤ l2.length)) := by
  -- `x[1:]` is true when `x` has two elements
  have t : ∀ l : ASig α, (!((l.map encSmp).drop 1).isEmpty) = decide (2 ≤ l.length) := by
    intro l; rcases l with _ | ⟨x, _ | ⟨y, r⟩⟩ <;> simp
  simp only [interCond, evalE, h.in1, h.in2, encSig, ok_bind, truthy, pure_eq_ok, t]
  cases hd : decide (2 ≤ l1.length) <;> simp only [t, hd, Bool.false_eq_true, if_true, if_false, ok_bind, Bool.true_and, Bool.false_and]

section body
variable (hcall : ∀ a b, call m [.val a, .val b] = .ok (encP (f a b)))
  (hpay : ∀ x, toPayload (encP x) = .ok (encP x))
  (hne : ∀ x y, cmpDV .ne (encP x) (encP y) = .ok (ne x y))
include hcall hpay hne

theorem body_spec {env : Env α} {p1 c1 p2 c2 : Tm} {v1 w1 v2 w2 : α} {r1 r2 : ASig α} {out : ASig β}
    (h : InterInv encP m env ((p1, v1) :: (c1, w1) :: r1) ((p2, v2) :: (c2, w2) :: r2) out) :
    Runs (exec call fuel interBody env) ((interDec p1 c1 p2 c2).elim (.error .rtamt) .ok) fun ae env' =>
      InterInv encP m env' (if ae.1 then (c1, w1) :: r1 else (p1, v1) :: (c1, w1) :: r1)
        (if ae.1 then (p2, v2) :: (c2, w2) :: r2 else (c2, w2) :: r2) (nextOut f ne p1 p2 v1 v2 out ae.2) := by
  have hb : exec call fuel interBody env = exec call fuel interChain
      (setLoc "current_in_sample_2" (encSmp (c2, w2)) (setLoc "current_in_sample_1" (encSmp (c1, w1)) env)) := by
    unfold interBody
    rw [exec.seq_ok (exec.setLoc (v := encSmp (c1, w1))
          (by dn_step [h.in1, encSig, List.map_cons, evalIdx.cons1])),
      exec.seq_ok (exec.setLoc (v := encSmp (c2, w2))
          (by dn_step [h.in2, encSig, List.map_cons, evalIdx.cons1]))]
  have h2 : InterBodyInv encP m (setLoc "current_in_sample_2" (encSmp (c2, w2)) (setLoc "current_in_sample_1" (encSmp (c1, w1)) env))
      (p1, v1) (c1, w1) r1 (p2, v2) (c2, w2) r2 out := by
    constructor
    · simp [h.in1]
    · simp [h.in2]
    · simp [h.out]
    · simp [h.p1 _ _ rfl]
    · simp [h.p2 _ _ rfl]
    · simp
    · simp
    · simp [h.m]
  rw [hb, chain_spec call fuel p1 c1 p2 c2 (a1 := .val v1) (b1 := .val w1) (a2 := .val v2) (b2 := .val w2)
    h2.p1 h2.c1 h2.p2 h2.c2]
  rcases interDec p1 c1 p2 c2 with _ | ⟨a, e⟩
  · exact rfl
  -- with or without a sample written, what is left is to advance one list
  obtain ⟨env1, hex, h3⟩ : ∃ env1, chainK call fuel
        (setLoc "current_in_sample_2" (encSmp (c2, w2)) (setLoc "current_in_sample_1" (encSmp (c1, w1)) env)) (some (a, e)) =
        exec call fuel (if a then sAdv1 else sAdv2) env1 ∧
      InterBodyInv encP m env1 (p1, v1) (c1, w1) r1 (p2, v2) (c2, w2) r2 (nextOut f ne p1 p2 v1 v2 out e) := by
    rcases e with _ | s
    · exact ⟨_, rfl, h2⟩
    · cases s
      · obtain ⟨env1, hex, h3⟩ := emit_spec encP m call fuel f ne hcall hpay hne h2 "prev_in_sample_2" p2 (.val v2) h2.p2 (by decide)
        exact ⟨env1, hex _, h3⟩
      · obtain ⟨env1, hex, h3⟩ := emit_spec encP m call fuel f ne hcall hpay hne h2 "prev_in_sample_1" p1 (.val v1) h2.p1 (by decide)
        exact ⟨env1, hex _, h3⟩
  rw [hex]
  cases a
  · obtain ⟨_, hx, hinv⟩ := adv2_spec encP m call fuel h3
    exact Runs.intro hx hinv
  · obtain ⟨_, hx, hinv⟩ := adv1_spec encP m call fuel h3
    exact Runs.intro hx hinv

theorem loop_spec {env : Env α} {l1 l2 : ASig α} {out : ASig β} (hn : l1.length + l2.length < fuel)
    (h : InterInv encP m env l1 l2 out) :
    Runs (exec call fuel (.while_ interCond interBody) env) (interLoop f ne l1 l2 out) fun o env' =>
      ∃ l1' l2', InterInv encP m env' l1' l2' o := by
  refine Runs.while (fun s : ASig α × ASig α × ASig β => interLoop f ne s.1 s.2.1 s.2.2)
    (fun s e => InterInv encP m e s.1 s.2.1 s.2.2) _ (fun s => s.1.length + s.2.1.length) ?_ (l1, l2, out) h hn
  rintro ⟨l1, l2, out⟩ e h
  refine ⟨_, cond_spec encP m call h, fun hc => ?_, fun hc => ?_⟩
  · exact ⟨out, interLoop_short f ne l1 l2 out (by simp at hc; omega), l1, l2, h⟩
  · obtain ⟨⟨p1, v1⟩, ⟨c1, w1⟩, r1, rfl⟩ := exists_cons_cons (l := l1) (by simp at hc; omega)
    obtain ⟨⟨p2, v2⟩, ⟨c2, w2⟩, r2, rfl⟩ := exists_cons_cons (l := l2) (by simp at hc; omega)
    refine ⟨_, _, fun ae => (if ae.1 then (c1, w1) :: r1 else (p1, v1) :: (c1, w1) :: r1,
        if ae.1 then (p2, v2) :: (c2, w2) :: r2 else (c2, w2) :: r2, nextOut f ne p1 p2 v1 v2 out ae.2), ?_,
      (body_spec encP m call fuel f ne hcall hpay hne h).mono ?_⟩
    · rw [interLoop_dec]
      rcases interDec p1 c1 p2 c2 with _ | ⟨a, e⟩ <;> rfl
    · rintro ⟨a, e⟩ env' - hinv
      exact ⟨hinv, by cases a <;> simp⟩

end body

end loop

theorem extendInf_ne_nil (s : ASig α) (hs : s ≠ []) : extendInf s ≠ [] := by
  unfold extendInf
  split
  · split <;> simp [hs]
  · exact hs

theorem extendInf_length (s : ASig α) : (extendInf s).length ≤ s.length + 1 := by
  unfold extendInf
  split
  · split <;> simp
  · simp

section fn
variable (call : Call α) (fuel : Nat)

theorem exec_seq_ret {a b : S} {env env' : Env α} {v : DV α} (h : exec call fuel a env = .ok (env', some v)) :
    exec call fuel (.seq a b) env = .ok (env', some v) := by
  simp [exec, h]

theorem ext_spec (x : String) (env : Env α) (s : ASig α) (hs : s ≠ []) (h : getLoc x env = .ok (encSig s)) :
    ∃ env', exec call fuel (sExt x) env = .ok (env', none) ∧ getLoc x env' = .ok (encSig (extendInf s)) ∧
      ∀ y, y ≠ x → getLoc y env' = getLoc y env := by
  obtain ⟨L, ⟨t, v⟩, rfl⟩ : ∃ L b, s = L ++ [b] := by
    rcases List.eq_nil_or_concat s with h0 | ⟨L, b, hb⟩
    · exact absurd h0 hs
    · exact ⟨L, b, by simpa using hb⟩
  have hlast : evalE call env (.idx (.loc x) (.neg (.int 1))) = .ok (.smp t (.val v)) :=
    (evalE.idx (evalE.loc h) rfl).trans (by simp [encSig, encSmp, evalIdx.last])
  have hcond : evalE call env (.bin .lt (.idx (.idx (.loc x) (.neg (.int 1))) (.int 0)) .inf) =
      .ok (.bool (Tm.lt t .inf)) :=
    (evalE.bin (evalE.idxInt hlast) rfl).trans rfl
  rw [sExt, exec.ite hcond rfl]
  by_cases hlt : Tm.lt t .inf = true
  · rw [if_pos hlt, exec.appendLoc (v := .smp .inf (.val v)) ((evalE.list2 rfl (evalE.idxInt hlast)).trans rfl) h]
    exact ⟨_, rfl, by simp [extendInf, hlt, encSig, encSmp], fun y hy => getLoc_setLoc_ne _ _ _ _ hy⟩
  · rw [if_neg hlt]
    exact ⟨env, rfl, by simp [extendInf, hlt, h], fun _ _ => rfl⟩

section run
variable {β : Type} (encP : β → DV α) (f : α → α → β) (ne : β → β → Bool) (m : String)
  (hcall : ∀ a b, call m [.val a, .val b] = .ok (encP (f a b)))
  (hpay : ∀ x, toPayload (encP x) = .ok (encP x))
  (hne : ∀ x y, cmpDV .ne (encP x) (encP y) = .ok (ne x y))
include hcall hpay hne

/-- the body of `intersection` from the two `extend to infinity` statements on, both operands non-empty; of the four
    lists returned only the first is a value of the mirror -/
theorem rest_spec (env : Env α) (s1 s2 : ASig α) (h1 : s1 ≠ []) (h2 : s2 ≠ []) (hfuel : s1.length + s2.length + 3 ≤ fuel)
    (hin1 : getLoc "in_samples_1" env = .ok (encSig s1)) (hin2 : getLoc "in_samples_2" env = .ok (encSig s2))
    (hout : getLoc "out_samples" env = .ok (.list [])) (hm : getLoc "method" env = .ok (.fn m)) :
    Exc.Sim (exec call fuel interRest env) (interLoop f ne (extendInf s1) (extendInf s2) []) fun o r =>
      ∃ b c d, r.2 = some (.list [encSigP encP o, b, c, d]) := by
  obtain ⟨e5, hx5, hg5, hf5⟩ := ext_spec call fuel "in_samples_1" env s1 h1 hin1
  obtain ⟨e6, hx6, hg6, hf6⟩ := ext_spec call fuel "in_samples_2" e5 s2 h2 (by rw [hf5 _ (by decide)]; exact hin2)
  obtain ⟨x1, t1, hl1⟩ := List.exists_cons_of_ne_nil (extendInf_ne_nil s1 h1)
  obtain ⟨x2, t2, hl2⟩ := List.exists_cons_of_ne_nil (extendInf_ne_nil s2 h2)
  have g1 : getLoc "in_samples_1" e6 = .ok (encSig (x1 :: t1)) := by rw [hf6 _ (by decide), hg5, hl1]
  have g2 : getLoc "in_samples_2" e6 = .ok (encSig (x2 :: t2)) := by rw [hg6, hl2]
  have hinv : InterInv encP m (setLoc "prev_in_sample_2" (encSmp x2) (setLoc "prev_in_sample_1" (encSmp x1) e6))
      (extendInf s1) (extendInf s2) [] := by
    constructor
    · simp [g1, hl1]
    · simp [g2, hl2]
    · simp [encSigP]; rw [hf6 _ (by decide), hf5 _ (by decide)]; exact hout
    · intro x r hx; rw [hl1] at hx; cases hx; simp
    · intro x r hx; rw [hl2] at hx; cases hx; simp
    · simp; rw [hf6 _ (by decide), hf5 _ (by decide)]; exact hm
  have hn : (extendInf s1).length + (extendInf s2).length < fuel := by
    have := extendInf_length s1
    have := extendInf_length s2
    omega
  have hloop := loop_spec encP m call fuel f ne hcall hpay hne hn hinv
  unfold interRest
  rw [exec.seq_ok hx5, exec.seq_ok hx6,
    exec.seq_ok (exec.setLoc (v := encSmp x1) (by simp [evalE, g1, encSig, evalIdx.cons0])),
    exec.seq_ok (exec.setLoc (v := encSmp x2) (by simp [evalE, g2, encSig, evalIdx.cons0]))]
  refine Runs.seq_sim_right hloop ?_
  rintro o env' ⟨l1', l2', hi⟩
  exact ⟨(setLoc "last" (.list []) env', _), by simp [interTail, exec, evalE, hi.out, hi.in1, hi.in2],
    .list [], encSig l1', encSig l2', rfl⟩

variable (hlist : ∀ l, call "list" [.list l] = .ok (.list l)) (hlen : ∀ l, call "len" [.list l] = .ok (.int l.length))
include hlist hlen

theorem run_intersection (s1 s2 : ASig α) (hfuel : s1.length + s2.length + 3 ≤ fuel) :
    Exc.Sim (exec call fuel Gen.Dense.fn_intersection.body
        [("in_samples_1", encSig s1), ("in_samples_2", encSig s2), ("method", .fn m)]) (inter f ne s1 s2) fun o r =>
      ∃ b c d, r.2 = some (.list [encSigP encP o, b, c, d]) := by
  rw [fn_intersection_body, exec.seq_ok (exec.setLoc (v := encSig s1) ((evalE.call1 rfl).trans (hlist _))),
    exec.seq_ok (exec.setLoc (v := encSig s2) ((evalE.call1 rfl).trans (hlist _))),
    exec.seq_ok (exec.setLoc (v := .list []) rfl), exec.seq_ok (exec.setLoc (v := .list []) rfl)]
  generalize henv4 : setLoc "ans" (DV.list []) _ = env4
  have q1 : getLoc "in_samples_1" env4 = .ok (encSig s1) := by subst henv4; rfl
  have q2 : getLoc "in_samples_2" env4 = .ok (encSig s2) := by subst henv4; rfl
  have q3 : getLoc "method" env4 = .ok (.fn m) := by subst henv4; rfl
  have q4 : getLoc "out_samples" env4 = .ok (.list []) := by subst henv4; rfl
  have q5 : getLoc "ans" env4 = .ok (.list []) := by subst henv4; rfl
  have q6 : resolve env4 "len" = "len" := by subst henv4; rfl
  have hc := evalE_or_bool call (evalE_lenEq0 call q1 q6 hlen) (evalE_lenEq0 call q2 q6 hlen)
  unfold inter
  by_cases hemp : (s1.isEmpty || s2.isEmpty) = true
  · have he : exec call fuel sEarly env4 = .ok (env4, some (.list [.list [], .list [], encSig s1, encSig s2])) := by
      unfold sEarly
      rw [exec.ite hc rfl]
      simp [hemp, exec, evalE, q1, q2, q4, q5]
    rw [exec_seq_ret call fuel he, if_pos hemp]
    exact Exc.Sim.ok rfl ⟨_, _, _, rfl⟩
  · have he : exec call fuel sEarly env4 = .ok (env4, none) := by
      unfold sEarly
      rw [exec.ite hc rfl]
      simp [hemp, exec]
    rw [exec.seq_ok he, if_neg hemp]
    exact rest_spec call fuel encP f ne m hcall hpay hne env4 s1 s2 (by intro h; subst h; simp at hemp)
      (by intro h; subst h; simp at hemp) hfuel q1 q2 q4 q3

end run

end fn

section methods
variable (fuel k : Nat) (a b : α)

/-- a function `def name(a, b): return e` of the table -/
theorem run_method (name : String) (g : Fn) (e : E) (hl : Gen.Dense.fns.lookup name = some g) (hp : g.params = ["a", "b"])
    (hb : g.body = .ret e) (x y v : DV α) (he : evalE (callAt Gen.Dense.fns fuel k) [("a", x), ("b", y)] e = .ok v) :
    callAt Gen.Dense.fns fuel (k + 1) name [x, y] = .ok v :=
  callAt_of_rets (m := .ok v) (enc := id) hl (by rw [hp]; rfl) (by rw [hp, hb]; exact Rets.ret he)

theorem callAt_lib_ok {f : String} (hf : f ∈ libNames) {args : List (DV α)} {v : DV α} (h : builtin f args = .ok v) :
    callAt Gen.Dense.fns fuel k f args = .ok v :=
  (callAt_lib fuel k hf args).trans h

/-! the bodies are single expressions: the arguments are read, the arithmetic and the library function are computed, by
    the semantics itself (`rfl`); what is given by hand is where the call goes -/

theorem gen_disjunction :
    callAt Gen.Dense.fns fuel (k + 1) "disjunction" [.val a, .val b] = .ok (.val (pmax a b) : DV α) :=
  run_method fuel k _ Gen.Dense.fn_disjunction _ (fns_at 4 rfl) rfl rfl _ _ _
    ((evalE.call2 rfl rfl).trans (callAt_lib_ok fuel k (f := "max") (by decide) rfl))

theorem gen_conjunction :
    callAt Gen.Dense.fns fuel (k + 1) "conjunction" [.val a, .val b] = .ok (.val (pmin a b) : DV α) :=
  run_method fuel k _ Gen.Dense.fn_conjunction _ (fns_at 5 rfl) rfl rfl _ _ _
    ((evalE.call2 rfl rfl).trans (callAt_lib_ok fuel k (f := "min") (by decide) rfl))

theorem gen_implication :
    callAt Gen.Dense.fns fuel (k + 1) "implication" [.val a, .val b] = .ok (.val (pmax (Val.neg a) b) : DV α) :=
  run_method fuel k _ Gen.Dense.fn_implication _ (fns_at 6 rfl) rfl rfl _ _ _
    ((evalE.call2 rfl rfl).trans (callAt_lib_ok fuel k (f := "max") (by decide) rfl))

theorem gen_xor :
    callAt Gen.Dense.fns fuel (k + 1) "xor" [.val a, .val b] = .ok (.val (Val.abs (Val.sub a b)) : DV α) :=
  run_method fuel k _ Gen.Dense.fn_xor _ (fns_at 7 rfl) rfl rfl _ _ _
    ((evalE.call1 rfl).trans (callAt_lib_ok fuel k (f := "abs") (by decide) rfl))

theorem gen_iff :
    callAt Gen.Dense.fns fuel (k + 1) "iff" [.val a, .val b] = .ok (.val (Val.neg (Val.abs (Val.sub a b))) : DV α) :=
  run_method fuel k _ Gen.Dense.fn_iff _ (fns_at 8 rfl) rfl rfl _ _ _
    ((congrArg (· >>= evalNeg) ((evalE.call1 rfl).trans (callAt_lib_ok fuel k (f := "abs") (by decide) rfl))).trans rfl)

theorem gen_addition :
    callAt Gen.Dense.fns fuel (k + 1) "addition" [.val a, .val b] = .ok (.val (Val.add a b) : DV α) :=
  run_method fuel k _ Gen.Dense.fn_addition _ (fns_at 9 rfl) rfl rfl _ _ _ rfl

theorem gen_subtraction :
    callAt Gen.Dense.fns fuel (k + 1) "subtraction" [.val a, .val b] = .ok (.val (Val.sub a b) : DV α) :=
  run_method fuel k _ Gen.Dense.fn_subtraction _ (fns_at 10 rfl) rfl rfl _ _ _ rfl

theorem gen_multiplication :
    callAt Gen.Dense.fns fuel (k + 1) "multiplication" [.val a, .val b] = .ok (.val (Val.mul a b) : DV α) :=
  run_method fuel k _ Gen.Dense.fn_multiplication _ (fns_at 11 rfl) rfl rfl _ _ _ rfl

theorem gen_division :
    callAt Gen.Dense.fns fuel (k + 1) "division" [.val a, .val b] = .ok (.val (Val.div a b) : DV α) :=
  run_method fuel k _ Gen.Dense.fn_division _ (fns_at 12 rfl) rfl rfl _ _ _
    ((evalE.bin ((evalE.call1 rfl).trans (callAt_lib_ok fuel k (f := "float") (by decide) rfl))
      ((evalE.call1 rfl).trans (callAt_lib_ok fuel k (f := "float") (by decide) rfl))).trans rfl)

theorem gen_power :
    callAt Gen.Dense.fns fuel (k + 1) "power" [.val a, .val b] = .ok (.val (Val.pow a b) : DV α) :=
  run_method fuel k _ Gen.Dense.fn_power _ (fns_at 19 rfl) rfl rfl _ _ _
    ((evalE.call2 rfl rfl).trans (callAt_lib_ok fuel k (f := "math.pow") (by decide) rfl))

theorem gen_log :
    callAt Gen.Dense.fns fuel (k + 1) "log" [.val a, .val b] = .ok (.val (Val.log a b) : DV α) :=
  run_method fuel k _ Gen.Dense.fn_log _ (fns_at 20 rfl) rfl rfl _ _ _
    ((evalE.call2 rfl rfl).trans (callAt_lib_ok fuel k (f := "math.log") (by decide) rfl))

end methods

/-- the name of the method the visitors hand to `intersection` for a point-wise binary operator -/
def binMethodName : Bin → Option String
  | .add => some "addition"
  | .sub => some "subtraction"
  | .mul => some "multiplication"
  | .div => some "division"
  | .pow => some "power"
  | .log => some "log"
  | .and => some "conjunction"
  | .or => some "disjunction"
  | .implies => some "implication"
  | .iff => some "iff"
  | .xor => some "xor"
  | _ => none

theorem gen_binMethod (fuel k : Nat) (op : Bin) (name : String) (h : binMethodName op = some name) (a b : α) :
    callAt Gen.Dense.fns fuel (k + 1) name [.val a, .val b] = .ok (.val (binMethod op a b) : DV α) := by
  cases op <;> simp [binMethodName] at h <;> subst h
  · exact gen_addition fuel k a b
  · exact gen_subtraction fuel k a b
  · exact gen_multiplication fuel k a b
  · exact gen_division fuel k a b
  · exact gen_power fuel k a b
  · exact gen_log fuel k a b
  · exact gen_conjunction fuel k a b
  · exact gen_disjunction fuel k a b
  · exact gen_implication fuel k a b
  · exact gen_iff fuel k a b
  · exact gen_xor fuel k a b

theorem gen_intersection (fuel k : Nat) : InterSpec α fuel k := by
  intro β encP f ne m hcall hpay hne s1 s2 hfuel
  have h := run_intersection (callAt Gen.Dense.fns fuel (k + 1)) fuel encP f ne m hcall hpay hne
    (fun l => (callAt_lib fuel (k + 1) (f := "list") (by decide) _).trans rfl) (callAt_len fuel (k + 1)) s1 s2 (by omega)
  -- the three other lists of the tuple are read off the run: `callAt_of_rets` is used at the tuple found
  cases hi : inter f ne s1 s2 with
  | error e =>
      exact callAt_of_rets (m := .error e) (enc := fun _ : Unit => .none) (fn := Gen.Dense.fn_intersection) (fns_at 3 rfl) rfl
        (h.of_error hi)
  | ok o =>
      obtain ⟨_, hx, b, c, d, hr⟩ := h.of_ok hi
      exact ⟨b, c, d, callAt_of_rets (m := .ok o) (enc := fun o => .list [encSigP encP o, b, c, d])
        (fn := Gen.Dense.fn_intersection) (fns_at 3 rfl) rfl (Exc.Sim.ok hx hr)⟩

theorem toPayload_val (x : α) : toPayload (DV.val x : DV α) = .ok (.val x) := rfl

theorem gen_inter_split (fuel k : Nat) (l r : ASig α) (h : l.length + r.length + 4 ≤ fuel) :
    match inter (fun a b => (a, b)) pairNe l r with
    | .ok o => ∃ a b c, callAt Gen.Dense.fns fuel (k + 2) "intersection" [encSig l, encSig r, .fn "split"]
        = .ok (.list [encSigP encPair o, a, b, c])
    | .error e => callAt Gen.Dense.fns fuel (k + 2) "intersection" [encSig l, encSig r, .fn "split"] = .error e := by
  have h' := gen_intersection fuel k (α × α) encPair (fun a b => (a, b)) pairNe "split" (gen_split fuel k)
    toPayload_encPair cmpDV_ne_encPair l r h
  generalize inter (fun a b => (a, b)) pairNe l r = x at h' ⊢
  cases x <;> exact h'

/-- `sample_return, last, y, z = intersection(sample_left, sample_right, M); return sample_return` for a method `M` on
    values (`conjunction`, `subtraction`, …): `_append` compares with `!=`. -/
theorem wrapInter_rets {fuel k : Nat} (hI : InterSpec α fuel k) {M : String} {f : α → α → α}
    (hM : ∀ a b, callAt Gen.Dense.fns fuel (k + 1) M [.val a, .val b] = .ok (.val (f a b) : DV α))
    {l r : ASig α} (h : l.length + r.length + 4 ≤ fuel) {env : Env α}
    (hl : getLoc "sample_left" env = .ok (encSig l)) (hr : getLoc "sample_right" env = .ok (encSig r))
    (hres : resolve env "intersection" = "intersection") {y z : String} (hn : "sample_return" ∉ [y, z]) :
    Rets (exec (callAt Gen.Dense.fns fuel (k + 2)) fuel (.seq (.unpack ["sample_return", "last", y, z]
      (.call3 "intersection" (.loc "sample_left") (.loc "sample_right") (.fnRef M))) (.ret (.loc "sample_return"))) env)
      (inter f vne l r) encSig := by
  refine Runs.then_ret (Runs.unpackInter hl hr hres
    (hI.sim (encP := DV.val) hM toPayload_val cmpDV_ne_val l r h)) ?_
  rintro o _ ⟨a, b, c, rfl⟩
  simp only [List.mem_cons, List.not_mem_nil, or_false, not_or] at hn
  simp [evalE, hn, encSigP_val]

theorem gen_and_operation (fuel k : Nat) (l r : ASig α) (h : l.length + r.length + 4 ≤ fuel) :
    callAt Gen.Dense.fns fuel (k + 3) "and_operation" [encSig l, encSig r] = (andOp l r).map encSig :=
  callAt_of_rets (fn := Gen.Dense.fn_and_operation) (fns_at 23 rfl) rfl
    (wrapInter_rets (gen_intersection fuel k) (gen_conjunction fuel k) h rfl rfl rfl (by decide))

theorem gen_subtraction_operation (fuel k : Nat) (l r : ASig α) (h : l.length + r.length + 4 ≤ fuel) :
    callAt Gen.Dense.fns fuel (k + 3) "subtraction_operation" [encSig l, encSig r] =
      (inter (fun a b => Val.sub a b) vne l r).map encSig :=
  callAt_of_rets (fn := Gen.Dense.fn_subtraction_operation) (fns_at 22 rfl) rfl
    (wrapInter_rets (gen_intersection fuel k) (gen_subtraction fuel k) h rfl rfl rfl (by decide))

/-! `gen_inter_split` without `match` -/

theorem gen_inter_split_ok (fuel k : Nat) (l r : ASig α) (h : l.length + r.length + 4 ≤ fuel) (io : List (Tm × (α × α)))
    (ho : inter (fun a b => (a, b)) pairNe l r = .ok io) :
    ∃ a b c, callAt Gen.Dense.fns fuel (k + 2) "intersection" [encSig l, encSig r, .fn "split"]
      = .ok (.list [encSigP encPair io, a, b, c]) := by
  have h' := gen_inter_split fuel k l r h
  rw [ho] at h'
  exact h'

theorem gen_inter_split_error (fuel k : Nat) (l r : ASig α) (h : l.length + r.length + 4 ≤ fuel) (e : PyErr)
    (ho : inter (fun a b => (a, b)) pairNe l r = .error e) :
    callAt Gen.Dense.fns fuel (k + 2) "intersection" [encSig l, encSig r, .fn "split"] = .error e := by
  have h' := gen_inter_split fuel k l r h
  rw [ho] at h'
  exact h'

end Rtamt.Py.Dn
