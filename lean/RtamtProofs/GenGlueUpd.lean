/-
  `AbstractDiscreteTimeOnlineInterpreter.update(timestamp, dataset)` / `.reset()` / `.set_variable_to_ast_from_dataset`
  (`rtamt/semantics/abstract_discrete_time_online_interpreter.py`) as WHOLE methods, as translated from the Python source,
  denote the mirror `Prog.update` / `Prog.run` / `Prog.reset` of `Rtamt/Discrete/ProgramUpd.lean`, i.e. `updateSpecs` /
  `runSpecs` (`Program.lean`), `resetSpecs` (`ProgramReset.lean`) and `Clock.tick` / `Clock.reset` (`Sampling.lean`).

  `Rtamt/Py/GeneratedGlueUpd.lean` is produced on every run by `harness/py2lean.py` (`generate_glue_update`); `Rtamt/Py/GlueUpd.lean`
  gives the terms their meaning; `Rtamt/Py/RunGlueUpd.lean` binds the two visitor calls to the *translated* visitors of
  `GeneratedGlue.lean` (`RtamtProofs/GenGlue.lean`: `genGlue_round`, `genGlue_resetSpecs`); the statements of the sampling
  bookkeeping are, term for term, the fragments of `GeneratedClock.lean` (`RtamtProofs/GenClock.lean`: `gen_clock_tick`,
  `gen_clock_reset`), see `interp_update_shape` / `interp_reset_shape` / `genGlueUpd_clock`.

    genGlue_update          one update(ts, dataset)   = Prog.update: the rows that name a free variable written to the valuation
                                                        (later rows win, all other variables keep their PREVIOUS value),
                                                        `updateSpecs` on it, the value of the LAST assertion (IndexError if
                                                        there is none — in both), then `Clock.tick`; same exception otherwise
    Prog.update_of_ne       with `specs ≠ []`: no IndexError, the value returned is `lastVal` of `updateSpecs`
    genGlue_update_prog_run a sequence of updates     = Prog.run
    genGlue_update_run      … stated on `runSpecs` (values and memos) and the fold of `Clock.tick` / `applyRows`
    genGlue_update_program  a fresh monitor (`initStore`, `noVarKeys_init`) = runProgram; the counter is `onlineCounter`
    genGlue_reset_whole     reset()                   = Prog.reset: `resetSpecs`, `Clock.reset`, every free variable back to
                                                        `float()`; `genGlue_reset_whole_init`
    genGlue_set_vars        set_variable_to_ast_from_dataset(dataset) = applyRows
    genGlueUpd_supported / genGlueUpd_opaque / genGlueUpd_clock   what is outside the translated subset / kept as a named step

  Hypotheses: `StAgree` (the two states correspond; the dictionaries agree on every key, `StoreEq`, as in `GenGlue.lean`);
  `NoVarKeys` (no operator object registered under a variable name — the guard of the one statement of
  `set_variable_to_ast_from_dataset` that is not translated; kept by every update, `updateSpecs_props`); `specs ≠ []` only
  where the statement speaks of the LAST assertion.  `Example` shows what happens without each of them.
-/
import Rtamt.Py.RunGlueUpd
import Rtamt.Discrete.ProgramUpd
import RtamtProofs.GenGlue
import RtamtProofs.GenClock

namespace Rtamt.Py.GUpd
open Rtamt Val Rtamt.Py

variable {α : Type} [Val α] [DecidableEq α]

omit [Val α] [DecidableEq α] in
theorem uGet_uSet_same (x : String) (v : UV α) (l : List (String × UV α)) : uGet x (uSet x v l) = .ok v := by
  simp [uGet, uSet]

omit [Val α] [DecidableEq α] in
theorem uGet_uSet_ne (x y : String) (v : UV α) (l : List (String × UV α)) (h : x ≠ y) :
    uGet x (uSet y v l) = uGet x l := by
  unfold uGet uSet
  rw [Assoc.lookup_write_ne h]

theorem x_err_bind {ε σ ρ : Type} (e : ε) (f : σ → Except ε ρ) : (Except.error e >>= f) = .error e := Exc.error_bind e f

theorem x_seq (a b : US) (env : UEnv α) (st : USt α) :
    execUS (.seq a b) env st = (execUS a env st >>= fun p => execUS b p.1 p.2) := id rfl
theorem x_opaque (w : String) (env : UEnv α) (st : USt α) : execUS (.opaque w) env st = .ok (env, st) := id rfl

/-- The body of `for data in dataset:` in `set_variable_to_ast_from_dataset`, as translated. -/
def dataBody : US :=
  (.seq (.setLoc "var_name" (.dataIdx 0)) (.seq (.setLoc "var_value" (.dataIdx 1))
    (.ite (.inFreeVars (.dataIdx 0))
      (.seq (.setVar (.loc "var_name") (.loc "var_value"))
        (.ite (.inOps (.loc "var_name")) (.unsupported "self.online_operator_dict[var_name].sample = var_value") .skip))
      .skip)))

/-- The statements of `update` between `set_variable_to_ast_from_dataset(dataset)` and the bookkeeping, as translated. -/
def midBody : US :=
  (.seq (.setLoc "rob" .visitAst) (.seq (.setLoc "rob" (.lastOf "rob"))
    (.seq (.opaque "self.ast.results = self.updateVisitor.results")
      (.seq (.opaque "out = self.ast.var_object_dict[self.ast.out_var]")
        (.ite .outVarField (.unsupported "setattr(out, self.ast.out_var_field, rob)") .skip)))))

/-- `update`: the check, the data set, the assertions, the bookkeeping — the bookkeeping being, term for term, the fragment
    `Gen.Clock.online_tick` that `gen_clock_tick` is about. -/
theorem interp_update_shape :
    Gen.GlueUpd.interp_update =
      { params := ["timestamp", "dataset"],
        body := .seq (.opaque "self.exist_ast()") (.seq (.forData "dataset" dataBody)
          (.seq (.setLoc "rob" .visitAst) (.seq (.setLoc "rob" (.lastOf "rob"))
            (.seq (.opaque "self.ast.results = self.updateVisitor.results")
              (.seq (.opaque "out = self.ast.var_object_dict[self.ast.out_var]")
                (.seq (.ite .outVarField (.unsupported "setattr(out, self.ast.out_var_field, rob)") .skip)
                  (.clock Gen.Clock.online_tick.body))))))),
        ret := some (.loc "rob") } := rfl

/-- `reset`: the reset visitor (`AbstractOnlineInterpreter.reset`, inlined), the bookkeeping (`Gen.Clock.online_reset`), the
    free variables. -/
theorem interp_reset_shape :
    Gen.GlueUpd.interp_reset =
      { params := [],
        body := .seq .resetAst (.seq (.clock Gen.Clock.online_reset.body)
          (.forFree "var_name" (.setVar (.loc "var_name") (.createVar (.loc "var_name"))))),
        ret := none } := rfl

theorem interp_set_vars_shape :
    Gen.GlueUpd.interp_set_variable_to_ast_from_dataset =
      { params := ["dataset"], body := .forData "dataset" dataBody, ret := none } := rfl

/-- No operator object is registered under the name of a variable (variables and constants have none: `initStore`; an
    update only re-binds operator nodes, `updateSpecs_props`). -/
def NoVarKeys (ops : Rtamt.Store α) : Prop := ∀ x, ops.lookup (.var x) = none

omit [Val α] in
theorem NoVarKeys.of_eq {a b : Rtamt.Store α} (h : StoreEq a b) (hb : NoVarKeys b) : NoVarKeys a :=
  fun x => (h (.var x)).trans (hb x)

/-- One iteration of `for data in dataset:`. -/
def dataStep (p : UEnv α × USt α) (r : String × α) : Except PyErr (UEnv α × USt α) :=
  execUS dataBody { p.1 with data := some r } p.2

theorem dataStep_eq (env : UEnv α) (st : USt α) (x : String) (v : α) (hnv : st.g.ops.lookup (.var x) = none) :
    dataStep (env, st) (x, v) =
      .ok ({ env with data := some (x, v),
                      loc := uSet "var_value" (.num v) (uSet "var_name" (.str x) env.loc) },
           { st with vod := if env.free.contains x then vodSet st.vod x v else st.vod }) := by
  unfold dataStep dataBody
  have h1 : uGet "var_name" (uSet "var_value" (UV.num v) (uSet "var_name" (UV.str x) env.loc)) = .ok (UV.str x) := by
    rw [uGet_uSet_ne _ _ _ _ (by decide), uGet_uSet_same]
  simp only [execUS, evalUE, bind, Except.bind, pure, Except.pure]
  cases hf : env.free.contains x with
  | false => rfl
  | true =>
    simp only [h1, uGet_uSet_same, hnv, Option.isSome_none]
    rfl

omit [Val α] [DecidableEq α] in
theorem applyRows_cons (free : List String) (vod : String → α) (x : String) (v : α) (rest : List (String × α)) :
    applyRows free vod ((x, v) :: rest) = applyRows free (if free.contains x then vodSet vod x v else vod) rest := rfl

theorem forData_loop (ds : List (String × α)) : ∀ (env : UEnv α) (st : USt α), NoVarKeys st.g.ops →
    ∃ env', ds.foldlM dataStep (env, st) = .ok (env', { st with vod := applyRows env.free st.vod ds }) ∧
      env'.vast = env.vast ∧ env'.cloc = env.cloc := by
  induction ds with
  | nil => intro env st _; exact ⟨env, rfl, rfl, rfl⟩
  | cons d ds ih =>
    intro env st hnv
    obtain ⟨x, v⟩ := d
    rw [List.foldlM_cons, dataStep_eq env st x v (hnv x), applyRows_cons]
    exact ih { env with data := some (x, v), loc := uSet "var_value" (.num v) (uSet "var_name" (.str x) env.loc) }
      { st with vod := if env.free.contains x then vodSet st.vod x v else st.vod } hnv

theorem x_forData (it : String) (env : UEnv α) (st : USt α) (d : List (String × α))
    (h : env.datasets.lookup it = some d) :
    execUS (.forData it dataBody) env st = d.foldlM dataStep (env, st) := by
  simp only [execUS, h]
  rfl

omit [DecidableEq α] in
/-- The fragment of `update`, run on the attributes `clockStore c k` with the locals of the call. -/
theorem clock_tick_exec (c : SamplingCfg) (k : Clock) (ts : Rat) :
    ∃ loc', exec (α := α) Gen.Clock.online_tick.body
        ⟨clockStore c k, [("timestamp", V.rat ts), ("$unit", V.str (unitStr c.unit))]⟩
      = .ok ⟨clockStore c (k.tick c ts), loc'⟩ := by
  have h := gen_clock_tick (α := α) c k ts
  change (exec Gen.Clock.online_tick.body ⟨clockStore c k, [("timestamp", V.rat ts), ("$unit", V.str (unitStr c.unit))]⟩
    >>= fun env => pure (env.self, V.none)) = _ at h
  obtain ⟨⟨s, l⟩, he, h⟩ := Exc.bind_eq_ok.1 h
  cases h
  exact ⟨l, he⟩

omit [DecidableEq α] in
theorem clock_reset_exec (c : SamplingCfg) (k : Clock) (loc : Rtamt.Py.Store α) :
    ∃ loc', exec (α := α) Gen.Clock.online_reset.body ⟨clockStore c k, loc⟩ = .ok ⟨clockStore c k.reset, loc'⟩ := by
  refine ⟨loc, ?_⟩
  py_simp [Gen.Clock.online_reset, clockStore, Clock.reset]

/-- The translated `update(timestamp, dataset)` in closed form: the data set is written to `var_object_dict`, `visitAst` of
    the (translated) update visitor runs on it, `rob[len(rob) - 1]` is returned (`IndexError` without assertions), the
    bookkeeping ticks. -/
theorem updateGU_eq (c : SamplingCfg) (free : List String) (specs : List (F α)) (ts : Rat) (d : List (String × α))
    (st : USt α) (k : Clock) (hclk : st.clk = clockStore c k) (hnv : NoVarKeys st.g.ops) :
    updateGU (unitStr c.unit) free specs ts d st =
      match updateSpecsG (applyRows free st.vod d) specs st.g with
      | .error e => .error e
      | .ok (l, g2) =>
        match l[l.length - 1]? with
        | none => .error .index
        | some none => .error .type
        | some (some rob) =>
            .ok (rob, { g := g2, vod := applyRows free st.vod d, clk := clockStore c (k.tick c ts) }) := by
  unfold updateGU callU
  rw [interp_update_shape]
  simp only [bindArgs, envOf, Exc.ok_bind, x_seq, x_opaque]
  rw [x_forData "dataset" _ _ d rfl]
  obtain ⟨env', h1, h3, h4⟩ := forData_loop d
    ({ vast := some (fun vars g => updateSpecsG vars specs g), rast := some (resetSpecsG specs), free := free,
       unit := unitStr c.unit, datasets := [] ++ [("dataset", d)],
       cloc := ([] ++ [("timestamp", V.rat ts)]) ++ [("$unit", V.str (unitStr c.unit))] } : UEnv α) st hnv
  rw [h1]
  simp only [Exc.ok_bind]
  simp only [execUS, evalUE, h3, bind, Except.bind, pure, Except.pure]
  cases hu : updateSpecsG (applyRows free st.vod d) specs st.g with
  | error e => rfl
  | ok q =>
    obtain ⟨l, g2⟩ := q
    simp only [uGet_uSet_same]
    cases hl : l[l.length - 1]? with
    | none => rfl
    | some ov =>
      obtain ⟨loc', hx⟩ := clock_tick_exec (α := α) c k ts
      have hc : env'.cloc = [("timestamp", V.rat ts), ("$unit", V.str (unitStr c.unit))] := h4
      simp only [hc, hclk, hx, uGet_uSet_same]
      cases ov with
      | none => rfl
      | some rob => rfl

/-- One `update()` of the mirror: one value per assertion; no operator object appears under a variable name. -/
theorem updateSpecs_props {env : String → α} {specs : List (F α)} {ops ops' : Rtamt.Store α} {vs : List α} {memo : Memo α}
    (h : updateSpecs env specs ops = .ok (vs, memo, ops')) :
    vs.length = specs.length ∧ (NoVarKeys ops → NoVarKeys ops') := by
  rw [updateSpecs] at h
  rcases (C09.visitSpecs_rel env specs (ops, []) ops (.refl _) fun ψ hψ => absurd rfl hψ).inv with
    ⟨e, -, hm⟩ | ⟨⟨vs', st', mm⟩, ⟨_, o2, m2⟩, hk, hm, rfl, h2, -⟩ <;> rw [hm] at h <;> cases h
  obtain ⟨k1, k2⟩ := Keyed.roundK_frame (step := stepNode) (C09.leafD env) specs ops (_, mm, st')
    (by rw [Keyed.roundK_eq, hk]; rfl)
  exact ⟨k1, fun hnv x => ((h2 _).symm.trans (k2 _ (Keyed.not_inSpecs_var specs x))).trans (hnv x)⟩

/-- The state of the translated interpreter and the monitor of the mirror agree: the operator dictionaries bind the same
    state to every key, `var_object_dict` is the valuation, the attributes of the bookkeeping are those of the clock. -/
def StAgree (c : SamplingCfg) (st : USt α) (p : Prog α) : Prop :=
  StoreEq st.g.ops p.ops ∧ st.vod = p.vod ∧ st.clk = clockStore c p.clock

/-- Outcome of one `update`: the value returned, the memo of the round, the states; or the same exception. -/
def UpdAgree (c : SamplingCfg) : Except PyErr (α × USt α) → Except PyErr (α × Memo α × Prog α) → Prop
  | .ok (rob, st'), .ok (rob', memo, p') => rob = rob' ∧ st'.g.updated = memo ∧ StAgree c st' p'
  | .error e, .error e' => e = e'
  | _, _ => False

omit [Val α] in
theorem UpdAgree.rel {c : SamplingCfg} {g : Except PyErr (α × USt α)} {m : Except PyErr (α × Memo α × Prog α)}
    (h : UpdAgree c g m) : Exc.Rel (fun a b => UpdAgree c (.ok a) (.ok b)) g m := by
  cases g <;> cases m <;> exact h

omit [Val α] [DecidableEq α] in
theorem last_map_some (vs : List α) : (vs.map some)[(vs.map some).length - 1]? = (vs[vs.length - 1]?).map some := by
  rw [List.length_map, List.getElem?_map]

/-- One translated `update(timestamp, dataset)` is `Prog.update` of the mirror: the rows of the data set that name a free
    variable are written to the valuation (later rows win, every other variable keeps its previous value), `updateSpecs` runs
    on that valuation, the value of the last assertion is returned (`IndexError` if there is none), then `Clock.tick`.
    The same exception otherwise. -/
theorem genGlue_update (c : SamplingCfg) (free : List String) (specs : List (F α)) (ts : Rat) (d : List (String × α))
    (st : USt α) (p : Prog α) (h : StAgree c st p) (hnv : NoVarKeys p.ops) :
    UpdAgree c (updateGU (unitStr c.unit) free specs ts d st) (p.update c free specs ts d) := by
  obtain ⟨heq, hvod, hclk⟩ := h
  rw [updateGU_eq c free specs ts d st p.clock hclk (NoVarKeys.of_eq heq hnv)]
  unfold Prog.update
  rw [← hvod]
  rcases Exc.Rel.inv (genGlue_round (applyRows free st.vod d) specs st.g p.ops heq).rel with
    ⟨e, hg, hm⟩ | ⟨⟨l, g2⟩, ⟨vs, memo, ops'⟩, hg, hm, rfl, h2, h3⟩ <;> rw [hg, hm]
  · exact rfl
  simp only [last_map_some]
  cases hl : vs[vs.length - 1]? with
  | none => exact (rfl : PyErr.index = PyErr.index)
  | some rob => exact ⟨rfl, h3, h2, rfl, rfl⟩

/-- With at least one assertion there is no `IndexError`: `update` returns the value of the LAST assertion. -/
theorem Prog.update_of_ne (c : SamplingCfg) (free : List String) (specs : List (F α)) (hs : specs ≠ []) (p : Prog α)
    (ts : Rat) (d : List (String × α)) :
    p.update c free specs ts d =
      (updateSpecs (applyRows free p.vod d) specs p.ops).map
        (fun r => (lastVal r.1, r.2.1, { ops := r.2.2, vod := applyRows free p.vod d, clock := p.clock.tick c ts })) := by
  unfold Prog.update
  cases hm : updateSpecs (applyRows free p.vod d) specs p.ops with
  | error e => rfl
  | ok q =>
    obtain ⟨vs, memo, ops'⟩ := q
    have hlen := (updateSpecs_props hm).1
    have hpos : vs.length - 1 < vs.length := by
      have : specs.length ≠ 0 := fun h => hs (List.length_eq_zero_iff.1 h)
      omega
    simp only [Except.map, lastVal, List.getElem?_eq_getElem hpos, Option.getD_some]

theorem Prog.update_ok {c : SamplingCfg} {free : List String} {specs : List (F α)} {p p' : Prog α}
    {ts : Rat} {d : List (String × α)} {rob : α} {memo : Memo α} (h : p.update c free specs ts d = .ok (rob, memo, p')) :
    ∃ vs ops', updateSpecs (applyRows free p.vod d) specs p.ops = .ok (vs, memo, ops') ∧ vs[vs.length - 1]? = some rob ∧
      p' = { ops := ops', vod := applyRows free p.vod d, clock := p.clock.tick c ts } := by
  unfold Prog.update at h
  split at h
  · cases h
  · rename_i vs memo' ops' hm
    split at h
    · cases h
    · rename_i hl; cases h; exact ⟨vs, ops', hm, hl, rfl⟩

theorem Prog.update_noVarKeys {c : SamplingCfg} {free : List String} {specs : List (F α)} {p p' : Prog α}
    {ts : Rat} {d : List (String × α)} {rob : α} {memo : Memo α} (h : p.update c free specs ts d = .ok (rob, memo, p'))
    (hnv : NoVarKeys p.ops) : NoVarKeys p'.ops := by
  obtain ⟨vs, ops', hm, -, rfl⟩ := Prog.update_ok h
  exact (updateSpecs_props hm).2 hnv

def RunAgree (c : SamplingCfg) : Except PyErr (List (α × Memo α) × USt α) → Except PyErr (List (α × Memo α) × Prog α) → Prop :=
  Exc.Rel fun a b => a.1 = b.1 ∧ StAgree c a.2 b.2

/-- A sequence of translated `update(timestamp, dataset)` calls is `Prog.run` of the mirror: per call the value of the last
    assertion and the memo of the round; the states at the end agree. -/
theorem genGlue_update_prog_run (c : SamplingCfg) (free : List String) (specs : List (F α))
    (ds : List (Rat × List (String × α))) (st : USt α) (p : Prog α) (h : StAgree c st p) (hnv : NoVarKeys p.ops) :
    RunAgree c (runGU (unitStr c.unit) free specs st ds) (Prog.run c free specs p ds) := by
  induction ds generalizing st p with
  | nil => exact ⟨rfl, h⟩
  | cons td ds ih =>
    obtain ⟨ts, d⟩ := td
    simp only [runGU, Prog.run]
    refine Exc.Rel.bind (genGlue_update c free specs ts d st p h hnv).rel
      fun ⟨rob, st'⟩ ⟨rob', memo, p'⟩ _ hm ⟨h1, h2, h3⟩ => ?_
    refine Exc.Rel.bind (ih st' p' h3 (Prog.update_noVarKeys hm hnv)) fun ⟨o, st''⟩ ⟨o', p''⟩ _ _ ⟨k1, k2⟩ => ?_
    exact ⟨by rw [h1, h2, k1], k2⟩

/-- `Prog.run` in terms of `runSpecs`: the valuations are the data sets written one over the other; per update the value of
    the last assertion and the memo. -/
theorem Prog.run_outputs (c : SamplingCfg) (free : List String) (specs : List (F α)) (hs : specs ≠ [])
    (ds : List (Rat × List (String × α))) (p : Prog α) :
    (Prog.run c free specs p ds).map Prod.fst =
      (runSpecs specs p.ops (valuations free p.vod (ds.map Prod.snd))).map
        (fun rs => rs.map (fun r => (lastVal r.1, r.2))) := by
  induction ds generalizing p with
  | nil => rfl
  | cons td ds ih =>
    obtain ⟨ts, d⟩ := td
    simp only [Prog.run, List.map_cons, valuations, runSpecs, Prog.update_of_ne c free specs hs]
    cases hm : updateSpecs (applyRows free p.vod d) specs p.ops with
    | error e => rfl
    | ok q =>
      obtain ⟨vs, memo, ops'⟩ := q
      have ih' := ih { ops := ops', vod := applyRows free p.vod d, clock := p.clock.tick c ts }
      simp only [bind, Except.bind, pure, Except.pure, Except.map] at ih' ⊢
      cases hr : Prog.run c free specs { ops := ops', vod := applyRows free p.vod d, clock := p.clock.tick c ts } ds with
      | error e =>
        rw [hr] at ih'
        cases hr2 : runSpecs specs ops' (valuations free (applyRows free p.vod d) (ds.map Prod.snd)) with
        | error e' => rw [hr2] at ih'; simp only [] at ih' ⊢; rw [Except.error.inj ih']
        | ok q2 => rw [hr2] at ih'; cases ih'
      | ok q1 =>
        obtain ⟨o, p''⟩ := q1
        rw [hr] at ih'
        cases hr2 : runSpecs specs ops' (valuations free (applyRows free p.vod d) (ds.map Prod.snd)) with
        | error e' => rw [hr2] at ih'; cases ih'
        | ok q2 =>
          rw [hr2] at ih'
          simp only [] at ih' ⊢
          rw [Except.ok.inj ih']
          rfl

theorem Prog.run_final {c : SamplingCfg} {free : List String} {specs : List (F α)}
    {ds : List (Rat × List (String × α))} {p p' : Prog α} {out : List (α × Memo α)}
    (h : Prog.run c free specs p ds = .ok (out, p')) :
    p'.clock = (ds.map Prod.fst).foldl (Clock.tick c) p.clock ∧
      p'.vod = (ds.map Prod.snd).foldl (applyRows free) p.vod ∧ out.length = ds.length := by
  induction ds generalizing p out with
  | nil => rw [Prog.run] at h; cases h; exact ⟨rfl, rfl, rfl⟩
  | cons td ds ih =>
    obtain ⟨ts, d⟩ := td
    rw [Prog.run] at h
    obtain ⟨⟨rob, memo, p1⟩, hm, h⟩ := Exc.bind_eq_ok.1 h
    obtain ⟨⟨o, p2⟩, hr, h⟩ := Exc.bind_eq_ok.1 h
    cases h
    obtain ⟨k1, k2, k3⟩ := ih hr
    obtain ⟨vs, ops', -, -, rfl⟩ := Prog.update_ok hm
    exact ⟨k1, k2, by simp [k3]⟩

/-- A sequence of translated updates, stated on `runSpecs` and `Clock.tick`: with at least one assertion the values returned
    and the memos are those of `runSpecs` on the valuations `valuations free vod datasets`, the same exception otherwise; after
    a run without exception the bookkeeping is the fold of `Clock.tick` over the time stamps and `var_object_dict` the data
    sets written one over the other. -/
theorem genGlue_update_run (c : SamplingCfg) (free : List String) (specs : List (F α)) (hs : specs ≠ [])
    (ds : List (Rat × List (String × α))) (st : USt α) (p : Prog α) (h : StAgree c st p) (hnv : NoVarKeys p.ops) :
    (runGU (unitStr c.unit) free specs st ds).map Prod.fst =
        (runSpecs specs p.ops (valuations free p.vod (ds.map Prod.snd))).map
          (fun rs => rs.map (fun r => (lastVal r.1, r.2))) ∧
      ∀ out st', runGU (unitStr c.unit) free specs st ds = .ok (out, st') →
        st'.clk = clockStore c ((ds.map Prod.fst).foldl (Clock.tick c) p.clock) ∧
        st'.vod = (ds.map Prod.snd).foldl (applyRows free) p.vod := by
  rw [← Prog.run_outputs c free specs hs ds p]
  rcases Exc.Rel.inv (genGlue_update_prog_run c free specs ds st p h hnv) with
    ⟨e, hg, hm⟩ | ⟨⟨o, st1⟩, ⟨o', p'⟩, hg, hm, rfl, -, k2, k3⟩ <;> rw [hg, hm]
  · exact ⟨rfl, fun _ _ h => by cases h⟩
  · obtain ⟨f1, f2, -⟩ := Prog.run_final hm
    refine ⟨rfl, fun out st' he => ?_⟩
    cases he
    exact ⟨by rw [k3, f1], by rw [k2, f2]⟩

/-- One iteration of `for var_name in self.ast.free_vars:`. -/
def freeStep (p : UEnv α × USt α) (y : String) : Except PyErr (UEnv α × USt α) :=
  execUS (.setVar (.loc "var_name") (.createVar (.loc "var_name"))) { p.1 with loc := uSet "var_name" (.str y) p.1.loc } p.2

theorem freeStep_eq (env : UEnv α) (st : USt α) (y : String) :
    freeStep (env, st) y =
      .ok ({ env with loc := uSet "var_name" (.str y) env.loc }, { st with vod := vodSet st.vod y Val.zero }) := by
  unfold freeStep
  simp only [execUS, evalUE, uGet_uSet_same, bind, Except.bind, pure, Except.pure]

theorem forFree_loop (fs : List String) : ∀ (env : UEnv α) (st : USt α),
    ∃ env', fs.foldlM freeStep (env, st) =
      .ok (env', { st with vod := fs.foldl (fun vod y => vodSet vod y Val.zero) st.vod }) := by
  induction fs with
  | nil => intro env st; exact ⟨env, rfl⟩
  | cons y fs ih =>
    intro env st
    rw [List.foldlM_cons, freeStep_eq]
    exact ih _ _

omit [DecidableEq α] in
theorem foldl_vodSet (fs : List String) (vod : String → α) :
    fs.foldl (fun vod y => vodSet vod y Val.zero) vod = resetVars fs vod := by
  induction fs generalizing vod with
  | nil => rfl
  | cons x fs ih =>
    rw [List.foldl_cons, ih]
    funext y
    unfold resetVars vodSet
    by_cases h1 : y ∈ fs <;> by_cases h2 : y = x <;> simp [h1, h2]

theorem x_forFree (env : UEnv α) (st : USt α) :
    execUS (.forFree "var_name" (.setVar (.loc "var_name") (.createVar (.loc "var_name")))) env st
      = env.free.foldlM freeStep (env, st) := id rfl

theorem x_resetAst (env : UEnv α) (st : USt α) :
    execUS .resetAst env st =
      match env.rast with
      | some f => (f st.g >>= fun g' => pure (env, { st with g := g' }))
      | none => .error .other := id rfl

theorem x_clock (s : S) (env : UEnv α) (st : USt α) :
    execUS (.clock s) env st =
      (exec s ⟨st.clk, env.cloc⟩ >>= fun e' => pure ({ env with cloc := e'.loc }, { st with clk := e'.self })) := id rfl

/-- The translated `reset()` in closed form: the (translated) reset visitor, the bookkeeping back to its initial values,
    every free variable back to `float()`. -/
theorem resetGU_eq (c : SamplingCfg) (unit : String) (free : List String) (specs : List (F α)) (st : USt α) (k : Clock)
    (hclk : st.clk = clockStore c k) :
    resetGU unit free specs st =
      (resetSpecsG specs st.g).map (fun g' => { g := g', vod := resetVars free st.vod, clk := clockStore c k.reset }) := by
  unfold resetGU callU
  rw [interp_reset_shape]
  simp only [bindArgs, envOf, Exc.ok_bind, x_seq, x_resetAst]
  cases hr : resetSpecsG specs st.g with
  | error e => rfl
  | ok g' =>
    obtain ⟨loc', hx⟩ := clock_reset_exec (α := α) c k ([] ++ [("$unit", V.str unit)])
    simp only [Exc.ok_bind, pure, Except.pure, x_clock, hclk, hx, x_forFree]
    rw [(forFree_loop free _ _).choose_spec]
    simp only [Exc.ok_bind, foldl_vodSet, Except.map]

def ResetAgreeW (c : SamplingCfg) : Except PyErr (USt α) → Except PyErr (Prog α) → Prop
  | .ok st', .ok p' => StAgree c st' p'
  | .error e, .error e' => e = e'
  | _, _ => False

/-- The translated `reset()` is `Prog.reset` of the mirror: `resetSpecs` on the operator dictionary, `Clock.reset`, every
    free variable back to its initial value (all other entries of `var_object_dict` stay); the same exception otherwise
    (`KeyError` of the reset visitor: nothing else is reset then). -/
theorem genGlue_reset_whole (c : SamplingCfg) (unit : String) (free : List String) (specs : List (F α)) (st : USt α)
    (p : Prog α) (h : StAgree c st p) :
    ResetAgreeW c (resetGU unit free specs st) (p.reset free specs) := by
  obtain ⟨heq, hvod, hclk⟩ := h
  rw [resetGU_eq c unit free specs st p.clock hclk]
  unfold Prog.reset
  rcases Exc.Rel.inv (genGlue_resetSpecs specs st.g p.ops heq).rel with ⟨e, hg, hm⟩ | ⟨g', o, hg, hm, hr⟩ <;> rw [hg, hm]
  · exact rfl
  · exact ⟨hr, by rw [← hvod], rfl⟩

/-- After `reset()` the bookkeeping is that of a fresh monitor and every free variable reads `0.0`. -/
theorem genGlue_reset_whole_init (c : SamplingCfg) (unit : String) (free : List String) (specs : List (F α)) (st st' : USt α)
    (k : Clock) (hclk : st.clk = clockStore c k) (h : resetGU unit free specs st = .ok st') :
    st'.clk = clockStore c {} ∧ (∀ x ∈ free, st'.vod x = Val.zero) ∧ (∀ x, x ∉ free → st'.vod x = st.vod x) := by
  rw [resetGU_eq c unit free specs st k hclk] at h
  cases hr : resetSpecsG specs st.g with
  | error e => rw [hr] at h; cases h
  | ok g' =>
    rw [hr] at h
    cases h
    refine ⟨rfl, fun x hx => ?_, fun x hx => ?_⟩
    · show resetVars free st.vod x = _
      simp [resetVars, hx]
    · show resetVars free st.vod x = _
      simp [resetVars, hx]

theorem genGlue_set_vars (unit : String) (free : List String) (specs : List (F α)) (d : List (String × α)) (st : USt α)
    (hnv : NoVarKeys st.g.ops) :
    setVarsGU unit free specs d st = .ok { st with vod := applyRows free st.vod d } := by
  unfold setVarsGU callU
  rw [interp_set_vars_shape]
  simp only [bindArgs, envOf, Exc.ok_bind]
  rw [x_forData "dataset" _ _ d rfl]
  obtain ⟨env', h1, -⟩ := forData_loop d
    ({ vast := some (fun vars g => updateSpecsG vars specs g), rast := some (resetSpecsG specs), free := free,
       unit := unit, datasets := [] ++ [("dataset", d)], cloc := [] ++ [("$unit", V.str unit)] } : UEnv α) st hnv
  rw [h1]
  rfl

omit [Val α] in
/-- The last statement of a construction visit re-binds the node itself, if anything. -/
theorem init_tail {χ : F α} (hk : ∀ x, χ ≠ .var x) {b : Bool} {s0 : St α} {st1 st' : Rtamt.Store α}
    (e : (if b then pure (st1.set χ s0) else pure st1 : Except PyErr (Rtamt.Store α)) = .ok st') (x : String) :
    st'.lookup (F.var x) = st1.lookup (F.var x) := by
  split at e <;> cases e
  · exact C09.lookup_set_ne (fun e => hk x e.symm) _ _
  · rfl

/-- `set_ast` registers operator objects under operator nodes only. -/
theorem initStoreF_var (h r : Kind → Bool) (φ : F α) :
    ∀ st st' : Rtamt.Store α, initStoreF h r φ st = .ok st' → ∀ x, st'.lookup (F.var x) = st.lookup (F.var x) := by
  induction φ using Dense.C09Dense.nodeInduction with
  | var y => intro st st' e x; rw [initStoreF] at e; split at e <;> cases e; rfl
  | const c => intro st st' e x; rw [initStoreF] at e; cases e; rfl
  | @n1 χ φ hn ih =>
    intro st st' e x
    rw [hn.initStoreF] at e
    cases hr : r χ.kind with
    | true => rw [hr] at e; cases e
    | false =>
      rw [hr] at e
      obtain ⟨st1, h1, e⟩ := Exc.bind_eq_ok.1 e
      exact (init_tail (fun _ => by cases hn <;> nofun) e x).trans (ih _ _ h1 x)
  | @n2 χ φ ψ hn ih1 ih2 =>
    intro st st' e x
    rw [hn.initStoreF] at e
    cases hr : r χ.kind with
    | true => rw [hr] at e; cases e
    | false =>
      rw [hr] at e
      obtain ⟨st1, h1, e⟩ := Exc.bind_eq_ok.1 e
      obtain ⟨st2, h2, e⟩ := Exc.bind_eq_ok.1 e
      exact (init_tail (fun _ => by cases hn <;> nofun) e x).trans ((ih2 _ _ h2 x).trans (ih1 _ _ h1 x))

theorem noVarKeys_init (h r : Kind → Bool) (specs : List (F α)) : ∀ st st' : Rtamt.Store α,
    initStore h r specs st = .ok st' → NoVarKeys st → NoVarKeys st' := by
  induction specs with
  | nil => intro st st' e hnv; rw [initStore] at e; cases e; exact hnv
  | cons φ rest ih =>
    intro st st' e hnv
    rw [initStore] at e
    obtain ⟨st1, h1, e⟩ := Exc.bind_eq_ok.1 e
    exact ih st1 st' e (fun x => (initStoreF_var h r φ st st1 h1 x).trans (hnv x))

/-- A fresh monitor (the dictionary of `set_ast`, the bookkeeping at its initial values, whatever memo and `results` the
    visitor holds) fed a sequence of `update(timestamp, dataset)` calls through the translated methods: `runProgram` of the
    mirror on the valuations, per call the value of the last assertion and the memo; afterwards the violation counter is
    `onlineCounter` of the time stamps. -/
theorem genGlue_update_program (c : SamplingCfg) (free : List String) (specs : List (F α)) (hs : specs ≠ [])
    (h r : Kind → Bool) (ds : List (Rat × List (String × α))) (o : Rtamt.Store α) (updated results : Memo α)
    (vod : String → α) (hi : initStore h r specs [] = .ok o) :
    (runGU (unitStr c.unit) free specs
        { g := { ops := o, updated := updated, results := results }, vod := vod, clk := clockStore c {} } ds).map Prod.fst =
      (runProgram h r specs (valuations free vod (ds.map Prod.snd))).map
        (fun rs => rs.map (fun r => (lastVal r.1, r.2))) ∧
    ∀ out st', runGU (unitStr c.unit) free specs
        { g := { ops := o, updated := updated, results := results }, vod := vod, clk := clockStore c {} } ds = .ok (out, st') →
      ∃ k : Clock, st'.clk = clockStore c k ∧ k.viol = onlineCounter c (ds.map Prod.fst) := by
  have hnv : NoVarKeys o := noVarKeys_init h r specs [] o hi (fun _ => rfl)
  obtain ⟨h1, h2⟩ := genGlue_update_run c free specs hs ds
    { g := { ops := o, updated := updated, results := results }, vod := vod, clk := clockStore c {} }
    { ops := o, vod := vod, clock := {} } ⟨StoreEq.refl _, rfl, rfl⟩ hnv
  refine ⟨?_, fun out st' he => ⟨_, (h2 out st' he).1, rfl⟩⟩
  rw [h1]
  unfold runProgram
  rw [hi]
  rfl

/-- Nothing in the translated methods is outside the translated subset, except
    * `self.online_operator_dict[var_name].sample = var_value` under `if var_name in self.online_operator_dict:` in
      `set_variable_to_ast_from_dataset` (no operator object is registered under a variable name, `NoVarKeys`),
    * `setattr(out, self.ast.out_var_field, rob)` under `if self.ast.out_var_field:` (empty for a float-typed output). -/
theorem genGlueUpd_supported :
    Gen.GlueUpd.methods.map (fun p => (p.1, p.2.unsup)) =
      [("interp_update",
         ["self.online_operator_dict[var_name].sample = var_value", "setattr(out, self.ast.out_var_field, rob)"]),
       ("interp_reset", []),
       ("interp_set_variable_to_ast_from_dataset", ["self.online_operator_dict[var_name].sample = var_value"])] := by
  rfl

/-- The statements kept as named steps without effect on the model's state (all others are translated or `unsupported`):
    the check that a specification has been parsed, the alias `ast.results` of the visitor's `results`, the read of the
    output variable's object. -/
theorem genGlueUpd_opaque :
    Gen.GlueUpd.methods.map (fun p => (p.1, p.2.body.opaques)) =
      [("interp_update",
         ["self.exist_ast()", "self.ast.results = self.updateVisitor.results",
          "out = self.ast.var_object_dict[self.ast.out_var]"]),
       ("interp_reset", []), ("interp_set_variable_to_ast_from_dataset", [])] := by
  rfl

/-- The fragments of the sampling bookkeeping are, term for term, the fragments `RtamtProofs/GenClock.lean` is about, and lie
    inside the subset of `Sem.lean`; the two visitors are instances of the classes `GeneratedGlue.lean` translates. -/
theorem genGlueUpd_clock :
    Gen.GlueUpd.interp_update.body.clocks = [Gen.Clock.online_tick.body] ∧
    Gen.GlueUpd.interp_reset.body.clocks = [Gen.Clock.online_reset.body] ∧
    Gen.GlueUpd.interp_set_variable_to_ast_from_dataset.body.clocks = [] ∧
    (Gen.GlueUpd.methods.all fun p => p.2.body.clocks.all S.supported) = true ∧
    Gen.GlueUpd.visitors =
      [("updateVisitor", "DiscreteTimeOnlineUpdateVisitor"), ("resetVisitor", "AbstractOnlineResetVisitor")] :=
  ⟨rfl, rfl, rfl, rfl, rfl⟩

namespace Example

/-- Three values `-inf < 0 < +inf`. -/
local instance : Val (Fin 3) where
  lt a b := decide (a < b)
  neg a := Fin.rev a
  abs a := if a < 1 then Fin.rev a else a
  add a _ := a
  sub a b := if a < b then 0 else if b < a then 2 else 1
  mul a _ := a
  div a _ := a
  pinf := 2
  ninf := 0
  zero := 1
  sqrt a := a
  exp a := a
  ln a := a
  pow a _ := a
  log a _ := a

local instance exceptDecEq {ε β : Type} [DecidableEq ε] [DecidableEq β] : DecidableEq (Except ε β)
  | .ok a, .ok b => if h : a = b then isTrue (by rw [h]) else isFalse (fun h' => h (Except.ok.inj h'))
  | .error a, .error b => if h : a = b then isTrue (by rw [h]) else isFalse (fun h' => h (Except.error.inj h'))
  | .ok _, .error _ => isFalse (fun h => by cases h)
  | .error _, .ok _ => isFalse (fun h => by cases h)

/-- Sampling period 1 s, tolerance 10 %, time stamps in seconds. -/
def cfg : SamplingCfg := { period := 1, periodUnit := .s, tol := 1 / 10, unit := .s }

/-- A monitor before its first update: the dictionary `o`, every variable at `float()`. -/
def fresh (o : Rtamt.Store (Fin 3)) : USt (Fin 3) :=
  { g := { ops := o, updated := [], results := [] }, vod := fun _ => Val.zero, clk := clockStore cfg {} }

def freshP (o : Rtamt.Store (Fin 3)) : Prog (Fin 3) := { ops := o, vod := fun _ => Val.zero, clock := {} }

/-- What is observable of a run: the values returned, `var_object_dict["x"]` and the violation counter at the end. -/
def obsG (r : Except PyErr (List (Fin 3 × Memo (Fin 3)) × USt (Fin 3))) : Except PyErr (List (Fin 3) × Fin 3 × Option Int) :=
  r.map fun q => (q.1.map Prod.fst, q.2.vod "x",
    match getKey "sampling_violation_counter" q.2.clk with | .ok (V.int n) => some n | _ => none)

def obsP (r : Except PyErr (List (Fin 3 × Memo (Fin 3)) × Prog (Fin 3))) : Except PyErr (List (Fin 3) × Fin 3 × Option Int) :=
  r.map fun q => (q.1.map Prod.fst, q.2.vod "x", some (q.2.clock.viol : Int))

/-- Without assertions `rob[len(rob) - 1]` raises `IndexError` — in the translated `update` and in `Prog.update` alike;
    hence `specs ≠ []` in `Prog.update_of_ne` / `genGlue_update_run`. -/
example : (updateGU "s" ["x"] ([] : List (F (Fin 3))) 0 [("x", 2)] (fresh [])).map Prod.fst = .error .index := by
  decide +kernel
example : ((freshP []).update cfg ["x"] ([] : List (F (Fin 3))) 0 [("x", 2)]).map Prod.fst = .error .index := by
  decide +kernel

/-- An operator object registered under the name of a free variable (`NoVarKeys` fails): the translated `update` reaches
    `self.online_operator_dict[var_name].sample = var_value`, which is outside the translated subset, while `Prog.update`
    returns the value of `x`. -/
example : (updateGU "s" ["x"] [F.var "x"] 0 [("x", (2 : Fin 3))] (fresh [(.var "x", .unit)])).map Prod.fst = .error .other := by
  decide +kernel
example : ((freshP [(.var "x", .unit)]).update cfg ["x"] [F.var "x"] 0 [("x", (2 : Fin 3))]).map Prod.fst = .ok 2 := by
  decide +kernel

/-- Assertions that share `once(x)`, the last one `-x`; `y` is not a free variable; the second update leaves `x` out (it keeps
    the value `2`: `-x` is `0` again, not `-float()`), the third comes 3 s after the second (one sampling violation), the fourth has two rows for `x` (the later wins). -/
def exSpecs : List (F (Fin 3)) :=
  [.tmp1 .once (.var "x"), .un .negate (.tmp1 .once (.var "x")), .un .negate (.var "x")]

def exData : List (Rat × List (String × Fin 3)) :=
  [(0, [("x", 2), ("y", 0)]), (1, []), (4, [("x", 1)]), (5, [("x", 0), ("x", 1)])]

theorem exRun :
    (do let o ← initStore (fun _ => true) (fun _ => false) exSpecs []
        obsG (runGU "s" ["x"] exSpecs (fresh o) exData)) = .ok ([0, 0, 1, 1], 1, some 1) := by
  decide +kernel

example :
    (do let o ← initStore (fun _ => true) (fun _ => false) exSpecs []
        obsG (runGU "s" ["x"] exSpecs (fresh o) exData)) = .ok ([0, 0, 1, 1], 1, some 1) := exRun

example :
    (do let o ← initStore (fun _ => true) (fun _ => false) exSpecs []
        obsG (runGU "s" ["x"] exSpecs (fresh o) exData)) =
    (do let o ← initStore (fun _ => true) (fun _ => false) exSpecs []
        obsP (Prog.run cfg ["x"] exSpecs (freshP o) exData)) :=
  exRun.trans (Eq.symm (by decide +kernel))

/-- `reset()` after that run: the counter is `0` again and `x` reads `float()`. -/
example :
    (do let o ← initStore (fun _ => true) (fun _ => false) exSpecs []
        let (_, st) ← runGU "s" ["x"] exSpecs (fresh o) exData
        let st' ← resetGU "s" ["x"] exSpecs st
        obsG (.ok ([], st'))) = .ok ([], 1, some 0) := by
  decide +kernel

end Example

end Rtamt.Py.GUpd

#print axioms Rtamt.Py.GUpd.genGlue_update
#print axioms Rtamt.Py.GUpd.genGlue_update_prog_run
#print axioms Rtamt.Py.GUpd.genGlue_update_run
#print axioms Rtamt.Py.GUpd.genGlue_update_program
#print axioms Rtamt.Py.GUpd.genGlue_reset_whole
#print axioms Rtamt.Py.GUpd.genGlue_reset_whole_init
#print axioms Rtamt.Py.GUpd.genGlue_set_vars
#print axioms Rtamt.Py.GUpd.genGlueUpd_supported
#print axioms Rtamt.Py.GUpd.genGlueUpd_opaque
#print axioms Rtamt.Py.GUpd.genGlueUpd_clock
