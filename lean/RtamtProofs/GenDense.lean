/-
  The dense-time offline visitor translated from the source (`Rtamt/Py/GeneratedDense.lean`, run by `evalAlgG` of
  `Rtamt/Py/RunDn.lean` under the semantics of `Rtamt/Py/Dn.lean`) computes what the hand-written mirror `evalAlg`
  (`Rtamt/Dense/Alg.lean`) computes - values and exceptions - for every formula, every signal environment and every large
  enough fuel.

  (a) `GenScan.gen_visitSince`, `gen_visitUntil` (the two methods through `callD`), then `gen_since_timed`,
      `gen_until_timed`: the two module-level functions that call the others;
  (b) `genD_eval`: the whole visitor, by induction on the formula, including the predicate node as the interface-aware
      robustness visitors evaluate it (`.bin (.predSat _)`: `visitPredicate_outRob`, `GenDenseIA`); its hypothesis
      `denseSupported` holds of every formula (`F.denseSupported_all`, whence `genD_eval_all`);
  (c) `genD_supported`: no `unsupported` construct occurs in the code `genD_eval` runs.

  The parts are proved in `GenDenseInter` (`intersection`, the methods handed to it, `and_operation`,
  `subtraction_operation`), `GenDenseStack` (the segment stack of the four bounded operators, once for both directions),
  `GenDenseFwd` (`once_timed_operation`, `historically_timed_operation`), `GenDenseBack` (`always_timed_operation`,
  `eventually_timed_operation`), `GenDenseEmit` (the output statement the forward loops end an iteration with),
  `GenDenseScan` (the unbounded temporal operators), `GenDenseUn` (the visit methods) and `GenDenseIA` (the
  interface-aware `visitPredicate`), each as a statement about the body of the function in the judgments of
  `GenDenseLogic` (`Runs`, `Rets`), from which the call follows.
-/
import RtamtProofs.GenDenseInter
import RtamtProofs.GenDenseFwd
import RtamtProofs.GenDenseBack
import RtamtProofs.GenDenseScan
import RtamtProofs.GenDenseUn
import RtamtProofs.GenDenseIA
import RtamtProofs.Lemmas.VisitName

set_option linter.unusedSectionVars false

namespace Rtamt.Py.Dn
open Rtamt Val Rtamt.Dense Rtamt.Dense.Alg

variable {α : Type} [Val α]

namespace GenScan

/-- `depth = 6 = 3 + 3`. -/
theorem gen_visitSince (fuel : Nat) (hI : InterSpec α fuel 3) (l r : ASig α) (h : l.length + r.length + 4 ≤ fuel) :
    callD fuel Gen.Dense.visitSince [l, r] none [] = sinceOp l r :=
  gen_visitSince_of fuel l r (gen_since_operation' fuel 3 hI l r h)

theorem gen_visitUntil (fuel : Nat) (hI : InterSpec α fuel 3) (l r : ASig α) (h : l.length + r.length + 4 ≤ fuel) :
    callD fuel Gen.Dense.visitUntil [l, r] none [] = untilOp l r :=
  gen_visitUntil_of fuel l r (gen_until_operation' fuel 3 hI l r h)

end GenScan

namespace GenD

@[simp] theorem exMap_ok {ε σ ρ : Type} (a : σ) (f : σ → ρ) : Except.map f (Except.ok a : Except ε σ) = .ok (f a) := rfl
@[simp] theorem exMap_error {ε σ ρ : Type} (e : ε) (f : σ → ρ) : Except.map f (Except.error e : Except ε σ) = .error e := rfl

def outLen (x : Except PyErr (ASig α)) : Nat :=
  match x with
  | .ok o => o.length
  | .error _ => 0

@[simp] theorem outLen_ok (o : ASig α) : outLen (.ok o) = o.length := rfl

theorem outLen_le {x : Except PyErr (ASig α)} {n : Nat} (h : ∀ o, x = .ok o → o.length ≤ n) : outLen x ≤ n := by
  cases x with
  | error e => exact Nat.zero_le n
  | ok o => exact h o rfl

end GenD

open GenD

/-! ### (a) `since_timed_operation` / `until_timed_operation`

  The fuel has to cover the loops of the callees, which run over the intermediate lists `out1`, `out2`, `out3`: the bound is
  stated through the mirror's intermediate results (`outLen`: the length of the list, 0 when the mirror raises).
  `historically_timed_operation(out2, 0, begin)` / `always_timed_operation(out2, 0, begin)` receive the INTEGER literal
  `0` (`DV.int 0`) as `begin`: `gen_hist_timed_int0` / `gen_alw_timed_int0`. -/

/-- fuel for `since_timed_operation(l, r, a, b)` -/
def Gst (l r : ASig α) (a b : Rat) : Nat :=
  l.length + r.length + outLen (onceTimed r a b) + outLen (sinceOp l r) +
    outLen (do let o ← sinceOp l r; histTimed o 0 a) + 4

/-- fuel for `until_timed_operation(l, r, a, b)` -/
def Gut (l r : ASig α) (a b : Rat) : Nat :=
  l.length + r.length + outLen (evTimed r a b) + outLen (untilOp l r) +
    outLen (do let o ← untilOp l r; alwTimed o 0 a) + 4

/-- `since_timed_operation` and `until_timed_operation` are the same text up to the names of three callees: the bounded
    operator `n1` on the right operand, the unbounded binary operator `n2`, and the dual bounded operator `n3` on
    `[0, begin]`, which is skipped when `begin` is 0. -/
def timed2Body (n1 n2 n3 : String) : S :=
  .seq (.ite (.bin .gt (.loc "begin") (.int 0))
      (.seq (.setLoc "out1" (.call3 n1 (.loc "sample_right") (.loc "begin") (.loc "end")))
        (.seq (.setLoc "out2" (.call2 n2 (.loc "sample_left") (.loc "sample_right")))
          (.seq (.setLoc "out3" (.call3 n3 (.loc "out2") (.int 0) (.loc "begin")))
            (.setLoc "sample_return" (.call2 "and_operation" (.loc "out1") (.loc "out3"))))))
      (.seq (.setLoc "out1" (.call3 n1 (.loc "sample_right") (.loc "begin") (.loc "end")))
        (.seq (.setLoc "out2" (.call2 n2 (.loc "sample_left") (.loc "sample_right")))
          (.setLoc "sample_return" (.call2 "and_operation" (.loc "out1") (.loc "out2"))))))
    (.ret (.loc "sample_return"))

theorem run_timed2 (call : Call α) (fuel : Nat) (n1 n2 n3 : String) (g : Fn)
    (hg : g.params = ["sample_left", "sample_right", "begin", "end"]) (hb : g.body = timed2Body n1 n2 n3)
    (l r : ASig α) (a b : Rat) (T1 T2 : Except PyErr (ASig α)) (T3 : ASig α → Except PyErr (ASig α))
    (c1 : call n1 [encSig r, .tm (.fin a), .tm (.fin b)] = T1.map encSig)
    (c2 : call n2 [encSig l, encSig r] = T2.map encSig)
    (c3 : ∀ o2, T2 = .ok o2 → call n3 [encSig o2, .int 0, .tm (.fin a)] = (T3 o2).map encSig)
    (c4 : ∀ o1 o, T1 = .ok o1 → (if 0 < a then T2 >>= T3 else T2) = .ok o →
      call "and_operation" [encSig o1, encSig o] = (andOp o1 o).map encSig) :
    runFn call fuel g [encSig l, encSig r, .tm (.fin a), .tm (.fin b)] =
      (do let o1 ← T1
          let o2 ← T2
          if decide (0 < a) then (do let o3 ← T3 o2; andOp o1 o3) else andOp o1 o2).map encSig := by
  refine runFn_of_rets (by rw [hg]; rfl) ?_
  rw [hg, hb]
  generalize henv : (["sample_left", "sample_right", "begin", "end"].zip
    [encSig l, encSig r, .tm (.fin a), .tm (.fin b)] : Env α) = env0
  have hn0 : NoFn env0 := by
    subst henv
    exact (((NoFn.nil.cons _ fun _ => by simp).cons _ fun _ => by simp).cons _ (encSig_ne_fn r)).cons _
      (encSig_ne_fn l)
  have gl : getLoc "sample_left" env0 = .ok (encSig l) := by subst henv; simp
  have gr : getLoc "sample_right" env0 = .ok (encSig r) := by subst henv; simp
  have gb : getLoc "begin" env0 = .ok (.tm (.fin a)) := by subst henv; simp
  have ge : getLoc "end" env0 = .ok (.tm (.fin b)) := by subst henv; simp
  have hcond : evalE call env0 (.bin .gt (.loc "begin") (.int 0)) = .ok (.bool (decide (0 < a))) := by
    simp [evalE, gb, evalBin, isCmp, cmpDV, isTimeLike, toTm, cmpTm, Tm.lt]
  refine Runs.then_ret (Q := fun o env' => getLoc "sample_return" env' = .ok (encSig o)) ?_ fun o env' h => evalE.loc h
  rw [exec.ite hcond rfl]
  have e1 : evalE call env0 (.call3 n1 (.loc "sample_right") (.loc "begin") (.loc "end")) = T1.map encSig := by
    simp [evalE, gr, gb, ge, hn0.resolve, c1]
  -- the first two assignments are common to both branches
  have pre : ∀ (rest : S) (k : ASig α → ASig α → Except PyErr (ASig α)),
      (∀ o1 o2, T1 = .ok o1 → T2 = .ok o2 → NoFn (setLoc "out2" (encSig o2) (setLoc "out1" (encSig o1) env0)) →
        Runs (exec call fuel rest (setLoc "out2" (encSig o2) (setLoc "out1" (encSig o1) env0))) (k o1 o2)
          fun o env' => getLoc "sample_return" env' = .ok (encSig o)) →
      Runs (exec call fuel (.seq (.setLoc "out1" (.call3 n1 (.loc "sample_right") (.loc "begin") (.loc "end")))
          (.seq (.setLoc "out2" (.call2 n2 (.loc "sample_left") (.loc "sample_right"))) rest)) env0)
        (do let o1 ← T1; let o2 ← T2; k o1 o2) fun o env' => getLoc "sample_return" env' = .ok (encSig o) := by
    intro rest k hk
    refine Runs.seq (Runs.setLoc e1) ?_
    rintro o1 _ h1 rfl
    have hn1 := hn0.setLoc "out1" (encSig_ne_fn o1)
    refine Runs.seq (Runs.setLoc (T := T2) (enc := encSig) (by simp [evalE, gl, gr, hn1.resolve, c2])) ?_
    rintro o2 _ h2 rfl
    exact hk o1 o2 h1 h2 (hn1.setLoc "out2" (encSig_ne_fn o2))
  by_cases ha : 0 < a
  · simp only [ha, decide_true, if_true]
    refine pre _ (fun o1 o2 => do let o3 ← T3 o2; andOp o1 o3) fun o1 o2 h1 h2 hn2 => ?_
    refine Runs.seq (Runs.setLoc (T := T3 o2) (enc := encSig) (by simp [evalE, gb, hn2.resolve, c3 o2 h2])) ?_
    rintro o3 _ h3 rfl
    refine (Runs.setLoc (T := andOp o1 o3) (enc := encSig) ?_).mono (by rintro o _ - rfl; simp)
    simp [evalE, (hn2.setLoc "out3" (encSig_ne_fn o3)).resolve, c4 o1 o3 h1 (by simp [ha, h2, h3])]
  · simp only [ha, decide_false, if_false, Bool.false_eq_true]
    refine pre _ (fun o1 o2 => andOp o1 o2) fun o1 o2 h1 h2 hn2 => ?_
    refine (Runs.setLoc (T := andOp o1 o2) (enc := encSig) ?_).mono (by rintro o _ - rfl; simp)
    simp [evalE, hn2.resolve, c4 o1 o2 h1 (by simp [ha, h2])]

theorem gen_since_timed (fuel k : Nat) (l r : ASig α) (a b : Rat) (h : Gst l r a b ≤ fuel) :
    callAt Gen.Dense.fns fuel (k + 4) "since_timed_operation" [encSig l, encSig r, .tm (.fin a), .tm (.fin b)]
      = (sinceTimed l r a b).map encSig := by
  rw [callAt_fn _ _ _ _ Gen.Dense.fn_since_timed_operation _ (fns_at 27 rfl)]
  unfold Gst at h
  refine run_timed2 _ fuel "once_timed_operation" "since_operation" "historically_timed_operation" _ rfl rfl l r a b
    (onceTimed r a b) (sinceOp l r) (fun o => histTimed o 0 a)
    (gen_once_timed fuel (k + 1) r a b (by unfold Fwd.G; omega))
    (gen_since_operation' fuel k (gen_intersection fuel k) l r (by omega))
    (fun o2 h2 => gen_hist_timed_int0 fuel (k + 1) o2 a (by rw [h2] at h; simp only [outLen_ok] at h; unfold Fwd.G; omega))
    (fun o1 o h1 h2 => gen_and_operation fuel k o1 o ?_)
  rw [h1] at h
  split at h2 <;> (rw [h2] at h; simp only [outLen_ok] at h; omega)

theorem gen_until_timed (fuel k : Nat) (l r : ASig α) (a b : Rat) (h : Gut l r a b ≤ fuel) :
    callAt Gen.Dense.fns fuel (k + 4) "until_timed_operation" [encSig l, encSig r, .tm (.fin a), .tm (.fin b)]
      = (untilTimed l r a b).map encSig := by
  rw [callAt_fn _ _ _ _ Gen.Dense.fn_until_timed_operation _ (fns_at 31 rfl)]
  unfold Gut at h
  refine run_timed2 _ fuel "eventually_timed_operation" "until_operation" "always_timed_operation" _ rfl rfl l r a b
    (evTimed r a b) (untilOp l r) (fun o => alwTimed o 0 a)
    (gen_ev_timed fuel (k + 1) r a b (by omega))
    (gen_until_operation' fuel k (gen_intersection fuel k) l r (by omega))
    (fun o2 h2 => gen_alw_timed_int0 fuel (k + 1) o2 a (by rw [h2] at h; simp only [outLen_ok] at h; omega))
    (fun o1 o h1 h2 => gen_and_operation fuel k o1 o ?_)
  rw [h1] at h
  split at h2 <;> (rw [h2] at h; simp only [outLen_ok] at h; omega)

/-! ### the lengths of the mirror's results: a closed form for the fuel of `since_timed_operation` / `until_timed_operation` -/

namespace GenD

theorem appendD_length {β : Type} (ne : β → β → Bool) (out : ASig β) (item : Tm × β) :
    (appendD ne out item).length ≤ out.length + 1 := by
  unfold appendD
  split
  · simp
  · split <;> simp

theorem interLoop_length {β : Type} (f : α → α → β) (ne : β → β → Bool) :
    ∀ (n : Nat) (l1 l2 : ASig α) (out o : ASig β), l1.length + l2.length ≤ n →
      interLoop f ne l1 l2 out = .ok o → o.length ≤ out.length + (l1.length + l2.length) := by
  intro n
  induction n with
  | zero =>
      intro l1 l2 out o hn h
      rw [interLoop_short f ne l1 l2 out (by omega)] at h
      cases h; omega
  | succ n ih =>
      intro l1 l2 out o hn h
      match l1, l2, h with
      | (p1, v1) :: (c1, w1) :: r1, (p2, v2) :: (c2, w2) :: r2, h =>
          rw [interLoop_dec] at h
          cases hd : interDec p1 c1 p2 c2 with
          | none => rw [hd] at h; cases h
          | some d =>
              obtain ⟨a, e⟩ := d
              rw [hd] at h
              simp only [decK] at h
              have hout : (nextOut f ne p1 p2 v1 v2 out e).length ≤ out.length + 1 := by
                cases e with
                | none => simp [nextOut]
                | some s => exact appendD_length _ _ _
              cases a <;>
              · have := ih _ _ _ _ (by simp at hn ⊢; omega) h
                simp at this ⊢; omega
      | [], l2, h => rw [interLoop_short f ne _ _ out (by simp)] at h; cases h; omega
      | [x], l2, h => rw [interLoop_short f ne _ _ out (by simp)] at h; cases h; omega
      | l1, [], h => rw [interLoop_short f ne _ _ out (by simp)] at h; cases h; omega
      | l1, [x], h => rw [interLoop_short f ne _ _ out (by simp)] at h; cases h; omega

theorem inter_length {β : Type} (f : α → α → β) (ne : β → β → Bool) (s1 s2 : ASig α) (o : ASig β)
    (h : inter f ne s1 s2 = .ok o) : o.length ≤ s1.length + s2.length + 2 := by
  unfold inter at h
  split at h
  · cases h; simp
  · have := interLoop_length f ne _ _ _ _ _ (Nat.le_refl _) h
    have h1 := extendInf_length s1
    have h2 := extendInf_length s2
    simp at this; omega

theorem dedupGo_length : ∀ (s : ASig α) (prev : Option α), (dedupGo prev s).length ≤ s.length
  | [], _ => by simp [dedupGo]
  | [p], _ => by simp [dedupGo]
  | p :: q :: rest, prev => by
      have := dedupGo_length (q :: rest) (some p.2)
      cases prev with
      | none => simp only [dedupGo, List.length_append, List.length_cons] at this ⊢; simp; omega
      | some x =>
          simp only [dedupGo, List.length_append, List.length_cons] at this ⊢
          by_cases hv : vne p.2 x = true <;> simp [hv] <;> omega

theorem dedup_length (s : ASig α) : (dedup s).length ≤ s.length := dedupGo_length s none

theorem sinceGo_length : ∀ (io : List (Tm × (α × α))) (acc : α), (sinceOp.go acc io).length = io.length
  | [], _ => rfl
  | (t, p) :: rest, acc => by simp [sinceOp.go, sinceGo_length rest]

theorem sinceOp_length (l r o : ASig α) (h : sinceOp l r = .ok o) : o.length ≤ l.length + r.length + 2 := by
  unfold sinceOp at h
  cases hi : inter (fun a b => (a, b)) pairNe l r with
  | error e => rw [hi] at h; cases h
  | ok io =>
      rw [hi] at h
      cases h
      have h1 := inter_length _ _ l r io hi
      have h2 := dedup_length (sinceOp.go Val.ninf io)
      rw [sinceGo_length] at h2
      omega

theorem bfold_length {γ : Type} (g : α → γ → α) (n : Nat) : ∀ (xs : List (Tm × γ)) (st : α × Option α × ASig α × Nat),
    (xs.foldl (GenScan.bstep g n) st).2.2.1.length ≤ st.2.2.1.length + xs.length
  | [], st => by simp
  | p :: xs, (acc, nx, out, i) => by
      rw [List.foldl_cons, GenScan.bstep]
      have hlen : (if GenScan.eqNextB nx (g acc p.2) && decide (i + 2 < n) then out.tail else out).length ≤ out.length := by
        split <;> simp
      generalize (if GenScan.eqNextB nx (g acc p.2) && decide (i + 2 < n) then out.tail else out) = o' at hlen ⊢
      have := bfold_length g n xs (g acc p.2, some (g acc p.2), (p.1, g acc p.2) :: o', i - 1)
      simp only [List.length_cons] at this ⊢
      omega

theorem backScanG_length {γ : Type} (g : α → γ → α) (init : α) (nx0 : Option α) (s : List (Tm × γ)) :
    (backScanG g init nx0 s).length ≤ s.length := by
  rw [GenScan.backScanG_eq]
  have := bfold_length g s.length s.reverse (init, nx0, [], s.length - 1)
  simpa using this

theorem untilOp_length (l r o : ASig α) (h : untilOp l r = .ok o) : o.length ≤ l.length + r.length + 2 := by
  unfold untilOp at h
  cases hi : inter (fun a b => (a, b)) pairNe l r with
  | error e => rw [hi] at h; cases h
  | ok io =>
      rw [hi] at h
      cases h
      have h1 := inter_length _ _ l r io hi
      have h2 := backScanG_length sinceVal Val.ninf (some Val.ninf) io
      omega

theorem foldlM_length_le {β γ : Type} {f : List β → γ → Except PyErr (List β)}
    (hf : ∀ s g s', f s g = .ok s' → s'.length ≤ s.length + 1) : ∀ (xs : List γ) (s s' : List β),
    xs.foldlM f s = .ok s' → s'.length ≤ s.length + xs.length
  | [], s, s', h => by cases h; simp
  | g :: xs, s, s', h => by
      rw [List.foldlM_cons] at h
      cases hp : f s g with
      | error e => rw [hp] at h; cases h
      | ok s1 =>
          rw [hp] at h
          have h1 := hf s g s1 hp
          have h2 := foldlM_length_le hf xs s1 s' h
          simp; omega

theorem fwdTimed_length (worse : α → α → Bool) (neutral : α) (s o : ASig α) (a b : Rat)
    (h : fwdTimed worse neutral s a b = .ok o) : o.length ≤ s.length + 1 := by
  rw [Fwd.fwdTimed_eq] at h
  cases hf : (fwdSegs a b s).foldlM (pushSeg worse) (Fwd.withInit neutral a s 0 []) with
  | error e => rw [hf] at h; cases h
  | ok stk =>
      rw [hf] at h
      cases h
      have h1 := foldlM_length_le (fun stk g => pushSeg_length worse g stk) _ _ _ hf
      rw [Fwd.fwdSegs_length] at h1
      have h2 := Fwd.withInit_zero_length neutral a s
      have h3 := dedup_length (stk.reverse.map (fun g => (g.lo, g.v)))
      rw [List.length_map, List.length_reverse] at h3
      omega

theorem backSegs_length (a b : Rat) : ∀ (s : ASig α), (backSegs a b s).length = s.length
  | [] => rfl
  | [(t, v)] => rfl
  | (t, v) :: (t', v') :: rest => by
      have := backSegs_length a b ((t', v') :: rest)
      simp [backSegs, this]

theorem backTimed_length (w : α → α → Bool) (s o : ASig α) (a b : Rat)
    (h : backTimed w s a b = .ok o) : o.length ≤ s.length := by
  unfold backTimed at h
  cases hf : (backSegs a b s).reverse.foldlM (pushSegB w) [] with
  | error e => rw [hf] at h; cases h
  | ok out =>
      rw [hf] at h
      cases h
      have h1 := foldlM_length_le (fun out g => pushSegB_length w g out) _ _ _ hf
      simp [backSegs_length] at h1
      exact Nat.le_trans (List.length_filterMap_le _ _) h1

end GenD

theorem Gst_le (l r : ASig α) (a b : Rat) : Gst l r a b ≤ 3 * l.length + 4 * r.length + 10 := by
  unfold Gst
  have h1 : outLen (onceTimed r a b) ≤ r.length + 1 := outLen_le fun o h => fwdTimed_length _ _ _ _ _ _ h
  cases h2 : sinceOp l r with
  | error e => simp [outLen] at h1 ⊢; omega
  | ok o2 =>
      have h2' := sinceOp_length l r o2 h2
      have h3 : outLen (histTimed o2 0 a) ≤ o2.length + 1 := outLen_le fun o h => fwdTimed_length _ _ _ _ _ _ h
      simp only [ok_bind, outLen_ok]
      omega

theorem Gut_le (l r : ASig α) (a b : Rat) : Gut l r a b ≤ 3 * l.length + 4 * r.length + 10 := by
  unfold Gut
  have h1 : outLen (evTimed r a b) ≤ r.length := outLen_le fun o h => backTimed_length _ _ _ _ _ h
  cases h2 : untilOp l r with
  | error e => simp [outLen] at h1 ⊢; omega
  | ok o2 =>
      have h2' := untilOp_length l r o2 h2
      have h3 : outLen (alwTimed o2 0 a) ≤ o2.length := outLen_le fun o h => backTimed_length _ _ _ _ _ h
      simp only [ok_bind, outLen_ok]
      omega

/-- The node classes in the order of the `visitX` methods in the source. -/
def order : List Kind :=
  [.Predicate, .Variable, .Abs, .Sqrt, .Exp, .Pow, .Log, .Ln, .Addition, .Subtraction, .Multiplication, .Division, .Neg, .Negate,
   .Conjunction, .Disjunction, .Implies, .Iff, .Xor, .Eventually, .Always, .Until, .Once, .Historically, .Since, .Rise, .Fall,
   .Constant, .Previous, .Next, .StrongPrevious, .StrongNext, .TimedPrecedes, .TimedOnce, .TimedHistorically, .TimedSince,
   .TimedAlways, .TimedEventually, .TimedUntil]

theorem methods_nodup : (Gen.Dense.methods.map Prod.fst).Nodup :=
  (show Gen.Dense.methods.map Prod.fst = order.map visitName from rfl) ▸ nodup_map_visitName (by decide +kernel)

theorem lookupD_at (k : Kind) (i : Nat) {m : DMethod} (h : Gen.Dense.methods[i]? = some (visitName k, m)) :
    lookupD k = some m := Assoc.lookup_of_getElem? methods_nodup h

@[simp] theorem lookupD_Variable : lookupD .Variable = some Gen.Dense.visitVariable := lookupD_at _ 1 rfl
@[simp] theorem lookupD_Constant : lookupD .Constant = some Gen.Dense.visitConstant := lookupD_at _ 27 rfl
@[simp] theorem lookupD_Predicate : lookupD .Predicate = some Gen.Dense.visitPredicate := lookupD_at _ 0 rfl
@[simp] theorem lookupD_Abs : lookupD .Abs = some Gen.Dense.visitAbs := lookupD_at _ 2 rfl
@[simp] theorem lookupD_Sqrt : lookupD .Sqrt = some Gen.Dense.visitSqrt := lookupD_at _ 3 rfl
@[simp] theorem lookupD_Exp : lookupD .Exp = some Gen.Dense.visitExp := lookupD_at _ 4 rfl
@[simp] theorem lookupD_Ln : lookupD .Ln = some Gen.Dense.visitLn := lookupD_at _ 7 rfl
@[simp] theorem lookupD_Negate : lookupD .Negate = some Gen.Dense.visitNegate := lookupD_at _ 13 rfl
@[simp] theorem lookupD_Neg : lookupD .Neg = some Gen.Dense.visitNot := lookupD_at _ 12 rfl
@[simp] theorem lookupD_Addition : lookupD .Addition = some Gen.Dense.visitAddition := lookupD_at _ 8 rfl
@[simp] theorem lookupD_Subtraction : lookupD .Subtraction = some Gen.Dense.visitSubtraction := lookupD_at _ 9 rfl
@[simp] theorem lookupD_Multiplication : lookupD .Multiplication = some Gen.Dense.visitMultiplication := lookupD_at _ 10 rfl
@[simp] theorem lookupD_Division : lookupD .Division = some Gen.Dense.visitDivision := lookupD_at _ 11 rfl
@[simp] theorem lookupD_Pow : lookupD .Pow = some Gen.Dense.visitPow := lookupD_at _ 5 rfl
@[simp] theorem lookupD_Log : lookupD .Log = some Gen.Dense.visitLog := lookupD_at _ 6 rfl
@[simp] theorem lookupD_Conjunction : lookupD .Conjunction = some Gen.Dense.visitAnd := lookupD_at _ 14 rfl
@[simp] theorem lookupD_Disjunction : lookupD .Disjunction = some Gen.Dense.visitOr := lookupD_at _ 15 rfl
@[simp] theorem lookupD_Implies : lookupD .Implies = some Gen.Dense.visitImplies := lookupD_at _ 16 rfl
@[simp] theorem lookupD_Iff : lookupD .Iff = some Gen.Dense.visitIff := lookupD_at _ 17 rfl
@[simp] theorem lookupD_Xor : lookupD .Xor = some Gen.Dense.visitXor := lookupD_at _ 18 rfl
@[simp] theorem lookupD_Rise : lookupD .Rise = some Gen.Dense.visitRise := lookupD_at _ 25 rfl
@[simp] theorem lookupD_Fall : lookupD .Fall = some Gen.Dense.visitFall := lookupD_at _ 26 rfl
@[simp] theorem lookupD_Previous : lookupD .Previous = some Gen.Dense.visitPrevious := lookupD_at _ 28 rfl
@[simp] theorem lookupD_StrongPrevious : lookupD .StrongPrevious = some Gen.Dense.visitStrongPrevious := lookupD_at _ 30 rfl
@[simp] theorem lookupD_Next : lookupD .Next = some Gen.Dense.visitNext := lookupD_at _ 29 rfl
@[simp] theorem lookupD_StrongNext : lookupD .StrongNext = some Gen.Dense.visitStrongNext := lookupD_at _ 31 rfl
@[simp] theorem lookupD_Once : lookupD .Once = some Gen.Dense.visitOnce := lookupD_at _ 22 rfl
@[simp] theorem lookupD_Historically : lookupD .Historically = some Gen.Dense.visitHistorically := lookupD_at _ 23 rfl
@[simp] theorem lookupD_Eventually : lookupD .Eventually = some Gen.Dense.visitEventually := lookupD_at _ 19 rfl
@[simp] theorem lookupD_Always : lookupD .Always = some Gen.Dense.visitAlways := lookupD_at _ 20 rfl
@[simp] theorem lookupD_Since : lookupD .Since = some Gen.Dense.visitSince := lookupD_at _ 24 rfl
@[simp] theorem lookupD_Until : lookupD .Until = some Gen.Dense.visitUntil := lookupD_at _ 21 rfl
@[simp] theorem lookupD_TimedOnce : lookupD .TimedOnce = some Gen.Dense.visitTimedOnce := lookupD_at _ 33 rfl
@[simp] theorem lookupD_TimedHistorically : lookupD .TimedHistorically = some Gen.Dense.visitTimedHistorically := lookupD_at _ 34 rfl
@[simp] theorem lookupD_TimedEventually : lookupD .TimedEventually = some Gen.Dense.visitTimedEventually := lookupD_at _ 37 rfl
@[simp] theorem lookupD_TimedAlways : lookupD .TimedAlways = some Gen.Dense.visitTimedAlways := lookupD_at _ 36 rfl
@[simp] theorem lookupD_TimedSince : lookupD .TimedSince = some Gen.Dense.visitTimedSince := lookupD_at _ 35 rfl
@[simp] theorem lookupD_TimedUntil : lookupD .TimedUntil = some Gen.Dense.visitTimedUntil := lookupD_at _ 38 rfl
@[simp] theorem lookupD_TimedPrecedes : lookupD .TimedPrecedes = some Gen.Dense.visitTimedPrecedes := lookupD_at _ 32 rfl

end Rtamt.Py.Dn

namespace Rtamt

/-- The formulas on which the translated dense-time offline visitor is related to the mirror: nothing is excluded
    (the predicate holds of every formula, `F.denseSupported_all`; `genD_eval` is stated with it).
    The predicate node as the interface-aware robustness visitors evaluate it (`.bin (.predSat c)`) is run through the
    translated `visitPredicate_outRob` (`gen_visitPredicate_outRob_insensitive`).  On `.bin .predZero` both sides return
    `.error .other` once the children are evaluated, on the kinds whose `visitX` raises (`rise`, `fall`, `previous`, `next`,
    …, `precedes`) both return `.error .rtamt`. -/
def F.denseSupported {α : Type} : F α → Bool
  | .var _ => true
  | .const _ => true
  | .un _ φ => φ.denseSupported
  | .bin _ φ ψ => φ.denseSupported && ψ.denseSupported
  | .tmp1 _ φ => φ.denseSupported
  | .tmp2 _ φ ψ => φ.denseSupported && ψ.denseSupported
  | .tb1 _ _ _ φ => φ.denseSupported
  | .tb2 _ _ _ φ ψ => φ.denseSupported && ψ.denseSupported

theorem F.denseSupported_all {α : Type} (φ : F α) : φ.denseSupported = true := by
  induction φ <;> simp_all [F.denseSupported]

end Rtamt

namespace Rtamt.Py.Dn
open Rtamt Val Rtamt.Dense Rtamt.Dense.Alg GenD

variable {α : Type} [Val α]

namespace GenD

/-- a node with one child: the children are evaluated first, on both sides -/
theorem largeFuel_bind {G : Nat → Except PyErr (ASig α)} {A : Except PyErr (ASig α)}
    {g : Nat → ASig α → Except PyErr (ASig α)} {f : ASig α → Except PyErr (ASig α)}
    (ih : ∃ N, ∀ fuel, N ≤ fuel → G fuel = A)
    (hnode : ∀ s, A = .ok s → ∃ N, ∀ fuel, N ≤ fuel → g fuel s = f s) :
    ∃ N, ∀ fuel, N ≤ fuel → (G fuel >>= g fuel) = (A >>= f) := by
  obtain ⟨N, hN⟩ := ih
  cases hA : A with
  | error e => exact ⟨N, fun fuel hf => by rw [hN fuel hf, hA]; rfl⟩
  | ok s =>
      obtain ⟨M, hM⟩ := hnode s hA
      exact ⟨N + M, fun fuel hf => by rw [hN fuel (by omega), hA]; exact hM fuel (by omega)⟩

theorem largeFuel_bind₂ {G1 G2 : Nat → Except PyErr (ASig α)} {A1 A2 : Except PyErr (ASig α)}
    {g : Nat → ASig α → ASig α → Except PyErr (ASig α)} {f : ASig α → ASig α → Except PyErr (ASig α)}
    (ih1 : ∃ N, ∀ fuel, N ≤ fuel → G1 fuel = A1) (ih2 : ∃ N, ∀ fuel, N ≤ fuel → G2 fuel = A2)
    (hnode : ∀ l r, A1 = .ok l → A2 = .ok r → ∃ N, ∀ fuel, N ≤ fuel → g fuel l r = f l r) :
    ∃ N, ∀ fuel, N ≤ fuel → (G1 fuel >>= fun l => G2 fuel >>= fun r => g fuel l r) = (A1 >>= fun l => A2 >>= fun r => f l r) := by
  obtain ⟨N1, hN1⟩ := ih1
  obtain ⟨N2, hN2⟩ := ih2
  cases hA1 : A1 with
  | error e => exact ⟨N1, fun fuel hf => by rw [hN1 fuel hf, hA1]; rfl⟩
  | ok l =>
      cases hA2 : A2 with
      | error e => exact ⟨N1 + N2, fun fuel hf => by rw [hN1 fuel (by omega), hN2 fuel (by omega), hA1, hA2]; rfl⟩
      | ok r =>
          obtain ⟨M, hM⟩ := hnode l r hA1 hA2
          exact ⟨N1 + N2 + M, fun fuel hf => by
            rw [hN1 fuel (by omega), hN2 fuel (by omega), hA1, hA2]; exact hM fuel (by omega)⟩

theorem node_un (fuel : Nat) (op : Un) (s : ASig α) :
    (match lookupD op.kind with
     | some m => callD fuel m [s] none []
     | none => pure s) = mapUn op s := by
  cases op <;> simp only [Un.kind, lookupD_Abs, lookupD_Sqrt, lookupD_Exp, lookupD_Ln, lookupD_Negate, lookupD_Neg]
  · exact gen_visitAbs fuel s
  · exact gen_visitSqrt fuel s
  · exact gen_visitExp fuel s
  · exact gen_visitLn fuel s
  · exact gen_visitNegate fuel s
  · exact gen_visitNot fuel s

theorem node_bin (fuel : Nat) (op : Bin) (l r : ASig α) (h : l.length + r.length + 4 ≤ fuel) :
    (match op with
     | .predSat c =>
         match Gen.Dense.iaMethods.lookup "visitPredicate_outRob" with
         | some m => callD fuel m [l, r] none [("$operator", .cmp c), ("$out_vars", .list [])]
         | none => .error .type
     | .predZero => .error .other
     | _ =>
       match lookupD op.kind with
       | some m => callD fuel m [l, r] none (match op with | .pred c => [("$operator", .cmp c)] | _ => [])
       | none => pure r) =
    (match op with
     | .pred c => predicate c l r
     | .predSat c => predicateIA c (fun b => if b then Val.pinf else Val.ninf) l r
     | .predZero => .error .other
     | _ => inter (binMethod op) vne l r) := by
  have hI4 : InterSpec α fuel (depth - 2) := gen_intersection fuel 4
  cases op with
  | predSat c =>
      simp only [show Gen.Dense.iaMethods.lookup "visitPredicate_outRob" = some Gen.Dense.visitPredicate_outRob from rfl]
      exact gen_visitPredicate_outRob_insensitive fuel c l r h
  | predZero => rfl
  | pred c => simp only [Bin.kind, lookupD_Predicate]; exact gen_visitPredicate fuel (gen_subtraction_operation fuel 3) c l r h
  | add => simp only [Bin.kind, lookupD_Addition]; exact gen_visitAddition fuel hI4 l r h
  | sub => simp only [Bin.kind, lookupD_Subtraction]; exact gen_visitSubtraction_of fuel l r (gen_subtraction_operation fuel 3 l r h)
  | mul => simp only [Bin.kind, lookupD_Multiplication]; exact gen_visitMultiplication fuel hI4 l r h
  | div => simp only [Bin.kind, lookupD_Division]; exact gen_visitDivision fuel hI4 l r h
  | pow => simp only [Bin.kind, lookupD_Pow]; exact gen_visitPow fuel hI4 l r h
  | log => simp only [Bin.kind, lookupD_Log]; exact gen_visitLog fuel hI4 l r h
  | and =>
      simp only [Bin.kind, lookupD_Conjunction]
      exact gen_visitAnd_of fuel l r (gen_and_operation fuel 3 l r h)
  | or => simp only [Bin.kind, lookupD_Disjunction]; exact gen_visitOr fuel hI4 l r h
  | implies => simp only [Bin.kind, lookupD_Implies]; exact gen_visitImplies fuel hI4 l r h
  | iff => simp only [Bin.kind, lookupD_Iff]; exact gen_visitIff fuel hI4 l r h
  | xor => simp only [Bin.kind, lookupD_Xor]; exact gen_visitXor fuel hI4 l r h

theorem node_tmp1 (fuel : Nat) (op : T1) (s : ASig α) :
    (match lookupD op.kind with
     | some m => callD fuel m [s] none []
     | none => pure s) =
    (match op with
     | .once => pure (fwdScan pmax Val.ninf s)
     | .hist => pure (fwdScan pmin Val.pinf s)
     | .ev => pure (backScan pmax Val.ninf s)
     | .alw => pure (backScan pmin Val.pinf s)
     | _ => .error .rtamt) := by
  cases op <;> simp only [T1.kind, lookupD_Rise, lookupD_Fall, lookupD_Previous, lookupD_StrongPrevious, lookupD_Next,
    lookupD_StrongNext, lookupD_Once, lookupD_Historically, lookupD_Eventually, lookupD_Always]
  · exact gen_visitRise fuel _ _ _
  · exact gen_visitFall fuel _ _ _
  · exact gen_visitPrevious fuel _ _ _
  · exact gen_visitStrongPrevious fuel _ _ _
  · exact gen_visitNext fuel _ _ _
  · exact gen_visitStrongNext fuel _ _ _
  · exact gen_visitOnce fuel s
  · exact gen_visitHistorically fuel s
  · exact gen_visitEventually fuel s
  · exact gen_visitAlways fuel s

theorem node_tmp2 (fuel : Nat) (op : T2) (l r : ASig α) (h : l.length + r.length + 4 ≤ fuel) :
    (match lookupD op.kind with
     | some m => callD fuel m [l, r] none []
     | none => pure r) =
    (match op with
     | .since => sinceOp l r
     | .until => untilOp l r) := by
  cases op <;> simp only [T2.kind, lookupD_Since, lookupD_Until]
  · exact GenScan.gen_visitSince fuel (gen_intersection fuel 3) l r h
  · exact GenScan.gen_visitUntil fuel (gen_intersection fuel 3) l r h

theorem node_tb1 (fuel : Nat) (op : TB1) (a b : Rat) (s : ASig α) (h : s.length + 1 ≤ fuel) :
    (match lookupD op.kind with
     | some m => callD fuel m [s] (some (a, b)) []
     | none => pure s) =
    (match op with
     | .once => onceTimed s a b
     | .hist => histTimed s a b
     | .ev => evTimed s a b
     | .alw => alwTimed s a b) := by
  cases op <;> simp only [TB1.kind, lookupD_TimedOnce, lookupD_TimedHistorically, lookupD_TimedEventually, lookupD_TimedAlways]
  · exact gen_visitTimedOnce_of fuel s a b (gen_once_timed fuel 4 s a b h)
  · exact gen_visitTimedHistorically_of fuel s a b (gen_hist_timed fuel 4 s a b h)
  · exact gen_visitTimedEventually_of fuel s a b (gen_ev_timed fuel 4 s a b h)
  · exact gen_visitTimedAlways_of fuel s a b (gen_alw_timed fuel 4 s a b h)

theorem node_tb2 (fuel : Nat) (op : TB2) (a b : Rat) (l r : ASig α) (h : 3 * l.length + 4 * r.length + 10 ≤ fuel) :
    (match lookupD op.kind with
     | some m => callD fuel m [l, r] (some (a, b)) []
     | none => pure r) =
    (match op with
     | .since => sinceTimed l r a b
     | .until => untilTimed l r a b
     | .precedes => .error .rtamt) := by
  cases op <;> simp only [TB2.kind, lookupD_TimedSince, lookupD_TimedUntil, lookupD_TimedPrecedes]
  · exact gen_visitTimedSince_of fuel l r a b (gen_since_timed fuel 2 l r a b (Nat.le_trans (Gst_le l r a b) h))
  · exact gen_visitTimedUntil_of fuel l r a b (gen_until_timed fuel 2 l r a b (Nat.le_trans (Gut_le l r a b) h))
  · exact gen_visitTimedPrecedes fuel _ _ _

end GenD

/-- The translated dense-time offline visitor computes what the mirror `evalAlg` computes (values and exceptions), for every
    supported formula and every environment, as soon as the fuel is large enough. -/
theorem genD_eval (cfg : DCfg) (w : DEnv α) (φ : F α) (hφ : φ.denseSupported) :
    ∃ N, ∀ fuel, N ≤ fuel → evalAlgG fuel cfg w φ = evalAlg cfg w φ := by
  induction φ with
  | var x =>
      refine ⟨0, fun fuel _ => ?_⟩
      simp only [evalAlgG, evalAlg, lookupD_Variable]
      cases w.lookup x with
      | none => rfl
      | some s => exact gen_visitVariable fuel (ofDSig s)
  | const c =>
      refine ⟨0, fun fuel _ => ?_⟩
      simp only [evalAlgG, evalAlg, lookupD_Constant]
      exact gen_visitConstant fuel c
  | un op φ ih =>
      simp only [F.denseSupported] at hφ
      simp only [evalAlgG, evalAlg]
      exact largeFuel_bind (ih hφ) (fun s _ => ⟨0, fun fuel _ => node_un fuel op s⟩)
  | bin op φ ψ ih1 ih2 =>
      simp only [F.denseSupported, Bool.and_eq_true] at hφ
      obtain ⟨h1, h2⟩ := hφ
      simp only [evalAlgG, evalAlg]
      exact largeFuel_bind₂ (ih1 h1) (ih2 h2)
        (fun l r _ _ => ⟨l.length + r.length + 4, fun fuel hf => node_bin fuel op l r hf⟩)
  | tmp1 op φ ih =>
      simp only [F.denseSupported] at hφ
      simp only [evalAlgG, evalAlg]
      exact largeFuel_bind (ih hφ) (fun s _ => ⟨0, fun fuel _ => node_tmp1 fuel op s⟩)
  | tmp2 op φ ψ ih1 ih2 =>
      simp only [F.denseSupported, Bool.and_eq_true] at hφ
      simp only [evalAlgG, evalAlg]
      exact largeFuel_bind₂ (ih1 hφ.1) (ih2 hφ.2)
        (fun l r _ _ => ⟨l.length + r.length + 4, fun fuel hf => node_tmp2 fuel op l r hf⟩)
  | tb1 op a b φ ih =>
      simp only [F.denseSupported] at hφ
      simp only [evalAlgG, evalAlg]
      exact largeFuel_bind (ih hφ) (fun s _ => ⟨s.length + 1, fun fuel hf => node_tb1 fuel op _ _ s hf⟩)
  | tb2 op a b φ ψ ih1 ih2 =>
      simp only [F.denseSupported, Bool.and_eq_true] at hφ
      simp only [evalAlgG, evalAlg]
      exact largeFuel_bind₂ (ih1 hφ.1) (ih2 hφ.2)
        (fun l r _ _ => ⟨_, fun fuel hf => node_tb2 fuel op _ _ l r hf⟩)

theorem genD_eval_all (cfg : DCfg) (w : DEnv α) (φ : F α) :
    ∃ N, ∀ fuel, N ≤ fuel → evalAlgG fuel cfg w φ = evalAlg cfg w φ :=
  genD_eval cfg w φ φ.denseSupported_all

/-- non-vacuity: a bounded `until` over a variable and a predicate is supported -/
example (c : α) : (F.tb2 .until 1 2 (.var "x") (.bin (.pred .le) (.var "y") (.const c))).denseSupported = true := rfl

theorem genD_eval_list (cfg : DCfg) (w : DEnv α) (φs : List (F α)) (h : ∀ φ ∈ φs, φ.denseSupported) :
    ∃ N, ∀ fuel, N ≤ fuel → ∀ φ ∈ φs, evalAlgG fuel cfg w φ = evalAlg cfg w φ := by
  induction φs with
  | nil => exact ⟨0, fun _ _ φ hφ => by cases hφ⟩
  | cons ψ φs ih =>
      obtain ⟨N1, h1⟩ := genD_eval cfg w ψ (h ψ (by simp))
      obtain ⟨N2, h2⟩ := ih (fun φ hφ => h φ (by simp [hφ]))
      refine ⟨N1 + N2, fun fuel hf φ hφ => ?_⟩
      rcases List.mem_cons.mp hφ with rfl | hφ
      · exact h1 fuel (by omega)
      · exact h2 fuel (by omega) φ hφ

end Rtamt.Py.Dn

namespace Rtamt.Py.Dn

def E.supported : E → Bool
  | .unsupported _ => false
  | .neg e | .not e | .sliceFrom e _ | .call1 _ e => e.supported
  | .bin _ a b | .and_ a b | .or_ a b | .idx a b | .list2 a b | .call2 _ a b => a.supported && b.supported
  | .tup3 a b c | .call3 _ a b c => a.supported && b.supported && c.supported
  | .tup4 a b c d | .call4 _ a b c d => a.supported && b.supported && c.supported && d.supported
  | .loc _ | .int _ | .inf | .nan | .noneLit | .emptyList | .boolLit _ | .cmpc _ | .fnRef _ => true

def S.supported : S → Bool
  | .unsupported _ => false
  | .skip | .raise _ => true
  | .seq a b => a.supported && b.supported
  | .setLoc _ e | .unpack _ e | .appendLoc _ e | .insert0 _ e | .delIdx _ e | .ret e => e.supported
  | .ite c t e => c.supported && t.supported && e.supported
  | .while_ c b => c.supported && b.supported
  | .forIn _ it b | .forEnum _ _ it _ b => it.supported && b.supported

/-- the names in call position and the function references of an expression -/
def E.names : E → List String
  | .fnRef g => [g]
  | .neg e | .not e | .sliceFrom e _ => e.names
  | .call1 f e => f :: e.names
  | .bin _ a b | .and_ a b | .or_ a b | .idx a b | .list2 a b => a.names ++ b.names
  | .call2 f a b => f :: (a.names ++ b.names)
  | .tup3 a b c => a.names ++ b.names ++ c.names
  | .call3 f a b c => f :: (a.names ++ b.names ++ c.names)
  | .tup4 a b c d => a.names ++ b.names ++ c.names ++ d.names
  | .call4 f a b c d => f :: (a.names ++ b.names ++ c.names ++ d.names)
  | .loc _ | .int _ | .inf | .nan | .noneLit | .emptyList | .boolLit _ | .cmpc _ | .unsupported _ => []

def S.names : S → List String
  | .skip | .raise _ | .unsupported _ => []
  | .seq a b => a.names ++ b.names
  | .setLoc _ e | .unpack _ e | .appendLoc _ e | .insert0 _ e | .delIdx _ e | .ret e => e.names
  | .ite c t e => c.names ++ t.names ++ e.names
  | .while_ c b => c.names ++ b.names
  | .forIn _ it b | .forEnum _ _ it _ b => it.names ++ b.names

/-- the two functions of intersection.py nothing calls (`interval_union` is called by `union` only) -/
def deadFns : List String := ["interval_union", "union"]

/-- What `genD_eval` relies on:
    * every function of the table except the dead `interval_union` / `union` is free of `unsupported`, and none of them
      (nor any visit method) calls or references one of those two;
    * every visit method is free of `unsupported`, except `visitVariable`, whose `if node.field:` branch
      (`operator.attrgetter`) is the only unsupported part: the condition, the `else` branch and the rest are supported
      (`evalAlgG` passes `$field = None`, so the branch is never taken);
    * the interface-aware `visitPredicate`s (`Gen.Dense.iaMethods`; `evalAlgG` runs `visitPredicate_outRob` on
      `.bin (.predSat _)`) are free of `unsupported` and call none of the dead functions. -/
def genDSupportedCheck : Bool :=
  (Gen.Dense.fns.all fun p =>
    deadFns.contains p.1 || (p.2.body.supported && p.2.body.names.all fun n => !deadFns.contains n)) &&
  (Gen.Dense.methods.all fun p =>
    (p.1 == "visitVariable" || p.2.body.supported) && p.2.body.names.all fun n => !deadFns.contains n) &&
  (Gen.Dense.iaMethods.all fun p => p.2.body.supported && p.2.body.names.all fun n => !deadFns.contains n) &&
  (match Gen.Dense.visitVariable.body with
   | .seq a (.seq (.ite c _ e) r) => a.supported && c.supported && e.supported && r.supported
   | _ => false)

theorem genD_supported : genDSupportedCheck = true := by decide +kernel

end Rtamt.Py.Dn
