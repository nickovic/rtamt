/-
  C03 — Pastified bounded-future monitor reports original robustness with fixed delay.

  "For every bounded-future specification with horizon h … pastify() yields a
   specification without future operators such that, for every trace and every i >= h,
   the i-th online update() returns the offline robustness of the original specification
   at sample i-h on the trace seen so far. pastify() does not change the meaning of a
   specification that has no future operator …"

  `pastify`, `past`, `delay`, `hor`, `F.frag`, `F.bounded` are the model of `pastifier.py` /
  `horizon.py` in `Rtamt/Discrete/Pastify.lean`.
  Proved on the fragment `F.frag` (bounded future; every past/event operator has
  future-free operands).  Outside the fragment the statement is false for the
  algorithm of rtamt (finding F15): see `C03_counterexample` in `C03Table.lean`.
-/
import RtamtProofs.C02
import RtamtProofs.C16

namespace Rtamt
open Val

variable {α : Type} [Val α]

omit [Val α] in
theorem delay_zero (ψ : F α) : delay 0 ψ = ψ := by simp [delay]

theorem past_zero_of_futureFree (φ : F α) (hf : φ.futureFree = true) : past 0 φ = φ := by
  induction φ with
  | var x => simp [past, delay]
  | const c => simp [past]
  | un op φ ih =>
    simp only [F.futureFree] at hf
    simp [past, (C16_futureFree_hor φ hf).1, delay, ih hf]
  | bin op φ ψ ih1 ih2 =>
    simp only [F.futureFree, Bool.and_eq_true] at hf
    simp [past, (C16_futureFree_hor φ hf.1).1, (C16_futureFree_hor ψ hf.2).1, delay,
      ih1 hf.1, ih2 hf.2]
  | tmp1 op φ ih | tb1 op a b φ ih =>
    cases op <;> simp [F.futureFree] at hf <;>
      simp [past, (C16_futureFree_hor φ hf).1, delay, ih hf]
  | tmp2 op φ ψ ih1 ih2 | tb2 op a b φ ψ ih1 ih2 =>
    cases op <;> simp [F.futureFree] at hf <;>
      simp [past, (C16_futureFree_hor φ hf.1).1, (C16_futureFree_hor ψ hf.2).1, delay,
        ih1 hf.1, ih2 hf.2]

/-- `pastify` is the identity on specifications without future operators. -/
theorem C03_past_identity (φ : F α) (hf : φ.futureFree = true) : pastify φ = φ := by
  unfold pastify
  rw [(C16_futureFree_hor φ hf).1]
  exact past_zero_of_futureFree φ hf

omit [Val α] in
private theorem delay_futureFree (h : Nat) (ψ : F α) : (delay h ψ).futureFree = ψ.futureFree := by
  unfold delay; split <;> rfl

omit [Val α] in
private theorem delay_wf (h : Nat) (ψ : F α) : (delay h ψ).wf = ψ.wf := by
  unfold delay; split
  · simp [F.wf]
  · rfl

omit [Val α] in
/-- `past` leaves no future operator, and the intervals it writes are in order: `[h, h]` of a delay, a bound kept or
    shifted on both sides, `[0, b - a]`. -/
private theorem past_futureFree_wf (φ : F α) (hb : φ.bounded = true) (hwf : φ.wf = true) (R : Nat) :
    (past R φ).futureFree = true ∧ (past R φ).wf = true := by
  induction φ generalizing R with
  | var x => simp only [past, delay_futureFree, delay_wf, F.futureFree, F.wf, and_self]
  | const c => exact ⟨rfl, rfl⟩
  | un op φ ih => simp only [past, delay_futureFree, delay_wf, F.futureFree, F.wf, ih hb hwf, and_self]
  | bin op φ ψ ih1 ih2 =>
    simp only [F.bounded, F.wf, Bool.and_eq_true] at hb hwf
    simp only [past, delay_futureFree, delay_wf, F.futureFree, F.wf, ih1 hb.1 hwf.1, ih2 hb.2 hwf.2, Bool.and_self,
      and_self]
  | tmp2 op φ ψ ih1 ih2 =>
    simp only [F.wf, Bool.and_eq_true] at hwf
    cases op <;> simp [F.bounded] at hb
    simp only [past, delay_futureFree, delay_wf, F.futureFree, F.wf, ih1 hb.1 hwf.1, ih2 hb.2 hwf.2, Bool.and_self,
      and_self]
  | tmp1 op φ ih =>
    cases op <;> simp [F.bounded] at hb <;>
      simp only [past, delay_futureFree, delay_wf, F.futureFree, F.wf, ih hb hwf, Bool.and_self, and_self]
  | tb1 op a b φ ih =>
    simp only [F.wf, Bool.and_eq_true, decide_eq_true_eq] at hwf
    cases op <;> simp only [past, gt_iff_lt, apply_ite F.futureFree, apply_ite F.wf, delay_futureFree, delay_wf,
      F.futureFree, F.wf, ih hb hwf.2, hwf.1, Nat.add_le_add_iff_right, Nat.zero_le, decide_true, Bool.and_self,
      ite_self, and_self]
  | tb2 op a b φ ψ ih1 ih2 =>
    simp only [F.bounded, F.wf, Bool.and_eq_true, decide_eq_true_eq] at hb hwf
    cases op <;> simp only [past, delay_futureFree, delay_wf, F.futureFree, F.wf, ih1 hb.1 hwf.1.2, ih2 hb.2 hwf.2,
      hwf.1.1, decide_true, Bool.and_self, and_self]

set_option linter.unusedSectionVars false in
/-- The pastified specification has no future operator (so the online monitor accepts it)
    and its intervals are well formed. -/
theorem C03_past_online (φ : F α) (hb : φ.bounded = true) (hwf : φ.wf = true) (R : Nat) :
    (past R φ).online = true ∧ (past R φ).wf = true :=
  (F.futureFree_eq_online _).symm ▸ past_futureFree_wf φ hb hwf R

theorem frag_bounded (φ : F α) (hf : φ.frag = true) : φ.bounded = true := by
  induction φ with
  | var x => rfl
  | const c => rfl
  | un op φ ih => exact ih hf
  | bin op φ ψ ih1 ih2 =>
    simp only [F.frag, Bool.and_eq_true] at hf
    simp only [F.bounded, Bool.and_eq_true]
    exact ⟨ih1 hf.1, ih2 hf.2⟩
  | tmp1 op φ ih =>
    cases op <;> simp [F.frag] at hf <;> simp [F.bounded]
    case next | snext => exact ih hf
    all_goals exact (C16_futureFree_hor φ hf).2
  | tmp2 op φ ψ ih1 ih2 =>
    cases op <;> simp [F.frag] at hf
    simp [F.bounded]
    exact ⟨(C16_futureFree_hor φ hf.1).2, (C16_futureFree_hor ψ hf.2).2⟩
  | tb1 op a b φ ih =>
    cases op <;> simp [F.frag] at hf <;> simp [F.bounded]
    case ev | alw => exact ih hf
    all_goals exact (C16_futureFree_hor φ hf).2
  | tb2 op a b φ ψ ih1 ih2 =>
    cases op <;> simp [F.frag] at hf <;> simp [F.bounded]
    case «until» => exact ⟨ih1 hf.1, ih2 hf.2⟩
    all_goals exact ⟨(C16_futureFree_hor φ hf.1).2, (C16_futureFree_hor ψ hf.2).2⟩

variable [LawfulVal α]

/-- `once[h,h]` is a pure delay by `h` samples. -/
private theorem rho_delay (σ : String → Nat → α) (n : Nat) (ψ : F α) (h j : Nat) :
    rho σ n (delay h ψ) (j + h) = rho σ n ψ j := by
  unfold delay
  split
  · simp only [rho]
    rw [Nat.add_sub_cancel, Nat.add_right_comm, Nat.add_sub_cancel, maxOver_single]
  · next h0 => rw [Nat.eq_zero_of_not_pos h0]; rfl

/-- `once[0, b - a]` and `historically[0, b - a]`, left out when `a = b`, see at `t + b` the window `[t + a, t + b]`. -/
private theorem rho_window (σ : String → Nat → α) (n : Nat) (c : F α) {a b : Nat} (hab : a ≤ b) (t : Nat) :
    rho σ n (if b - a > 0 then .tb1 .once 0 (b - a) c else c) (t + b) = maxOver (t + a) (t + b + 1) (rho σ n c) ∧
    rho σ n (if b - a > 0 then .tb1 .hist 0 (b - a) c else c) (t + b) = minOver (t + a) (t + b + 1) (rho σ n c) := by
  split
  · simp only [rho]
    rw [Nat.sub_zero, show t + b - (b - a) = t + a by rw [Nat.add_comm, Nat.add_sub_sub_cancel hab]]
    exact ⟨rfl, rfl⟩
  · next h0 =>
    obtain rfl : a = b := Nat.le_antisymm hab (Nat.sub_eq_zero_iff_le.mp (Nat.eq_zero_of_not_pos h0))
    exact ⟨(maxOver_single _ _).symm, (minOver_single _ _).symm⟩

/-- The invariant with the time written as `j + R`: no truncated subtraction is left, and a node that aligns
    its operands to its own horizon `H` and delays the result by `R - H` is handled by splitting `R = H + d`,
    a bounded future node, which passes `R - b` down, by splitting `R = R' + b`. -/
private theorem past_shift (σ : String → Nat → α) (n : Nat) (φ : F α) (hf : φ.frag = true) (hwf : φ.wf = true)
    (R : Nat) (hR : hor φ ≤ R) (j : Nat) (hj : j + R < n) : rho σ n (past R φ) (j + R) = rho σ n φ j := by
  -- operands of past / event operators: horizon 0 and left alone by `past 0`
  have ff : ∀ ψ : F α, ψ.futureFree = true → hor ψ = 0 ∧ past 0 ψ = ψ := fun ψ h =>
    ⟨(C16_futureFree_hor ψ h).1, past_zero_of_futureFree ψ h⟩
  induction φ generalizing R j with
  | var x => exact rho_delay σ n _ R j
  | const c => rfl
  | un op φ ih =>
    obtain ⟨d, rfl⟩ := Nat.exists_eq_add_of_le (show hor φ ≤ R from hR)
    simp only [past]
    rw [Nat.add_sub_cancel_left, ← Nat.add_assoc, rho_delay]
    simp only [rho, ih hf hwf _ le_rfl j (by omega)]
  | bin op φ ψ ih1 ih2 =>
    simp only [F.frag, Bool.and_eq_true] at hf
    simp only [F.wf, Bool.and_eq_true] at hwf
    obtain ⟨d, rfl⟩ := Nat.exists_eq_add_of_le (show max (hor φ) (hor ψ) ≤ R from hR)
    have hj' : j + max (hor φ) (hor ψ) < n := by omega
    simp only [past]
    rw [Nat.add_sub_cancel_left, ← Nat.add_assoc, rho_delay]
    simp only [rho, ih1 hf.1 hwf.1 _ (le_max_left _ _) j hj', ih2 hf.2 hwf.2 _ (le_max_right _ _) j hj']
  | tmp1 op φ ih =>
    cases op with
    | ev | alw => exact absurd hf Bool.false_ne_true
    | next | snext =>
      obtain ⟨R', rfl⟩ : ∃ R', R = R' + 1 := ⟨R - 1, (Nat.sub_add_cancel (Nat.le_of_add_left_le hR)).symm⟩
      simp only [past, rho, Nat.add_sub_cancel]
      rw [if_pos (by omega), ← Nat.add_assoc, Nat.add_right_comm]
      exact ih hf hwf R' (Nat.le_of_succ_le_succ hR) (j + 1) (by omega)
    | rise | fall | prev | sprev | once | hist =>
      simp only [past]
      rw [(ff φ hf).1, (ff φ hf).2]
      exact rho_delay σ n _ R j
  | tmp2 op φ ψ ih1 ih2 =>
    cases op with
    | «until» => exact absurd hf Bool.false_ne_true
    | since =>
      simp only [F.frag, Bool.and_eq_true] at hf
      simp only [past]
      rw [(ff φ hf.1).1, (ff ψ hf.2).1, Nat.max_self, (ff φ hf.1).2, (ff ψ hf.2).2]
      exact rho_delay σ n _ R j
  | tb1 op a b φ ih =>
    simp only [F.wf, Bool.and_eq_true, decide_eq_true_eq] at hwf
    cases op with
    | once =>
      simp only [past]
      rw [(ff φ hf).1, (ff φ hf).2]
      split
      · simp only [rho]
        rw [Nat.sub_zero, Nat.add_sub_add_right, Nat.add_right_comm j R 1, Nat.add_sub_add_right]
      · next h0 =>
        obtain rfl : R = 0 := Nat.eq_zero_of_not_pos h0
        rfl
    | hist =>
      simp only [past]
      rw [(ff φ hf).1, (ff φ hf).2]
      exact rho_delay σ n _ R j
    | ev | alw =>
      obtain ⟨R', rfl⟩ := Nat.exists_eq_add_of_le' ((Nat.le_add_left b _).trans hR)
      replace hR : hor φ ≤ R' := Nat.le_of_add_le_add_right hR
      have key : ∀ t, j + a ≤ t → t < j + b + 1 → rho σ n (past R' φ) (t + R') = rho σ n φ t :=
        fun t _ h2 => ih hf hwf.2 R' hR t (by omega)
      simp only [past, rho, Nat.min_eq_left (show j + b + 1 ≤ n by omega)]
      rw [Nat.add_sub_cancel, ← Nat.add_assoc]
      first | rw [(rho_window σ n _ hwf.1 _).1] | rw [(rho_window σ n _ hwf.1 _).2]
      rw [Nat.add_right_comm j R' a, Nat.add_right_comm j R' b, Nat.add_right_comm _ R' 1]
      first | exact maxOver_shift R' key | exact minOver_shift R' key
  | tb2 op a b φ ψ ih1 ih2 =>
    simp only [F.wf, Bool.and_eq_true, decide_eq_true_eq] at hwf
    cases op with
    | «until» =>
      simp only [F.frag, Bool.and_eq_true] at hf
      obtain ⟨R', rfl⟩ := Nat.exists_eq_add_of_le' ((Nat.le_add_left b _).trans hR)
      replace hR : max (hor φ) (hor ψ) ≤ R' := Nat.le_of_add_le_add_right hR
      have hn : ∀ t, t < j + b + 1 → t + R' < n := fun t h => by omega
      simp only [past, rho, Nat.min_eq_left (show j + b + 1 ≤ n by omega)]
      rw [Nat.add_sub_cancel, ← Nat.add_assoc, Nat.add_right_comm (j + R') b a, Nat.add_sub_cancel, Nat.add_sub_cancel,
        Nat.add_right_comm j R' a, Nat.add_right_comm j R' b, Nat.add_right_comm _ R' 1]
      refine maxOver_shift R' fun t _ h2 => ?_
      rw [ih2 hf.2 hwf.2 R' ((le_max_right _ _).trans hR) t (hn t h2),
        minOver_shift R' fun u _ h4 => ih1 hf.1 hwf.1.2 R' ((le_max_left _ _).trans hR) u (hn u (h4.trans h2))]
    | since | precedes =>
      simp only [F.frag, Bool.and_eq_true] at hf
      simp only [past]
      rw [(ff φ hf.1).1, (ff ψ hf.2).1, Nat.max_self, (ff φ hf.1).2, (ff ψ hf.2).2]
      exact rho_delay σ n _ R j

/-- Key invariant (M-spec level): for every remaining horizon `R ≥ hor φ` and every time
    `i ≥ R` the pastified formula at `i` has the value of the original at `i - R`. -/
theorem C03_past_eq_delayed (φ : F α) (hf : φ.frag = true) (hwf : φ.wf = true)
    (σ : String → Nat → α) (R : Nat) (hR : hor φ ≤ R) (n i : Nat) (hi : R ≤ i) (hin : i < n) :
    rho σ n (past R φ) i = rho σ n φ (i - R) := by
  have := past_shift σ n φ hf hwf R hR (i - R)
  rw [Nat.sub_add_cancel hi] at this
  exact this hin

/-- C03 (partial: on `F.frag`): the online monitor of the pastified specification, fed `n`
    samples, returns at every update `i ≥ h = hor φ` the robustness of the original
    specification at sample `i - h` on the trace seen so far (`i + 1` samples). -/
theorem C03_pastified_monitor_partial (h r : Kind → Bool) (φ : F α) (hf : φ.frag = true)
    (hwf : φ.wf = true)
    (hh : ∀ k ∈ (pastify φ).kinds, k ≠ .Constant → (h k = true ∧ r k = false))
    (σ : String → Nat → α) (n i : Nat) (hin : i < n) (hi : hor φ ≤ i) :
    ∃ outs, runOnline h r (pastify φ) (envs σ n) = .ok outs ∧
      outs[i]? = some (rho σ (i + 1) φ (i - hor φ)) := by
  have hb := frag_bounded φ hf
  obtain ⟨hon, hwf'⟩ := C03_past_online φ hb hwf (hor φ)
  refine ⟨_, C02_run_eq_rho h r σ n (pastify φ) hon hwf' hh, ?_⟩
  rw [tab_getElem?, if_pos hin]
  congr 1
  unfold pastify
  rw [C03_past_eq_delayed φ hf hwf σ (hor φ) le_rfl n i hi hin]
  exact C16_settled φ hb σ σ n (i + 1) (i - hor φ) (by omega) (by omega) (fun _ _ _ => rfl)

end Rtamt
