/-
  The binary point-wise operation classes of the dense-time online monitor, translated from the source
  (`Gen.DenseOn.AndOperation_update`, …, `Gen.DenseOn.PredicateOperation_update`), compute what the mirror
  `Rtamt.Dense.AlgOn.binUpdate` / `binUpdateNL` (and the `.pred c` clause of `stepOn`) computes: the returned sample list and
  the new state of the object, or the exception.  The contract of the translated online `intersection` is the hypothesis
  `InterOnSpec α fuel k` (`RtamtProofs/GenDenseOnBase.lean`).

  The eleven `update` bodies are one statement sequence (`binBodyF`; `mulBody` has one assignment more); each statement has a
  lemma saying which piece of `binUpdate` it computes (`joinBuf`, `interOn`, `addLast`, `dropFirst`, `newLast`), stated as
  one assignment, `exec … = .ok (setLoc x v env, .none)`, so that what the other names hold afterwards is read off the
  term.  The call of `intersection` is the only step that can fail, so the body does what `binUpdate` does in the sense of
  `Exc.Sim` (`binTail_sim`), and so do the method (`gen_bin_update_sim`, by `method_sim`) and `updateObj` of the runner
  (`gen_binop_updateObj_sim`).  `PredicateOperation.update` is the call of `self.sub.update` followed by a loop that cannot
  fail and assigns only locals (`gen_pred_update_sim`); the loop is stated with the names of its locals as parameters
  (`predFor_spec`), since `IAPredicateOperation.update` has it inlined under other names.

  What is read off string literals stands in blocks of named facts: the attribute names (`self_sub`, …), the ten plain
  classes in the generated tables (`plainBin_spec`), the methods of the other two and their names (`isMethod_Predicate_update`,
  `name_Predicate_update`, …).
-/
import RtamtProofs.GenDenseOnMeth

namespace Rtamt.Py.DnOn.GOnBin
open Rtamt Val Rtamt.Dense Rtamt.Dense.Alg Rtamt.Dense.AlgOn Rtamt.Py.DnOn

set_option linter.unusedSectionVars false

variable {α : Type} [Val α]

/-! A structured copy of the generated bodies, checked by `rfl` against the generated terms (`And_body` … `Pred_init_body`). -/

/-- `if buf and smp and buf[-1][0] == smp[0][0]: buf = buf + smp[1:] else: buf = buf + smp` -/
def joinStmt (buf smp : String) : S :=
  .ite (.and_ (.loc buf) (.and_ (.loc smp)
      (.bin .eq (.idx (.idx (.loc buf) (.neg (.int 1))) (.int 0)) (.idx (.idx (.loc smp) (.int 0)) (.int 0)))))
    (.setLoc buf (.bin .add (.loc buf) (.sliceFrom (.loc smp) 1)))
    (.setLoc buf (.bin .add (.loc buf) (.loc smp)))

/-- `result, last, left, right = intersection(self.sample_left_buf, self.sample_right_buf, m)` -/
def callStmt (m : String) : S :=
  .unpack ["result", "last", "left", "right"]
    (.call3 "intersection" (.loc "self.sample_left_buf") (.loc "self.sample_right_buf") (.fnRef m))

/-- `if last: if not result: result.append(last) elif last[0] > result[-1][0]: result.append(last)` -/
def lastStmt : S :=
  .ite (.loc "last")
    (.ite (.not (.loc "result")) (.appendLoc "result" (.loc "last"))
      (.ite (.bin .gt (.idx (.loc "last") (.int 0)) (.idx (.idx (.loc "result") (.neg (.int 1))) (.int 0)))
        (.appendLoc "result" (.loc "last")) .skip)) .skip

/-- `if self.last_output and result: if self.last_output[0] == result[0][0] and self.last_output[1] == result[0][1]:
    result.pop(0)` -/
def dropStmt : S :=
  .ite (.and_ (.loc "self.last_output") (.loc "result"))
    (.ite (.and_ (.bin .eq (.idx (.loc "self.last_output") (.int 0)) (.idx (.idx (.loc "result") (.int 0)) (.int 0)))
        (.bin .eq (.idx (.loc "self.last_output") (.int 1)) (.idx (.idx (.loc "result") (.int 0)) (.int 1))))
      (.delIdx "result" (.int 0)) .skip) .skip

/-- `if result: self.last_output = result[-1]` -/
def saveStmt : S :=
  .ite (.loc "result") (.setLoc "self.last_output" (.idx (.loc "result") (.neg (.int 1)))) .skip

def binTail (m : String) (fin : S) : S :=
  .seq (callStmt m) (.seq lastStmt (.seq (.setLoc "self.sample_left_buf" (.loc "left"))
    (.seq (.setLoc "self.sample_right_buf" (.loc "right")) (.seq dropStmt (.seq saveStmt fin)))))

/-- `return result` -/
def retR : S := .ret (.loc "result")
/-- `XorOperation.update` ends with `return result` twice -/
def retRR : S := .seq retR retR

/-- the body of `update` of ten of the eleven classes (`fin`: the final `return result`) -/
def binBodyF (m : String) (fin : S) : S :=
  .seq (joinStmt "self.sample_left_buf" "sample_left") (.seq (joinStmt "self.sample_right_buf" "sample_right") (binTail m fin))

def binBody (m : String) : S := binBodyF m retR

/-- the body of `MultiplicationOperation.update`: `self.last_output = []` before the call of `intersection` -/
def mulBody : S :=
  .seq (joinStmt "self.sample_left_buf" "sample_left") (.seq (joinStmt "self.sample_right_buf" "sample_right")
    (.seq (.setLoc "self.last_output" .emptyList) (binTail "multiplication" retR)))

theorem And_body : Gen.DenseOn.AndOperation_update.body = binBody "conjunction" := rfl
theorem Or_body : Gen.DenseOn.OrOperation_update.body = binBody "disjunction" := rfl
theorem Implies_body : Gen.DenseOn.ImpliesOperation_update.body = binBody "implication" := rfl
theorem Iff_body : Gen.DenseOn.IffOperation_update.body = binBody "iff" := rfl
theorem Xor_body : Gen.DenseOn.XorOperation_update.body = binBodyF "xor" retRR := rfl
theorem Addition_body : Gen.DenseOn.AdditionOperation_update.body = binBody "addition" := rfl
theorem Subtraction_body : Gen.DenseOn.SubtractionOperation_update.body = binBody "subtraction" := rfl
theorem Division_body : Gen.DenseOn.DivisionOperation_update.body = binBody "division" := rfl
theorem Pow_body : Gen.DenseOn.PowOperation_update.body = binBody "power" := rfl
theorem Log_body : Gen.DenseOn.LogOperation_update.body = binBody "log" := rfl
theorem Multiplication_body : Gen.DenseOn.MultiplicationOperation_update.body = mulBody := rfl

theorem getLoc_err_iff {k : String} {env : Env α} : getLoc k env = .error .key ↔ env.lookup k = none := by
  unfold getLoc
  cases h : env.lookup k with
  | none => simp
  | some w => simp

theorem lookup_eq_of_getLoc {k : String} {env env' : Env α} (h : getLoc k env' = getLoc k env) :
    env'.lookup k = env.lookup k := by
  cases h2 : env.lookup k with
  | none => exact getLoc_err_iff.mp (h.trans (getLoc_err_iff.mpr h2))
  | some w => exact getLoc_ok_iff.mp (h.trans (getLoc_ok_iff.mpr h2))

def SelfKeys (store : Env α) : Prop := ∀ p ∈ store, isSelfKey p.1 = true

section stmts
variable (call : Call α) (fuel : Nat)

theorem cmpDV_eq_val (a b : α) : cmpDV .eq (.val a) (.val b) = .ok (!vne a b) := by
  simp [cmpDV, isTimeLike, isValLike, toVal, cmpVal, numEq, vne]

theorem evalE_and_false {a b : E} {env : Env α} {x : DV α} (ha : evalE call env a = .ok x) (ht : truthy x = .ok false) :
    evalE call env (.and_ a b) = .ok x := by
  rw [evalE.and_ ha ht]; rfl

theorem evalE_and_true {a b : E} {env : Env α} {x : DV α} (ha : evalE call env a = .ok x) (ht : truthy x = .ok true) :
    evalE call env (.and_ a b) = evalE call env b := by
  rw [evalE.and_ ha ht]; rfl

theorem truthy_encSig_concat (r : ASig α) (p : Tm × α) : truthy (encSig (r ++ [p])) = .ok true := by
  rw [truthy_encSig]; simp

theorem encSig_append (a b : ASig α) : encSig (a ++ b) = .list (a.map encSmp ++ b.map encSmp) := by
  simp [encSig]

/-- `x[-1]` of a non-empty sample list -/
theorem evalE_last {env : Env α} {x : String} {b : ASig α} {p : Tm × α} (h : getLoc x env = .ok (encSig (b ++ [p]))) :
    evalE call env (.idx (.loc x) (.neg (.int 1))) = .ok (encSmp p) :=
  evalE.last (l := b.map encSmp) (by rw [h, encSig_append]; rfl)

/-- `x[0]` of a non-empty sample list -/
theorem evalE_head {env : Env α} {x : String} {s : ASig α} {p : Tm × α} (h : getLoc x env = .ok (encSig (p :: s))) :
    evalE call env (.idx (.loc x) (.int 0)) = .ok (encSmp p) := by
  simp only [evalE, h, ok_bind]
  exact evalIdx.cons0 _ _

theorem evalE_concat {env : Env α} {a b : E} {x y : ASig α} (ha : evalE call env a = .ok (encSig x))
    (hb : evalE call env b = .ok (encSig y)) : evalE call env (.bin .add a b) = .ok (encSig (x ++ y)) := by
  rw [evalE.bin ha hb, encSig_append]; rfl

theorem evalBin_eq_val (a b : α) : evalBin .eq (.val a) (.val b) = .ok (.bool (!vne a b)) := by
  simp [evalBin, isCmp, cmpDV_eq_val, Except.map]

/-- `x.append(e)` on a sample list -/
theorem exec_append_sig {env : Env α} {x : String} {e : E} {r : ASig α} {p : Tm × α} (he : evalE call env e = .ok (encSmp p))
    (hx : getLoc x env = .ok (encSig r)) :
    exec call fuel (.appendLoc x e) env = .ok (setLoc x (encSig (r ++ [p])) env, .none) := by
  rw [exec.appendLoc he hx, encSig_append]; rfl

end stmts

/-- `if last: if not result: result.append(last) elif last[0] > result[-1][0]: result.append(last)` -/
def addLast (result : ASig α) : Last α → ASig α
  | .nil => result
  | .item t v =>
      match result.getLast? with
      | none => [(t, v)]
      | some (t', _) => if Tm.lt t' t then result ++ [(t, v)] else result

/-- `result.pop(0)` when the first sample repeats `self.last_output` -/
def dropFirst (lo : Option (Tm × α)) (result : ASig α) : ASig α :=
  match lo, result with
  | some (t, v), (t', v') :: rest => if t == t' && !vne v v' then rest else result
  | _, _ => result

/-- `if result: self.last_output = result[-1]` -/
def newLast (lo : Option (Tm × α)) (result : ASig α) : Option (Tm × α) :=
  match result.getLast? with
  | some p => some p
  | none => lo

/-- the mirror, in the shape the code has: the call of `intersection`, then the three statements on `result` -/
theorem binUpdate_eq (f : α → α → α) (st : BinSt α) (sl sr : ASig α) :
    binUpdate f st sl sr =
      (fun r : ASig α × Last α × ASig α × ASig α =>
        ({ buf1 := r.2.2.1, buf2 := r.2.2.2,
           lastOut := newLast st.lastOut (dropFirst st.lastOut (addLast r.1 r.2.1)) },
         dropFirst st.lastOut (addLast r.1 r.2.1))) <$> interOn f vne (joinBuf st.buf1 sl) (joinBuf st.buf2 sr) := by
  unfold binUpdate
  dsimp only
  cases hI : interOn f vne (joinBuf st.buf1 sl) (joinBuf st.buf2 sr) with
  | error e => rfl
  | ok r =>
      obtain ⟨result, last, left, right⟩ := r
      show _ = Except.ok (_, _)
      cases last with
      | nil => rfl
      | item t v =>
          simp only [ok_bind, addLast]
          cases hg : result.getLast? with
          | none => rfl
          | some p => rfl

theorem joinBuf_nil (s : ASig α) : joinBuf [] s = s := rfl
theorem joinBuf_nil_right (b : ASig α) : joinBuf b [] = b := by
  unfold joinBuf; cases b.getLast? <;> simp
theorem joinBuf_concat_cons (b : ASig α) (t t' : Tm) (v v' : α) (rest : ASig α) :
    joinBuf (b ++ [(t, v)]) ((t', v') :: rest) =
      if t == t' then b ++ [(t, v)] ++ rest else b ++ [(t, v)] ++ (t', v') :: rest := by
  simp [joinBuf]

theorem addLast_concat (r : ASig α) (t' t : Tm) (v' v : α) :
    addLast (r ++ [(t', v')]) (.item t v) = if Tm.lt t' t then r ++ [(t', v')] ++ [(t, v)] else r ++ [(t', v')] := by
  simp [addLast]

section specs
variable (call : Call α) (fuel : Nat)

theorem joinStmt_spec (buf smp : String) (env : Env α) (b s : ASig α)
    (hb : getLoc buf env = .ok (encSig b)) (hs : getLoc smp env = .ok (encSig s)) :
    exec call fuel (joinStmt buf smp) env = .ok (setLoc buf (encSig (joinBuf b s)) env, .none) := by
  have eb : evalE call env (.loc buf) = .ok (encSig b) := by rw [evalE]; exact hb
  have es : evalE call env (.loc smp) = .ok (encSig s) := by rw [evalE]; exact hs
  have hplain := exec.setLoc (fuel := fuel) (x := buf) (evalE_concat call eb es)
  unfold joinStmt
  rcases List.eq_nil_or_concat b with rfl | ⟨b', ⟨t, v⟩, h⟩
  · rw [exec.ite (evalE_and_false call eb (truthy_encSig _)) (truthy_encSig _), joinBuf_nil]
    exact hplain
  · rw [List.concat_eq_append] at h; subst h
    have tb := truthy_encSig_concat b' (t, v)
    cases s with
    | nil =>
        rw [exec.ite ((evalE_and_true call eb tb).trans (evalE_and_false call es (truthy_encSig _)))
          (truthy_encSig _), joinBuf_nil_right]
        rw [List.append_nil] at hplain
        exact hplain
    | cons p rest =>
        obtain ⟨t', v'⟩ := p
        have hc : evalE call env (.bin .eq (.idx (.idx (.loc buf) (.neg (.int 1))) (.int 0))
            (.idx (.idx (.loc smp) (.int 0)) (.int 0))) = .ok (.bool (t == t')) := by
          rw [evalE.bin (evalE.time (evalE_last call hb)) (evalE.time (evalE_head call hs))]
          exact evalBin.eq_tm t t'
        rw [exec.ite ((evalE_and_true call eb tb).trans ((evalE_and_true call es rfl).trans hc)) rfl,
          joinBuf_concat_cons]
        cases t == t' with
        | true =>
            refine exec.setLoc (fuel := fuel) (evalE_concat call eb (y := rest) ?_)
            simp only [evalE, hs, ok_bind]; rfl
        | false => exact hplain

variable {call} {fuel}

theorem lastStmt_spec (env : Env α) (r : ASig α) (last : Last α)
    (hr : getLoc "result" env = .ok (encSig r)) (hl : getLoc "last" env = .ok (encLast DV.val last)) :
    exec call fuel lastStmt env = .ok (setLoc "result" (encSig (addLast r last)) env, .none) := by
  have el := evalE.loc (call := call) hl
  have hskip := exec.skip_set (call := call) (fuel := fuel) hr
  unfold lastStmt
  cases last with
  | nil => exact (exec.ite el rfl).trans hskip
  | item t v =>
      rw [exec.ite el rfl]
      have happ := exec_append_sig call fuel (p := (t, v)) el hr
      rcases List.eq_nil_or_concat r with rfl | ⟨r', ⟨t', v'⟩, h⟩
      · rw [exec.ite (evalE.not (evalE.loc hr) (truthy_encSig _)) rfl]
        exact happ
      · rw [List.concat_eq_append] at h; subst h
        have tr := truthy_encSig_concat r' (t', v')
        rw [exec.ite (evalE.not (evalE.loc hr) tr) rfl]
        have hgt : evalE call env (.bin .gt (.idx (.loc "last") (.int 0))
            (.idx (.idx (.loc "result") (.neg (.int 1))) (.int 0))) = .ok (.bool (Tm.lt t' t)) := by
          rw [evalE.bin (evalE.time el) (evalE.time (evalE_last call hr))]
          exact evalBin.gt_tm t t'
        have hx := exec.ite (fuel := fuel) (t := .appendLoc "result" (.loc "last")) (e := .skip) hgt rfl
        rw [addLast_concat, hx]
        cases Tm.lt t' t with
        | true => exact happ
        | false => exact hskip

theorem dropStmt_spec (env : Env α) (lo : Option (Tm × α)) (r : ASig α)
    (hlo : getLoc "self.last_output" env = .ok (encOptSmp lo)) (hr : getLoc "result" env = .ok (encSig r)) :
    exec call fuel dropStmt env = .ok (setLoc "result" (encSig (dropFirst lo r)) env, .none) := by
  have elo := evalE.loc (call := call) hlo
  have er := evalE.loc (call := call) hr
  have hskip := exec.skip_set (call := call) (fuel := fuel) hr
  unfold dropStmt
  cases lo with
  | none =>
      rw [exec.ite (evalE_and_false call elo rfl) rfl]
      exact hskip
  | some p =>
      obtain ⟨t, v⟩ := p
      cases r with
      | nil =>
          rw [exec.ite ((evalE_and_true call elo rfl).trans er) rfl]
          exact hskip
      | cons q rest =>
          obtain ⟨t', v'⟩ := q
          have h0 := evalE_head call hr
          have hc := evalE.and_bool
            ((evalE.bin (evalE.time elo) (evalE.time h0)).trans (evalBin.eq_tm t t'))
            ((evalE.bin (evalE.payload elo) (evalE.payload h0)).trans (evalBin_eq_val v v'))
          rw [exec.ite_true ((evalE_and_true call elo rfl).trans er) rfl, exec.ite hc rfl]
          show _ = Except.ok (setLoc "result" (encSig (if (t == t' && !vne v v') = true then rest else _)) env, _)
          cases (t == t' && !vne v v') with
          | true => exact exec.delHead (fuel := fuel) hr
          | false => exact hskip

theorem saveStmt_spec (env : Env α) (lo : Option (Tm × α)) (r : ASig α)
    (hlo : getLoc "self.last_output" env = .ok (encOptSmp lo)) (hr : getLoc "result" env = .ok (encSig r)) :
    exec call fuel saveStmt env = .ok (setLoc "self.last_output" (encOptSmp (newLast lo r)) env, .none) := by
  unfold saveStmt
  rcases List.eq_nil_or_concat r with rfl | ⟨r', p, h⟩
  · rw [exec.ite_false (evalE.loc hr) rfl]
    exact exec.skip_set hlo
  · rw [List.concat_eq_append] at h; subst h
    have hn : newLast lo (r' ++ [p]) = some p := by simp [newLast]
    rw [exec.ite_true (evalE.loc hr) (truthy_encSig_concat r' p), hn]
    exact exec.setLoc (fuel := fuel) (evalE_last call hr)

end specs

/-- a final statement that returns `result` -/
def IsRet (fin : S) : Prop :=
  ∀ (α : Type) [Val α] (call : Call α) (fuel : Nat) (env : Env α) (v : DV α),
    getLoc "result" env = .ok v → exec call fuel fin env = .ok (env, .ret v)

theorem isRet_retR : IsRet retR := fun _ _ _ _ _ _ h => exec.ret (evalE.loc h)
theorem isRet_retRR : IsRet retRR := fun α _ call fuel env v h => exec.seq_ret (isRet_retR α call fuel env v h)

/-- what the body of `update` leaves behind: the value returned is the output, the attributes hold the new state -/
def BinPost (p : BinSt α × ASig α) (env : Env α) (v : DV α) : Prop :=
  v = encSig p.2 ∧ getLoc "self.sample_left_buf" env = .ok (encSig p.1.buf1) ∧
    getLoc "self.sample_right_buf" env = .ok (encSig p.1.buf2) ∧ getLoc "self.last_output" env = .ok (encOptSmp p.1.lastOut)

theorem binTail_sim (fuel k : Nat) (hI : InterOnSpec α fuel k) (m : String) (f : α → α → α)
    (hm : ∀ a b, callAt Gen.DenseOn.fns fuel (k + 1) m [.val a, .val b] = .ok (.val (f a b)))
    (fin : S) (hfin : IsRet fin) (env : Env α) (st : BinSt α) (sl sr : ASig α)
    (h1 : getLoc "self.sample_left_buf" env = .ok (encSig (joinBuf st.buf1 sl)))
    (h2 : getLoc "self.sample_right_buf" env = .ok (encSig (joinBuf st.buf2 sr)))
    (hlo : getLoc "self.last_output" env = .ok (encOptSmp st.lastOut))
    (hres : getLoc "intersection" env = .error .key)
    (hfuel : 2 * ((joinBuf st.buf1 sl).length + (joinBuf st.buf2 sr).length) + 4 ≤ fuel) :
    Exc.Sim (exec (callAt Gen.DenseOn.fns fuel (k + 2)) fuel (binTail m fin) env) (binUpdate f st sl sr)
      fun p r => ∃ v, r.2 = .ret v ∧ BinPost p r.1 v := by
  rw [binUpdate_eq]
  generalize st.lastOut = lo at hlo ⊢
  refine Exc.Sim.map_left _ (exec.seq_sim_right (Q1 := fun p r => r = (setLoc "right" (encSig p.2.2.2)
      (setLoc "left" (encSig p.2.2.1) (setLoc "last" (encLast DV.val p.2.1) (setLoc "result" (encSig p.1) env))), .none)) ?_ ?_)
  · -- the call of `intersection` (no local shadows the name), unpacked into four locals
    unfold callStmt
    rw [exec, evalE.call3 (evalE.loc h1) (evalE.loc h2) (z := .fn m) (by rw [evalE]), resolve_of_key hres]
    refine (InterOnSpec.sim hI DV.val f vne m hm (fun _ => rfl) cmpDV_ne_val _ _ hfuel).bind_right ?_
    rintro p r rfl
    exact ⟨_, rfl, rfl⟩
  · rintro ⟨result, last, left, right⟩ ⟨env1, c1⟩ h
    obtain ⟨henv1, rfl⟩ := Prod.mk.inj h
    refine ⟨rfl, ?_⟩
    dsimp only at henv1 ⊢
    generalize henv4 : setLoc "self.sample_right_buf" (encSig right) (setLoc "self.sample_left_buf" (encSig left)
      (setLoc "result" (encSig (addLast result last)) env1)) = env4
    have lo4 : getLoc "self.last_output" env4 = .ok (encOptSmp lo) := by rw [← henv4, henv1]; simpa using hlo
    refine ⟨(?_, .ret _), ?run, _, rfl, rfl, ?_, ?_, ?_⟩
    case run =>
      rw [exec.seq_ok (lastStmt_spec env1 result last (by rw [henv1]; simp) (by rw [henv1]; simp)),
        exec.seq_setLoc (v := encSig left) (evalE.loc (by rw [henv1]; simp)),
        exec.seq_setLoc (v := encSig right) (evalE.loc (by rw [henv1]; simp)), henv4,
        exec.seq_ok (dropStmt_spec env4 lo (addLast result last) lo4 (by rw [← henv4]; simp)),
        exec.seq_ok (saveStmt_spec (setLoc "result" _ env4) lo (dropFirst lo (addLast result last))
          (by simpa using lo4) (getLoc_setLoc_same _ _ _))]
      refine hfin α _ fuel _ _ ?_
      simp
    · rw [← henv4]; simp
    · rw [← henv4]; simp
    · exact getLoc_setLoc_same _ _ _

theorem joinBuf_length_le (b s : ASig α) : (joinBuf b s).length ≤ b.length + s.length := by
  unfold joinBuf
  split
  · split <;> simp
  · simp

theorem joins_spec (call : Call α) (fuel : Nat) (env : Env α) (b1 b2 sl sr : ASig α)
    (h1 : getLoc "self.sample_left_buf" env = .ok (encSig b1))
    (h2 : getLoc "self.sample_right_buf" env = .ok (encSig b2))
    (hsl : getLoc "sample_left" env = .ok (encSig sl)) (hsr : getLoc "sample_right" env = .ok (encSig sr)) (rest : S) :
    exec call fuel (.seq (joinStmt "self.sample_left_buf" "sample_left")
        (.seq (joinStmt "self.sample_right_buf" "sample_right") rest)) env =
      exec call fuel rest (setLoc "self.sample_right_buf" (encSig (joinBuf b2 sr))
        (setLoc "self.sample_left_buf" (encSig (joinBuf b1 sl)) env)) := by
  rw [exec.seq_ok (joinStmt_spec call fuel "self.sample_left_buf" "sample_left" env _ _ h1 hsl),
    exec.seq_ok (joinStmt_spec call fuel "self.sample_right_buf" "sample_right" _ b2 sr (by simpa using h2)
      (by simpa using hsr))]

theorem binBodyF_sim (fuel k : Nat) (hI : InterOnSpec α fuel k) (m : String) (f : α → α → α)
    (hm : ∀ a b, callAt Gen.DenseOn.fns fuel (k + 1) m [.val a, .val b] = .ok (.val (f a b)))
    (fin : S) (hfin : IsRet fin) (env : Env α) (st : BinSt α) (sl sr : ASig α)
    (h1 : getLoc "self.sample_left_buf" env = .ok (encSig st.buf1))
    (h2 : getLoc "self.sample_right_buf" env = .ok (encSig st.buf2))
    (hsl : getLoc "sample_left" env = .ok (encSig sl)) (hsr : getLoc "sample_right" env = .ok (encSig sr))
    (hlo : getLoc "self.last_output" env = .ok (encOptSmp st.lastOut))
    (hres : getLoc "intersection" env = .error .key)
    (hfuel : 2 * (st.buf1.length + sl.length + st.buf2.length + sr.length) + 4 ≤ fuel) :
    Exc.Sim (exec (callAt Gen.DenseOn.fns fuel (k + 2)) fuel (binBodyF m fin) env) (binUpdate f st sl sr)
      fun p r => ∃ v, r.2 = .ret v ∧ BinPost p r.1 v := by
  have hlen1 := joinBuf_length_le st.buf1 sl
  have hlen2 := joinBuf_length_le st.buf2 sr
  unfold binBodyF
  rw [joins_spec _ fuel env _ _ sl sr h1 h2 hsl hsr]
  exact binTail_sim fuel k hI m f hm fin hfin _ st sl sr (by simp) (by simp) (by simpa using hlo) (by simpa using hres)
    (by omega)

/-- `MultiplicationOperation.update`: `self.last_output` need not exist before the call -/
theorem mulBody_sim (fuel k : Nat) (hI : InterOnSpec α fuel k) (f : α → α → α)
    (hm : ∀ a b, callAt Gen.DenseOn.fns fuel (k + 1) "multiplication" [.val a, .val b] = .ok (.val (f a b)))
    (env : Env α) (st : BinSt α) (sl sr : ASig α)
    (h1 : getLoc "self.sample_left_buf" env = .ok (encSig st.buf1))
    (h2 : getLoc "self.sample_right_buf" env = .ok (encSig st.buf2))
    (hsl : getLoc "sample_left" env = .ok (encSig sl)) (hsr : getLoc "sample_right" env = .ok (encSig sr))
    (hres : getLoc "intersection" env = .error .key)
    (hfuel : 2 * (st.buf1.length + sl.length + st.buf2.length + sr.length) + 4 ≤ fuel) :
    Exc.Sim (exec (callAt Gen.DenseOn.fns fuel (k + 2)) fuel mulBody env) (binUpdateNL f st sl sr)
      fun p r => ∃ v, r.2 = .ret v ∧ BinPost p r.1 v := by
  have hlen1 := joinBuf_length_le st.buf1 sl
  have hlen2 := joinBuf_length_le st.buf2 sr
  have hf : 2 * ((joinBuf st.buf1 sl).length + (joinBuf st.buf2 sr).length) + 4 ≤ fuel := by omega
  unfold mulBody binUpdateNL
  rw [joins_spec _ fuel env _ _ sl sr h1 h2 hsl hsr, exec.seq_setLoc (v := .list []) rfl]
  exact binTail_sim fuel k hI "multiplication" f hm retR isRet_retR _ { st with lastOut := none } sl sr (by simp) (by simp)
    (by simp [encOptSmp]) (by simpa using hres) hf

/-- the object `o` of class `cls` is in the state `st` (without `self.last_output`: `MultiplicationOperation` before its first
    `update`) -/
def BinRelNL (cls : String) (st : BinSt α) (o : DV α) : Prop :=
  ∃ store, o = .obj cls store ∧
    store.lookup "self.sample_left_buf" = some (encSig st.buf1) ∧
    store.lookup "self.sample_right_buf" = some (encSig st.buf2) ∧
    SelfKeys store

/-- the object `o` of class `cls` is in the state `st` -/
def BinRel (cls : String) (st : BinSt α) (o : DV α) : Prop :=
  ∃ store, o = .obj cls store ∧
    store.lookup "self.sample_left_buf" = some (encSig st.buf1) ∧
    store.lookup "self.sample_right_buf" = some (encSig st.buf2) ∧
    store.lookup "self.last_output" = some (encOptSmp st.lastOut) ∧
    SelfKeys store

theorem BinRel.toNL {cls : String} {st : BinSt α} {o : DV α} (h : BinRel cls st o) : BinRelNL cls st o := by
  obtain ⟨store, e, h1, h2, _, hk⟩ := h
  exact ⟨store, e, h1, h2, hk⟩

/-- `BinRelNL` does not look at `lastOut` -/
theorem BinRelNL.congr {cls : String} {st st' : BinSt α} {o : DV α} (h : BinRelNL cls st o)
    (h1 : st'.buf1 = st.buf1) (h2 : st'.buf2 = st.buf2) : BinRelNL cls st' o := by
  obtain ⟨store, e, g1, g2, hk⟩ := h
  exact ⟨store, e, by rw [h1]; exact g1, by rw [h2]; exact g2, hk⟩

theorem self_sample_left_buf : isSelfKey "self.sample_left_buf" = true := by decide +kernel
theorem self_sample_right_buf : isSelfKey "self.sample_right_buf" = true := by decide +kernel
theorem self_last_output : isSelfKey "self.last_output" = true := by decide +kernel
theorem self_sub : isSelfKey "self.sub" = true := by decide +kernel
theorem self_comparison_op : isSelfKey "self.comparison_op" = true := by decide +kernel
theorem self_subtraction_output : isSelfKey "self.subtraction_output" = true := by decide +kernel
theorem params_nonself : ∀ p ∈ ["sample_left", "sample_right"], isSelfKey p = false := by decide +kernel

theorem binRel_of_env (cls : String) (st : BinSt α) (env : Env α)
    (g1 : getLoc "self.sample_left_buf" env = .ok (encSig st.buf1))
    (g2 : getLoc "self.sample_right_buf" env = .ok (encSig st.buf2))
    (g3 : getLoc "self.last_output" env = .ok (encOptSmp st.lastOut)) :
    BinRel cls st (.obj cls (env.filter (fun p => isSelfKey p.1))) :=
  ⟨_, rfl, lookup_filter_get self_sample_left_buf g1, lookup_filter_get self_sample_right_buf g2,
    lookup_filter_get self_last_output g3, selfKeys_filter env⟩

/-- the locals a method `update(self, sample_left, sample_right)` starts with -/
theorem update_locals (store : Env α) (hk : SelfKeys store) (x y : DV α) :
    getLoc "sample_left" (store ++ [("sample_left", x), ("sample_right", y)]) = .ok x ∧
    getLoc "sample_right" (store ++ [("sample_left", x), ("sample_right", y)]) = .ok y ∧
    getLoc "intersection" (store ++ [("sample_left", x), ("sample_right", y)]) = .error .key ∧
    getLoc "abs" (store ++ [("sample_left", x), ("sample_right", y)]) = .error .key ∧
    getLoc "len" (store ++ [("sample_left", x), ("sample_right", y)]) = .error .key := by
  have h : ∀ k, isSelfKey k = false → getLoc k (store ++ [("sample_left", x), ("sample_right", y)]) =
      getLoc k [("sample_left", x), ("sample_right", y)] :=
    fun k hs => getLoc_append_right (lookup_none_of_selfKeys store hk k hs)
  refine ⟨?_, ?_, ?_, ?_, ?_⟩
  all_goals rw [h _ (by decide +kernel)]; simp

/-- `cls.update` is a method `update(self, sample_left, sample_right)` with the body `binBodyF m fin` -/
def BinClass (cls m : String) : Prop :=
  ∃ fn fin, Gen.DenseOn.fns.lookup (cls ++ ".update") = some fn ∧ fn.isMethod = true ∧
    fn.params = ["self", "sample_left", "sample_right"] ∧ fn.body = binBodyF m fin ∧ IsRet fin

/-- the fuel `update` needs: the loop of `intersection` over the two joined buffers -/
def binFuel (st : BinSt α) (sl sr : ASig α) : Nat :=
  2 * (st.buf1.length + sl.length + st.buf2.length + sr.length) + 4

def init3 : S :=
  .seq (.setLoc "self.sample_left_buf" .emptyList) (.seq (.setLoc "self.sample_right_buf" .emptyList)
    (.setLoc "self.last_output" .emptyList))

def init4 : S :=
  .seq (.setLoc "self.sample_left_buf" .emptyList) (.seq (.setLoc "self.sample_right_buf" .emptyList)
    (.seq (.setLoc "self.sample_last_buf" .emptyList) (.setLoc "self.last_output" .emptyList)))

def init2 : S :=
  .seq (.setLoc "self.sample_left_buf" .emptyList) (.setLoc "self.sample_right_buf" .emptyList)

/-- `cls.__init__(self)` sets the buffers and `self.last_output` to `[]` -/
def InitClass (cls : String) : Prop :=
  ∃ fn, Gen.DenseOn.fns.lookup (cls ++ ".__init__") = some fn ∧ fn.isMethod = true ∧ fn.params = ["self"] ∧
    (fn.body = init3 ∨ fn.body = init4)

/-- the binary operators whose class has the common `update` body and hands `op.app` to `intersection` -/
def plainBin : Bin → Bool
  | .add | .sub | .div | .pow | .log | .and | .or | .implies | .iff | .xor => true
  | _ => false

def binCls : Bin → String
  | .add => "AdditionOperation" | .sub => "SubtractionOperation" | .mul => "MultiplicationOperation"
  | .div => "DivisionOperation" | .pow => "PowOperation" | .log => "LogOperation"
  | .and => "AndOperation" | .or => "OrOperation" | .implies => "ImpliesOperation" | .iff => "IffOperation"
  | .xor => "XorOperation" | _ => "PredicateOperation"

def binMeth : Bin → String
  | .add => "addition" | .sub => "subtraction" | .mul => "multiplication"
  | .div => "division" | .pow => "power" | .log => "log"
  | .and => "conjunction" | .or => "disjunction" | .implies => "implication" | .iff => "iff"
  | .xor => "xor" | _ => ""

/-- the ten classes, read off the generated tables: the two methods, the function handed to `intersection`, and the entry of
    the construction visitor -/
theorem plainBin_spec (op : Bin) (h : plainBin op = true) :
    BinClass (binCls op) (binMeth op) ∧ InitClass (binCls op) ∧
    (∀ (α : Type) [Val α] (fuel k : Nat) (a b : α),
      callAt Gen.DenseOn.fns fuel (k + 1) (binMeth op) [.val a, .val b] = .ok (.val (op.app a b) : DV α)) ∧
    ctorOf op.kind = some (.builds (binCls op) []) := by
  cases op <;> simp [plainBin] at h
  · exact ⟨⟨Gen.DenseOn.AdditionOperation_update, retR, fns_at_append 53 rfl (by decide +kernel), rfl, rfl, rfl, isRet_retR⟩,
      ⟨Gen.DenseOn.AdditionOperation_init, fns_at_append 52 rfl (by decide +kernel), rfl, rfl, .inl rfl⟩,
      fun _ _ => gen_on_addition, ctorOf_class rfl⟩
  · exact ⟨⟨Gen.DenseOn.SubtractionOperation_update, retR, fns_at_append 71 rfl (by decide +kernel), rfl, rfl, rfl, isRet_retR⟩,
      ⟨Gen.DenseOn.SubtractionOperation_init, fns_at_append 70 rfl (by decide +kernel), rfl, rfl, .inl rfl⟩,
      fun _ _ => gen_on_subtraction, ctorOf_class rfl⟩
  · exact ⟨⟨Gen.DenseOn.DivisionOperation_update, retR, fns_at_append 55 rfl (by decide +kernel), rfl, rfl, rfl, isRet_retR⟩,
      ⟨Gen.DenseOn.DivisionOperation_init, fns_at_append 54 rfl (by decide +kernel), rfl, rfl, .inl rfl⟩,
      fun _ _ => gen_on_division, ctorOf_class rfl⟩
  · exact ⟨⟨Gen.DenseOn.PowOperation_update, retR, fns_at_append 67 rfl (by decide +kernel), rfl, rfl, rfl, isRet_retR⟩,
      ⟨Gen.DenseOn.PowOperation_init, fns_at_append 66 rfl (by decide +kernel), rfl, rfl, .inl rfl⟩,
      fun _ _ => gen_on_power, ctorOf_class rfl⟩
  · exact ⟨⟨Gen.DenseOn.LogOperation_update, retR, fns_at_append 61 rfl (by decide +kernel), rfl, rfl, rfl, isRet_retR⟩,
      ⟨Gen.DenseOn.LogOperation_init, fns_at_append 60 rfl (by decide +kernel), rfl, rfl, .inl rfl⟩,
      fun _ _ => gen_on_log, ctorOf_class rfl⟩
  · exact ⟨⟨Gen.DenseOn.AndOperation_update, retR, fns_at_append 20 rfl (by decide +kernel), rfl, rfl, rfl, isRet_retR⟩,
      ⟨Gen.DenseOn.AndOperation_init, fns_at_append 19 rfl (by decide +kernel), rfl, rfl, .inr rfl⟩,
      fun _ _ => gen_on_conjunction, ctorOf_class rfl⟩
  · exact ⟨⟨Gen.DenseOn.OrOperation_update, retR, fns_at_append 38 rfl (by decide +kernel), rfl, rfl, rfl, isRet_retR⟩,
      ⟨Gen.DenseOn.OrOperation_init, fns_at_append 37 rfl (by decide +kernel), rfl, rfl, .inl rfl⟩,
      fun _ _ => gen_on_disjunction, ctorOf_class rfl⟩
  · exact ⟨⟨Gen.DenseOn.ImpliesOperation_update, retR, fns_at_append 30 rfl (by decide +kernel), rfl, rfl, rfl, isRet_retR⟩,
      ⟨Gen.DenseOn.ImpliesOperation_init, fns_at_append 29 rfl (by decide +kernel), rfl, rfl, .inl rfl⟩,
      fun _ _ => gen_on_implication, ctorOf_class rfl⟩
  · exact ⟨⟨Gen.DenseOn.IffOperation_update, retR, fns_at_append 28 rfl (by decide +kernel), rfl, rfl, rfl, isRet_retR⟩,
      ⟨Gen.DenseOn.IffOperation_init, fns_at_append 27 rfl (by decide +kernel), rfl, rfl, .inl rfl⟩,
      fun _ _ => gen_on_iff, ctorOf_class rfl⟩
  · exact ⟨⟨Gen.DenseOn.XorOperation_update, retRR, fns_at_append 49 rfl (by decide +kernel), rfl, rfl, rfl, isRet_retRR⟩,
      ⟨Gen.DenseOn.XorOperation_init, fns_at_append 48 rfl (by decide +kernel), rfl, rfl, .inl rfl⟩,
      fun _ _ => gen_on_xor, ctorOf_class rfl⟩

theorem binClass_And : BinClass "AndOperation" "conjunction" := (plainBin_spec .and rfl).1
theorem initClass_And : InitClass "AndOperation" := (plainBin_spec .and rfl).2.1
theorem binClass_Subtraction : BinClass "SubtractionOperation" "subtraction" := (plainBin_spec .sub rfl).1
theorem initClass_Subtraction : InitClass "SubtractionOperation" := (plainBin_spec .sub rfl).2.1

theorem Multiplication_init_body : Gen.DenseOn.MultiplicationOperation_init.body = init2 := rfl

/-- the chain over the comparison operator, with the names of the locals as parameters (`IAPredicateOperation.update` has the
    same loop inlined, its locals renamed) -/
def predChain (i out : String) : S :=
  .ite (.bin .eq (.loc "self.comparison_op") (.cmpc .eq))
    (.setLoc out (.neg (.call1 "abs" (.idx (.loc i) (.int 1)))))
  (.ite (.bin .eq (.loc "self.comparison_op") (.cmpc .ne))
    (.setLoc out (.call1 "abs" (.idx (.loc i) (.int 1))))
  (.ite (.or_ (.bin .eq (.loc "self.comparison_op") (.cmpc .le)) (.bin .eq (.loc "self.comparison_op") (.cmpc .lt)))
    (.setLoc out (.neg (.idx (.loc i) (.int 1))))
  (.ite (.or_ (.bin .eq (.loc "self.comparison_op") (.cmpc .ge)) (.bin .eq (.loc "self.comparison_op") (.cmpc .gt)))
    (.setLoc out (.idx (.loc i) (.int 1)))
    (.setLoc out .nan))))

def predLoopBody (i out res prev : String) : S :=
  .seq (predChain i out) (.seq (.appendLoc res (.list2 (.idx (.loc i) (.int 0)) (.loc out))) (.setLoc prev (.loc out)))

def predRest : S :=
  .seq (.setLoc "self.subtraction_output" (.loc "input_list")) (.seq (.setLoc "prev" .nan)
    (.seq (.forIn "i" (.loc "input_list") (predLoopBody "i" "out_val" "sample_result" "prev")) (.ret (.loc "sample_result"))))

def predBody : S :=
  .seq (.setLoc "sample_result" .emptyList)
    (.seq (.mcall (some "input_list") "self.sub" "update" [(.loc "sample_left"), (.loc "sample_right")]) predRest)

theorem Pred_body : Gen.DenseOn.PredicateOperation_update.body = predBody := rfl

theorem predLoop_locals : ∀ x ∈ mods (.forIn "i" (.loc "input_list") (predLoopBody "i" "out_val" "sample_result" "prev")),
    isSelfKey x = false := by decide +kernel

/-- the names the loop of `predRest` reads and assigns -/
theorem predNames_nodup : ["self.comparison_op", "abs", "i", "out_val", "sample_result", "prev"].Nodup := by decide +kernel

def predInit : S :=
  .seq (.new "self.sub" "SubtractionOperation" []) (.seq (.setLoc "self.comparison_op" (.loc "comparison_op"))
    (.setLoc "self.subtraction_output" .emptyList))

theorem Pred_init_body : Gen.DenseOn.PredicateOperation_init.body = predInit := rfl

theorem isMethod_Multiplication_init :
    IsMethod "MultiplicationOperation.__init__" Gen.DenseOn.MultiplicationOperation_init [] :=
  ⟨fns_at 62 rfl, rfl, rfl, nofun⟩
theorem isMethod_Multiplication_update :
    IsMethod "MultiplicationOperation.update" Gen.DenseOn.MultiplicationOperation_update ["sample_left", "sample_right"] :=
  ⟨fns_at 63 rfl, rfl, rfl, params_nonself⟩
theorem isMethod_Predicate_init :
    IsMethod "PredicateOperation.__init__" Gen.DenseOn.PredicateOperation_init ["comparison_op"] :=
  ⟨fns_at 39 rfl, rfl, rfl, by decide +kernel⟩
theorem isMethod_Predicate_update :
    IsMethod "PredicateOperation.update" Gen.DenseOn.PredicateOperation_update ["sample_left", "sample_right"] :=
  ⟨fns_at 40 rfl, rfl, rfl, params_nonself⟩
theorem name_Multiplication_init : "MultiplicationOperation" ++ ".__init__" = "MultiplicationOperation.__init__" := by
  decide +kernel
theorem name_Multiplication_update : "MultiplicationOperation" ++ ".update" = "MultiplicationOperation.update" := by
  decide +kernel
theorem name_Predicate_init : "PredicateOperation" ++ ".__init__" = "PredicateOperation.__init__" := by decide +kernel
theorem name_Predicate_update : "PredicateOperation" ++ ".update" = "PredicateOperation.update" := by decide +kernel

theorem cmpDV_eq_cmp (a b : Cmp) : cmpDV (α := α) .eq (.cmp a) (.cmp b) = .ok (decide (a = b)) := by
  simp [cmpDV]

section pred
variable (call : Call α) (fuel : Nat)

/-- `self.comparison_op == StlComparisonOperator.k` -/
theorem evalE_isCmp {env : Env α} {c : Cmp} (hc : getLoc "self.comparison_op" env = .ok (.cmp c)) (k : Cmp) :
    evalE call env (.bin .eq (.loc "self.comparison_op") (.cmpc k)) = .ok (.bool (decide (c = k))) := by
  simp [evalE, hc, evalBin, isCmp, cmpDV_eq_cmp, Except.map]

theorem predChain_spec (habs : ∀ x : α, call "abs" [.val x] = .ok (.val (Val.abs x))) (i out : String) (env : Env α)
    (c : Cmp) (t : Tm) (x : α)
    (hc : getLoc "self.comparison_op" env = .ok (.cmp c)) (hi : getLoc i env = .ok (.smp t (.val x)))
    (hres : getLoc "abs" env = .error .key) :
    exec call fuel (predChain i out) env = .ok (setLoc out (.val (cmpOfDiff c x)) env, .none) := by
  have hx : evalE call env (.idx (.loc i) (.int 1)) = .ok (.val x) := evalE.payload (evalE.loc hi)
  have hnx : evalE call env (.neg (.idx (.loc i) (.int 1))) = .ok (.val (Val.neg x)) := evalE.neg hx
  have hax : evalE call env (.call1 "abs" (.idx (.loc i) (.int 1))) = .ok (.val (Val.abs x)) := by
    rw [evalE.call1 hx, resolve_of_key hres]; exact habs x
  have hnax : evalE call env (.neg (.call1 "abs" (.idx (.loc i) (.int 1)))) = .ok (.val (Val.neg (Val.abs x))) :=
    evalE.neg hax
  unfold predChain
  rw [exec.ite (evalE_isCmp call hc .eq) rfl, exec.ite (evalE_isCmp call hc .ne) rfl,
    exec.ite (evalE.or_bool (evalE_isCmp call hc .le) (evalE_isCmp call hc .lt)) rfl,
    exec.ite (evalE.or_bool (evalE_isCmp call hc .ge) (evalE_isCmp call hc .gt)) rfl]
  cases c with
  | eq => exact exec.setLoc (fuel := fuel) hnax
  | ne => exact exec.setLoc (fuel := fuel) hax
  | le => exact exec.setLoc (fuel := fuel) hnx
  | lt => exact exec.setLoc (fuel := fuel) hnx
  | ge => exact exec.setLoc (fuel := fuel) hx
  | gt => exact exec.setLoc (fuel := fuel) hx

theorem predLoopBody_spec (habs : ∀ x : α, call "abs" [.val x] = .ok (.val (Val.abs x))) {i out res prev : String}
    (hio : i ≠ out) (hro : res ≠ out) (env : Env α) (c : Cmp) (acc : ASig α) (t : Tm) (x : α)
    (hc : getLoc "self.comparison_op" env = .ok (.cmp c)) (hi : getLoc i env = .ok (.smp t (.val x)))
    (hr : getLoc res env = .ok (encSig acc)) (hres : getLoc "abs" env = .error .key) :
    exec call fuel (predLoopBody i out res prev) env =
      .ok (setLoc prev (.val (cmpOfDiff c x)) (setLoc res (encSig (acc ++ [(t, cmpOfDiff c x)]))
        (setLoc out (.val (cmpOfDiff c x)) env)), .none) := by
  unfold predLoopBody
  rw [exec.seq_ok (predChain_spec call fuel habs i out env c t x hc hi hres),
    exec.seq_ok (exec_append_sig call fuel (p := (t, cmpOfDiff c x))
      (evalE.list2 (evalE.time (evalE.loc ((getLoc_setLoc_ne _ _ _ _ hio).trans hi))) (evalE.loc (getLoc_setLoc_same _ _ _)))
      ((getLoc_setLoc_ne _ _ _ _ hro).trans hr))]
  exact exec.setLoc (evalE.loc ((getLoc_setLoc_ne _ _ _ _ (Ne.symm hro)).trans (getLoc_setLoc_same _ _ _)))

theorem foldl_snoc_map {β γ : Type} (g : β → γ) (l : List β) (acc : List γ) :
    l.foldl (fun acc p => acc ++ [g p]) acc = acc ++ l.map g := by
  induction l generalizing acc with
  | nil => simp
  | cons p l ih => simp [ih]

/-- the loop of `PredicateOperation.update` as a statement, the names of its locals being parameters: they are distinct, and
    none is `self.comparison_op` or `abs`, which the body reads -/
theorem predFor_spec (habs : ∀ x : α, call "abs" [.val x] = .ok (.val (Val.abs x))) {i out res prev il : String}
    (hn : ["self.comparison_op", "abs", i, out, res, prev].Nodup) (c : Cmp) (d : ASig α) (env : Env α) (acc : ASig α)
    (hc : getLoc "self.comparison_op" env = .ok (.cmp c)) (hil : getLoc il env = .ok (encSig d))
    (hr : getLoc res env = .ok (encSig acc)) (hres : getLoc "abs" env = .error .key) :
    ∃ env', exec call fuel (.forIn i (.loc il) (predLoopBody i out res prev)) env = .ok (env', .none) ∧
      getLoc res env' = .ok (encSig (acc ++ d.map (fun p => (p.1, cmpOfDiff c p.2)))) := by
  simp only [List.nodup_cons, List.mem_cons, List.not_mem_nil, or_false, not_or, List.nodup_nil, and_true] at hn
  obtain ⟨⟨-, hcv⟩, hav, ⟨hio, hir, -⟩, ⟨hor, -⟩, hrp⟩ := hn
  have h := forLoop_sim (fun (acc : ASig α) (p : Tm × α) => (pure (acc ++ [(p.1, cmpOfDiff c p.2)]) : Except PyErr _))
    (fun p => (encSmp p, 0)) (fun p env => setLoc i p.1 env) (exec call fuel (predLoopBody i out res prev))
    (fun acc env => getLoc "self.comparison_op" env = .ok (.cmp c) ∧ getLoc res env = .ok (encSig acc) ∧
      getLoc "abs" env = .error .key) ?_ d acc env ⟨hc, hr, hres⟩
  · rw [List.foldlM_pure, foldl_snoc_map] at h
    obtain ⟨⟨env', c'⟩, hx, rfl, -, hr', -⟩ := h
    exact ⟨env', by rw [exec.forIn (evalE.loc hil), List.map_map]; exact hx, hr'⟩
  · rintro acc ⟨t, x⟩ env ⟨hc, hr, hres⟩
    exact Exc.Sim.ok (predLoopBody_spec call fuel habs (prev := prev) hio (Ne.symm hor) (setLoc i (.smp t (.val x)) env) c acc t x
      ((getLoc_setLoc_ne _ _ _ _ hcv.1).trans hc) (getLoc_setLoc_same _ _ _)
      ((getLoc_setLoc_ne _ _ _ _ (Ne.symm hir)).trans hr) ((getLoc_setLoc_ne _ _ _ _ hav.1).trans hres))
      ⟨rfl, by simp [hcv, hc], by simp [hrp], by simp [hav, hres]⟩

end pred

theorem call_abs (fuel k : Nat) (x : α) :
    callAt Gen.DenseOn.fns fuel k "abs" [.val x] = .ok (.val (Val.abs x) : DV α) := by
  rw [callAt_lib fuel k (lib_at 3 rfl)]; rfl

/-- the object `o` is a `PredicateOperation(c)` whose subtraction object is in the state `st` -/
def PredRel (c : Cmp) (st : BinSt α) (o : DV α) : Prop :=
  ∃ store sub, o = .obj "PredicateOperation" store ∧
    store.lookup "self.sub" = some sub ∧ BinRel "SubtractionOperation" st sub ∧
    store.lookup "self.comparison_op" = some (.cmp c) ∧
    (∃ d : ASig α, store.lookup "self.subtraction_output" = some (encSig d)) ∧
    SelfKeys store

end Rtamt.Py.DnOn.GOnBin

namespace Rtamt.Py.DnOn
open Rtamt Val Rtamt.Dense Rtamt.Dense.Alg Rtamt.Dense.AlgOn GOnBin

variable {α : Type} [Val α]

/-- construction: `Cls()` is in the initial state (ten classes; `MultiplicationOperation`: `gen_mul_init`) -/
theorem gen_bin_init (fuel k : Nat) (cls : String) (hcls : InitClass cls) :
    ∃ o : DV α, callAt Gen.DenseOn.fns fuel (k + 1) (cls ++ ".__init__") [.obj cls []] = .ok (.list [o, .none]) ∧
      BinRel cls {} o := by
  obtain ⟨fn, hlook, hmeth, hpar, hbody⟩ := hcls
  have hM : IsMethod (cls ++ ".__init__") fn [] := ⟨hlook, hmeth, hpar, by simp⟩
  have hx : ∃ env, exec (callAt (α := α) Gen.DenseOn.fns fuel k) fuel fn.body ([] ++ [].zip []) = .ok (env, .none) ∧
      getLoc "self.sample_left_buf" env = .ok (.list []) ∧ getLoc "self.sample_right_buf" env = .ok (.list []) ∧
      getLoc "self.last_output" env = .ok (.list []) := by
    rcases hbody with hbody | hbody
    · exact ⟨_, by rw [hbody]; simp [init3, exec, evalE]; rfl, by simp, by simp, by simp⟩
    · exact ⟨_, by rw [hbody]; simp [init4, exec, evalE]; rfl, by simp, by simp, by simp⟩
  obtain ⟨env, hx, g1, g2, g3⟩ := hx
  exact ⟨_, method_none hM rfl hx, binRel_of_env cls {} _ g1 g2 g3⟩

/-- `MultiplicationOperation.__init__` does not set `self.last_output` -/
theorem gen_mul_init (fuel k : Nat) :
    ∃ o : DV α, callAt Gen.DenseOn.fns fuel (k + 1) "MultiplicationOperation.__init__"
        [.obj "MultiplicationOperation" []] = .ok (.list [o, .none]) ∧
      BinRelNL "MultiplicationOperation" {} o := by
  have hx : exec (callAt (α := α) Gen.DenseOn.fns fuel k) fuel Gen.DenseOn.MultiplicationOperation_init.body
      ([] ++ [].zip []) = .ok ([("self.sample_left_buf", .list []), ("self.sample_right_buf", .list [])], .none) := by
    rw [Multiplication_init_body]; simp [init2, exec, evalE, setLoc]
  exact ⟨_, method_none isMethod_Multiplication_init rfl hx, _, rfl,
    lookup_filter_get self_sample_left_buf (by simp [encSig]), lookup_filter_get self_sample_right_buf (by simp [encSig]),
    selfKeys_filter _⟩

theorem gen_bin_update_sim (fuel k : Nat) (cls m : String) (hcls : BinClass cls m) (f : α → α → α)
    (hI : InterOnSpec α fuel k)
    (hm : ∀ a b, callAt Gen.DenseOn.fns fuel (k + 1) m [.val a, .val b] = .ok (.val (f a b)))
    (st : BinSt α) (o : DV α) (hrel : BinRel cls st o) (sl sr : ASig α) (hfuel : binFuel st sl sr ≤ fuel) :
    Exc.Sim (callAt Gen.DenseOn.fns fuel (k + 3) (cls ++ ".update") [o, encSig sl, encSig sr]) (binUpdate f st sl sr)
      fun p r => ∃ o', r = .list [o', encSig p.2] ∧ BinRel cls p.1 o' := by
  obtain ⟨fn, fin, hlook, hmeth, hpar, hbody, hfin⟩ := hcls
  obtain ⟨store, rfl, s1, s2, s3, hk⟩ := hrel
  obtain ⟨e1, e2, e3, _, _⟩ := update_locals store hk (encSig sl) (encSig sr)
  have hb := binBodyF_sim fuel k hI m f hm fin hfin _ st sl sr (getLoc_append_left s1) (getLoc_append_left s2) e1 e2
    (getLoc_append_left s3) e3 hfuel
  rw [← hbody] at hb
  refine (method_sim (args := [encSig sl, encSig sr]) ⟨hlook, hmeth, hpar, params_nonself⟩ rfl hb).mono ?_
  rintro p r ⟨env', v, rfl, rfl, g1, g2, g3⟩
  exact ⟨_, rfl, binRel_of_env cls p.1 env' g1 g2 g3⟩

theorem gen_bin_update_full (fuel k : Nat) (cls m : String) (hcls : BinClass cls m) (f : α → α → α)
    (hI : InterOnSpec α fuel k)
    (hm : ∀ a b, callAt Gen.DenseOn.fns fuel (k + 1) m [.val a, .val b] = .ok (.val (f a b)))
    (st : BinSt α) (o : DV α) (hrel : BinRel cls st o) (sl sr : ASig α) (hfuel : binFuel st sl sr ≤ fuel) :
    match binUpdate f st sl sr with
    | .ok (st', out) =>
        ∃ o', callAt Gen.DenseOn.fns fuel (k + 3) (cls ++ ".update") [o, encSig sl, encSig sr] =
            .ok (.list [o', encSig out]) ∧ BinRel cls st' o'
    | .error e =>
        callAt Gen.DenseOn.fns fuel (k + 3) (cls ++ ".update") [o, encSig sl, encSig sr] = .error e := by
  have h := gen_bin_update_sim fuel k cls m hcls f hI hm st o hrel sl sr hfuel
  cases hb : binUpdate f st sl sr with
  | error e => exact h.of_error hb
  | ok p => obtain ⟨r, hr, o', rfl, ho⟩ := h.of_ok hb; exact ⟨o', hr, ho⟩

theorem gen_bin_update (fuel k : Nat) (cls m : String) (hcls : BinClass cls m) (f : α → α → α)
    (hI : InterOnSpec α fuel k)
    (hm : ∀ a b, callAt Gen.DenseOn.fns fuel (k + 1) m [.val a, .val b] = .ok (.val (f a b)))
    (st : BinSt α) (o : DV α) (hrel : BinRel cls st o) (sl sr : ASig α) (hfuel : binFuel st sl sr ≤ fuel) :
    match binUpdate f st sl sr with
    | .ok (st', out) =>
        ∃ o', callAt Gen.DenseOn.fns fuel (k + 3) (cls ++ ".update") [o, encSig sl, encSig sr] =
            .ok (.list [o', encSig out]) ∧ BinRel cls st' o'
    | .error e =>
        callAt Gen.DenseOn.fns fuel (k + 3) (cls ++ ".update") [o, encSig sl, encSig sr] = .error e :=
  gen_bin_update_full fuel k cls m hcls f hI hm st o hrel sl sr hfuel

theorem gen_mul_update_sim (fuel k : Nat) (f : α → α → α) (hI : InterOnSpec α fuel k)
    (hm : ∀ a b, callAt Gen.DenseOn.fns fuel (k + 1) "multiplication" [.val a, .val b] = .ok (.val (f a b)))
    (st : BinSt α) (o : DV α) (hrel : BinRelNL "MultiplicationOperation" st o) (sl sr : ASig α)
    (hfuel : binFuel st sl sr ≤ fuel) :
    Exc.Sim (callAt Gen.DenseOn.fns fuel (k + 3) "MultiplicationOperation.update" [o, encSig sl, encSig sr])
      (binUpdateNL f st sl sr) fun p r => ∃ o', r = .list [o', encSig p.2] ∧ BinRel "MultiplicationOperation" p.1 o' := by
  obtain ⟨store, rfl, s1, s2, hk⟩ := hrel
  obtain ⟨e1, e2, e3, _, _⟩ := update_locals store hk (encSig sl) (encSig sr)
  have hb := mulBody_sim fuel k hI f hm _ st sl sr (getLoc_append_left s1) (getLoc_append_left s2) e1 e2 e3 hfuel
  rw [← Multiplication_body] at hb
  refine (method_sim (args := [encSig sl, encSig sr]) isMethod_Multiplication_update rfl hb).mono ?_
  rintro p r ⟨env', v, rfl, rfl, g1, g2, g3⟩
  exact ⟨_, rfl, binRel_of_env _ p.1 env' g1 g2 g3⟩

theorem gen_mul_update (fuel k : Nat) (f : α → α → α) (hI : InterOnSpec α fuel k)
    (hm : ∀ a b, callAt Gen.DenseOn.fns fuel (k + 1) "multiplication" [.val a, .val b] = .ok (.val (f a b)))
    (st : BinSt α) (o : DV α) (hrel : BinRelNL "MultiplicationOperation" st o) (sl sr : ASig α)
    (hfuel : binFuel st sl sr ≤ fuel) :
    match binUpdateNL f st sl sr with
    | .ok (st', out) =>
        ∃ o', callAt Gen.DenseOn.fns fuel (k + 3) "MultiplicationOperation.update" [o, encSig sl, encSig sr] =
            .ok (.list [o', encSig out]) ∧ BinRel "MultiplicationOperation" st' o'
    | .error e =>
        callAt Gen.DenseOn.fns fuel (k + 3) "MultiplicationOperation.update" [o, encSig sl, encSig sr] = .error e := by
  have h := gen_mul_update_sim fuel k f hI hm st o hrel sl sr hfuel
  cases hb : binUpdateNL f st sl sr with
  | error e => exact h.of_error hb
  | ok p => obtain ⟨r, hr, o', rfl, ho⟩ := h.of_ok hb; exact ⟨o', hr, ho⟩

/-- `t = self.sub.update(sample_left, sample_right)` where `self.sub` holds a `SubtractionOperation` -/
theorem subUpdate_sim (fuel k : Nat) (hI : InterOnSpec α fuel k)
    (hm : ∀ a b, callAt Gen.DenseOn.fns fuel (k + 1) "subtraction" [.val a, .val b] = .ok (.val (Val.sub a b) : DV α))
    (t : String) (env : Env α) (st : BinSt α) (sub : DV α) (sl sr : ASig α)
    (hsub : getLoc "self.sub" env = .ok sub) (hrel : BinRel "SubtractionOperation" st sub)
    (hsl : getLoc "sample_left" env = .ok (encSig sl)) (hsr : getLoc "sample_right" env = .ok (encSig sr))
    (hfuel : binFuel st sl sr ≤ fuel) :
    Exc.Sim (exec (callAt Gen.DenseOn.fns fuel (k + 3)) fuel
        (.mcall (some t) "self.sub" "update" [.loc "sample_left", .loc "sample_right"]) env)
      (binUpdate (fun a b => Val.sub a b) st sl sr) fun p r => r.2 = .none ∧ ∃ sub',
        BinRel "SubtractionOperation" p.1 sub' ∧ r.1 = setLoc t (encSig p.2) (setLoc "self.sub" sub' env) := by
  have hupd := gen_bin_update_sim fuel k "SubtractionOperation" "subtraction" binClass_Subtraction
    (fun a b => Val.sub a b) hI hm st sub hrel sl sr hfuel
  obtain ⟨substore, rfl, -⟩ := hrel
  refine (exec_update_sim (by simp [evalE, hsl, hsr]) hsub rfl hupd).mono ?_
  rintro p r ⟨sub', hrel', rfl⟩
  exact ⟨rfl, sub', hrel', rfl⟩

theorem gen_pred_init (fuel k : Nat) (c : Cmp) :
    ∃ o : DV α, callAt Gen.DenseOn.fns fuel (k + 2) "PredicateOperation.__init__"
        [.obj "PredicateOperation" [], .cmp c] = .ok (.list [o, .none]) ∧ PredRel c {} o := by
  obtain ⟨sub, hsub, hrel⟩ := gen_bin_init (α := α) fuel k "SubtractionOperation" initClass_Subtraction
  have hx : exec (callAt (α := α) Gen.DenseOn.fns fuel (k + 1)) fuel Gen.DenseOn.PredicateOperation_init.body
      ([] ++ ["comparison_op"].zip [DV.cmp c]) =
      .ok (setLoc "self.subtraction_output" (.list []) (setLoc "self.comparison_op" (.cmp c)
        (setLoc "self.sub" sub [("comparison_op", .cmp c)])), .none) := by
    rw [Pred_init_body]
    unfold predInit
    rw [exec.seq_ok (exec_new_ok (t := "self.sub") (args := []) rfl rfl hsub)]
    simp [exec, evalE]
  exact ⟨_, method_none isMethod_Predicate_init rfl hx, _, sub, rfl, lookup_filter_get self_sub (by simp), hrel,
    lookup_filter_get self_comparison_op (by simp), ⟨[], lookup_filter_get self_subtraction_output (by simp [encSig])⟩,
    selfKeys_filter _⟩

/-- what the body of `PredicateOperation.update` leaves behind, `p.2` being the difference signal -/
def GOnBin.PredPost (c : Cmp) (p : BinSt α × ASig α) (env : Env α) (v : DV α) : Prop :=
  v = encSig (p.2.map fun q => (q.1, cmpOfDiff c q.2)) ∧
    (∃ sub', getLoc "self.sub" env = .ok sub' ∧ BinRel "SubtractionOperation" p.1 sub') ∧
    getLoc "self.comparison_op" env = .ok (.cmp c) ∧ getLoc "self.subtraction_output" env = .ok (encSig p.2)

theorem gen_pred_update_sim (fuel k : Nat) (c : Cmp) (hI : InterOnSpec α fuel k)
    (hm : ∀ a b, callAt Gen.DenseOn.fns fuel (k + 1) "subtraction" [.val a, .val b] = .ok (.val (Val.sub a b) : DV α))
    (st : BinSt α) (o : DV α) (hrel : PredRel c st o) (sl sr : ASig α) (hfuel : binFuel st sl sr ≤ fuel) :
    Exc.Sim (callAt Gen.DenseOn.fns fuel (k + 4) "PredicateOperation.update" [o, encSig sl, encSig sr])
      (binUpdate (fun a b => Val.sub a b) st sl sr) fun p r => ∃ o',
        r = .list [o', encSig (p.2.map fun q => (q.1, cmpOfDiff c q.2))] ∧ PredRel c p.1 o' ∧
        ∃ store', o' = .obj "PredicateOperation" store' ∧
          store'.lookup "self.subtraction_output" = some (encSig p.2) := by
  obtain ⟨store, sub, rfl, hsub, hrelsub, hcmp, -, hk⟩ := hrel
  obtain ⟨e1, e2, _, e4, _⟩ := update_locals store hk (encSig sl) (encSig sr)
  have hcall := subUpdate_sim fuel k hI hm "input_list" (setLoc "sample_result" (.list [])
      (store ++ [("sample_left", encSig sl), ("sample_right", encSig sr)])) st sub sl sr
    (by simpa using getLoc_append_left hsub) hrelsub (by simpa using e1) (by simpa using e2) hfuel
  have hbody : Exc.Sim (exec (callAt (α := α) Gen.DenseOn.fns fuel (k + 3)) fuel predBody
      (store ++ [("sample_left", encSig sl), ("sample_right", encSig sr)])) (binUpdate (fun a b => Val.sub a b) st sl sr)
      fun p r => ∃ v, r.2 = .ret v ∧ PredPost c p r.1 v := by
    unfold predBody
    rw [exec.seq_setLoc (v := .list []) rfl]
    refine exec.seq_sim_right hcall ?_
    rintro ⟨st', d⟩ ⟨env2, c2⟩ ⟨hc2, sub', hrel', henv2⟩
    refine ⟨hc2, ?_⟩
    dsimp only at henv2 ⊢
    obtain ⟨env5, hfor, r5⟩ := predFor_spec (callAt (α := α) Gen.DenseOn.fns fuel (k + 3)) fuel (call_abs fuel (k + 3))
      (il := "input_list") predNames_nodup c d (setLoc "prev" .nan (setLoc "self.subtraction_output" (encSig d) env2)) []
      (by rw [henv2]; simpa using getLoc_append_left hcmp) (by rw [henv2]; simp) (by rw [henv2]; simp [encSig])
      (by rw [henv2]; simpa using e4)
    have f5 := exec_frame _ _ _ _ _ _ hfor
    refine ⟨(env5, .ret _), ?_, _, rfl, rfl, ⟨sub', ?_, hrel'⟩, ?_, ?_⟩
    · unfold predRest
      rw [exec.seq_setLoc (v := encSig d) (by rw [henv2]; simp [evalE]), exec.seq_setLoc (v := .nan) rfl, exec.seq_ok hfor]
      exact exec.ret (evalE.loc r5)
    · rw [f5.getSelf predLoop_locals self_sub, henv2]; simp
    · rw [f5.getSelf predLoop_locals self_comparison_op, henv2]; simpa using getLoc_append_left hcmp
    · rw [f5.getSelf predLoop_locals self_subtraction_output]; simp
  rw [← Pred_body] at hbody
  refine (method_sim (args := [encSig sl, encSig sr]) isMethod_Predicate_update rfl hbody).mono ?_
  rintro p r ⟨env', v, rfl, rfl, ⟨sub', gs, hrel'⟩, gc, gso⟩
  have hso := lookup_filter_get self_subtraction_output gso
  exact ⟨_, rfl, ⟨_, sub', rfl, lookup_filter_get self_sub gs, hrel', lookup_filter_get self_comparison_op gc,
    ⟨_, hso⟩, selfKeys_filter _⟩, _, rfl, hso⟩

/-- the `.pred c` clause of `stepOn` -/
theorem gen_pred_update (fuel k : Nat) (c : Cmp) (hI : InterOnSpec α fuel k)
    (hm : ∀ a b, callAt Gen.DenseOn.fns fuel (k + 1) "subtraction" [.val a, .val b] = .ok (.val (Val.sub a b) : DV α))
    (st : BinSt α) (o : DV α) (hrel : PredRel c st o) (sl sr : ASig α) (hfuel : binFuel st sl sr ≤ fuel) :
    match binUpdate (fun a b => Val.sub a b) st sl sr with
    | .ok (st', d) =>
        ∃ o', callAt Gen.DenseOn.fns fuel (k + 4) "PredicateOperation.update" [o, encSig sl, encSig sr] =
            .ok (.list [o', encSig (d.map (fun p => (p.1, cmpOfDiff c p.2)))]) ∧ PredRel c st' o' ∧
          ∃ store', o' = .obj "PredicateOperation" store' ∧ store'.lookup "self.subtraction_output" = some (encSig d)
    | .error e =>
        callAt Gen.DenseOn.fns fuel (k + 4) "PredicateOperation.update" [o, encSig sl, encSig sr] = .error e := by
  have h := gen_pred_update_sim fuel k c hI hm st o hrel sl sr hfuel
  cases hb : binUpdate (fun a b => Val.sub a b) st sl sr with
  | error e => exact h.of_error hb
  | ok p => obtain ⟨r, hr, o', rfl, ho⟩ := h.of_ok hb; exact ⟨o', hr, ho⟩

theorem gen_binop_build (fuel : Nat) (op : Bin) (h : plainBin op = true) :
    ∃ o : DV α, build fuel op.kind none none = .ok o ∧ BinRel (binCls op) {} o := by
  obtain ⟨_, hinit, _, hctor⟩ := plainBin_spec op h
  rw [build_nullary hctor]
  exact construct_of_init rfl (gen_bin_init fuel 6 (binCls op) hinit)

theorem gen_binop_updateObj_sim (fuel : Nat) (op : Bin) (h : plainBin op = true) (hI : InterOnSpec α fuel 4)
    (st : BinSt α) (o : DV α) (hrel : BinRel (binCls op) st o) (sl sr : ASig α) (hfuel : binFuel st sl sr ≤ fuel) :
    Exc.Sim (updateObj fuel o [sl, sr]) (binUpdate op.app st sl sr) fun p r => r.2 = p.2 ∧ BinRel (binCls op) p.1 r.1 := by
  obtain ⟨hcls, _, hm, _⟩ := plainBin_spec op h
  obtain ⟨store, rfl, hs⟩ := hrel
  exact updateObj_sim rfl
    (gen_bin_update_sim fuel 4 (binCls op) (binMeth op) hcls op.app hI (hm α fuel 4) st _ ⟨store, rfl, hs⟩ sl sr hfuel)

theorem gen_mul_build (fuel : Nat) :
    ∃ o : DV α, build fuel Bin.mul.kind none none = .ok o ∧ BinRelNL "MultiplicationOperation" {} o := by
  rw [build_nullary (ctorOf_class rfl)]
  exact construct_of_init name_Multiplication_init (gen_mul_init fuel 6)

theorem gen_mulop_updateObj_sim (fuel : Nat) (hI : InterOnSpec α fuel 4)
    (st : BinSt α) (o : DV α) (hrel : BinRelNL "MultiplicationOperation" st o) (sl sr : ASig α)
    (hfuel : binFuel st sl sr ≤ fuel) :
    Exc.Sim (updateObj fuel o [sl, sr]) (binUpdateNL Bin.mul.app st sl sr)
      fun p r => r.2 = p.2 ∧ BinRel "MultiplicationOperation" p.1 r.1 := by
  obtain ⟨store, rfl, hs⟩ := hrel
  exact updateObj_sim name_Multiplication_update
    (gen_mul_update_sim fuel 4 Bin.mul.app hI (gen_on_multiplication fuel 4) st _ ⟨store, rfl, hs⟩ sl sr hfuel)

theorem gen_pred_build (fuel : Nat) (c : Cmp) :
    ∃ o : DV α, build fuel (Bin.pred c).kind (some c) none = .ok o ∧ PredRel c {} o := by
  rw [build_operator (ctorOf_class rfl)]
  exact construct_of_init name_Predicate_init (gen_pred_init fuel 5 c)

theorem gen_predop_updateObj_sim (fuel : Nat) (c : Cmp) (hI : InterOnSpec α fuel 3)
    (st : BinSt α) (o : DV α) (hrel : PredRel c st o) (sl sr : ASig α) (hfuel : binFuel st sl sr ≤ fuel) :
    Exc.Sim (updateObj fuel o [sl, sr]) (binUpdate (fun a b => Val.sub a b) st sl sr)
      fun p r => r.2 = p.2.map (fun q => (q.1, cmpOfDiff c q.2)) ∧ PredRel c p.1 r.1 := by
  have hcall := gen_pred_update_sim fuel 3 c hI (gen_on_subtraction fuel 3) st o hrel sl sr hfuel
  obtain ⟨store, sub, rfl, -⟩ := hrel
  refine updateObj_sim_out name_Predicate_update (hcall.mono ?_)
  rintro p r ⟨o', hr, ho, -⟩
  exact ⟨o', hr, ho⟩

end Rtamt.Py.DnOn
