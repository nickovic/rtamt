/-
  C19 / C04 corollaries on the algorithms: the list the mirror of the dense-time offline visitor (`Dense.Alg.evalAlg`)
  returns for the sampled step signals, read at a sampling instant, is the entry of the list the mirror of the
  discrete-time offline visitor (`evalOff`) returns for the samples — M-alg (dense) = M-spec (dense) = M-spec (discrete)
  = M-alg (discrete), by `C04_alg_eq_rhoD_partial` / `evalAlg_denotes_partial`, `C19_sampled` and `C01_offline_eq_rho`.
-/
import RtamtProofs.C19
import RtamtProofs.C01
import RtamtProofs.Dense.AlgMain

namespace Rtamt
open Val Dense Dense.Alg

variable {α : Type} [Val α] [LawfulVal α]

omit [Val α] [LawfulVal α] in
theorem gridEnv_startsAt0 (P : Rat) (σ : String → Nat → α) (n : Nat) (hn : 0 < n) (xs ys : List String)
    (hys : ∀ x ∈ ys, x ∈ xs) : StartsAt0 (gridEnv P σ n xs) ys := by
  intro x hx
  rw [gridEnv_sig, if_pos (hys x hx)]
  exact gridSig_head P σ hn x

/-- The dense offline algorithm at the sampling instants = the discrete semantics. -/
theorem C19_alg_sampled (P : Rat) (hP : 0 < P) (σ : String → Nat → α) (n : Nat) (φ : F α)
    (hfrag : φ.gridFrag = true) (hia : noIA φ = true) (xs : List String) (hxs : ∀ x ∈ φ.vars, x ∈ xs) (hnd : xs.Nodup)
    (hsub : ∀ a b : α, Val.neg (Val.sub a b) = Val.sub b a)
    (k : Nat) (hk : k + hor φ < n) {s : ASig α}
    (he : evalAlg { scale := P } (gridEnv P σ n xs) φ = .ok s) :
    valAtA s ((k : Rat) * P) = some (rho σ n φ k) := by
  have hn : 0 < n := by omega
  have hden := evalAlg_denotes_partial { scale := P } (le_of_lt hP) (gridEnv P σ n xs) φ
    (supported_of_gridFrag φ hfrag) hia (gridEnv_WF_of_subset P hP σ n hn xs φ.vars hxs)
    (gridEnv_startsAt0 P σ n hn xs φ.vars hxs) hsub he
  have h0 : (0 : Rat) ≤ (k : Rat) * P := mul_nonneg (Nat.cast_nonneg k) (le_of_lt hP)
  rw [hden.2 _ h0]
  exact C19_sampled P hP σ n φ hfrag xs hxs hnd k hk

/-- The two offline algorithms agree at the sampling instants: entry `k` of the discrete visitor's list is the value of
    the dense visitor's list at `k·P`. -/
theorem C19_alg_dense_eq_discrete (h : Kind → Bool) (w : Env α) (P : Rat) (hP : 0 < P) (σ : String → Nat → α) (n : Nat)
    (φ : F α) (hfrag : φ.gridFrag = true) (hia : noIA φ = true) (hwf : φ.wf = true)
    (hh : ∀ k ∈ φ.kinds, h k = true) (hp : φ.noPrecedes) (hw : w.Agrees σ n φ.vars)
    (xs : List String) (hxs : ∀ x ∈ φ.vars, x ∈ xs) (hnd : xs.Nodup)
    (hsub : ∀ a b : α, Val.neg (Val.sub a b) = Val.sub b a)
    (k : Nat) (hk : k + hor φ < n) {s : ASig α}
    (he : evalAlg { scale := P } (gridEnv P σ n xs) φ = .ok s) :
    ∃ l, evalOff h w n φ = .ok l ∧ (l[k]?) = valAtA s ((k : Rat) * P) := by
  have hn : 0 < n := by omega
  have hkn : k < n := by omega
  refine ⟨tab n (rho σ n φ), C01_offline_eq_rho h w σ n hn φ hwf hh hp hw, ?_⟩
  rw [C19_alg_sampled P hP σ n φ hfrag hia xs hxs hnd hsub k hk he, tab_getElem?, if_pos hkn]

end Rtamt
