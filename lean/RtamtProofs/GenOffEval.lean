/-
  The discrete-time offline `evaluate(dataset)` as a whole method, as translated from the Python source
  (`Rtamt/Py/GeneratedOffEval.lean`, regenerated on every run by `harness/py2lean.py`: `evaluate` with `exist_ast` and
  `set_variable_to_ast_from_dataset` inlined, and `AbstractAstVisitor.visitAst`), run by `evaluateG`
  (`Rtamt/Py/RunOffEval.lean`), denotes the hand-written mirror `evaluateOffData` / `evaluateOffSpecs`
  (`Rtamt/Discrete/OfflineSpecs.lean`) — values, pairs, exceptions, `var_object_dict`, `results['time']` and the
  violation counter afterwards — and, for a specification with one assertion, `evaluateOff`, on which `C01_evaluate`
  is stated.  Composed with `genOff_eval` (the translated visitor is `evalOff`) and with the proof of the gap loop
  (`exec_gapFor` of `GenClock.lean`).

  Each Python statement of `evaluate` is first a lemma about an arbitrary environment (`callO_eq`, `exist_ast`,
  `time_col`, `set_time`, `call_visitAst`, `last_rob`, `clock_step`, `comp_pairs`, and the two loops), so that
  `genOffEval_evaluate` is one rewrite per statement and never unfolds the body as a whole.
-/
import Rtamt.Py.RunOffEval
import RtamtProofs.GenOff
import RtamtProofs.GenClock
import RtamtProofs.C01
import RtamtProofs.GenEvalBase

namespace Rtamt.Py.OffEval
open Rtamt Val Rtamt.Py

variable {α : Type} [Val α]

/-- A Python list of results: `[]` or a non-empty list. -/
def ovOfList : List (List α) → OV α
  | [] => .nil
  | x :: xs => .valss (x :: xs)

/-- Every assertion is well formed (`a ≤ b` in every interval), of the standard semantics and without a `precedes` node:
    the hypotheses of `genOff_eval`. -/
def GoodSpecs (specs : List (F α)) : Prop :=
  ∀ φ ∈ specs, φ.wf = true ∧ plain φ = true ∧ noPrec φ = true

theorem pure_ok {ε σ : Type} (a : σ) : (pure a : Except ε σ) = .ok a := rfl
theorem throw_err {ε σ : Type} (e : ε) : (throw e : Except ε σ) = .error e := rfl

theorem execOS_seq (va : VisitAst α) (a b : OS) (env : OEnv α) :
    execOS va (.seq a b) env = (execOS va a env >>= execOS va b) := by
  simp only [execOS]

theorem execOS_setLoc (va : VisitAst α) (x : String) (e : OE) (env : OEnv α) :
    execOS va (.setLoc x e) env = (evalOE va env e >>= fun v => .ok { env with loc := setKey x v env.loc }) := by
  simp only [execOS]; rfl

theorem execOS_forIn_nodes (va : VisitAst α) (x : String) (it : OE) (body : OS) (env : OEnv α) (l : List (F α))
    (h : evalOE va env it = .ok (.nodes l)) :
    execOS va (.forIn x it body) env
      = (l.map OV.node).foldlM (fun env v => execOS va body { env with loc := setKey x v env.loc }) env := by
  simp only [execOS, h, ok_bind, pure_ok]

theorem execOS_forIn_data (va : VisitAst α) (x : String) (it : OE) (body : OS) (env : OEnv α) (d : Dataset α)
    (h : evalOE va env it = .ok (.data d)) :
    execOS va (.forIn x it body) env
      = (d.keys.map OV.str).foldlM (fun env v => execOS va body { env with loc := setKey x v env.loc }) env := by
  simp only [execOS, h, ok_bind, pure_ok]

theorem callO_eq (va : VisitAst α) (m : OMethod) (ret : OE) (hret : m.ret = some ret) (st : OState α) (args : List (OV α))
    (h : args.length = m.params.length) :
    callO va m st args = (execOS va m.body ⟨st, m.params.zip args⟩ >>= fun env =>
      evalOE va env ret >>= fun v => .ok (v, env.st)) := by
  simp only [callO, h, ne_eq, not_true_eq_false, if_false, hret]
  rfl

/-- `exist_ast()`, the first statement of `evaluate`. -/
theorem exist_ast (va : VisitAst α) (env : OEnv α) :
    execOS va (.ite .astIsNone (.raise .rtamt) .skip) env
      = match env.st.ast with
        | .unset => .error .other
        | .none => .error .rtamt
        | .some _ => .ok env := by
  simp only [execOS, evalOE]
  cases env.st.ast <;> rfl

/-- `dataset['time']`. -/
theorem time_col (va : VisitAst α) (env : OEnv α) (d : Dataset α) (h : getKey "dataset" env.loc = .ok (.data d)) :
    evalOE va env (.idx (.loc "dataset") (.strLit "time"))
      = match d.time with
        | some t => .ok (.times t)
        | none => .error .key := by
  simp only [evalOE, h, ok_bind, beq_self_eq_true, if_true]
  cases d.time <;> rfl

/-- `self.results['time'] = e`. -/
theorem set_time (va : VisitAst α) (env : OEnv α) (e : OE) (l : List Rat) (a : OAst α)
    (h : evalOE va env e = .ok (.times l)) (ha : env.st.ast = .some a) :
    execOS va (.setResult (.strLit "time") e) env
      = .ok { env with st := { env.st with ast := .some { a with resTime := some l } } } := by
  simp only [execOS, evalOE, h, ok_bind, beq_self_eq_true, if_true, OState.getAst, ha, pure_ok]

/-- `rob[len(rob) - 1]`. -/
theorem last_rob (va : VisitAst α) (env : OEnv α) (robs : List (List α)) (h : getKey "rob" env.loc = .ok (ovOfList robs)) :
    evalOE va env (.idx (.loc "rob") (.sub (.len (.loc "rob")) (.intLit 1)))
      = match robs.getLast? with
        | none => .error .index
        | some rob => .ok (.vals rob) := by
  cases robs with
  | nil => simp only [evalOE, h, ovOfList, ok_bind, pure_ok, throw_err, List.getLast?_nil]
  | cons r0 rs =>
    simp only [evalOE, h, ovOfList, ok_bind, pure_ok, pyIdx_last]
    cases (r0 :: rs).getLast? <;> rfl

/-- The loop of `visitAst` followed by `return out`: the state of the object is the one the loop starts on. -/
theorem visit_loop (st : OState α) (a : OAst α) (hst : st.ast = .some a) (n : Nat) (specs : List (F α)) (hs : GoodSpecs specs)
    (acc : List (List α)) (loc : List (String × OV α)) (hargs : getKey "args" loc = .ok (.int n))
    (hkw : getKey "kwargs" loc = .ok .none) (hout : getKey "out" loc = .ok (ovOfList acc)) :
    ((specs.map OV.node).foldlM (fun env v => execOS noVisitAst
          (.appendLoc "out" (.visit (.loc "spec") "args" "kwargs")) { env with loc := setKey "spec" v env.loc })
        (⟨st, loc⟩ : OEnv α) >>= fun env => getKey "out" env.loc >>= fun v => .ok (v, env.st))
      = (evalSpecs Generated.offlineDiscrete.handles a.vars n specs >>= fun rs => .ok (ovOfList (acc ++ rs), st)) := by
  induction specs generalizing acc loc with
  | nil => simp only [List.map_nil, List.foldlM_nil, pure_ok, ok_bind, hout, evalSpecs, List.append_nil]
  | cons φ rest ih =>
    have hφ := hs φ (List.mem_cons_self ..)
    have hstep : execOS noVisitAst (.appendLoc "out" (.visit (.loc "spec") "args" "kwargs"))
        (⟨st, setKey "spec" (.node φ) loc⟩ : OEnv α)
        = (evalOff Generated.offlineDiscrete.handles a.vars n φ >>= fun r =>
            .ok ⟨st, setKey "out" (ovOfList (acc ++ [r])) (setKey "spec" (.node φ) loc)⟩) := by
      have hneg : ¬ ((n : Int) < 0) := by omega
      simp only [execOS, evalOE, getKey_setKey_ite, String.reduceEq, ↓reduceIte, hout, hargs, hkw,
        ok_bind, hneg, OState.getAst, hst, Int.toNat_natCast, genOff_eval a.vars n φ hφ.1 hφ.2.1 hφ.2.2]
      cases evalOff Generated.offlineDiscrete.handles a.vars n φ with
      | error e => rfl
      | ok r =>
        simp only [ok_bind]
        cases acc <;> rfl
    simp only [List.map_cons, List.foldlM_cons, hstep, evalSpecs]
    cases evalOff Generated.offlineDiscrete.handles a.vars n φ with
    | error e => rfl
    | ok r =>
      simp only [ok_bind]
      rw [ih (fun ψ hψ => hs ψ (List.mem_cons_of_mem _ hψ)) (acc ++ [r]) _
        (by simp only [getKey_setKey_ite, String.reduceEq, ↓reduceIte, hargs])
        (by simp only [getKey_setKey_ite, String.reduceEq, ↓reduceIte, hkw])
        (getKey_setKey_same ..)]
      cases evalSpecs Generated.offlineDiscrete.handles a.vars n rest with
      | error e => rfl
      | ok rs => simp only [ok_bind, pure_ok, List.append_assoc, List.singleton_append]

/-- `self.visitAst(self.ast, length)` in `evaluate`, through the translated `visitAst`: every assertion is visited in
    order; the list of the results. -/
theorem call_visitAst (env : OEnv α) (a : OAst α) (ha : env.st.ast = .some a) (hs : GoodSpecs a.specs) (n : Nat)
    (hn : getKey "length" env.loc = .ok (.int n)) :
    evalOE visitAstG env (.callVisitAst .selfAst (.loc "length"))
      = (evalSpecs Generated.offlineDiscrete.handles a.vars n a.specs >>= fun rs => .ok (ovOfList rs)) := by
  have hloop := visit_loop env.st a ha n a.specs hs []
    [("ast", (OV.astRef : OV α)), ("args", .int n), ("kwargs", .none), ("out", .nil)] rfl rfl rfl
  simp only [List.nil_append] at hloop
  have hspecs : evalOE noVisitAst (⟨env.st, [("ast", (OV.astRef : OV α)), ("args", .int n), ("kwargs", .none), ("out", .nil)]⟩ : OEnv α)
      (.specsOf "ast") = .ok (.nodes a.specs) := by
    simp only [evalOE, getKey_cons_same, ok_bind, OState.getAst, ha, pure_ok]
  simp only [evalOE, ha, hn, ok_bind, pure_ok]
  rw [visitAstG, callO_eq _ _ (.loc "out") rfl _ _ rfl]
  simp only [Gen.OffEval.visitAst, List.zip_cons_cons, List.zip_nil_right, execOS_seq, execOS_setLoc, evalOE, ok_bind]
  simp only [setKey, String.reduceBEq, Bool.false_eq_true, if_false]
  rw [execOS_forIn_nodes _ _ _ _ _ _ hspecs, hloop]
  cases evalSpecs Generated.offlineDiscrete.handles a.vars n a.specs <;> rfl

omit [Val α] in
theorem keys_lookup (d : Dataset α) : ∀ k ∈ d.keys, k ≠ "time" → ∃ l, d.cols.lookup k = some l := by
  intro k hk hne
  simp only [Dataset.keys, List.mem_append] at hk
  rcases hk with hk | hk
  · exact (Assoc.mem_keys_iff d.cols k).1 hk
  · split at hk
    · simp only [List.mem_cons, List.not_mem_nil, or_false] at hk; exact absurd hk hne
    · simp at hk

/-- The loop of `set_variable_to_ast_from_dataset`. -/
theorem bind_loop (va : VisitAst α) (d : Dataset α) (attrs : Rtamt.Py.Store α) :
    ∀ (ks : List String) (_ : ∀ k ∈ ks, k ≠ "time" → ∃ l, d.cols.lookup k = some l) (a : OAst α)
      (loc : List (String × OV α)) (_ : getKey "dataset" loc = .ok (.data d)),
      ∃ loc', (ks.map OV.str).foldlM (fun env v => execOS va
            (.ite (.ne (.loc "key") (.strLit "time")) (.setVar (.loc "key") (.idx (.loc "dataset") (.loc "key"))) .skip)
            { env with loc := setKey "key" v env.loc })
          (⟨⟨.some a, attrs⟩, loc⟩ : OEnv α)
        = .ok ⟨⟨.some { a with vars := d.bindKeys ks a.vars }, attrs⟩, loc'⟩ ∧
        getKey "dataset" loc' = .ok (.data d) := by
  intro ks
  induction ks with
  | nil => intro _ a loc hd; exact ⟨loc, rfl, hd⟩
  | cons k rest ih =>
    intro hks a loc hd
    have hd' : getKey "dataset" (setKey "key" (OV.str k) loc) = .ok (.data d) := by
      rw [getKey_setKey_ne _ _ _ _ (by decide)]; exact hd
    have hstep : execOS va
        (.ite (.ne (.loc "key") (.strLit "time")) (.setVar (.loc "key") (.idx (.loc "dataset") (.loc "key"))) .skip)
        (⟨⟨.some a, attrs⟩, setKey "key" (.str k) loc⟩ : OEnv α)
        = .ok ⟨⟨.some { a with vars := d.bindKeys [k] a.vars }, attrs⟩, setKey "key" (.str k) loc⟩ := by
      by_cases hk : k = "time"
      · subst hk
        simp only [execOS, evalOE, getKey_setKey_same, ok_bind, pure_ok, bne_self_eq_false]
        simp [Dataset.bindKeys]
      · obtain ⟨l, hl⟩ := hks k (List.mem_cons_self ..) hk
        have hb : (k != "time") = true := by simpa using hk
        have hb' : (k == "time") = false := by simpa using hk
        simp only [execOS, evalOE, getKey_setKey_same, hd', ok_bind, pure_ok, hb, hb', hl, Bool.false_eq_true, if_false,
          OState.getAst]
        simp [Dataset.bindKeys, hk, hl]
    obtain ⟨loc', h1, h2⟩ := ih (fun k' hk' => hks k' (List.mem_cons_of_mem _ hk'))
      { a with vars := d.bindKeys [k] a.vars } (setKey "key" (.str k) loc) hd'
    refine ⟨loc', ?_, h2⟩
    simp only [List.map_cons, List.foldlM_cons, hstep, ok_bind]
    rw [h1]
    rfl

theorem clock_step (va : VisitAst α) (c : SamplingCfg) (k : Clock) (a : OAst α) (ha : a.unit = unitStr c.unit)
    (ts : List Rat) (loc : List (String × OV α)) (hts : getKey "ts" loc = .ok (.times ts)) :
    execOS va (.clock (.for_ "i" (.int 0) (.bin .sub (.len (.loc "ts")) (.int 1)) (gapStmt tsGap)))
        (⟨⟨.some a, clockStore c k⟩, loc⟩ : OEnv α)
      = .ok ⟨⟨.some a, clockStore c { k with viol := offlineCounter c k.viol ts }⟩, loc⟩ := by
  obtain ⟨loc', hl⟩ := exec_gapFor (α := α) c k ts [("ts", .rlist ts), ("$unit", .str (unitStr c.unit))] rfl rfl
  simp only [execOS, hts, ok_bind, timesOf, OState.getAst, ha, hl, pure_ok]

theorem mapM_map_ok {β γ : Type} (l : List β) (f : β → γ) (g : γ → Except PyErr β) (h : ∀ p, g (f p) = .ok p) :
    (l.map f).mapM g = .ok l := by
  induction l with
  | nil => rfl
  | cons x xs ih => simp only [List.map_cons, List.mapM_cons, h, ih, ok_bind, pure_ok]

theorem comp_pairs (va : VisitAst α) (env : OEnv α) (ts : List Rat) (rob : List α)
    (hts : getKey "ts" env.loc = .ok (.times ts)) (hrob : getKey "rob" env.loc = .ok (.vals rob)) :
    evalOE va env (.comp (.pair2 (.idx (.loc "a") (.intLit 0)) (.idx (.loc "a") (.intLit 1))) "a" (.zip (.loc "ts") (.loc "rob")))
      = .ok (.tvs (ts.zip rob)) := by
  simp only [evalOE, hts, hrob, ok_bind, pure_ok]
  rw [mapM_map_ok]
  · rfl
  · intro p
    simp only [getKey_setKey_same, ok_bind]
    rfl

/-- The interpreter object: the specification `a` has been set, the sampling attributes are those of `c`, the counters
    those of `k`. -/
def mkState (c : SamplingCfg) (k : Clock) (a : OAst α) : OState α := ⟨.some a, clockStore c k⟩

/-- **The translated `evaluate(dataset)` is the mirror `evaluateOffData`** — `KeyError` for a data set without a 'time'
    column, the first exception raised by the visit of an assertion, `IndexError` for a specification without assertions,
    otherwise one `[t, v]` pair per element of `zip(time, rob)` for the list `rob` of the last assertion; afterwards
    `var_object_dict` holds the columns of the data set, `results['time']` the time column and the violation counter has
    been advanced by `offlineCounter`. -/
theorem genOffEval_evaluate (c : SamplingCfg) (k : Clock) (a : OAst α) (ha : a.unit = unitStr c.unit)
    (hs : GoodSpecs a.specs) (d : Dataset α) :
    evaluateG (mkState c k a) d =
      (evaluateOffData Generated.offlineDiscrete.handles c a.specs d a.vars k.viol >>= fun r =>
        .ok (r.1, mkState c { k with viol := r.2.2 } { a with vars := r.2.1, resTime := d.time })) := by
  obtain ⟨loc1, hl1, hd1⟩ := bind_loop visitAstG d (clockStore c k) d.keys (keys_lookup d) a [("dataset", .data d)] rfl
  rw [evaluateG, callO_eq _ _ (.loc "rob") rfl _ _ rfl]
  simp only [Gen.OffEval.evaluate, List.zip_cons_cons, List.zip_nil_right, mkState]
  rw [execOS_seq, exist_ast]
  simp only [ok_bind]
  rw [execOS_seq, execOS_forIn_data _ _ _ _ _ d rfl, hl1, ok_bind, execOS_seq, execOS_setLoc, evalOE, time_col _ _ d hd1]
  cases ht : d.time with
  | none => simp only [evaluateOffData, ht, error_bind]
  | some time =>
    have htime : ∀ env : OEnv α, getKey "dataset" env.loc = .ok (.data d) →
        evalOE visitAstG env (.idx (.loc "dataset") (.strLit "time")) = .ok (.times time) :=
      fun env h => by rw [time_col _ _ d h, ht]
    simp only [ok_bind, pure_ok]
    -- self.results['time'] = dataset['time']
    rw [execOS_seq, set_time _ _ _ time _ (htime _ (by simp only [getKey_setKey_ite, String.reduceEq, ↓reduceIte, hd1])) rfl, ok_bind]
    -- rob = self.visitAst(self.ast, length)
    rw [execOS_seq, execOS_setLoc,
      call_visitAst _ { a with vars := d.bindKeys d.keys a.vars, resTime := some time } rfl hs time.length (getKey_setKey_same ..)]
    simp only [evaluateOffData, evaluateOffSpecs, ht]
    rw [show d.bindKeys d.keys a.vars = d.bind a.vars from rfl]
    cases evalSpecs Generated.offlineDiscrete.handles (d.bind a.vars) time.length a.specs with
    | error e => simp only [error_bind]
    | ok robs =>
      simp only [ok_bind]
      -- rob = rob[len(rob) - 1]
      rw [execOS_seq, execOS_setLoc, last_rob _ _ robs (getKey_setKey_same ..)]
      cases robs.getLast? with
      | none => simp only [error_bind]
      | some rob =>
        simp only [ok_bind]
        -- ts = dataset['time']; the gap loop
        rw [execOS_seq, execOS_setLoc, htime _ (by simp only [getKey_setKey_ite, String.reduceEq, ↓reduceIte, hd1]), ok_bind, ok_bind,
          execOS_seq, clock_step visitAstG c k { a with vars := d.bind a.vars, resTime := some time } ha time _ (getKey_setKey_same ..),
          ok_bind]
        -- out_t = [[a[0], a[1]] for a in zip(ts, rob)]; rob = out_t
        rw [execOS_seq, execOS_setLoc, comp_pairs _ _ time rob (getKey_setKey_same ..)
          (by simp only [getKey_setKey_ite, String.reduceEq, ↓reduceIte]), ok_bind, ok_bind]
        simp only [execOS, evalOE, getKey_setKey_ite, ↓reduceIte, ok_bind, pure_ok]

/-- Before `set_ast` the object has no attribute `ast`: `exist_ast()` raises `AttributeError`, not the `RTAMTException`
    it is written for; after `set_ast(None)` it raises the `RTAMTException`. -/
theorem genOffEval_no_ast (attrs : Rtamt.Py.Store α) (d : Dataset α) :
    evaluateG (⟨.unset, attrs⟩ : OState α) d = .error .other ∧
    evaluateG (⟨.none, attrs⟩ : OState α) d = .error .rtamt := by
  constructor <;>
    rw [evaluateG, callO_eq _ _ (.loc "rob") rfl _ _ rfl, Gen.OffEval.evaluate, execOS_seq, exist_ast] <;> rfl

theorem evaluateOffSpecs_single {τ : Type} (h : Kind → Bool) (φ : F α) (time : List τ) (w : Rtamt.Env α) :
    evaluateOffSpecs h [φ] time w = evaluateOff h φ time w := by
  simp only [evaluateOffSpecs, evalSpecs, evaluateOff]
  cases evalOff h w time.length φ with
  | error e => rfl
  | ok r => rfl

/-- For a specification with one assertion the translated `evaluate(dataset)` is exactly `evaluateOff` on the data set
    written into `var_object_dict`. -/
theorem genOffEval_single (c : SamplingCfg) (k : Clock) (a : OAst α) (ha : a.unit = unitStr c.unit) (φ : F α)
    (hφ : a.specs = [φ]) (hwf : φ.wf = true) (hpl : plain φ = true) (hnp : noPrec φ = true) (d : Dataset α)
    (time : List Rat) (ht : d.time = some time) :
    evaluateG (mkState c k a) d =
      (evaluateOff Generated.offlineDiscrete.handles φ time (d.bind a.vars) >>= fun out =>
        .ok (out, mkState c { k with viol := offlineCounter c k.viol time }
          { a with vars := d.bind a.vars, resTime := some time })) := by
  have hs : GoodSpecs a.specs := by
    intro ψ hψ
    rw [hφ] at hψ
    have : ψ = φ := by simpa using hψ
    subst this
    exact ⟨hwf, hpl, hnp⟩
  rw [genOffEval_evaluate c k a ha hs d]
  simp only [evaluateOffData, ht, hφ, evaluateOffSpecs_single]
  cases evaluateOff Generated.offlineDiscrete.handles φ time (d.bind a.vars) with
  | error e => rfl
  | ok out => rfl

/-- **C01 on the run of the translated method**: for a specification with the one assertion `φ` and a data set whose
    columns (as written into `var_object_dict`) tabulate the signals `σ`, the translated `evaluate(dataset)` returns one
    pair per sample, the `t`-th being `(time[t], ρ(φ, σ, t))`. -/
theorem C01_evaluate_translated [LawfulVal α] (c : SamplingCfg) (k : Clock) (a : OAst α) (ha : a.unit = unitStr c.unit) (φ : F α)
    (hφ : a.specs = [φ]) (hwf : φ.wf = true) (hpl : plain φ = true) (hnp : noPrec φ = true)
    (hh : ∀ kd ∈ φ.kinds, Generated.offlineDiscrete.handles kd = true) (hp : φ.noPrecedes)
    (d : Dataset α) (time : List Rat) (ht : d.time = some time) (hn : 0 < time.length)
    (σ : String → Nat → α) (hw : (d.bind a.vars).Agrees σ time.length φ.vars) :
    evaluateG (mkState c k a) d =
      .ok (time.zip (tab time.length (rho σ time.length φ)),
        mkState c { k with viol := offlineCounter c k.viol time } { a with vars := d.bind a.vars, resTime := some time }) := by
  rw [genOffEval_single c k a ha φ hφ hwf hpl hnp d time ht,
    C01_evaluate Generated.offlineDiscrete.handles (d.bind a.vars) σ time hn φ hwf hh hp hw]
  rfl

omit [Val α] in
theorem lookup_bindKeys (d : Dataset α) (x : String) (l : List α) (hx : x ≠ "time") (hl : d.cols.lookup x = some l) :
    ∀ (ks : List String) (w : Rtamt.Env α), (x ∈ ks ∨ w.lookup x = some l) → (d.bindKeys ks w).lookup x = some l := by
  intro ks
  induction ks with
  | nil => intro w h; rcases h with h | h; · simp at h
           · exact h
  | cons k rest ih =>
    intro w h
    simp only [Dataset.bindKeys, List.foldl_cons]
    refine ih _ ?_
    by_cases hk : x = k
    · subst hk
      right
      simp [hx, hl]
    · have hb : (x == k) = false := by simpa using hk
      rcases h with h | h
      · simp only [List.mem_cons] at h
        rcases h with h | h
        · exact absurd h hk
        · exact Or.inl h
      · right
        split
        · split
          · simp [List.lookup, hb, h]
          · exact h
        · exact h

omit [Val α] in
/-- A column of the data set (other than 'time') is what the visitor reads for that variable, whatever
    `var_object_dict` held before. -/
theorem bind_lookup (d : Dataset α) (w : Rtamt.Env α) (x : String) (l : List α) (hx : x ≠ "time")
    (hl : d.cols.lookup x = some l) : (d.bind w).lookup x = some l := by
  refine lookup_bindKeys d x l hx hl d.keys w (Or.inl ?_)
  simp only [Dataset.keys, List.mem_append]
  exact Or.inl ((Assoc.mem_keys_iff d.cols x).2 ⟨l, hl⟩)

/-- `C01_evaluate_translated` with the hypothesis on the data set itself: every variable of the assertion has a column
    that tabulates its signal. -/
theorem C01_evaluate_translated_dataset [LawfulVal α] (c : SamplingCfg) (k : Clock) (a : OAst α) (ha : a.unit = unitStr c.unit) (φ : F α)
    (hφ : a.specs = [φ]) (hwf : φ.wf = true) (hpl : plain φ = true) (hnp : noPrec φ = true)
    (hh : ∀ kd ∈ φ.kinds, Generated.offlineDiscrete.handles kd = true) (hp : φ.noPrecedes)
    (d : Dataset α) (time : List Rat) (ht : d.time = some time) (hn : 0 < time.length)
    (σ : String → Nat → α)
    (hd : ∀ x ∈ φ.vars, x ≠ "time" ∧ d.cols.lookup x = some (tab time.length (σ x))) :
    evaluateG (mkState c k a) d =
      .ok (time.zip (tab time.length (rho σ time.length φ)),
        mkState c { k with viol := offlineCounter c k.viol time } { a with vars := d.bind a.vars, resTime := some time }) :=
  C01_evaluate_translated c k a ha φ hφ hwf hpl hnp hh hp d time ht hn σ
    (fun x hx => bind_lookup d a.vars x _ (hd x hx).1 (hd x hx).2)

/-- Nothing in the two translated methods is outside the translated subset (nor is the gap loop outside the subset of
    `Sem.lean`); the methods are those of the classes `self.evaluate`, `self.set_variable_to_ast_from_dataset`,
    `self.exist_ast`, `self.visitAst` and `self.visit` resolve to along the MRO of `DiscreteTimeOfflineInterpreter`. -/
theorem genOffEval_supported :
    Gen.OffEval.evaluate.unsup = [] ∧ Gen.OffEval.visitAst.unsup = [] ∧
    (Gen.OffEval.evaluate.body.clocks.all S.supported = true) ∧ Gen.OffEval.visitAst.body.clocks = [] ∧
    Gen.OffEval.resolution =
      [("evaluate", "AbstractDiscreteTimeOfflineInterpreter"),
       ("set_variable_to_ast_from_dataset", "AbstractDiscreteTimeOfflineInterpreter"),
       ("exist_ast", "AbstractInterpreter"), ("visitAst", "AbstractAstVisitor"),
       ("visit", "StlDiscreteTimeOfflineAstVisitor")] ∧
    Gen.OffEval.bases =
      [("DiscreteTimeOfflineInterpreter", ["AbstractDiscreteTimeOfflineInterpreter", "AstVisitor"]),
       ("AbstractDiscreteTimeOfflineInterpreter", ["AbstractOfflineInterpreter", "DiscreteTimeInterpreter"]),
       ("AbstractOfflineInterpreter", ["AbstractInterpreter"]), ("AbstractInterpreter", ["object"]),
       ("DiscreteTimeInterpreter", ["TimeInterpreter"]), ("TimeInterpreter", ["object"]),
       ("StlDiscreteTimeOfflineAstVisitor", ["StlAstVisitor"]), ("StlAstVisitor", ["LtlAstVisitor"]),
       ("LtlAstVisitor", ["AbstractAstVisitor"]), ("AbstractAstVisitor", ["object"])] := by
  refine ⟨by decide +kernel, by decide +kernel, by decide +kernel, by decide +kernel, by decide +kernel, by decide +kernel⟩

/-- The gap loop inside the translated `evaluate` is the loop of `Gen.Clock.offline_count` (`GeneratedClock.lean`), the
    term `gen_clock_offline` is about. -/
theorem genOffEval_clock :
    Gen.Clock.offline_count.body = .seq (.setLoc "ts" (.loc "$time"))
      (match Gen.OffEval.evaluate.body.clocks with | [s] => s | _ => .skip) := rfl

end Rtamt.Py.OffEval
