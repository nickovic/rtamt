/-
  C15 (minimal parentheses) — binary operators group according to the precedence order of the
  grammar: a rendering that leaves out every redundant pair of parentheses parses back to the
  same tree.

  `renderPrec p F e` renders `e` for a context in which
    * the expression is read by `parseExpr _ p'` with `p' ≤ p` (binary operators of level `< p`
      at the top of `e` need parentheses), and
    * the token that follows is a closing token or a binary operator of level `< F`
      (`F = 0`: nothing binary follows).
  The second parameter is needed because of the prefix operators of the model: `parsePrimary`
  reads the operand of `not`, `always[a,b]`, ... with `parseExpr _ 18` (unary minus: 21), whatever
  the level of the enclosing call, so a prefix operator at the right end of an operand swallows
  a following operator of level `≥ 18` (`a * not b < c` is `a * (not (b < c))`).  A prefix form is
  therefore put in parentheses exactly when the following binary operator has level ≥ the
  operand level of the prefix operator.
-/
import RtamtProofs.C15

namespace Rtamt.Front
open Rtamt

/-- Rendering of `e` for minimal level `p` and follow bound `F` (see the header). -/
def renderPrec : Nat → Nat → PE → List Tok
  | _, _, .id s => [.ident s]
  | _, _, .lit s => [.intLit s]
  | _, F, .pre op iv e =>
      if F ≤ preLevel op then tokOfPre op :: ivToks iv ++ renderPrec (preLevel op) F e
      else .lparen :: tokOfPre op :: ivToks iv ++ renderPrec (preLevel op) 0 e ++ [.rparen]
  | _, _, .fn1 f e => tokOfFn1 f :: .lparen :: renderPrec 0 0 e ++ [.rparen]
  | _, _, .fn2 .pow a b => .pow :: .lparen :: renderPrec 0 0 a ++ .comma :: renderPrec 0 0 b ++ [.rparen]
  | _, _, .fn2 .log a b => .log :: .lparen :: renderPrec 0 0 a ++ .comma :: renderPrec 0 0 b ++ [.rparen]
  | p, F, .bin op iv l r =>
      if p ≤ binLevel op then
        renderPrec (binLevel op) (binLevel op + 1) l ++ tokOfBin op :: ivToks iv ++
          renderPrec (binLevel op + 1) F r
      else
        .lparen :: renderPrec (binLevel op) (binLevel op + 1) l ++ tokOfBin op :: ivToks iv ++
          renderPrec (binLevel op + 1) 0 r ++ [.rparen]

def renderMin (e : PE) : List Tok := renderPrec 0 0 e

/-- `renderPrec p F e` is read back in every context it is made for (`F ≤ p + 1`: the follow bound of a left operand is one
    above its level), with four calls of fuel per node. -/
theorem reads_renderPrec (e : PE) : ∀ p F, e.ivOk = true → F ≤ p + 1 → Reads (4 * e.size) p F (renderPrec p F e) e := by
  induction e with
  | id s => intro p F _ _; exact (reads_id s).mono (by simp [PE.size])
  | lit s => intro p F _ _; exact (reads_lit s).mono (by simp [PE.size])
  | pre op iv e ih =>
    intro p F hiv _
    simp only [PE.ivOk, PE.size, Bool.and_eq_true, renderPrec] at hiv ⊢
    split
    · next hF => exact ((ih _ F hiv.2 (by omega)).pre hF hiv.1).mono (by omega)
    · exact ((ih _ 0 hiv.2 (Nat.zero_le _)).pre (Nat.zero_le _) hiv.1).paren.mono (by omega)
  | fn1 fn e ih =>
    intro p F hiv _
    exact ((ih 0 0 hiv (Nat.zero_le _)).fn1 fn).mono (by simp only [PE.size]; omega)
  | fn2 fn a b iha ihb =>
    intro p F hiv _
    simp only [PE.ivOk, PE.size, Bool.and_eq_true] at hiv ⊢
    cases fn <;> exact ((iha 0 0 hiv.1 (Nat.zero_le _)).fn2 (ihb 0 0 hiv.2 (Nat.zero_le _)) _).mono (by omega)
  | bin op iv l r ihl ihr =>
    intro p F hiv hF
    simp only [PE.ivOk, PE.size, Bool.and_eq_true, renderPrec] at hiv ⊢
    have hl := ihl (binLevel op) (binLevel op + 1) hiv.1.2 (Nat.le_refl _)
    split
    · next hp => exact (hl.bin (ihr _ F hiv.2 (by omega)) hp (by omega) hiv.1.1).mono (by omega)
    · exact (hl.bin (ihr _ 0 hiv.2 (Nat.zero_le _)) (Nat.zero_le _) (Nat.zero_le _) hiv.1.1).paren.mono (by omega)

/-- Round trip at any level: `renderPrec p F e` followed by a token that is not a binary operator
    of level `≥ F` (with `F ≤ p`) is read back as `e` by `parseExpr _ p`, which stops at `rest`. -/
theorem C15_roundtrip_prec (e : PE) (hiv : e.ivOk = true) (p F : Nat) (hF : F ≤ p) (rest : List Tok)
    (hfol : Follow F rest) (fuel : Nat) (hf : 4 * e.size ≤ fuel) :
    parseExpr fuel p (renderPrec p F e ++ rest) = .ok (e, rest) :=
  (reads_renderPrec e p F hiv (by omega)).roundtrip hF hfol hf

/-- Round trip on minimally parenthesised renderings (same hypotheses and fuel as
    `C15_roundtrip_full`). -/
theorem C15_roundtrip_minimal (e : PE) (hiv : e.ivOk = true) (rest : List Tok)
    (hrest : rest = [] ∨ ∃ t r, rest = t :: r ∧ (t = .rparen ∨ t = .semicolon ∨ t = .comma))
    (fuel : Nat) (hf : 4 * e.size + 4 ≤ fuel) :
    parseExpr fuel 0 (renderMin e ++ rest) = .ok (e, rest) :=
  C15_roundtrip_prec e hiv 0 0 (Nat.le_refl _) rest (closing_follow 0 rest hrest) fuel (by omega)

/-- The statement in the `∃ fuel0` form. -/
theorem C15_roundtrip_minimal' (e : PE) (hiv : e.ivOk = true) (rest : List Tok) (hc : Closing rest) :
    ∃ fuel0, ∀ fuel ≥ fuel0, parseExpr fuel 0 (renderMin e ++ rest) = .ok (e, rest) :=
  ⟨4 * e.size + 4, fun fuel hf => C15_roundtrip_minimal e hiv rest hc fuel hf⟩

theorem renderPrec_length_le (e : PE) : ∀ p F, (renderPrec p F e).length ≤ (renderFull e).length := by
  induction e with
  | id s => intro p F; simp [renderPrec, renderFull]
  | lit s => intro p F; simp [renderPrec, renderFull]
  | pre op iv e ih =>
    intro p F
    have h1 := ih (preLevel op) F
    have h2 := ih (preLevel op) 0
    simp only [renderPrec, renderFull]
    split <;> simp only [List.length_cons, List.length_append, List.length_nil] <;> omega
  | fn1 fn e ih =>
    intro p F
    have := ih 0 0
    simp only [renderPrec, renderFull, List.length_cons, List.length_append, List.length_nil]
    omega
  | fn2 fn a b iha ihb =>
    intro p F
    have := iha 0 0
    have := ihb 0 0
    cases fn <;>
      simp only [renderPrec, renderFull, List.length_cons, List.length_append, List.length_nil] <;> omega
  | bin op iv l r ihl ihr =>
    intro p F
    have h1 := ihl (binLevel op) (binLevel op + 1)
    have h2 := ihr (binLevel op + 1) F
    have h3 := ihr (binLevel op + 1) 0
    simp only [renderPrec, renderFull]
    split <;> simp only [List.length_cons, List.length_append, List.length_nil] <;> omega

theorem renderMin_length_le (e : PE) : (renderMin e).length ≤ (renderFull e).length :=
  renderPrec_length_le e 0 0

/-- `a and b or c -> d`, i.e. `((a and b) or c) -> d`. -/
def exTree : PE :=
  .bin .implies none (.bin .or none (.bin .and none (.id "a") (.id "b")) (.id "c")) (.id "d")

/-- No parentheses in the minimal rendering ... -/
example : renderMin exTree =
    [.ident "a", .and, .ident "b", .or, .ident "c", .implies, .ident "d"] := rfl

/-- ... six pairs in the full one. -/
example : renderFull exTree =
    [.lparen, .lparen, .lparen, .ident "a", .rparen, .and, .lparen, .ident "b", .rparen, .rparen, .or,
     .lparen, .ident "c", .rparen, .rparen, .implies, .lparen, .ident "d", .rparen] := rfl

example : parseExpr 32 0 (renderMin exTree ++ [.semicolon]) = .ok (exTree, [.semicolon]) :=
  C15_roundtrip_minimal exTree (by decide) _ (Or.inr ⟨_, _, rfl, Or.inr (Or.inl rfl)⟩) 32 (by decide)

/-- Parentheses that remain: a looser operand, a right operand of the same level (the loop is
    left-associative), and a prefix operator in front of a tighter operator. -/
example : renderMin (.bin .and none (.id "a") (.bin .or none (.id "b") (.id "c"))) =
    [.ident "a", .and, .lparen, .ident "b", .or, .ident "c", .rparen] := rfl

example : renderMin (.bin .sub none (.id "a") (.bin .sub none (.id "b") (.id "c"))) =
    [.ident "a", .minus, .lparen, .ident "b", .minus, .ident "c", .rparen] := rfl

example : renderMin (.bin .sub none (.bin .sub none (.id "a") (.id "b")) (.id "c")) =
    [.ident "a", .minus, .ident "b", .minus, .ident "c"] := rfl

/-- `(a * not b) < c` keeps a pair of parentheses around `not b` ... -/
example : renderMin (.bin (.cmp .lt) none (.bin .mul none (.id "a") (.pre .not none (.id "b"))) (.id "c")) =
    [.ident "a", .times, .lparen, .not, .ident "b", .rparen, .lt, .ident "c"] := rfl

/-- ... because without them the prefix operator of the model takes the comparison as its operand,
    although `*` (level 20) binds tighter than `<` (level 18). -/
example : parseExpr 20 0 [.ident "a", .times, .not, .ident "b", .lt, .ident "c", .semicolon] =
    .ok (.bin .mul none (.id "a") (.pre .not none (.bin (.cmp .lt) none (.id "b") (.id "c"))), [.semicolon]) := by
  rfl

/-- `always[1,2] a and b` is `(always[1,2] a) and b`; `always[1,2] (a and b)` keeps its parentheses. -/
example : renderMin (.bin .and none
      (.pre .always (some ⟨.lit "1" none, .lit "2" none⟩) (.id "a")) (.id "b")) =
    [.always, .lbrack, .intLit "1", .comma, .intLit "2", .rbrack, .ident "a", .and, .ident "b"] := rfl

example : renderMin (.pre .always (some ⟨.lit "1" none, .lit "2" none⟩) (.bin .and none (.id "a") (.id "b"))) =
    [.always, .lbrack, .intLit "1", .comma, .intLit "2", .rbrack, .lparen, .ident "a", .and, .ident "b", .rparen] := rfl

end Rtamt.Front
