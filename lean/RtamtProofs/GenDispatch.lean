/-
  Decidable equality of the translated syntax (`E`, `S`, `Method`, `Class`), for the two facts about generated tables that
  are decided by comparing program texts: "the class the construction visitor names is the translated class of that name"
  (`ctorOf_eq`, GenOn) and "the functions the explainer's visit method names are those of the table of rules"
  (`resolveVisit_eq`, GenExpl).  The method a visitor defines for a node class is read off its table without comparison
  (`Lemmas/VisitName.lean`).
-/
import Rtamt.Py.Sem

namespace Rtamt.Py

deriving instance DecidableEq for E
deriving instance DecidableEq for S
deriving instance DecidableEq for Method
deriving instance DecidableEq for Class

end Rtamt.Py
