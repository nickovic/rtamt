/-
  The one-step equations of `exec` and `evalE` of `Rtamt/Py/Sem.lean`, one per constructor that the translated
  methods use, and `evalBin`, `evalUn`, `evalIdx`, `appendV` on the forms of values those methods feed them.

  Symbolic execution rewrites with these and leaves the four functions folded: unfolded under the binder of a
  continuation, where the operands are still variables, their many-way matches are tried and abandoned
  alternative by alternative at every step.
-/
import Rtamt.Py.Sem
import RtamtProofs.SemAttr

namespace Rtamt.Py
open Rtamt Val

variable {α : Type} [Val α]

/- `id rfl`, not `rfl`, here and for the equations below whose right side still holds program text (a continuation
   after `>>=`): with a `rfl` equation `simp` rewrites by definitional unfolding, and the kernel then re-evaluates the
   remaining program (with its string comparisons) at every statement.  Where the right side is a value, `rfl`. -/
theorem ok_bind {ε σ ρ : Type} (a : σ) (f : σ → Except ε ρ) : (Except.ok a >>= f) = f a := id rfl
theorem error_bind {ε σ ρ : Type} (e : ε) (f : σ → Except ε ρ) : (Except.error e >>= f) = .error e := id rfl

theorem evalBin_sub_num (x y : α) : evalBin .sub (.num x) (.num y) = .ok (.num (Val.sub x y)) := rfl
theorem evalBin_min_num (x y : α) : evalBin .min (.num x) (.num y) = .ok (.num (pmin x y)) := rfl
theorem evalBin_max_num (x y : α) : evalBin .max (.num x) (.num y) = .ok (.num (pmax x y)) := rfl
theorem evalBin_lt_num (x y : α) : evalBin .lt (.num x) (.num y) = .ok (.bool (Val.lt x y)) := rfl
theorem evalBin_gt_num (x y : α) : evalBin .gt (.num x) (.num y) = .ok (.bool (Val.lt y x)) := rfl
theorem evalBin_le_num (x y : α) : evalBin .le (.num x) (.num y) = .ok (.bool (!Val.lt y x)) := rfl
theorem evalBin_ge_num (x y : α) : evalBin .ge (.num x) (.num y) = .ok (.bool (!Val.lt x y)) := rfl
theorem evalBin_eq_num (x y : α) : evalBin .eq (.num x) (.num y) = .ok (.bool (numEq x y)) := rfl
theorem evalBin_ne_num (x y : α) : evalBin .ne (.num x) (.num y) = .ok (.bool (!numEq x y)) := rfl

/-- `0` is promoted to a float only beside a float. -/
theorem coerce_int_int (x y : Int) : coerce (α := α) (.int x) (.int y) = (.int x, .int y) := by
  unfold coerce; split <;> simp_all

/- `simp [evalBin]` makes Lean derive the equation lemmas of `evalBin` here, once, for every module whose `py_simp`
   unfolds `evalBin`; `unfold evalBin` below does not need them. -/
theorem evalBin_add_int (x y : Int) : evalBin (α := α) .add (.int x) (.int y) = .ok (.int (x + y)) := by
  simp [evalBin, coerce]
theorem evalBin_sub_int (x y : Int) : evalBin (α := α) .sub (.int x) (.int y) = .ok (.int (x - y)) := by
  simp [evalBin, coerce]
theorem evalBin_eq_int (x y : Int) : evalBin (α := α) .eq (.int x) (.int y) = .ok (.bool (decide (x = y))) := by
  simp [evalBin, coerce]
theorem evalBin_lt_int (x y : Int) : evalBin (α := α) .lt (.int x) (.int y) = .ok (.bool (decide (x < y))) := by
  unfold evalBin; rw [coerce_int_int]
theorem evalBin_gt_int (x y : Int) : evalBin (α := α) .gt (.int x) (.int y) = .ok (.bool (decide (y < x))) := by
  unfold evalBin; rw [coerce_int_int]
theorem evalBin_le_int (x y : Int) : evalBin (α := α) .le (.int x) (.int y) = .ok (.bool (decide (x ≤ y))) := by
  unfold evalBin; rw [coerce_int_int]

theorem evalBin_add_rat_rat (a b : Rat) : evalBin (α := α) .add (.rat a) (.rat b) = .ok (.rat (a + b)) := rfl
theorem evalBin_sub_rat_rat (a b : Rat) : evalBin (α := α) .sub (.rat a) (.rat b) = .ok (.rat (a - b)) := rfl
theorem evalBin_mul_rat_rat (a b : Rat) : evalBin (α := α) .mul (.rat a) (.rat b) = .ok (.rat (a * b)) := rfl
theorem evalBin_lt_rat_rat (a b : Rat) : evalBin (α := α) .lt (.rat a) (.rat b) = .ok (.bool (decide (a < b))) := rfl
theorem evalBin_gt_rat_rat (a b : Rat) : evalBin (α := α) .gt (.rat a) (.rat b) = .ok (.bool (decide (b < a))) := rfl

theorem evalBin_eq_cmp (x y : Cmp) : evalBin (α := α) .eq (.cmp x) (.cmp y) = .ok (.bool (decide (x = y))) := rfl
theorem evalBin_eq_str (x y : String) : evalBin (α := α) .eq (.str x) (.str y) = .ok (.bool (decide (x = y))) := rfl
theorem evalBin_eq_bool (x y : Bool) : evalBin (α := α) .eq (.bool x) (.bool y) = .ok (.bool (x == y)) := rfl
theorem evalBin_or_bool (x y : Bool) : evalBin (α := α) .or (.bool x) (.bool y) = .ok (.bool (x || y)) := rfl
theorem evalBin_and_bool (x y : Bool) : evalBin (α := α) .and (.bool x) (.bool y) = .ok (.bool (x && y)) := rfl

theorem evalUn_neg_num (x : α) : evalUn .neg (.num x) = .ok (.num (Val.neg x)) := rfl
theorem evalUn_abs_num (x : α) : evalUn .abs (.num x) = .ok (.num (Val.abs x)) := rfl
theorem evalUn_truthy_bool (b : Bool) : evalUn (α := α) .truthy (.bool b) = .ok (.bool b) := rfl
theorem evalUn_not_bool (b : Bool) : evalUn (α := α) .not (.bool b) = .ok (.bool (!b)) := rfl

omit [Val α] in
theorem evalIdx_deque (c : Nat) (l : List α) (k : Nat) : evalIdx (.deque c l) (.int k) = (idx l k).map .num := by
  have h : ¬ (k : Int) < 0 := by omega
  simp [evalIdx, h]

omit [Val α] in
/-- `self.buffer[0]`, `self.buffer[1]` of a list of deques. -/
theorem evalIdx_dlist_zero (c : Nat) (d : List α) (l : List (Nat × List α)) :
    evalIdx (.dlist ((c, d) :: l)) (.int 0) = .ok (.deque c d) := rfl

omit [Val α] in
theorem evalIdx_dlist_one (p : Nat × List α) (c : Nat) (d : List α) (l : List (Nat × List α)) :
    evalIdx (.dlist (p :: (c, d) :: l)) (.int 1) = .ok (.deque c d) := rfl

omit [Val α] in
theorem appendV_deque (c : Nat) (l : List α) (x : α) :
    appendV (.deque c l) (.num x) = .ok (.deque c (dqAppend c l x)) := rfl

omit [Val α] in
theorem appendV_dlist (l : List (Nat × List α)) (c : Nat) (d : List α) :
    appendV (.dlist l) (.deque c d) = .ok (.dlist (l ++ [(c, d)])) := by
  cases l <;> rfl

theorem evalE_loc (env : Env α) (x : String) : evalE env (.loc x) = getKey x env.loc := id rfl
theorem evalE_pinf (env : Env α) : evalE env .pinf = .ok (.num Val.pinf) := rfl
theorem evalE_ninf (env : Env α) : evalE env .ninf = .ok (.num Val.ninf) := rfl
theorem evalE_int (env : Env α) (n : Int) : evalE env (.int n) = .ok (.int n) := rfl
theorem evalE_cmpc (env : Env α) (c : Cmp) : evalE env (.cmpc c) = .ok (.cmp c) := rfl
theorem evalE_emptyList (env : Env α) : evalE env .emptyList = .ok (.dlist []) := rfl
theorem evalE_noneLit (env : Env α) : evalE env .noneLit = .ok .none := rfl
theorem evalE_un (env : Env α) (op : UnOp) (e : E) : evalE env (.un op e) = (evalE env e >>= evalUn op) := id rfl
theorem evalE_bin (env : Env α) (op : BinOp) (a b : E) :
    evalE env (.bin op a b) = (evalE env a >>= fun x => evalE env b >>= fun y => evalBin op x y) := id rfl
theorem evalE_idx (env : Env α) (e i : E) :
    evalE env (.idx e i) = (evalE env e >>= fun x => evalE env i >>= fun k => evalIdx x k) := id rfl
theorem evalE_ifExp (env : Env α) (c a b : E) :
    evalE env (.ifExp c a b) = (evalE env c >>= fun v => match v with
      | .bool true => evalE env a
      | .bool false => evalE env b
      | _ => .error .type) := id rfl

theorem exec_skip (env : Env α) : exec .skip env = .ok env := rfl
theorem exec_seq (a b : S) (env : Env α) : exec (.seq a b) env = (exec a env >>= exec b) := id rfl
theorem exec_setLoc (x : String) (e : E) (env : Env α) :
    exec (.setLoc x e) env = (evalE env e >>= fun v => .ok { env with loc := setKey x v env.loc }) := id rfl
theorem exec_setAttr (x : String) (e : E) (env : Env α) :
    exec (.setAttr x e) env = (evalE env e >>= fun v => .ok { env with self := setKey x v env.self }) := rfl
theorem exec_append_none (a : String) (e : E) (env : Env α) :
    exec (.append a none e) env = (evalE env e >>= fun v => getKey a env.self >>= fun t =>
      appendV t v >>= fun t' => .ok { env with self := setKey a t' env.self }) := rfl
theorem exec_append_some (a : String) (k : Nat) (e : E) (env : Env α) :
    exec (.append a (some k) e) env = (evalE env e >>= fun v => getKey a env.self >>= fun t =>
      match t, v with
      | .dlist l, .num x =>
          match l[k]? with
          | some (c, d) => .ok { env with self := setKey a (.dlist (l.set k (c, dqAppend c d x))) env.self }
          | none => .error .index
      | _, _ => .error .type) := rfl

theorem exec_ite (c : E) (t e : S) (env : Env α) :
    exec (.ite c t e) env = (evalE env c >>= fun v =>
      match v with
      | .bool true => exec t env
      | .bool false => exec e env
      | _ => .error .type) := rfl

theorem exec_raise (k : PyErr) (env : Env α) : exec (.raise k) env = .error k := rfl

theorem exec_for {i : String} {lo hi : E} {body : S} {env : Env α} (a : Nat) (hb : Int)
    (hlo : evalE env lo = .ok (.int a)) (hhi : evalE env hi = .ok (.int hb)) :
    exec (.for_ i lo hi body) env =
      (List.range' a (hb - a).toNat).foldlM
        (fun env k => exec body { env with loc := setKey i (.int (k : Nat)) env.loc }) env := by
  have hneg : ¬ ((a : Int) < 0) := by omega
  simp [exec, hlo, hhi, hneg, bind, Except.bind]

end Rtamt.Py
