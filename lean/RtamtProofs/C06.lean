/-
  C06 — Interface-aware semantics differ from standard only at insensitive predicates.

  "Under output-robustness semantics the result equals standard evaluation in which every
   predicate that mentions no output variable contributes +inf where it holds and -inf
   where it does not, and symmetrically for input-robustness and input variables; under
   output-vacuity and input-vacuity such a predicate contributes 0 instead; every other
   predicate keeps its numeric robustness. This holds for discrete and dense time, offline
   and online, and with Semantics.STANDARD the input/output declarations have no effect."
-/
import RtamtProofs.C02
import Rtamt.Discrete.IA

namespace Rtamt
open Val

variable {α : Type}

/-- The lists the node constructors build bottom-up are the syntactic variable sets split by
    the input/output declaration. -/
theorem C06_vars_propagate (inputs : List String) (φ : F α) :
    φ.inVars inputs = φ.vars.filter (fun x => inputs.contains x) ∧
    φ.outVars inputs = φ.vars.filter (fun x => !inputs.contains x) := by
  induction φ with
  | var x =>
    by_cases hx : x ∈ inputs
    · simp [F.inVars, F.outVars, F.vars, hx]
    · simp [F.inVars, F.outVars, F.vars, hx]
  | const c => simp [F.inVars, F.outVars, F.vars]
  | un op φ ih | tmp1 op φ ih | tb1 op a b φ ih => simpa [F.inVars, F.outVars, F.vars] using ih
  | bin op φ ψ ih1 ih2 | tmp2 op φ ψ ih1 ih2 | tb2 op a b φ ψ ih1 ih2 =>
    simp only [F.inVars, F.outVars, F.vars, List.filter_append, ih1.1, ih1.2, ih2.1, ih2.2, and_self]

/-- Insensitivity is "mentions no output variable" (resp. "no input variable"). -/
theorem C06_insensitive_iff (inputs : List String) (l r : F α) :
    (insensitive .outRob inputs l r = (l.vars ++ r.vars).all (fun x => inputs.contains x)) ∧
    (insensitive .outVac inputs l r = (l.vars ++ r.vars).all (fun x => inputs.contains x)) ∧
    (insensitive .inRob inputs l r = (l.vars ++ r.vars).all (fun x => !inputs.contains x)) ∧
    (insensitive .inVac inputs l r = (l.vars ++ r.vars).all (fun x => !inputs.contains x)) := by
  have hl := C06_vars_propagate inputs l
  have hr := C06_vars_propagate inputs r
  refine ⟨?_, ?_, ?_, ?_⟩ <;>
    simp only [insensitive, hl.1, hl.2, hr.1, hr.2, ← List.filter_append] <;>
    rw [Bool.eq_iff_iff] <;>
    simp [List.isEmpty_iff, List.filter_eq_nil_iff, List.all_eq_true]

/-- If every predicate is sensitive the IA semantics is the standard one. -/
theorem C06_sensitive_unchanged (sem : Sem) (inputs : List String) (φ : F α)
    (h : ∀ c l r, F.bin (.pred c) l r ∈ F.subs φ → insensitive sem inputs l r = false) :
    iaT sem inputs φ = φ := by
  induction φ with
  | var x => simp [iaT]
  | const c => simp [iaT]
  | un op φ ih | tmp1 op φ ih | tb1 op a b φ ih =>
    simp [iaT, ih (fun c l r hm => h c l r (by simp [F.subs, hm]))]
  | bin op φ ψ ih1 ih2 =>
    have e1 := ih1 (fun c l r hm => h c l r (by simp [F.subs, hm]))
    have e2 := ih2 (fun c l r hm => h c l r (by simp [F.subs, hm]))
    cases op
    case pred c =>
      have := h c φ ψ (by simp [F.subs])
      simp [iaT, this, e1, e2]
    all_goals simp [iaT, e1, e2]
  | tmp2 op φ ψ ih1 ih2 | tb2 op a b φ ψ ih1 ih2 =>
    simp [iaT, ih1 (fun c l r hm => h c l r (by simp [F.subs, hm])),
      ih2 (fun c l r hm => h c l r (by simp [F.subs, hm]))]

/-- With `Semantics.STANDARD` the input/output declarations have no effect at all. -/
theorem C06_standard_ignores_io (inputs : List String) (φ : F α) : iaT .standard inputs φ = φ :=
  C06_sensitive_unchanged .standard inputs φ fun _ _ _ _ => rfl

theorem iaT_bin_shape (sem : Sem) (inputs : List String) (op : Bin) (φ ψ : F α) :
    ∃ op' : Bin, iaT sem inputs (.bin op φ ψ) = .bin op' (iaT sem inputs φ) (iaT sem inputs ψ) ∧
      op'.kind = op.kind := by
  cases op
  case pred c =>
    by_cases hi : insensitive sem inputs φ ψ = true
    · cases sem <;> simp [iaT, hi, Bin.kind]
    · simp [iaT, hi]
  all_goals exact ⟨_, by simp [iaT], rfl⟩

/-- The transformation only touches predicate nodes: node classes, variables, well-formedness
    and the absence of future operators are preserved. -/
theorem C06_iaT_preserves (sem : Sem) (inputs : List String) (φ : F α) :
    (iaT sem inputs φ).kinds = φ.kinds ∧ (iaT sem inputs φ).vars = φ.vars ∧
    (iaT sem inputs φ).wf = φ.wf ∧ (iaT sem inputs φ).online = φ.online := by
  suffices h : (iaT sem inputs φ).kinds = φ.kinds ∧ (iaT sem inputs φ).vars = φ.vars ∧
      (iaT sem inputs φ).wf = φ.wf by
    refine ⟨h.1, h.2.1, h.2.2, ?_⟩
    simp only [F.online, h.1]
  induction φ with
  | var x => simp [iaT]
  | const c => simp [iaT]
  | un op φ ih | tmp1 op φ ih | tb1 op a b φ ih =>
    simp [iaT, F.kinds, F.vars, F.wf, ih.1, ih.2.1, ih.2.2]
  | bin op φ ψ ih1 ih2 =>
    obtain ⟨op', he, hk⟩ := iaT_bin_shape sem inputs op φ ψ
    rw [he]
    simp [F.kinds, F.vars, F.wf, ih1.1, ih1.2.1, ih1.2.2, ih2.1, ih2.2.1, ih2.2.2, hk]
  | tmp2 op φ ψ ih1 ih2 | tb2 op a b φ ψ ih1 ih2 =>
    simp [iaT, F.kinds, F.vars, F.wf, ih1.1, ih1.2.1, ih1.2.2, ih2.1, ih2.2.1, ih2.2.2]

variable [Val α]

/-- The predicate clause of the IA semantics: an insensitive predicate contributes ±inf by
    satisfaction (robustness semantics) or 0 (vacuity semantics); a sensitive one keeps its
    numeric robustness. -/
theorem C06_pred_clause (sem : Sem) (inputs : List String) (c : Cmp) (l r : F α)
    (σ : String → Nat → α) (n t : Nat) :
    rho σ n (iaT sem inputs (.bin (.pred c) l r)) t =
      let vl := rho σ n (iaT sem inputs l) t
      let vr := rho σ n (iaT sem inputs r) t
      if insensitive sem inputs l r then
        (match sem with
         | .outRob | .inRob => if c.holds vl vr then pinf else ninf
         | _ => Val.zero)
      else c.app vl vr := by
  by_cases hi : insensitive sem inputs l r = true
  · cases sem <;> simp [iaT, hi, rho, Bin.app]
  · simp [iaT, hi, rho, Bin.app]

variable [LawfulVal α]

/-- Offline IA monitor = `rho` of the transformed formula (C01 for the transformed formula). -/
theorem C06_offline_ia (sem : Sem) (inputs : List String) (h : Kind → Bool) (w : Env α)
    (σ : String → Nat → α) (n : Nat) (hn : 0 < n) (φ : F α) (hwf : φ.wf = true)
    (hh : ∀ k ∈ φ.kinds, h k = true) (hp : φ.noPrecedes) (hw : w.Agrees σ n φ.vars) :
    evalOff h w n (iaT sem inputs φ) = .ok (tab n (rho σ n (iaT sem inputs φ))) := by
  obtain ⟨hk, hv, hwf', _⟩ := C06_iaT_preserves sem inputs φ
  apply C01_offline_eq_rho h w σ n hn
  · rw [hwf', hwf]
  · rw [hk]; exact hh
  · unfold F.noPrecedes; rw [hk]; exact hp
  · rw [hv]; exact hw

/-- Online IA monitor = `rho` of the transformed formula (C02 for the transformed formula). -/
theorem C06_online_ia (sem : Sem) (inputs : List String) (h r : Kind → Bool)
    (σ : String → Nat → α) (n : Nat) (φ : F α) (hon : φ.online = true) (hwf : φ.wf = true)
    (hh : ∀ k ∈ φ.kinds, k ≠ .Constant → (h k = true ∧ r k = false)) :
    runOnline h r (iaT sem inputs φ) (envs σ n) = .ok (tab n (rho σ n (iaT sem inputs φ))) := by
  obtain ⟨hk, _, hwf', hon'⟩ := C06_iaT_preserves sem inputs φ
  apply C02_run_eq_rho h r σ n
  · rw [hon', hon]
  · rw [hwf', hwf]
  · rw [hk]; exact hh

end Rtamt
