/-
  C09 / C12, dense time, online — modular specifications are equivalent to their inlined form; the value of a named
  sub-formula is the list the stand-alone monitor of that sub-formula returns.

  `Rtamt/Dense/ProgramOn.lean` mirrors the interpreter as the code organises it: one operation object per node *name*
  (`online_operator_dict`), every assertion visited at every `update()`, the operands visited *before* the per-update
  memo (`self.updated`) is looked at, one flag `constants_sent` for the whole monitor.  `Rtamt/Dense/AlgOn.lean` is the
  stand-alone monitor of one assertion: a *tree* of operation states, every occurrence of a sub-formula with a state of
  its own, every constant leaf with a flag of its own.  This file proves that the first returns, for every assertion
  and every operator sub-formula, what the second returns — for every list of assertions (sharing and repeating
  sub-formulas at will), every sequence of batches, in both directions (values and exceptions).

  The refinement itself is `Keyed.run_refines` / `Keyed.run_conv` (`Keyed.lean`), proved once for both time domains.  Here
  are its two ends for dense time:
  * `runSpecsOn_eq`: `ProgramOn.lean` IS the keyed interpreter `Keyed.runK` over `nodeStepOn cfg`, the leaves yielding
    `leafOn inp sent` (the batch of a variable; a constant signal until `constants_sent` is set).
  * `stepOn_treeOf`, `runOn_iffD`: the state tree read off an assignment `R` of node states to formulas, all constant leaves
    flagged `sent` (`treeOf R sent φ`), steps as `Keyed.stepD` does, to the tree read off the next states with all flags
    set (from `stepOn_build1/2` of `Dense/OnTree.lean`); `initOn` yields `treeOf initR false φ` and `initStoreOn` binds
    `initR` (`initOK_all`, `initStoreOn_binds`, `initStore_ok` / `initOn_of_store`).
-/
import RtamtProofs.Keyed
import RtamtProofs.Dense.OnTree
import Rtamt.Dense.ProgramOn

namespace Rtamt.Dense
open Rtamt Val Rtamt.Dense.Alg Rtamt.Dense.AlgOn Rtamt.Dense.ProgramOn
open Rtamt.Keyed (InSpecs opSubs_induct visitK finishK visitSpecsK roundK runK stepD nextD runD)
open Rtamt.Exc (bind_eq_ok pure_eq_ok ok_bind)

variable {α : Type} [Val α] [DecidableEq α]

namespace C09Dense

omit [Val α] in
theorem lookup_set_eq (k : F α) (s : NSt α) (st : StoreOn α) : List.lookup k (st.set k s) = some s :=
  Keyed.lookup_set_eq k s st

omit [Val α] in
theorem lookup_set_ne {k k' : F α} (h : k ≠ k') (s : NSt α) (st : StoreOn α) :
    List.lookup k (st.set k' s) = st.lookup k :=
  Keyed.lookup_set_ne h s st

/-- The state tree of `φ` whose node states are read off `R` and whose constant leaves all carry the flag `sent`. -/
def treeOf (R : F α → NSt α) (sent : Bool) : F α → OnSt α
  | .var _ => .leaf
  | .const _ => .cst sent
  | .un op φ => build1 (R (.un op φ)) (treeOf R sent φ)
  | .bin op φ ψ => build2 (R (.bin op φ ψ)) (treeOf R sent φ) (treeOf R sent ψ)
  | .tmp1 op φ => build1 (R (.tmp1 op φ)) (treeOf R sent φ)
  | .tmp2 op φ ψ => build2 (R (.tmp2 op φ ψ)) (treeOf R sent φ) (treeOf R sent ψ)
  | .tb1 op a b φ => build1 (R (.tb1 op a b φ)) (treeOf R sent φ)
  | .tb2 op a b φ ψ => build2 (R (.tb2 op a b φ ψ)) (treeOf R sent φ) (treeOf R sent ψ)

omit [Val α] [DecidableEq α] in
theorem Node1.tree {χ φ : F α} (hn : Node1 χ φ) (R : F α → NSt α) (sent : Bool) :
    treeOf R sent χ = build1 (R χ) (treeOf R sent φ) := by cases hn <;> rfl

omit [Val α] [DecidableEq α] in
theorem Node2.tree {χ φ ψ : F α} (hn : Node2 χ φ ψ) (R : F α → NSt α) (sent : Bool) :
    treeOf R sent χ = build2 (R χ) (treeOf R sent φ) (treeOf R sent ψ) := by cases hn <;> rfl

theorem Node1.visit {χ φ : F α} (hn : Node1 χ φ) (cfg : DCfg) (inp : String → ASig α) (sent : Bool)
    (sm : StoreOn α × MemoOn α) :
    visitOnM cfg inp sent χ sm = (do
      let (s, sm1) ← visitOnM cfg inp sent φ sm
      finishOn cfg χ [s] sm1) := by cases hn <;> rfl

theorem Node2.visit {χ φ ψ : F α} (hn : Node2 χ φ ψ) (cfg : DCfg) (inp : String → ASig α) (sent : Bool)
    (sm : StoreOn α × MemoOn α) :
    visitOnM cfg inp sent χ sm = (do
      let (s1, sm1) ← visitOnM cfg inp sent φ sm
      let (s2, sm2) ← visitOnM cfg inp sent ψ sm1
      finishOn cfg χ [s1, s2] sm2) := by cases hn <;> rfl

omit [Val α] in
theorem get_ok_of_lookup {st : StoreOn α} {k : F α} {s : NSt α} (h : st.lookup k = some s) :
    st.get k = .ok s := by
  simp [StoreOn.get, h]

theorem finishOn_hit (cfg : DCfg) (k : F α) (args : List (ASig α)) (sm : StoreOn α × MemoOn α) (v : ASig α)
    (h : sm.2.lookup k = some v) : finishOn cfg k args sm = .ok (v, sm) := by
  simp only [finishOn, h]

theorem finishOn_miss (cfg : DCfg) (k : F α) (args : List (ASig α)) (sm : StoreOn α × MemoOn α)
    (s s' : NSt α) (o : ASig α)
    (h : sm.2.lookup k = none) (hs : sm.1.lookup k = some s) (hn : nodeStepOn cfg k s args = .ok (s', o)) :
    finishOn cfg k args sm = .ok (o, (sm.1.set k s', (k, o) :: sm.2)) := by
  simp only [finishOn, h, get_ok_of_lookup hs, hn, bind, Except.bind, pure, Except.pure]

/-- What the leaves yield in one `update()`: the batch of a variable; the constant signal until it has been sent. -/
def leafOn (inp : String → ASig α) (sent : Bool) : F α → ASig α
  | .var x => inp x
  | .const c => if sent then [] else [(Tm.zero, c), (.inf, c)]
  | _ => []

/-- … in a sequence of `update()` calls: `constants_sent` is set at the end of the first. -/
def leavesOn : Bool → List (String → ASig α) → List (F α → ASig α)
  | _, [] => []
  | sent, b :: bs => leafOn b sent :: leavesOn true bs

omit [Val α] [DecidableEq α] in
theorem leavesOn_length (sent : Bool) (bs : List (String → ASig α)) : (leavesOn sent bs).length = bs.length := by
  induction bs generalizing sent with
  | nil => rfl
  | cons b bs ih => rw [leavesOn, List.length_cons, ih, List.length_cons]

theorem finishOn_eq (cfg : DCfg) (k : F α) (args : List (ASig α)) (sm : StoreOn α × MemoOn α) :
    finishOn cfg k args sm = finishK (nodeStepOn cfg) k args sm := by
  have hget : ∀ st : StoreOn α, st.get k = Keyed.get st k := fun st => by
    unfold StoreOn.get Keyed.get; cases List.lookup k st <;> rfl
  unfold finishOn finishK
  cases sm.2.lookup k with
  | some v => rfl
  | none => exact hget _ ▸ bind_congr fun s => bind_congr fun ⟨s', o⟩ => rfl

theorem visitOnM_eq (cfg : DCfg) (inp : String → ASig α) (sent : Bool) (φ : F α) :
    ∀ sm : StoreOn α × MemoOn α, visitOnM cfg inp sent φ sm = visitK (nodeStepOn cfg) (leafOn inp sent) φ sm := by
  induction φ using nodeInduction with
  | var x => exact fun _ => rfl
  | const c => exact fun _ => rfl
  | n1 hn ih => exact fun sm => by rw [hn.visit, hn.visitK, ih]; exact bind_congr fun p => finishOn_eq cfg _ _ _
  | n2 hn ih1 ih2 =>
    exact fun sm => by
      rw [hn.visit, hn.visitK, ih1]
      exact bind_congr fun ⟨s1, sm1⟩ => (ih2 sm1).symm ▸ bind_congr fun q => finishOn_eq cfg _ _ _

theorem visitSpecsOn_eq (cfg : DCfg) (inp : String → ASig α) (sent : Bool) (specs : List (F α))
    (sm : StoreOn α × MemoOn α) :
    visitSpecsOn cfg inp sent specs sm = visitSpecsK (nodeStepOn cfg) (leafOn inp sent) specs sm := by
  induction specs generalizing sm with
  | nil => rfl
  | cons φ rest ih => rw [visitSpecsOn, visitSpecsK, visitOnM_eq]; simp only [ih]

theorem updateSpecsOn_eq (cfg : DCfg) (inp : String → ASig α) (sent : Bool) (specs : List (F α)) (st : StoreOn α) :
    updateSpecsOn cfg inp sent specs st = roundK (nodeStepOn cfg) (leafOn inp sent) specs st := by
  rw [updateSpecsOn, roundK, visitSpecsOn_eq]

theorem runSpecsOn_eq (cfg : DCfg) (specs : List (F α)) (st : StoreOn α) (sent : Bool) (bs : List (String → ASig α)) :
    runSpecsOn cfg specs st sent bs = runK (nodeStepOn cfg) specs st (leavesOn sent bs) := by
  induction bs generalizing st sent with
  | nil => rfl
  | cons b bs ih => rw [runSpecsOn, leavesOn, runK, updateSpecsOn_eq]; simp only [ih]

omit [DecidableEq α] in
theorem stepOn_treeOf (cfg : DCfg) (inp : String → ASig α) (sent : Bool) (R : F α → NSt α) (φ : F α) :
    ∀ r, stepOn cfg inp φ (treeOf R sent φ) = .ok r ↔
      ∃ p, stepD (nodeStepOn cfg) (leafOn inp sent) R φ = .ok p ∧
        r = (treeOf (nextD (nodeStepOn cfg) (leafOn inp sent) R) true φ, p.2) := by
  induction φ using nodeInduction with
  | var x => intro r; exact ⟨fun h => ⟨_, rfl, by cases h; rfl⟩, fun ⟨_, h, e⟩ => by cases h; exact e ▸ rfl⟩
  | const c => intro r; exact ⟨fun h => ⟨_, rfl, by cases h; rfl⟩, fun ⟨_, h, e⟩ => by cases h; exact e ▸ rfl⟩
  | n1 hn ih =>
    intro r
    rw [hn.tree, stepOn_build1 cfg inp hn, hn.tree, hn.stepD]
    simp only [bind_eq_ok, pure_eq_ok]
    constructor
    · rintro ⟨p, hp, q, hq, rfl⟩
      obtain ⟨p', hp', rfl⟩ := (ih p).1 hp
      have hχ := (hn.stepD_ok hp').trans hq
      exact ⟨q, ⟨p', hp', hq⟩, by rw [Keyed.nextD_of_ok hχ]⟩
    · rintro ⟨q, ⟨p', hp', hq⟩, rfl⟩
      have hχ := (hn.stepD_ok hp').trans hq
      exact ⟨_, (ih _).2 ⟨p', hp', rfl⟩, q, hq, by rw [Keyed.nextD_of_ok hχ]⟩
  | n2 hn ih1 ih2 =>
    intro r
    rw [hn.tree, stepOn_build2 cfg inp hn, hn.tree, hn.stepD]
    simp only [bind_eq_ok, pure_eq_ok]
    constructor
    · rintro ⟨p1, hp1, p2, hp2, q, hq, rfl⟩
      obtain ⟨p1', hp1', rfl⟩ := (ih1 p1).1 hp1
      obtain ⟨p2', hp2', rfl⟩ := (ih2 p2).1 hp2
      have hχ := (hn.stepD_ok hp1' hp2').trans hq
      exact ⟨q, ⟨p1', hp1', p2', hp2', hq⟩, by rw [Keyed.nextD_of_ok hχ]⟩
    · rintro ⟨q, ⟨p1', hp1', p2', hp2', hq⟩, rfl⟩
      have hχ := (hn.stepD_ok hp1' hp2').trans hq
      exact ⟨_, (ih1 _).2 ⟨p1', hp1', rfl⟩, _, (ih2 _).2 ⟨p2', hp2', rfl⟩, q, hq, by rw [Keyed.nextD_of_ok hχ]⟩

omit [DecidableEq α] in
theorem go_iff (cfg : DCfg) (φ : F α) : ∀ (bs : List (String → ASig α)) (sent : Bool) (R : F α → NSt α)
    (os : List (ASig α)),
    runOn.go cfg φ (treeOf R sent φ) bs = .ok os ↔ runD (nodeStepOn cfg) φ R (leavesOn sent bs) = .ok os
  | [], _, _, _ => Iff.rfl
  | b :: bs, sent, R, os => by
    rw [go_cons_iff, leavesOn, Keyed.runD_cons_iff]
    constructor
    · rintro ⟨t1, w, os', h1, h2, rfl⟩
      obtain ⟨p, hp, e⟩ := (stepOn_treeOf cfg b sent R φ _).1 h1
      cases e
      exact ⟨p, os', hp, (go_iff cfg φ bs true _ os').1 h2, rfl⟩
    · rintro ⟨p, os', hp, h2, rfl⟩
      exact ⟨_, _, os', (stepOn_treeOf cfg b sent R φ _).2 ⟨p, hp, rfl⟩, (go_iff cfg φ bs true _ os').2 h2, rfl⟩

theorem Node1.initStore {χ φ : F α} (hn : Node1 χ φ) (st : StoreOn α) :
    initStoreOnF χ st = (do
      let st1 ← initStoreOnF φ st
      let s0 ← initNodeOn χ
      pure (st1.set χ s0)) := by cases hn <;> rfl

theorem Node2.initStore {χ φ ψ : F α} (hn : Node2 χ φ ψ) (st : StoreOn α) :
    initStoreOnF χ st = (do
      let st1 ← initStoreOnF φ st
      let st2 ← initStoreOnF ψ st1
      let s0 ← initNodeOn χ
      pure (st2.set χ s0)) := by cases hn <;> rfl

theorem initStoreOn_binds (specs : List (F α)) (st st' : StoreOn α) (h : initStoreOn specs st = .ok st') :
    (∀ ψ, InSpecs specs ψ → st'.lookup ψ = some (initR ψ)) ∧ ∀ ψ, ¬ InSpecs specs ψ → st'.lookup ψ = st.lookup ψ :=
  Keyed.binds_specs initStoreOn initStoreOnF initR (fun _ => rfl) (fun _ _ _ => rfl)
    (Keyed.binds_of_postorder initStoreOnF (fun χ st1 => do let s0 ← initNodeOn χ; pure (StoreOn.set st1 χ s0)) initR
      (fun _ _ => rfl) (fun _ _ => rfl) (fun hn st => hn.initStore st) (fun hn st => by rw [hn.initStore st])
      fun χ st1 st2 h => by
        obtain ⟨s0, h0, h⟩ := bind_eq_ok.1 h
        cases h
        exact ⟨by rw [lookup_set_eq, initR, h0], fun ψ hψ => lookup_set_ne hψ _ _⟩)
    specs st st' h

def InitOK (φ : F α) : Prop :=
  ∀ t, initOn φ = .ok t → t = treeOf initR false φ ∧ ∀ st : StoreOn α, ∃ st', initStoreOnF φ st = .ok st'

theorem initOK_all (φ : F α) : InitOK φ := by
  induction φ using nodeInduction with
  | var x => intro t ht; exact ⟨(Except.ok.inj ht).symm, fun st => ⟨st, rfl⟩⟩
  | const c => intro t ht; exact ⟨(Except.ok.inj ht).symm, fun st => ⟨st, rfl⟩⟩
  | n1 hn ih =>
    intro t ht
    obtain ⟨c, s0, hc, hs0, rfl⟩ := (initOn_node1 hn t).1 ht
    obtain ⟨hc', hst⟩ := ih c hc
    refine ⟨by rw [hn.tree, initR, hs0, hc'], fun st => ?_⟩
    obtain ⟨st1, h1⟩ := hst st
    exact ⟨st1.set _ s0, by rw [hn.initStore, h1, ok_bind, hs0]; rfl⟩
  | n2 hn ih1 ih2 =>
    intro t ht
    obtain ⟨c1, c2, s0, hc1, hc2, hs0, rfl⟩ := (initOn_node2 hn t).1 ht
    obtain ⟨hc1', hst1⟩ := ih1 c1 hc1
    obtain ⟨hc2', hst2⟩ := ih2 c2 hc2
    refine ⟨by rw [hn.tree, initR, hs0, hc1', hc2'], fun st => ?_⟩
    obtain ⟨st1, h1⟩ := hst1 st
    obtain ⟨st2, h2⟩ := hst2 st1
    exact ⟨st2.set _ s0, by rw [hn.initStore, h1, ok_bind, h2, ok_bind, hs0]; rfl⟩

theorem initStore_ok (specs : List (F α)) : ∀ st : StoreOn α, (∀ φ ∈ specs, ∃ t, initOn φ = .ok t) →
    ∃ st', initStoreOn specs st = .ok st' := by
  induction specs with
  | nil => exact fun st _ => ⟨st, rfl⟩
  | cons φ rest ih =>
    intro st hinit
    obtain ⟨t, ht⟩ := hinit φ List.mem_cons_self
    obtain ⟨st1, h1⟩ := (initOK_all φ t ht).2 st
    obtain ⟨st', h'⟩ := ih st1 fun φ' hφ' => hinit φ' (List.mem_cons_of_mem _ hφ')
    exact ⟨st', by rw [initStoreOn, h1, ok_bind, h']⟩

theorem initOn_of_storeF (φ : F α) : ∀ st st' : StoreOn α, initStoreOnF φ st = .ok st' → ∃ t, initOn φ = .ok t := by
  induction φ using nodeInduction with
  | var x => intro _ _ _; exact ⟨_, rfl⟩
  | const c => intro _ _ _; exact ⟨_, rfl⟩
  | n1 hn ih =>
    intro st st' h
    rw [hn.initStore] at h
    obtain ⟨st1, h1, h⟩ := bind_eq_ok.1 h
    obtain ⟨s0, h2, _⟩ := bind_eq_ok.1 h
    obtain ⟨c, hc⟩ := ih st st1 h1
    exact ⟨_, (initOn_node1 hn _).2 ⟨c, s0, hc, h2, rfl⟩⟩
  | n2 hn ih1 ih2 =>
    intro st st' h
    rw [hn.initStore] at h
    obtain ⟨st1, h1, h⟩ := bind_eq_ok.1 h
    obtain ⟨st2, h1', h⟩ := bind_eq_ok.1 h
    obtain ⟨s0, h2, _⟩ := bind_eq_ok.1 h
    obtain ⟨l, hl⟩ := ih1 st st1 h1
    obtain ⟨r, hr⟩ := ih2 st1 st2 h1'
    exact ⟨_, (initOn_node2 hn _).2 ⟨l, r, s0, hl, hr, h2, rfl⟩⟩

theorem initOn_of_store (specs : List (F α)) : ∀ st st' : StoreOn α, initStoreOn specs st = .ok st' →
    ∀ φ ∈ specs, ∃ t, initOn φ = .ok t := by
  induction specs with
  | nil => intro _ _ _ φ hφ; simp at hφ
  | cons φ rest ih =>
    intro st st' h φ' hφ'
    simp only [initStoreOn] at h
    obtain ⟨st1, h1, h2⟩ := bind_eq_ok.1 h
    rcases List.mem_cons.1 hφ' with rfl | hφ'
    · exact initOn_of_storeF _ st st1 h1
    · exact ih st1 st' h2 φ' hφ'

omit [DecidableEq α] in
theorem initOn_sub {φ ψ : F α} (h : ψ ∈ φ.opSubs) : (∃ t, initOn φ = .ok t) → ∃ t, initOn ψ = .ok t :=
  opSubs_induct (R := fun ψ φ => (∃ t : OnSt α, initOn φ = .ok t) → ∃ t : OnSt α, initOn ψ = .ok t) (fun _ h => h)
    (fun hn ih ⟨t, ht⟩ => by
      obtain ⟨c, -, hc, -⟩ := (initOn_node1 hn t).1 ht
      exact ih ⟨c, hc⟩)
    (fun hn ih ⟨t, ht⟩ => by
      obtain ⟨l, r, -, hl, hr, -⟩ := (initOn_node2 hn t).1 ht
      exact ih.elim (fun ih => ih ⟨l, hl⟩) (fun ih => ih ⟨r, hr⟩)) h

theorem runOn_iffD (cfg : DCfg) (φ : F α) (bs : List (String → ASig α)) (os : List (ASig α)) :
    runOn cfg φ bs = .ok os ↔
      (∃ t, initOn φ = .ok t) ∧ runD (nodeStepOn cfg) φ initR (leavesOn false bs) = .ok os := by
  rw [runOn_iff]
  constructor
  · rintro ⟨t0, hi, hg⟩
    obtain ⟨rfl, -⟩ := initOK_all φ t0 hi
    exact ⟨⟨_, hi⟩, (go_iff cfg φ bs false initR os).1 hg⟩
  · rintro ⟨⟨t0, hi⟩, hg⟩
    obtain ⟨rfl, -⟩ := initOK_all φ t0 hi
    exact ⟨_, hi, (go_iff cfg φ bs false initR os).2 hg⟩

theorem runOn_sub (cfg : DCfg) (bs : List (String → ASig α)) {φ ψ : F α} (hψ : ψ ∈ φ.opSubs) :
    (∃ os, runOn cfg φ bs = .ok os) → ∃ os', runOn cfg ψ bs = .ok os' := by
  rintro ⟨os, h⟩
  obtain ⟨hi, hr⟩ := (runOn_iffD cfg φ bs os).1 h
  obtain ⟨os', h'⟩ := Keyed.runD_sub hψ ⟨os, hr⟩
  exact ⟨os', (runOn_iffD cfg ψ bs os').2 ⟨initOn_sub hψ hi, h'⟩⟩

omit [DecidableEq α] in
theorem runOn_length {cfg : DCfg} {φ : F α} {bs : List (String → ASig α)} {os : List (ASig α)}
    (h : runOn cfg φ bs = .ok os) : os.length = bs.length := by
  obtain ⟨t0, _, hg⟩ := (runOn_iff cfg φ bs os).1 h
  exact go_length cfg φ bs t0 os hg

/-- The lists the stand-alone run of `φ` returns (`[]` if it raises). -/
def outsOf (cfg : DCfg) (bs : List (String → ASig α)) (φ : F α) : List (ASig α) :=
  match runOn cfg φ bs with
  | .ok os => os
  | .error _ => []

omit [DecidableEq α] in
theorem outsOf_eq {cfg : DCfg} {bs : List (String → ASig α)} {φ : F α} {os : List (ASig α)}
    (h : runOn cfg φ bs = .ok os) : outsOf cfg bs φ = os := by
  simp [outsOf, h]

omit [DecidableEq α] in
theorem outsOf_run {cfg : DCfg} {bs : List (String → ASig α)} {φ : F α} (h : ∃ os, runOn cfg φ bs = .ok os) :
    runOn cfg φ bs = .ok (outsOf cfg bs φ) := by
  obtain ⟨os, hos⟩ := h
  rw [outsOf_eq hos]
  exact hos

end C09Dense

open C09Dense

/-- **C09 / C12, dense time, online.**  For every list of assertions `specs` (sharing and repeating sub-formulas at
    will) and every sequence of batches: if the stand-alone state tree of every assertion `φ` raises nothing and returns
    the lists `outs φ`, then the dictionary-and-memo interpreter raises nothing, makes one round per batch, returns in
    round `j` the `j`-th stand-alone list of every assertion, and its memo of round `j` holds, for every operator
    sub-formula `ψ` of every assertion, the `j`-th list of the stand-alone run of `ψ` (which raises nothing either). -/
theorem C09_dense_program_refines_trees (cfg : DCfg) (specs : List (F α)) (bs : List (String → ASig α))
    (outs : F α → List (ASig α))
    (h : ∀ φ ∈ specs, runOn cfg φ bs = .ok (outs φ)) :
    ∃ rounds, runProgramOn cfg specs bs = .ok rounds ∧ rounds.length = bs.length ∧
      ∀ j (hj : j < rounds.length),
        (rounds[j]).1 = specs.map (fun φ => (outs φ).getD j []) ∧
        ∀ φ ∈ specs, ∀ ψ ∈ φ.opSubs, ∃ o, runOn cfg ψ bs = .ok o ∧ o.length = bs.length ∧
          (rounds[j]).2.lookup ψ = some (o.getD j []) := by
  have hall : ∀ φ, (φ ∈ specs ∨ InSpecs specs φ) → runOn cfg φ bs = .ok (outsOf cfg bs φ) := by
    rintro φ (hφ | ⟨φ', h1, h2⟩)
    · exact outsOf_run ⟨_, h φ hφ⟩
    · exact outsOf_run (runOn_sub cfg bs h2 ⟨_, h φ' h1⟩)
  obtain ⟨st0, hst0⟩ := initStore_ok specs [] fun φ hφ => ((runOn_iffD cfg φ bs _).1 (h φ hφ)).1
  obtain ⟨rounds, hr, hlen, hrounds⟩ := Keyed.run_refines [] specs _ st0 initR (outsOf cfg bs)
    (initStoreOn_binds specs [] st0 hst0).1 fun φ hφ => ((runOn_iffD cfg φ bs _).1 (hall φ hφ)).2
  refine ⟨rounds, by rw [runProgramOn, hst0, ok_bind, runSpecsOn_eq, hr], by rw [hlen, leavesOn_length],
    fun j hj => ?_⟩
  obtain ⟨h1, h2⟩ := hrounds j hj
  refine ⟨h1.trans (List.map_congr_left fun φ hφ => by rw [outsOf_eq (h φ hφ)]), fun φ hφ ψ hψ => ?_⟩
  have hrun := hall ψ (.inr ⟨φ, hφ, hψ⟩)
  exact ⟨_, hrun, runOn_length hrun, h2 ψ ⟨φ, hφ, hψ⟩⟩

/-- **The converse.**  If the dictionary-and-memo interpreter raises nothing on `specs` and `bs`, then the stand-alone
    state tree of every assertion (and of every operator sub-formula) raises nothing either, and the rounds are the
    ones `C09_dense_program_refines_trees` describes.  Together: the interpreter raises an exception if and only if
    the tree of some assertion does. -/
theorem C09_dense_trees_of_program (cfg : DCfg) (specs : List (F α)) (bs : List (String → ASig α))
    (rounds : List (List (ASig α) × MemoOn α)) (h : runProgramOn cfg specs bs = .ok rounds) :
    ∃ outs : F α → List (ASig α), (∀ φ ∈ specs, runOn cfg φ bs = .ok (outs φ)) ∧ rounds.length = bs.length ∧
      ∀ j (hj : j < rounds.length),
        (rounds[j]).1 = specs.map (fun φ => (outs φ).getD j []) ∧
        ∀ φ ∈ specs, ∀ ψ ∈ φ.opSubs, ∃ o, runOn cfg ψ bs = .ok o ∧ o.length = bs.length ∧
          (rounds[j]).2.lookup ψ = some (o.getD j []) := by
  obtain ⟨st0, hst0, hrun⟩ := bind_eq_ok.1 (show (initStoreOn specs [] >>= fun st => runSpecsOn cfg specs st false bs) = _ from h)
  rw [runSpecsOn_eq] at hrun
  have hruns : ∀ φ ∈ specs, runOn cfg φ bs = .ok (outsOf cfg bs φ) := fun φ hφ => by
    obtain ⟨os, hos⟩ := Keyed.run_conv specs _ st0 initR rounds (initStoreOn_binds specs [] st0 hst0).1 hrun φ (.inl hφ)
    exact outsOf_run ⟨os, (runOn_iffD cfg φ bs os).2 ⟨initOn_of_store specs [] st0 hst0 φ hφ, hos⟩⟩
  obtain ⟨rounds', hr', hlen, hrounds⟩ := C09_dense_program_refines_trees cfg specs bs (outsOf cfg bs) hruns
  obtain rfl : rounds' = rounds := Except.ok.inj (hr'.symm.trans h)
  exact ⟨outsOf cfg bs, hruns, hlen, hrounds⟩

theorem C09_dense_ok_iff (cfg : DCfg) (specs : List (F α)) (bs : List (String → ASig α)) :
    (∃ rounds, runProgramOn cfg specs bs = .ok rounds) ↔ ∀ φ ∈ specs, ∃ os, runOn cfg φ bs = .ok os := by
  constructor
  · rintro ⟨rounds, h⟩ φ hφ
    obtain ⟨outs, ho, _⟩ := C09_dense_trees_of_program cfg specs bs rounds h
    exact ⟨outs φ, ho φ hφ⟩
  · intro h
    obtain ⟨rounds, hr, _⟩ := C09_dense_program_refines_trees cfg specs bs (outsOf cfg bs) fun φ hφ => outsOf_run (h φ hφ)
    exact ⟨rounds, hr⟩

/-- **C09, what `update()` returns.**  `update()` returns the list of the last assertion.  With the assertions
    `pre ++ [φ]` (the earlier assertions `pre` are typically sub-specifications `φ` refers to, i.e. sub-formulas of the
    inlined `φ`, but need not be), the list returned by the `j`-th `update()` is the `j`-th list of the stand-alone
    monitor of the inlined assertion `φ`. -/
theorem C09_dense_modular_eq_inlined (cfg : DCfg) (pre : List (F α)) (φ : F α) (bs : List (String → ASig α))
    (os : List (ASig α))
    (hpre : ∀ ψ ∈ pre, ∃ o, runOn cfg ψ bs = .ok o) (hφ : runOn cfg φ bs = .ok os) :
    ∃ rounds, runProgramOn cfg (pre ++ [φ]) bs = .ok rounds ∧
      rounds.map (fun r => r.1.getLast?) = os.map some := by
  have h : ∀ ψ ∈ pre ++ [φ], runOn cfg ψ bs = .ok (outsOf cfg bs ψ) := by
    intro ψ hψ
    rcases List.mem_append.1 hψ with hψ | hψ
    · exact outsOf_run (hpre ψ hψ)
    · exact outsOf_run ⟨os, List.mem_singleton.1 hψ ▸ hφ⟩
  obtain ⟨rounds, hr, hlen, hrounds⟩ := C09_dense_program_refines_trees cfg (pre ++ [φ]) bs (outsOf cfg bs) h
  refine ⟨rounds, hr, ?_⟩
  have hos : os.length = bs.length := runOn_length hφ
  apply List.ext_getElem
  · simp [hlen, hos]
  · intro j h1 h2
    have hj : j < rounds.length := by simpa using h1
    have hj' : j < os.length := by simpa using h2
    obtain ⟨hv, _⟩ := hrounds j hj
    simp only [List.getElem_map]
    rw [hv, List.map_append, List.map_cons, List.map_nil, List.getLast?_concat,
      outsOf_eq hφ, List.getD_eq_getElem?_getD, List.getElem?_eq_getElem hj']
    rfl

/-! ### non-vacuity -/

namespace C09Dense.Witness

/-- Three values `-inf < 0 < +inf` (the value type of the non-vacuity example of C06). -/
local instance : Val (Fin 3) where
  lt a b := decide (a < b)
  neg a := Fin.rev a
  abs a := if a < 1 then Fin.rev a else a
  add a _ := a
  sub a b := if a < b then 0 else if b < a then 2 else 1
  mul a _ := a
  div a _ := a
  pinf := 2
  ninf := 0
  zero := 1
  sqrt a := a
  exp a := a
  ln a := a
  pow a _ := a
  log a _ := a

/-- `once x`: a stateful sub-formula. -/
def ox : F (Fin 3) := .tmp1 .once (.var "x")
/-- `(once x) and -(once x)`: `once x` occurs twice. -/
def both : F (Fin 3) := .bin .and ox (.un .negate ox)
/-- Two assertions; the second contains the first (twice). -/
def specs : List (F (Fin 3)) := [ox, both]
def bs : List (String → ASig (Fin 3)) :=
  [fun _ => [(Tm.fin 0, 0), (Tm.fin 1, 1)], fun _ => [(Tm.fin 1, 1), (Tm.fin 2, 2), (Tm.fin 3, 0)]]

def outs (φ : F (Fin 3)) : List (ASig (Fin 3)) :=
  if φ = ox then [[(Tm.fin 0, 0), (Tm.fin 1, 1)], [(Tm.fin 1, 1), (Tm.fin 2, 2), (Tm.fin 3, 2)]]
  else [[(Tm.fin 0, 0), (Tm.fin 1, 1)], [(Tm.fin 2, 0), (Tm.fin 3, 0)]]

theorem run_ox : runOn {} ox bs = .ok (outs ox) := by with_unfolding_all rfl

unseal onLoop in
theorem run_both : runOn {} both bs = .ok (outs both) := by with_unfolding_all rfl

/-- The hypothesis of `C09_dense_program_refines_trees` holds (checked by kernel evaluation) … -/
theorem hyp : ∀ φ ∈ specs, runOn {} φ bs = .ok (outs φ) := by
  intro φ hφ
  simp only [specs, List.mem_cons, List.not_mem_nil, or_false] at hφ
  rcases hφ with rfl | rfl
  · exact run_ox
  · exact run_both

/-- … so its conclusion holds of this specification … -/
example : ∃ rounds, runProgramOn {} specs bs = .ok rounds ∧ rounds.length = bs.length ∧
    ∀ j (hj : j < rounds.length),
      (rounds[j]).1 = specs.map (fun φ => (outs φ).getD j []) ∧
      ∀ φ ∈ specs, ∀ ψ ∈ φ.opSubs, ∃ o, runOn {} ψ bs = .ok o ∧ o.length = bs.length ∧
        (rounds[j]).2.lookup ψ = some (o.getD j []) :=
  C09_dense_program_refines_trees {} specs bs outs hyp

/- … and, evaluated directly, the interpreter returns these lists (the second round of `both`, `[(2, 0), (3, 0)]`, is
   computed from the one state of `once x` updated once). -/
unseal onLoop in
example : (runProgramOn {} specs bs).map (List.map Prod.fst) =
    .ok [[[(Tm.fin 0, 0), (Tm.fin 1, 1)], [(Tm.fin 0, 0), (Tm.fin 1, 1)]],
         [[(Tm.fin 1, 1), (Tm.fin 2, 2), (Tm.fin 3, 2)], [(Tm.fin 2, 0), (Tm.fin 3, 0)]]] := by
  with_unfolding_all rfl

/-- `update()` returns the list of the last assertion: that of the stand-alone monitor of `both`. -/
example : ∃ rounds, runProgramOn {} ([ox] ++ [both]) bs = .ok rounds ∧
    rounds.map (fun r => r.1.getLast?) = (outs both).map some :=
  C09_dense_modular_eq_inlined {} [ox] both bs (outs both) (fun ψ hψ => by
    rw [List.mem_singleton.1 hψ]; exact ⟨_, run_ox⟩) run_both

end C09Dense.Witness

end Rtamt.Dense
