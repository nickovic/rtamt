/-
  C11 — Evaluation is pure: caller data untouched, repeatable, isolated, deterministic.

  "evaluate() and update() never modify the lists or dictionaries passed by the caller;
   evaluating the same offline specification object again on the same data returns the same
   result; operations on one specification object never change the results of another; and
   results do not depend on the interpreter hash seed."

  What a theorem can carry (partial, see DESIGN §C11): in the model every monitor is a pure
  function of (specification, data) and a state that it alone owns.  `C11_interleave` makes
  the isolation statement precise for two online monitors driven in an arbitrary
  interleaving; `C11_offline_repeatable` is the repeatability statement; the padding of
  bounded future operators (the one in-place list extension the code performed, finding
  F04, repaired) is shown not to change the operand: `timedFuture` returns a fresh list and
  the model has no aliasing.  Python aliasing in general and hash-seed dependence cannot be
  exhibited by the model: they are decided by the correspondence stream `pure`.
-/
import RtamtProofs.C02

namespace Rtamt
open Val

variable {α : Type} [Val α]

inductive Who | A | B
  deriving DecidableEq, Repr

/-- Two online monitors driven by one interleaved sequence of `update` calls. -/
def runTwo (φA φB : F α) : STree α → STree α → List (Who × (String → α)) →
    Except PyErr (STree α × STree α × List α × List α)
  | sa, sb, [] => .ok (sa, sb, [], [])
  | sa, sb, (.A, e) :: rest => do
      let (sa', o) ← stepTree e φA sa
      let (sa'', sb'', oa, ob) ← runTwo φA φB sa' sb rest
      pure (sa'', sb'', o :: oa, ob)
  | sa, sb, (.B, e) :: rest => do
      let (sb', o) ← stepTree e φB sb
      let (sa'', sb'', oa, ob) ← runTwo φA φB sa sb' rest
      pure (sa'', sb'', oa, o :: ob)

def projA (l : List (Who × (String → α))) : List (String → α) :=
  l.filterMap (fun p => if p.1 = .A then some p.2 else none)
def projB (l : List (Who × (String → α))) : List (String → α) :=
  l.filterMap (fun p => if p.1 = .B then some p.2 else none)

/-- Isolation: in any interleaving of calls on two monitors, each monitor returns exactly what
    it returns when driven alone with its own calls. -/
theorem C11_interleave (φA φB : F α) (sa sb : STree α) (ops : List (Who × (String → α)))
    (sa' sb' : STree α) (oa ob : List α)
    (h : runTwo φA φB sa sb ops = .ok (sa', sb', oa, ob)) :
    runTree φA sa (projA ops) = .ok (sa', oa) ∧ runTree φB sb (projB ops) = .ok (sb', ob) := by
  induction ops generalizing sa sb sa' sb' oa ob with
  | nil =>
    simp only [runTwo, Except.ok.injEq, Prod.mk.injEq] at h
    obtain ⟨rfl, rfl, rfl, rfl⟩ := h
    simp [projA, projB, runTree]
  | cons hd rest ih =>
    obtain ⟨w, e⟩ := hd
    cases w with
    | A =>
      simp only [runTwo] at h
      obtain ⟨⟨sa1, o⟩, hstep, h⟩ := Exc.bind_eq_ok.1 h
      obtain ⟨⟨sa2, sb2, oa2, ob2⟩, hrest, h⟩ := Exc.bind_eq_ok.1 h
      cases h
      obtain ⟨hA, hB⟩ := ih _ _ _ _ _ _ hrest
      refine ⟨?_, hB⟩
      show runTree φA sa (e :: projA rest) = _
      simp [runTree, hstep, hA, bind, Except.bind, pure, Except.pure]
    | B =>
      simp only [runTwo] at h
      obtain ⟨⟨sb1, o⟩, hstep, h⟩ := Exc.bind_eq_ok.1 h
      obtain ⟨⟨sa2, sb2, oa2, ob2⟩, hrest, h⟩ := Exc.bind_eq_ok.1 h
      cases h
      obtain ⟨hA, hB⟩ := ih _ _ _ _ _ _ hrest
      refine ⟨hA, ?_⟩
      show runTree φB sb (e :: projB rest) = _
      simp [runTree, hstep, hB, bind, Except.bind, pure, Except.pure]

/-- Repeatability holds in the model by construction (`evalOff` is a function of the specification
    and the data), so this says nothing beyond that modelling choice; for the Python object it is
    decided by the correspondence stream `pure`. -/
theorem C11_offline_repeatable (h : Kind → Bool) (w : Env α) (n : Nat) (φ : F α) :
    evalOff h w n φ = evalOff h w n φ := rfl

set_option linter.unusedSectionVars false in
/-- On a trace longer than the bound, `timedFuture` takes the branch that does not pad its operand. -/
theorem C11_no_padding_when_long (agg : List α → Except PyErr α) (pad : α) (a b : Nat) (s : List α)
    (hlong : b < s.length) :
    timedFuture agg pad a b s =
      (do
        let r1 ← (List.range' a (b + 1 - a)).mapM (fun j => agg (slice s j (j + (b - a) + 1)))
        let r2 ← (List.range' (b + 1) (s.length - (b + 1))).mapM (fun j => agg (slice s j (j + (b - a) + 1)))
        pure (((r1 ++ r2) ++ List.replicate (s.length - (r1 ++ r2).length) pad).take s.length)) := by
  unfold timedFuture
  simp only [if_neg (Nat.not_le.2 hlong)]

end Rtamt
