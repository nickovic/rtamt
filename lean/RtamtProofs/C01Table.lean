/-
  C01, obligations about the *current* source tree: the table regenerated from
  /repo on every run (`Rtamt/Generated.lean`) says the offline visitor overrides
  `visitX` for every node class (except `TimedPrecedes`, on which it raises).
  If a `visitX` is deleted or renamed in the code this file stops checking.
-/
import RtamtProofs.C01
import Rtamt.Generated
import RtamtProofs.Lemmas.Instance

namespace Rtamt
open Val

theorem C01_table_complete :
    ∀ k : Kind, k ≠ .TimedPrecedes → Generated.offlineDiscrete.handles k = true := by
  intro k hk
  cases k <;> first | rfl | exact absurd rfl hk

theorem C01_table_precedes_raises : Generated.offlineDiscrete.raises .TimedPrecedes = true := rfl

variable {α : Type} [Val α] [LawfulVal α]

/-- C01 for the visitor as it is in the working tree. -/
theorem C01_current_tree (w : Env α) (σ : String → Nat → α) (n : Nat) (hn : 0 < n) (φ : F α)
    (hwf : φ.wf = true) (hp : φ.noPrecedes) (hw : w.Agrees σ n φ.vars) :
    evalOff Generated.offlineDiscrete.handles w n φ = .ok (tab n (rho σ n φ)) :=
  C01_offline_eq_rho _ w σ n hn φ hwf
    (fun k hk => C01_table_complete k (fun h => hp (h ▸ hk))) hp hw

/-- Non-vacuity: a nested formula and a 3-sample data set over the extended reals meet
    every hypothesis of the theorem. -/
example :
    let φ : F EReal := .tb1 .alw 0 1 (.tb2 .since 0 2 (.bin (.pred .ge) (.var "x") (.const 1))
                          (.tmp1 .next (.un .not (.bin (.pred .lt) (.un .negate (.var "y")) (.const 0)))))
    let σ : String → Nat → EReal := fun x t => if x = "x" then (t : EReal) else 2
    let w : Env EReal := [("x", tab 3 (σ "x")), ("y", tab 3 (σ "y"))]
    φ.wf = true ∧ φ.noPrecedes ∧ w.Agrees σ 3 φ.vars ∧ 0 < 3 := by
  refine ⟨by decide, by simp [F.noPrecedes, F.kinds, TB1.kind, TB2.kind, Bin.kind, Un.kind, T1.kind], ?_, by omega⟩
  intro x hx
  simp [F.vars] at hx
  rcases hx with rfl | rfl <;> simp [List.lookup]

end Rtamt
