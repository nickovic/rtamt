/-
  The table `Kind.all` of the node classes is complete: statements quantified over it speak of every class.
-/
import Rtamt.Syntax

namespace Rtamt

theorem Kind.getElem?_all (k : Kind) : Kind.all[k.ctorIdx]? = some k := by cases k <;> rfl

theorem Kind.mem_all (k : Kind) : k ∈ Kind.all := List.mem_of_getElem? (Kind.getElem?_all k)

theorem Kind.forall_of_all {p : Kind → Prop} (h : ∀ k ∈ Kind.all, p k) (k : Kind) : p k :=
  h k (Kind.mem_all k)

end Rtamt
