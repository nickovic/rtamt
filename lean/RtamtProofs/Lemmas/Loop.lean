/-
  A `for` loop none of whose iterations fails, followed by a ghost state: `foldlM` in `Except` against `foldl`.  It is
  the loop rule of `Exc.Rel` against a mirror that cannot fail.  The invariant is indexed by the number of iterations
  done; a loop over the elements of a list forgets the index, a loop over `range' a n` reads its position off it.
  A loop that may fail and only appends what each iteration returns is `mapM` (`foldlM_snoc`).
-/
import RtamtProofs.Lemmas.Exc

namespace Rtamt.Loop

theorem foldlM_inv {ε σ τ β : Type} (f : σ → β → Except ε σ) (g : τ → β → τ) (R : Nat → τ → σ → Prop) (xs : List β)
    (i : Nat)
    (hstep : ∀ j (h : j < xs.length), ∀ t s, R (i + j) t s → ∃ s', f s xs[j] = .ok s' ∧ R (i + j + 1) (g t xs[j]) s')
    (t : τ) (s : σ) (h : R i t s) : ∃ s', xs.foldlM f s = .ok s' ∧ R (i + xs.length) (xs.foldl g t) s' := by
  have := Exc.Rel.foldlM f (fun t x => .ok (g t x)) (fun j s t => R (i + j) t s) xs
    (fun j hj s t h => Exc.Rel.ok_right.2 (hstep j hj t s h)) s t h
  rwa [show xs.foldlM (fun t x => (.ok (g t x) : Except ε τ)) t = .ok (xs.foldl g t) from List.foldlM_pure ..,
    Exc.Rel.ok_right] at this

theorem foldlM_snoc {ε β γ : Type} (F : β → Except ε γ) (l : List β) (acc : List γ) :
    l.foldlM (fun acc b => (fun c => acc ++ [c]) <$> F b) acc = (l.mapM F).map (acc ++ ·) := by
  induction l generalizing acc with
  | nil => simp [Except.map, pure, Except.pure]
  | cons b l ih =>
      rw [List.foldlM_cons, List.mapM_cons]
      cases F b with
      | error e => rfl
      | ok c =>
          refine (ih _).trans ?_
          cases l.mapM F with
          | error e => rfl
          | ok o => exact congrArg Except.ok (List.append_assoc acc [c] o)

end Rtamt.Loop
