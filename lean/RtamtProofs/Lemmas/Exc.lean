/-
  `Except` as the monad of the interpreters: the two equations of `>>=`, when a computation succeeds, what is claimed of
  one computation (`Claim`: partial and total correctness at once, with its rule for `>>=`), and what it means for two
  outcomes to agree (`Rel`), with its rules for `>>=` and for `List.foldlM`.  `Exc.Sim` (`Lemmas/Sim.lean`) is the
  same relation with the arguments of `R` swapped, defined by cases on the second outcome alone: it unfolds as soon as the
  mirror's outcome is known, while the run is still an opaque term.
-/

namespace Rtamt.Exc

variable {ε β γ : Type}

theorem ok_bind (a : β) (f : β → Except ε γ) : (Except.ok a >>= f) = f a := rfl

theorem error_bind (e : ε) (f : β → Except ε γ) : (Except.error e >>= f) = .error e := rfl

theorem bind_eq_ok {x : Except ε β} {f : β → Except ε γ} {c : γ} :
    (x >>= f) = .ok c ↔ ∃ b, x = .ok b ∧ f b = .ok c := by
  cases x <;> simp [bind, Except.bind]

theorem bind_ok {x : Except ε β} {f : β → Except ε γ} {c : γ} (h : (x >>= f) = .ok c) :
    ∃ b, x = .ok b ∧ f b = .ok c :=
  bind_eq_ok.1 h

theorem bind_ok_eq {x : Except ε β} {f : β → Except ε γ} {b : β} (h : x = .ok b) : (x >>= f) = f b :=
  h ▸ rfl

theorem bind_ne_ok {x : Except ε β} {f : β → Except ε γ} {c : γ} (h : ∀ b, f b ≠ .ok c) : (x >>= f) ≠ .ok c :=
  fun e => let ⟨b, _, hb⟩ := bind_ok e; h b hb

theorem bind_congr_ok {x : Except ε β} {f g : β → Except ε γ} (h : ∀ b, x = .ok b → f b = g b) :
    (x >>= f) = (x >>= g) := by
  cases x with
  | error e => rfl
  | ok b => exact h b rfl

theorem ok_inj {a b : β} (h : (Except.ok a : Except ε β) = .ok b) : a = b := by
  cases h; rfl

theorem map_eq_ok {x : Except ε β} {f : β → γ} {c : γ} : x.map f = .ok c ↔ ∃ b, x = .ok b ∧ f b = c := by
  cases x with
  | error e => exact ⟨fun h => (nomatch h), fun ⟨_, h, _⟩ => nomatch h⟩
  | ok b => exact ⟨fun h => ⟨b, rfl, ok_inj h⟩, fun ⟨_, h, e⟩ => ok_inj h ▸ congrArg Except.ok e⟩

theorem pure_eq_ok {a b : β} : (pure a : Except ε β) = .ok b ↔ a = b := by
  simp [pure, Except.pure]

/-- Partial and total correctness of a computation that may raise: every value it returns has `P`, and under `tot` it
    returns one. -/
structure Claim (x : Except ε β) (tot : Prop) (P : β → Prop) : Prop where
  sound : ∀ b, x = .ok b → P b
  total : tot → ∃ b, x = .ok b

theorem Claim.of_eq {x : Except ε β} {tot : Prop} {P : β → Prop} {b : β} (h : x = .ok b) (hP : P b) : Claim x tot P :=
  ⟨fun _ h' => ok_inj (h.symm.trans h') ▸ hP, fun _ => ⟨b, h⟩⟩

theorem Claim.of_ex {x : Except ε β} {tot : Prop} {P : β → Prop} (h : ∃ b, x = .ok b ∧ P b) : Claim x tot P :=
  let ⟨_, e, hP⟩ := h; .of_eq e hP

theorem Claim.weaken {x : Except ε β} {tot tot' : Prop} {P : β → Prop} (h : Claim x tot P) (ht : tot' → tot) :
    Claim x tot' P :=
  ⟨h.sound, fun t => h.total (ht t)⟩

theorem Claim.bind {x : Except ε β} {f : β → Except ε γ} {tot tot' : Prop} {P : β → Prop} {Q : γ → Prop}
    (h : Claim x tot P) (hf : ∀ b, P b → Claim (f b) tot' Q) : Claim (x >>= f) (tot ∧ tot') Q := by
  constructor
  · intro c e
    obtain ⟨b, e1, e2⟩ := bind_ok e
    exact (hf b (h.sound b e1)).sound c e2
  · intro t
    obtain ⟨b, e1⟩ := h.total t.1
    obtain ⟨c, e2⟩ := (hf b (h.sound b e1)).total t.2
    exact ⟨c, (bind_ok_eq e1).trans e2⟩

def Rel (R : β → γ → Prop) : Except ε β → Except ε γ → Prop
  | .ok a, .ok b => R a b
  | .error e, .error e' => e = e'
  | _, _ => False

theorem Rel.inv {R : β → γ → Prop} {x : Except ε β} {y : Except ε γ} (h : Rel R x y) :
    (∃ e, x = .error e ∧ y = .error e) ∨ ∃ a b, x = .ok a ∧ y = .ok b ∧ R a b := by
  cases x <;> cases y
  · exact .inl ⟨_, rfl, congrArg _ h.symm⟩
  · exact h.elim
  · exact h.elim
  · exact .inr ⟨_, _, rfl, rfl, h⟩

theorem Rel.refl {R : β → β → Prop} (hR : ∀ a, R a a) (x : Except ε β) : Rel R x x := by
  cases x
  · exact rfl
  · exact hR _

theorem Rel.bind {β' γ' : Type} {R : β → γ → Prop} {Q : β' → γ' → Prop} {x : Except ε β} {y : Except ε γ}
    {f : β → Except ε β'} {g : γ → Except ε γ'} (h : Rel R x y)
    (hk : ∀ a b, x = .ok a → y = .ok b → R a b → Rel Q (f a) (g b)) : Rel Q (x >>= f) (y >>= g) := by
  rcases h.inv with ⟨e, rfl, rfl⟩ | ⟨a, b, rfl, rfl, hab⟩
  · exact rfl
  · exact hk a b rfl rfl hab

theorem Rel.ok_right {R : β → γ → Prop} {x : Except ε β} {b : γ} : Rel R x (.ok b) ↔ ∃ a, x = .ok a ∧ R a b := by
  cases x <;> simp [Rel]

/-- `R` is indexed by the number of iterations done. -/
theorem Rel.foldlM {σ τ ι : Type} (f : σ → ι → Except ε σ) (g : τ → ι → Except ε τ) (R : Nat → σ → τ → Prop)
    (xs : List ι) (hstep : ∀ i (hi : i < xs.length) s t, R i s t → Rel (R (i + 1)) (f s xs[i]) (g t xs[i])) :
    ∀ s t, R 0 s t → Rel (R xs.length) (xs.foldlM f s) (xs.foldlM g t) := by
  induction xs generalizing R with
  | nil => exact fun _ _ h => h
  | cons x xs ih =>
    exact fun s t h => (hstep 0 (Nat.zero_lt_succ _) s t h).bind fun a b _ _ =>
      ih (fun i => R (i + 1)) (fun i hi => hstep (i + 1) (Nat.succ_lt_succ hi)) a b

theorem Rel.comp_left {δ : Type} {R : β → γ → Prop} {Q : β → δ → Prop} {x : Except ε β} {y : Except ε γ}
    {z : Except ε δ} (h : Rel R x y) (h' : Rel Q x z) : Rel (fun b c => ∃ a, R a b ∧ Q a c) y z := by
  rcases h.inv with ⟨e, rfl, rfl⟩ | ⟨a, b, rfl, rfl, hab⟩ <;> rcases h'.inv with ⟨e', he, rfl⟩ | ⟨a', c, he, rfl, hac⟩ <;>
    cases he
  · exact rfl
  · exact ⟨a, hab, hac⟩

end Rtamt.Exc
