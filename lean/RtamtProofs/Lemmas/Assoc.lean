/-
  Association lists as dictionaries, read by `List.lookup`.  The model files write `d[k] = v` in two ways: as
  `(k, v) :: l.filter (key ≠ k)` (the operator dictionaries and memos of the online visitors, the flags of the
  specification object), and in place, keeping the position of the key (`Assoc.set`: `setKey` of `Sem.lean`, `setLoc` of
  `Dn.lean` and of `DnOn.lean`, `dictSet` of `ExplainDrv.lean`, `setIdx` of `PastDrv.lean` are this function, each under
  its own name).
-/

namespace Rtamt.Assoc

variable {κ β : Type} [BEq κ] [LawfulBEq κ]

theorem lookup_cons_ne {k k' : κ} (v : β) (l : List (κ × β)) (h : k ≠ k') :
    List.lookup k ((k', v) :: l) = l.lookup k := by
  rw [List.lookup_cons, beq_false_of_ne h]

theorem lookup_filter (k : κ) (q : κ × β → Bool) (hq : ∀ v, q (k, v) = true) (l : List (κ × β)) :
    List.lookup k (l.filter q) = l.lookup k := by
  induction l with
  | nil => rfl
  | cons p l ih =>
    obtain ⟨a, b⟩ := p
    cases hp : q (a, b) with
    | true => rw [List.filter_cons_of_pos hp, List.lookup_cons, List.lookup_cons, ih]
    | false =>
      have hne : k ≠ a := fun h => by rw [← h, hq] at hp; cases hp
      rw [List.filter_cons_of_neg (by simp [hp]), ih, lookup_cons_ne _ _ hne]

theorem lookup_write_ne {k k' : κ} (h : k ≠ k') (v : β) (l : List (κ × β)) :
    List.lookup k ((k', v) :: l.filter fun p => p.1 != k') = l.lookup k := by
  rw [lookup_cons_ne _ _ h, lookup_filter k _ (fun _ => by simpa using h)]

/-- `d[k] = v` in the second discipline: the entry is overwritten where it stands, a new key goes to the end. -/
def set (k : κ) (v : β) : List (κ × β) → List (κ × β)
  | [] => [(k, v)]
  | (k', v') :: r => if k' == k then (k, v) :: r else (k', v') :: set k v r

theorem lookup_set [DecidableEq κ] (k k' : κ) (v : β) (l : List (κ × β)) :
    List.lookup k (set k' v l) = if k = k' then some v else l.lookup k := by
  induction l with
  | nil =>
    rw [set]
    by_cases h : k = k'
    · subst h; rw [List.lookup_cons_self, if_pos rfl]
    · rw [lookup_cons_ne _ _ h, if_neg h]
  | cons p l ih =>
    obtain ⟨a, b⟩ := p
    rw [set]
    by_cases ha : a = k'
    · subst ha
      rw [if_pos (beq_self_eq_true a)]
      by_cases h : k = a
      · subst h; rw [List.lookup_cons_self, if_pos rfl]
      · rw [lookup_cons_ne _ _ h, lookup_cons_ne _ _ h, if_neg h]
    · rw [if_neg (by simpa using ha)]
      by_cases h : k = a
      · subst h; rw [List.lookup_cons_self, List.lookup_cons_self, if_neg ha]
      · rw [lookup_cons_ne _ _ h, lookup_cons_ne _ _ h, ih]

theorem keys_set [DecidableEq κ] (k : κ) (v : β) (l : List (κ × β)) :
    (set k v l).map (·.1) = if k ∈ l.map (·.1) then l.map (·.1) else l.map (·.1) ++ [k] := by
  induction l with
  | nil => simp [set]
  | cons p l ih =>
    obtain ⟨a, b⟩ := p
    by_cases h : a = k
    · subst h; simp [set]
    · have h' : ¬ k = a := fun e => h e.symm
      simp only [set, beq_iff_eq, h, if_false, List.map_cons, ih, List.mem_cons, h', false_or]
      split <;> simp

theorem mem_keys_iff (l : List (κ × β)) (k : κ) : k ∈ l.map (·.1) ↔ ∃ v, l.lookup k = some v := by
  rw [← Option.isSome_iff_exists, List.lookup_isSome_iff]
  simp

theorem lookup_of_getElem? {β : Type} {l : List (String × β)} (hd : (l.map Prod.fst).Nodup) {i : Nat} {k : String}
    {v : β} (h : l[i]? = some (k, v)) : l.lookup k = some v := by
  induction l generalizing i with
  | nil => simp at h
  | cons p l ih =>
      obtain ⟨k', v'⟩ := p
      rw [List.map_cons, List.nodup_cons] at hd
      cases i with
      | zero => simp at h; obtain ⟨rfl, rfl⟩ := h; simp
      | succ i =>
          rw [List.getElem?_cons_succ] at h
          have hne : (k == k') = false := by
            rw [beq_eq_false_iff_ne]; rintro rfl
            exact hd.1 (List.mem_map.mpr ⟨_, List.mem_of_getElem? h, rfl⟩)
          rw [List.lookup_cons, hne]; exact ih hd.2 h

end Rtamt.Assoc
