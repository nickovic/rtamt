/-
  Offline list algorithms = README clauses: scans, shifts, rise/fall.
-/
import RtamtProofs.Lemmas.Tab
import RtamtProofs.Lemmas.Lawful
import Rtamt.Discrete.Offline

namespace Rtamt
open Val

section Generic
variable {β γ δ : Type}

private theorem tab_zero' (g : Nat → β) : tab 0 g = [] := rfl

private theorem cons_tab' (x : β) (n : Nat) (g : Nat → β) :
    x :: tab n g = tab (n + 1) (fun t => if t = 0 then x else g (t - 1)) := by
  rw [tab_succ]
  simp

/-- A scan `sc` with step `st` (`scanFwd`, `scan2`), run over a table, returns the table of any function
    satisfying the recurrence. -/
private theorem scan_tab (sc : β → List γ → List β) (st : β → γ → β) (hnil : ∀ a, sc a [] = [])
    (hcons : ∀ a x xs, sc a (x :: xs) = st a x :: sc (st a x) xs) (n : Nat) :
    ∀ (acc : β) (p : Nat → γ) (F : Nat → β),
      (0 < n → F 0 = st acc (p 0)) →
      (∀ t, t + 1 < n → F (t + 1) = st (F t) (p (t + 1))) →
      sc acc (tab n p) = tab n F := by
  induction n with
  | zero => intro acc _ _ _ _; exact hnil acc
  | succ n ih =>
    intro acc p F h0 hs
    rw [tab_succ, tab_succ, hcons, ← h0 (Nat.succ_pos n)]
    congr 1
    exact ih _ _ _ (fun _ => hs 0 (by omega)) (fun t ht => hs (t + 1) (by omega))

/-- The same scan run from the end of the table (the future operators of the offline visitor). -/
private theorem scan_rev_tab (sc : β → List γ → List β) (st : β → γ → β) (hnil : ∀ a, sc a [] = [])
    (hcons : ∀ a x xs, sc a (x :: xs) = st a x :: sc (st a x) xs) (n : Nat) (acc : β)
    (p : Nat → γ) (F : Nat → β) (hend : 0 < n → F (n - 1) = st acc (p (n - 1)))
    (hstep : ∀ t, t + 1 < n → F t = st (F (t + 1)) (p t)) :
    (sc acc (tab n p).reverse).reverse = tab n F := by
  rw [tab_reverse, scan_tab sc st hnil hcons n acc _ (fun s => F (n - 1 - s)) hend, tab_reverse]
  · apply tab_congr
    intro t ht
    rw [show n - 1 - (n - 1 - t) = t by omega]
  · intro s hs
    show F (n - 1 - (s + 1)) = st (F (n - 1 - s)) (p (n - 1 - (s + 1)))
    rw [show n - 1 - s = n - 1 - (s + 1) + 1 by omega]
    exact hstep _ (by omega)

/-- Against the operand itself, the shifted operand is the operand without its last element behind `init`. -/
theorem zipWith_shiftFwd (f : β → β → γ) (init : β) (l : List β) :
    List.zipWith f (shiftFwd init l) l = List.zipWith f (init :: l.dropLast) l := by
  induction l generalizing init with
  | nil => rfl
  | cons x xs ih =>
    cases xs with
    | nil => rfl
    | cons y ys => exact congrArg (f init x :: ·) (ih x)

theorem shiftFwd_tab (init : β) (n : Nat) (g : Nat → β) :
    shiftFwd init (tab n g) = tab n (fun t => if t = 0 then init else g (t - 1)) := by
  induction n generalizing init g with
  | zero => rfl
  | succ n ih =>
    rw [tab_succ, tab_succ]
    show init :: shiftFwd (g 0) (tab n fun t => g (t + 1)) = _
    rw [ih]
    congr 1
    apply tab_congr
    intro t _
    cases t with
    | zero => simp
    | succ t => simp

theorem next_tab (x : β) (n : Nat) (hn : 0 < n) (g : Nat → β) :
    (tab n g).drop 1 ++ [x] = tab n (fun t => if t + 1 < n then g (t + 1) else x) := by
  obtain ⟨m, rfl⟩ : ∃ m, n = m + 1 := ⟨n - 1, by omega⟩
  rw [tab_succ, tab_succ_last]
  simp only [List.drop_succ_cons, List.drop_zero, Nat.lt_irrefl, if_false]
  congr 1
  apply tab_congr
  intro t ht
  rw [if_pos (by omega)]

theorem replicate_tab (n : Nat) (c : β) : List.replicate n c = tab n (fun _ => c) := by
  induction n with
  | zero => rfl
  | succ n ih => rw [tab_succ, List.replicate_succ, ih]

end Generic

variable {α : Type} [Val α] [LawfulVal α]

private theorem max_bot' (a : α) : max a (ninf : α) = a := by
  rw [LawfulVal.ninf_bot]; exact max_eq_left bot_le

private theorem bot_max' (a : α) : max (ninf : α) a = a := by
  rw [LawfulVal.ninf_bot]; exact max_eq_right bot_le

private theorem min_top' (a : α) : min a (pinf : α) = a := by
  rw [LawfulVal.pinf_top]; exact min_eq_left le_top

private theorem top_min' (a : α) : min (pinf : α) a = a := by
  rw [LawfulVal.pinf_top]; exact min_eq_right le_top

private theorem min_bot' (a : α) : min a (ninf : α) = ninf := by
  rw [LawfulVal.ninf_bot]; exact min_eq_right bot_le

def sinceSpec (f g : Nat → α) (t : Nat) : α :=
  maxOver 0 (t + 1) (fun t' => pmin (g t') (minOver (t' + 1) (t + 1) f))

def untilSpec (n : Nat) (f g : Nat → α) (t : Nat) : α :=
  maxOver t n (fun t' => pmin (g t') (minOver t t' f))

theorem sinceSpec_zero (f g : Nat → α) :
    sinceSpec f g 0 = sinceStep ninf (f 0, g 0) := by
  unfold sinceSpec sinceStep
  rw [maxOver_succ_right _ le_rfl, maxOver_eq_ninf _ le_rfl]
  simp only [pmax_eq, pmin_eq]
  rw [minOver_eq_pinf _ le_rfl, min_top', min_bot']

theorem sinceSpec_succ (f g : Nat → α) (t : Nat) :
    sinceSpec f g (t + 1) = sinceStep (sinceSpec f g t) (f (t + 1), g (t + 1)) := by
  unfold sinceSpec sinceStep
  rw [maxOver_succ_right _ (Nat.zero_le _)]
  simp only [pmax_eq, pmin_eq]
  rw [minOver_eq_pinf _ le_rfl, min_top']
  congr 1
  rw [min_maxOver]
  apply maxOver_congr
  intro t' _ h2
  rw [minOver_succ_right f (Nat.succ_le_of_lt h2), min_comm (minOver _ _ _), min_left_comm]

omit [LawfulVal α] in
theorem untilSpec_end (n : Nat) (f g : Nat → α) : untilSpec n f g n = ninf := by
  unfold untilSpec
  exact maxOver_eq_ninf _ le_rfl

theorem untilSpec_step (n : Nat) (f g : Nat → α) (t : Nat) (ht : t < n) :
    untilSpec n f g t = sinceStep (untilSpec n f g (t + 1)) (f t, g t) := by
  unfold untilSpec sinceStep
  rw [maxOver_succ_left _ ht]
  simp only [pmax_eq, pmin_eq]
  rw [minOver_eq_pinf _ le_rfl, min_top', max_comm]
  congr 1
  rw [min_maxOver]
  apply maxOver_congr
  intro t' h1 _
  rw [minOver_succ_left f h1, min_left_comm]

theorem scanFwd_once (n : Nat) (g : Nat → α) :
    scanFwd pmax ninf (tab n g) = tab n (fun t => maxOver 0 (t + 1) g) := by
  apply scan_tab (scanFwd pmax) (fun a x => pmax x a) (fun _ => rfl) (fun _ _ _ => rfl)
  · intro _
    rw [maxOver_succ_right _ le_rfl, maxOver_eq_ninf _ le_rfl, pmax_eq, max_comm]
  · intro t _
    rw [maxOver_succ_right _ (Nat.zero_le _), pmax_eq, max_comm]

theorem scanFwd_hist (n : Nat) (g : Nat → α) :
    scanFwd pmin pinf (tab n g) = tab n (fun t => minOver 0 (t + 1) g) :=
  scanFwd_once (α := αᵒᵈ) n g

theorem scanRev_ev (n : Nat) (g : Nat → α) :
    (scanFwd pmax ninf (tab n g).reverse).reverse = tab n (fun t => maxOver t n g) := by
  apply scan_rev_tab (scanFwd pmax) (fun a x => pmax x a) (fun _ => rfl) (fun _ _ _ => rfl)
  · intro hn
    rw [maxOver_succ_left _ (by omega), maxOver_eq_ninf _ (by omega), pmax_eq]
  · intro t ht
    rw [maxOver_succ_left g (by omega), pmax_eq]

theorem scanRev_alw (n : Nat) (g : Nat → α) :
    (scanFwd pmin pinf (tab n g).reverse).reverse = tab n (fun t => minOver t n g) :=
  scanRev_ev (α := αᵒᵈ) n g

theorem scan2_since (n : Nat) (f g : Nat → α) :
    scan2 ninf ((tab n f).zip (tab n g)) =
      tab n (fun t => maxOver 0 (t + 1) (fun t' => pmin (g t') (minOver (t' + 1) (t + 1) f))) := by
  rw [zip_tab]
  exact scan_tab scan2 sinceStep (fun _ => rfl) (fun _ _ _ => rfl) n ninf _ (sinceSpec f g)
    (fun _ => sinceSpec_zero f g) (fun t _ => sinceSpec_succ f g t)

theorem scan2_until (n : Nat) (f g : Nat → α) :
    (scan2 ninf ((tab n f).zip (tab n g)).reverse).reverse =
      tab n (fun t => maxOver t n (fun t' => pmin (g t') (minOver t t' f))) := by
  rw [zip_tab]
  apply scan_rev_tab scan2 sinceStep (fun _ => rfl) (fun _ _ _ => rfl) n ninf _ (untilSpec n f g)
  · intro hn
    rw [untilSpec_step n f g _ (by omega), Nat.sub_add_cancel hn, untilSpec_end]
  · intro t ht
    exact untilSpec_step n f g t (by omega)

theorem rise_tab (n : Nat) (g : Nat → α) :
    List.zipWith (fun p x => pmin (neg p) x) (ninf :: (tab n g).dropLast) (tab n g) =
      tab n (fun t => if t = 0 then g 0 else pmin (neg (g (t - 1))) (g t)) := by
  cases n with
  | zero => rfl
  | succ m =>
    have e : (tab (m + 1) g).dropLast = tab m g := by
      rw [tab_succ_last, List.dropLast_concat]
    rw [e, cons_tab', zipWith_tab]
    apply tab_congr
    intro t _
    by_cases h : t = 0
    · subst h
      simp only [if_true]
      rw [neg_ninf, pmin_eq, top_min']
    · simp only [if_neg h]

theorem fall_tab (n : Nat) (g : Nat → α) :
    List.zipWith (fun p x => pmin p (neg x)) (pinf :: (tab n g).dropLast) (tab n g) =
      tab n (fun t => if t = 0 then neg (g 0) else pmin (g (t - 1)) (neg (g t))) := by
  cases n with
  | zero => rfl
  | succ m =>
    have e : (tab (m + 1) g).dropLast = tab m g := by
      rw [tab_succ_last, List.dropLast_concat]
    rw [e, cons_tab', zipWith_tab]
    apply tab_congr
    intro t _
    by_cases h : t = 0
    · subst h
      simp only [if_true]
      rw [pmin_eq, top_min']
    · simp only [if_neg h]

end Rtamt
