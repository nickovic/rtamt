/-
  Online operator objects as stream transformers: feeding the operand stream(s)
  `g 0, g 1, …` one sample per `update` to a freshly constructed operation returns
  the README clause at every step.
-/
import RtamtProofs.Lemmas.OffScan
import RtamtProofs.Lemmas.RingBuffer
import RtamtProofs.Lemmas.Exc
import Rtamt.Discrete.Online

namespace Rtamt
open Val

variable {α : Type} [Val α]

/-- Run a unary operation object over an operand stream. -/
def runOp1 (step : St α → α → Except PyErr (St α × α)) : St α → List α → Except PyErr (St α × List α)
  | s, [] => .ok (s, [])
  | s, x :: xs => do
      let (s', o) ← step s x
      let (s'', os) ← runOp1 step s' xs
      pure (s'', o :: os)

/-- Run a binary operation object over a pair of operand streams. -/
def runOp2 (step : St α → α → α → Except PyErr (St α × α)) :
    St α → List (α × α) → Except PyErr (St α × List α)
  | s, [] => .ok (s, [])
  | s, (l, r) :: xs => do
      let (s', o) ← step s l r
      let (s'', os) ← runOp2 step s' xs
      pure (s'', o :: os)

variable [LawfulVal α]

omit [Val α] [LawfulVal α] in
theorem runOp1_cons_ok (step : St α → α → Except PyErr (St α × α)) (s s' s'' : St α)
    (x o : α) (xs os : List α) (h1 : step s x = .ok (s', o))
    (h2 : runOp1 step s' xs = .ok (s'', os)) :
    runOp1 step s (x :: xs) = .ok (s'', o :: os) := by
  rw [runOp1, h1]
  simp only [bind, Except.bind, h2]
  rfl

omit [Val α] [LawfulVal α] in
theorem runOp2_cons_ok (step : St α → α → α → Except PyErr (St α × α)) (s s' s'' : St α)
    (l r o : α) (xs : List (α × α)) (os : List α) (h1 : step s l r = .ok (s', o))
    (h2 : runOp2 step s' xs = .ok (s'', os)) :
    runOp2 step s ((l, r) :: xs) = .ok (s'', o :: os) := by
  rw [runOp2, h1]
  simp only [bind, Except.bind, h2]
  rfl

omit [Val α] [LawfulVal α] in
theorem runOp1_cons {step : St α → α → Except PyErr (St α × α)} {s s'' : St α} {x : α}
    {xs out : List α} (h : runOp1 step s (x :: xs) = .ok (s'', out)) :
    ∃ s' o os, step s x = .ok (s', o) ∧ runOp1 step s' xs = .ok (s'', os) ∧ out = o :: os := by
  rw [runOp1] at h
  obtain ⟨⟨s', o⟩, h1, h⟩ := Exc.bind_eq_ok.1 h
  obtain ⟨⟨_, os⟩, h2, h⟩ := Exc.bind_eq_ok.1 h
  cases h
  exact ⟨s', o, os, h1, h2, rfl⟩

omit [Val α] [LawfulVal α] in
theorem runOp2_cons {step : St α → α → α → Except PyErr (St α × α)} {s s'' : St α} {l r : α}
    {xs : List (α × α)} {out : List α} (h : runOp2 step s ((l, r) :: xs) = .ok (s'', out)) :
    ∃ s' o os, step s l r = .ok (s', o) ∧ runOp2 step s' xs = .ok (s'', os) ∧ out = o :: os := by
  rw [runOp2] at h
  obtain ⟨⟨s', o⟩, h1, h⟩ := Exc.bind_eq_ok.1 h
  obtain ⟨⟨_, os⟩, h2, h⟩ := Exc.bind_eq_ok.1 h
  cases h
  exact ⟨s', o, os, h1, h2, rfl⟩

omit [Val α] [LawfulVal α] in
/-- A run along a sequence of states `S` producing the outputs `O`. -/
theorem runOp1_tab (step : St α → α → Except PyErr (St α × α)) (m : Nat) :
    ∀ (S : Nat → St α) (g O : Nat → α),
      (∀ i, step (S i) (g i) = .ok (S (i + 1), O i)) →
      runOp1 step (S 0) (tab m g) = .ok (S m, tab m O) := by
  induction m with
  | zero => intro S g O _; rfl
  | succ m ih =>
    intro S g O h
    rw [tab_succ, tab_succ]
    exact runOp1_cons_ok step _ _ _ _ _ _ _ (h 0)
      (ih (fun i => S (i + 1)) _ _ (fun i => h (i + 1)))

omit [Val α] [LawfulVal α] in
theorem runOp2_tab (step : St α → α → α → Except PyErr (St α × α)) (m : Nat) :
    ∀ (S : Nat → St α) (f g O : Nat → α),
      (∀ i, step (S i) (f i) (g i) = .ok (S (i + 1), O i)) →
      runOp2 step (S 0) ((tab m f).zip (tab m g)) = .ok (S m, tab m O) := by
  induction m with
  | zero => intro S f g O _; rfl
  | succ m ih =>
    intro S f g O h
    rw [tab_succ, tab_succ, tab_succ, List.zip_cons_cons]
    exact runOp2_cons_ok step _ _ _ _ _ _ _ _ (h 0)
      (ih (fun i => S (i + 1)) _ _ _ (fun i => h (i + 1)))

omit [Val α] [LawfulVal α] in
/-- A ring-buffer object: `update` pushes the sample and returns `win` of the buffer.  After `i` updates of a fresh object
    the buffer is the window of the padded operand at `i`; so if `win` of the window at `t + 1` is `G t`, the run
    returns `G`. -/
theorem runOp1_ring (step : St α → α → Except PyErr (St α × α)) (win : List α → Except PyErr α) (pad : α)
    (b n : Nat) (g G : Nat → α)
    (hstep : ∀ l x, step (.buf l) x = (do let o ← win (dqPush l x); pure (.buf (dqPush l x), o)))
    (hwin : ∀ t, win (tab (b + 1) fun k => padded pad b g (t + 1 + k)) = .ok (G t)) :
    ∃ s, runOp1 step (.buf (List.replicate (b + 1) pad)) (tab n g) = .ok (s, tab n G) := by
  -- the final state `s` stays a metavariable; `runOp1_tab` fills it in
  constructor
  rw [replicate_eq_tab_padded pad b g]
  refine runOp1_tab _ n (fun i => St.buf (tab (b + 1) fun k => padded pad b g (i + k))) g _ fun i => ?_
  rw [hstep, dqPush_padded, hwin]
  rfl

omit [LawfulVal α] in
theorem runOp2_ring (step : St α → α → α → Except PyErr (St α × α)) (win : List α → List α → Except PyErr α)
    (b n : Nat) (f g G : Nat → α)
    (hstep : ∀ bl br l r, step (.buf2 bl br) l r =
      (do let o ← win (dqPush bl l) (dqPush br r); pure (.buf2 (dqPush bl l) (dqPush br r), o)))
    (hwin : ∀ t, win (tab (b + 1) fun k => padded pinf b f (t + 1 + k))
      (tab (b + 1) fun k => padded ninf b g (t + 1 + k)) = .ok (G t)) :
    ∃ s, runOp2 step (.buf2 (List.replicate (b + 1) pinf) (List.replicate (b + 1) ninf))
      ((tab n f).zip (tab n g)) = .ok (s, tab n G) := by
  constructor
  rw [replicate_eq_tab_padded pinf b f, replicate_eq_tab_padded ninf b g]
  refine runOp2_tab _ n (fun i => St.buf2 (tab (b + 1) fun k => padded pinf b f (i + k))
    (tab (b + 1) fun k => padded ninf b g (i + k))) f g _ fun i => ?_
  rw [hstep, dqPush_padded, dqPush_padded, hwin]
  rfl

/-! ### unbounded operations: the same loops as the offline list algorithms -/

omit [LawfulVal α] in
theorem runOp1_once_list (p : α) (l : List α) :
    ∃ s, runOp1 (stepT1 .once) (.val p) l = .ok (s, scanFwd pmax p l) := by
  induction l generalizing p with
  | nil => exact ⟨_, rfl⟩
  | cons x xs ih =>
    obtain ⟨s, hs⟩ := ih (pmax x p)
    exact ⟨s, runOp1_cons_ok _ _ _ _ _ _ _ _ rfl hs⟩

omit [LawfulVal α] in
theorem runOp1_prev_list (p : α) (l : List α) :
    ∃ s, runOp1 (stepT1 .prev) (.val p) l = .ok (s, shiftFwd p l) := by
  induction l generalizing p with
  | nil => exact ⟨_, rfl⟩
  | cons x xs ih =>
    obtain ⟨s, hs⟩ := ih x
    exact ⟨s, runOp1_cons_ok _ _ _ _ _ _ _ _ rfl hs⟩

omit [LawfulVal α] in
theorem runOp1_rise_list (p : α) (l : List α) :
    ∃ s, runOp1 (stepT1 .rise) (.val p) l =
      .ok (s, List.zipWith (fun p x => pmin (neg p) x) (shiftFwd p l) l) := by
  induction l generalizing p with
  | nil => exact ⟨_, rfl⟩
  | cons x xs ih =>
    obtain ⟨s, hs⟩ := ih x
    exact ⟨s, runOp1_cons_ok _ _ _ _ _ _ _ _ rfl hs⟩

omit [LawfulVal α] in
theorem runOp1_fall_list (p : α) (l : List α) :
    ∃ s, runOp1 (stepT1 .fall) (.val p) l =
      .ok (s, List.zipWith (fun p x => pmin p (neg x)) (shiftFwd p l) l) := by
  induction l generalizing p with
  | nil => exact ⟨_, rfl⟩
  | cons x xs ih =>
    obtain ⟨s, hs⟩ := ih x
    exact ⟨s, runOp1_cons_ok _ _ _ _ _ _ _ _ rfl hs⟩

omit [LawfulVal α] in
theorem runOp2_since_list (p : α) (l : List (α × α)) :
    ∃ s, runOp2 (stepT2 .since) (.val p) l = .ok (s, scan2 p l) := by
  induction l generalizing p with
  | nil => exact ⟨_, rfl⟩
  | cons x xs ih =>
    obtain ⟨xl, xr⟩ := x
    obtain ⟨s, hs⟩ := ih (sinceStep p (xl, xr))
    exact ⟨s, runOp2_cons_ok _ _ _ _ _ _ _ _ _ rfl hs⟩

theorem run_once (n : Nat) (g : Nat → α) :
    ∃ s, runOp1 (stepT1 .once) (initT1 .once) (tab n g) =
      .ok (s, tab n (fun t => maxOver 0 (t + 1) g)) := by
  obtain ⟨s, hs⟩ := runOp1_once_list (ninf : α) (tab n g)
  exact ⟨s, by rw [← scanFwd_once]; exact hs⟩

theorem run_hist (n : Nat) (g : Nat → α) :
    ∃ s, runOp1 (stepT1 .hist) (initT1 .hist) (tab n g) =
      .ok (s, tab n (fun t => minOver 0 (t + 1) g)) := by
  -- `historically` is `once` of the order dual, state by state
  have e : stepT1 (α := α) .hist = stepT1 (α := αᵒᵈ) .once := by
    funext s v
    cases s <;> rfl
  rw [e]
  exact run_once (α := αᵒᵈ) n g

omit [LawfulVal α] in
theorem run_prev (n : Nat) (g : Nat → α) :
    ∃ s, runOp1 (stepT1 .prev) (initT1 .prev) (tab n g) =
      .ok (s, tab n (fun t => if t = 0 then pinf else g (t - 1))) := by
  obtain ⟨s, hs⟩ := runOp1_prev_list (pinf : α) (tab n g)
  exact ⟨s, by rw [← shiftFwd_tab]; exact hs⟩

omit [LawfulVal α] in
theorem run_sprev (n : Nat) (g : Nat → α) :
    ∃ s, runOp1 (stepT1 .sprev) (initT1 .sprev) (tab n g) =
      .ok (s, tab n (fun t => if t = 0 then ninf else g (t - 1))) := by
  have e : stepT1 (α := α) .sprev = stepT1 (α := αᵒᵈ) .prev := by
    funext s v
    cases s <;> rfl
  rw [e]
  exact run_prev (α := αᵒᵈ) n g

theorem run_rise (n : Nat) (g : Nat → α) :
    ∃ s, runOp1 (stepT1 .rise) (initT1 .rise) (tab n g) =
      .ok (s, tab n (fun t => if t = 0 then g 0 else pmin (neg (g (t - 1))) (g t))) := by
  obtain ⟨s, hs⟩ := runOp1_rise_list (ninf : α) (tab n g)
  exact ⟨s, by rw [← rise_tab n g, ← zipWith_shiftFwd]; exact hs⟩

theorem run_fall (n : Nat) (g : Nat → α) :
    ∃ s, runOp1 (stepT1 .fall) (initT1 .fall) (tab n g) =
      .ok (s, tab n (fun t => if t = 0 then neg (g 0) else pmin (g (t - 1)) (neg (g t)))) := by
  obtain ⟨s, hs⟩ := runOp1_fall_list (pinf : α) (tab n g)
  exact ⟨s, by rw [← fall_tab n g, ← zipWith_shiftFwd]; exact hs⟩

theorem run_since (n : Nat) (f g : Nat → α) :
    ∃ s, runOp2 (stepT2 .since) (initT2 .since) ((tab n f).zip (tab n g)) =
      .ok (s, tab n (fun t => maxOver 0 (t + 1)
                (fun t' => pmin (g t') (minOver (t' + 1) (t + 1) f)))) := by
  obtain ⟨s, hs⟩ := runOp2_since_list (ninf : α) ((tab n f).zip (tab n g))
  exact ⟨s, by rw [← scan2_since]; exact hs⟩

omit [LawfulVal α] in
theorem winFold_max_tab (a b : Nat) (L : Nat → α) :
    winFold pmax ninf a b (tab (b + 1) L) = .ok (maxOver 0 (b - a + 1) L) := by
  unfold winFold
  rw [foldlM_ok _ (fun acc i => pmax acc (L i))]
  · congr 1
    unfold maxOver lmax lmaxFrom
    rw [List.foldl_map, Nat.sub_zero, List.range_eq_range']
  · intro acc i hi
    have hi' : i < b - a + 1 := List.mem_range.1 hi
    rw [idx_tab _ _ _ (by omega)]
    rfl

/-- Buffer index `j` is position `t - b + j`; padded entries are `⊥`. -/
theorem once_window (a b : Nat) (hab : a ≤ b) (g : Nat → α) (t : Nat) :
    maxOver 0 (b - a + 1) (fun j => padded ninf b g (t + 1 + j)) =
      maxOver (t - b) (t + 1 - a) g := by
  rw [maxOver_padded]
  congr 1
  omega

omit [LawfulVal α] in
theorem sinceWin_tab (a b : Nat) (L R : Nat → α) :
    sinceWin a b (tab (b + 1) L) (tab (b + 1) R) =
      .ok (maxOver 0 (b - a + 1) (fun j => pmin (minOver (j + 1) (b + 1) L) (R j))) := by
  unfold sinceWin
  rw [foldlM_ok _ (fun out j => pmax out (pmin (minOver (j + 1) (b + 1) L) (R j)))]
  · congr 1
    unfold maxOver lmax lmaxFrom
    rw [List.foldl_map, Nat.sub_zero, List.range_eq_range']
  · intro acc j hj
    have hj' : j < b - a + 1 := List.mem_range.1 hj
    rw [idx_tab _ _ _ (by omega)]
    rw [foldlM_ok _ (fun c k => pmin c (L k))]
    · have e : List.foldl (fun c k => pmin c (L k)) pinf (List.range' (j + 1) (b - j)) =
          minOver (j + 1) (b + 1) L := by
        unfold minOver lmin lminFrom
        rw [List.foldl_map, Nat.add_sub_add_right]
      rw [e]
      rfl
    · intro c k hk
      have hk' := List.mem_range'_1.1 hk
      rw [idx_tab _ _ _ (by omega)]
      rfl

/-- Inner minimum of `since`: buffer indices `(j, b]` are positions `(t', t]`. -/
theorem since_min (b : Nat) (f : Nat → α) (t t' j : Nat) (hj : t + j = t' + b) :
    minOver (j + 1) (b + 1) (fun k => padded pinf b f (t + 1 + k)) =
      minOver (t' + 1) (t + 1) f := by
  rw [minOver_padded]
  congr 1 <;> omega

theorem since_window (a b : Nat) (hab : a ≤ b) (f g : Nat → α) (t : Nat) :
    maxOver 0 (b - a + 1)
        (fun j => pmin (minOver (j + 1) (b + 1) (fun k => padded pinf b f (t + 1 + k)))
                    (padded ninf b g (t + 1 + j))) =
      maxOver (t - b) (t + 1 - a) (fun t' => pmin (g t') (minOver (t' + 1) (t + 1) f)) := by
  rw [maxOver_pmin_padded b g _ (fun t' => minOver (t' + 1) (t + 1) f) t 0 (b - a + 1)
    (fun j t' h => since_min b f t t' j h)]
  congr 1
  omega

omit [LawfulVal α] in
theorem precWin_tab (a b : Nat) (L R : Nat → α) :
    precWin a b (tab (b + 1) L) (tab (b + 1) R) =
      .ok (maxOver a (b + 1) (fun i => pmin (minOver 0 i L) (R i))) := by
  unfold precWin
  rw [foldlM_ok _ (fun out i => pmax out (pmin (minOver 0 i L) (R i)))]
  · congr 1
    unfold maxOver lmax lmaxFrom
    rw [List.foldl_map]
  · intro acc i hi
    have hi' := List.mem_range'_1.1 hi
    rw [idx_tab _ _ _ (by omega)]
    rw [foldlM_ok _ (fun c k => pmin c (L k))]
    · have e : List.foldl (fun c k => pmin c (L k)) pinf (List.range i) = minOver 0 i L := by
        unfold minOver lmin lminFrom
        rw [List.foldl_map, Nat.sub_zero, List.range_eq_range']
      rw [e]
      rfl
    · intro c k hk
      have hk' := List.mem_range.1 hk
      rw [idx_tab _ _ _ (by omega)]
      rfl

/-- Inner minimum of `precedes`: buffer indices `[0, j)` are positions `[t - b, t')`. -/
theorem prec_min (b : Nat) (f : Nat → α) (t t' j : Nat) (hj : t + j = t' + b) :
    minOver 0 j (fun k => padded pinf b f (t + 1 + k)) = minOver (t - b) t' f := by
  rw [minOver_padded]
  congr 1
  omega

theorem prec_window (a b : Nat) (f g : Nat → α) (t : Nat) :
    maxOver a (b + 1)
        (fun j => pmin (minOver 0 j (fun k => padded pinf b f (t + 1 + k)))
                    (padded ninf b g (t + 1 + j))) =
      maxOver (t + a - b) (t + 1) (fun t' => pmin (g t') (minOver (t - b) t' f)) := by
  rw [maxOver_pmin_padded b g _ (fun t' => minOver (t - b) t' f) t a (b + 1)
    (fun j t' h => prec_min b f t t' j h)]
  congr 1
  omega

theorem run_onceB (a b : Nat) (hab : a ≤ b) (n : Nat) (g : Nat → α) :
    ∃ s, runOp1 (stepTB1 .once a b) (initTB1 .once b) (tab n g) =
      .ok (s, tab n (fun t => maxOver (t - b) (t + 1 - a) g)) := by
  refine runOp1_ring _ (winFold pmax ninf a b) ninf b n g _ (fun _ _ => rfl) fun t => ?_
  rw [winFold_max_tab, once_window a b hab]

theorem run_histB (a b : Nat) (hab : a ≤ b) (n : Nat) (g : Nat → α) :
    ∃ s, runOp1 (stepTB1 .hist a b) (initTB1 .hist b) (tab n g) =
      .ok (s, tab n (fun t => minOver (t - b) (t + 1 - a) g)) := by
  -- `historically` is `once` of the order dual, state by state
  have e : stepTB1 (α := α) .hist a b = stepTB1 (α := αᵒᵈ) .once a b := by
    funext s v
    cases s <;> rfl
  rw [e]
  exact run_onceB (α := αᵒᵈ) a b hab n g

theorem run_sinceB (a b : Nat) (hab : a ≤ b) (n : Nat) (f g : Nat → α) :
    ∃ s, runOp2 (stepTB2 .since a b) (initTB2 .since b) ((tab n f).zip (tab n g)) =
      .ok (s, tab n (fun t => maxOver (t - b) (t + 1 - a)
                (fun t' => pmin (g t') (minOver (t' + 1) (t + 1) f)))) := by
  refine runOp2_ring _ (sinceWin a b) b n f g _ (fun _ _ _ _ => rfl) fun t => ?_
  rw [sinceWin_tab, since_window a b hab]

theorem run_precedesB (a b n : Nat) (f g : Nat → α) :
    ∃ s, runOp2 (stepTB2 .precedes a b) (initTB2 .precedes b) ((tab n f).zip (tab n g)) =
      .ok (s, tab n (fun t => maxOver (t + a - b) (t + 1)
                (fun t' => pmin (g t') (minOver (t - b) t' f)))) := by
  refine runOp2_ring _ (precWin a b) b n f g _ (fun _ _ _ _ => rfl) fun t => ?_
  rw [precWin_tab, prec_window a b]

end Rtamt
