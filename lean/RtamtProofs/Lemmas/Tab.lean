/-
  `tab n g = [g 0, …, g (n-1)]`: the list every offline `visitX` returns is
  characterised as the table of a function of the sample index.
-/
import Mathlib.Data.List.Basic

namespace Rtamt

variable {α : Type}

def tab (n : Nat) (g : Nat → α) : List α := (List.range n).map g

@[simp] theorem tab_length (n : Nat) (g : Nat → α) : (tab n g).length = n := by
  simp [tab]

@[simp] theorem tab_getElem? (n : Nat) (g : Nat → α) (i : Nat) :
    (tab n g)[i]? = if i < n then some (g i) else none := by
  unfold tab
  by_cases h : i < n
  · simp [h]
  · simp [h]

theorem tab_getElem (n : Nat) (g : Nat → α) (i : Nat) (h : i < (tab n g).length) :
    (tab n g)[i] = g i := by
  simp [tab]

theorem tab_congr {n : Nat} {f g : Nat → α} (h : ∀ t, t < n → f t = g t) : tab n f = tab n g := by
  unfold tab
  apply List.map_congr_left
  intro t ht
  exact h t (List.mem_range.1 ht)

theorem eq_tab_of_getElem? {l : List α} {n : Nat} {g : Nat → α}
    (hl : l.length = n) (h : ∀ t, t < n → l[t]? = some (g t)) : l = tab n g := by
  apply List.ext_getElem?
  intro i
  by_cases hi : i < n
  · rw [h i hi, tab_getElem?, if_pos hi]
  · rw [tab_getElem?, if_neg hi]
    exact List.getElem?_eq_none (by omega)

theorem tab_succ (n : Nat) (g : Nat → α) : tab (n + 1) g = g 0 :: tab n (fun t => g (t + 1)) := by
  unfold tab
  rw [List.range_succ_eq_map]
  simp [List.map_map, Function.comp_def]

theorem tab_succ_last (n : Nat) (g : Nat → α) : tab (n + 1) g = tab n g ++ [g n] := by
  unfold tab
  rw [List.range_succ]
  simp

theorem tab_append (m k : Nat) (g : Nat → α) :
    tab m g ++ tab k (fun t => g (m + t)) = tab (m + k) g := by
  unfold tab
  rw [List.range_add, List.map_append, List.map_map]
  rfl

theorem map_tab {β γ : Type} (u : β → γ) (n : Nat) (g : Nat → β) :
    (tab n g).map u = tab n (fun t => u (g t)) := by
  unfold tab
  rw [List.map_map]
  rfl

theorem zipWith_tab {β γ δ : Type} (u : β → γ → δ) (n : Nat) (f : Nat → β) (g : Nat → γ) :
    List.zipWith u (tab n f) (tab n g) = tab n (fun t => u (f t) (g t)) := by
  induction n generalizing f g with
  | zero => rfl
  | succ n ih =>
    rw [tab_succ, tab_succ, tab_succ, List.zipWith_cons_cons, ih]

theorem zip_tab {β γ : Type} (n : Nat) (f : Nat → β) (g : Nat → γ) :
    (tab n f).zip (tab n g) = tab n (fun t => (f t, g t)) :=
  zipWith_tab Prod.mk n f g

theorem tab_reverse {β : Type} (n : Nat) (H : Nat → β) :
    (tab n H).reverse = tab n (fun t => H (n - 1 - t)) := by
  apply eq_tab_of_getElem? (by simp)
  intro t ht
  rw [List.getElem?_reverse (by simp; omega), tab_length, tab_getElem?, if_pos (by omega)]

end Rtamt
