/-
  Offline list algorithms = README clauses: bounded since / until.  The loop of `visitTimedSince` does on its own two deques,
  sample by sample, what `update` of a `SinceTimedOperation` does, so its result is the run of that object (`run_sinceB`);
  `visitTimedUntil` runs the same loop on the reversed lists.
-/
import RtamtProofs.Lemmas.OnlineOps

namespace Rtamt
open Val

variable {α : Type} [Val α] [LawfulVal α]

omit [LawfulVal α] in
theorem sinceLoop_eq_run (a b : Nat) (z : List (α × α)) (bl br : List α) :
    sinceLoop a b bl br z = (runOp2 (stepTB2 .since a b) (.buf2 bl br) z).map (·.2) := by
  induction z generalizing bl br with
  | nil => rfl
  | cons p z ih =>
    obtain ⟨l, r⟩ := p
    rw [sinceLoop, runOp2, ih]
    show (sinceWin a b _ _ >>= _) = Except.map _ ((sinceWin a b _ _ >>= fun o => pure (St.buf2 _ _, o)) >>= _)
    cases sinceWin a b (dqPush bl l) (dqPush br r) with
    | error e => rfl
    | ok o =>
      show (_ >>= _) = Except.map _ (runOp2 _ (St.buf2 (dqPush bl l) (dqPush br r)) z >>= _)
      cases runOp2 (stepTB2 .since a b) (.buf2 (dqPush bl l) (dqPush br r)) z <;> rfl

theorem sinceLoop_since (a b : Nat) (hab : a ≤ b) (n : Nat) (f g : Nat → α) :
    sinceLoop a b (List.replicate (b + 1) pinf) (List.replicate (b + 1) ninf)
        ((tab n f).zip (tab n g)) =
      .ok (tab n (fun t => maxOver (t - b) (t + 1 - a)
              (fun t' => pmin (g t') (minOver (t' + 1) (t + 1) f)))) := by
  obtain ⟨s, hs⟩ := run_sinceB a b hab n f g
  rw [sinceLoop_eq_run]
  exact congrArg (Except.map (·.2)) hs

theorem maxOver_reflect (n lo hi : Nat) (f : Nat → α) (h : hi ≤ n) :
    maxOver lo hi (fun r => f (n - 1 - r)) = maxOver (n - hi) (n - lo) f := by
  apply eq_of_ub
  intro c
  rw [maxOver_le_iff, maxOver_le_iff]
  constructor
  · intro H v h1 h2
    have := H (n - 1 - v) (by omega) (by omega)
    rwa [show n - 1 - (n - 1 - v) = v by omega] at this
  · intro H r h1 h2
    exact H (n - 1 - r) (by omega) (by omega)

theorem minOver_reflect (n lo hi : Nat) (f : Nat → α) (h : hi ≤ n) :
    minOver lo hi (fun r => f (n - 1 - r)) = minOver (n - hi) (n - lo) f :=
  maxOver_reflect (α := αᵒᵈ) n lo hi f h

/-- `until` runs the `since` loop on the reversed lists: position `t''` of the reversed run is
    `n - 1 - t''`, so both the outer window and the inner minimum are reflected. -/
theorem until_window (a b n : Nat) (f g : Nat → α) (t : Nat) (ht : t < n) :
    maxOver (n - 1 - t - b) (n - 1 - t + 1 - a)
        (fun t'' => pmin (g (n - 1 - t''))
                      (minOver (t'' + 1) (n - 1 - t + 1) (fun r => f (n - 1 - r)))) =
      maxOver (t + a) (min (t + b + 1) n) (fun t' => pmin (g t') (minOver t t' f)) := by
  rw [maxOver_congr (g := fun t'' => (fun t' => pmin (g t') (minOver t t' f)) (n - 1 - t''))
      (fun t'' h1 h2 => by
        rw [minOver_reflect n _ _ f (by omega)]
        congr 2 <;> omega)]
  refine (maxOver_reflect n _ _ (fun t' => pmin (g t') (minOver t t' f)) (by omega)).trans ?_
  by_cases h : t + a ≤ n
  · congr 1 <;> omega
  · rw [maxOver_eq_ninf _ (by omega), maxOver_eq_ninf _ (by omega)]

theorem sinceLoop_until (a b : Nat) (hab : a ≤ b) (n : Nat) (f g : Nat → α) :
    (do let o ← sinceLoop a b (List.replicate (b + 1) pinf) (List.replicate (b + 1) ninf)
                  ((tab n f).zip (tab n g)).reverse
        pure o.reverse : Except PyErr (List α)) =
      .ok (tab n (fun t => maxOver (t + a) (min (t + b + 1) n)
              (fun t' => pmin (g t') (minOver t t' f)))) := by
  rw [zip_tab, tab_reverse, ← zip_tab n (fun t => f (n - 1 - t)) (fun t => g (n - 1 - t)),
    sinceLoop_since a b hab]
  show Except.ok (List.reverse _) = _
  rw [tab_reverse]
  congr 1
  apply tab_congr
  intro t ht
  exact until_window a b n f g t ht

end Rtamt
