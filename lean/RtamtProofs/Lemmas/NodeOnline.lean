/-
  The six operator classes of `F` by arity, and the online interpreter of `Rtamt/Discrete/Online.lean` on them: a node is
  an operator object — its class `F.kind`, the state `initNode` its constructor builds, its `update` (`Py.stepNode`) and its
  `reset` (`resetNode`) — over one or two operand trees.  `initTree`, `stepTree` and `resetTree` say the same thing six
  times; the equations below say it once per arity, and the proofs about the interpreter go by `nodeInduction`.
-/
import Rtamt.Py.Glue
import RtamtProofs.Lemmas.Exc
import RtamtProofs.Lemmas.Node

namespace Rtamt
open Val

variable {α : Type} [Val α]

/-- `reset()` of the operator object of a node (the point-wise operations have none). -/
def resetNode : F α → St α → St α
  | .tmp1 op _, s => resetT1 op s
  | .tmp2 op _ _, s => resetT2 op s
  | .tb1 op _ b _, s => resetTB1 op b s
  | .tb2 op _ b _ _, s => resetTB2 op b s
  | _, s => s

namespace Dense.C09Dense

section
variable {χ φ ψ : F α}

omit [Val α] in
theorem Node1.online (hn : Node1 χ φ) : χ.online = (onlineKinds.contains χ.kind && φ.online) := by
  simp only [F.online, hn.kinds, List.all_cons]

omit [Val α] in
theorem Node2.online (hn : Node2 χ φ ψ) :
    χ.online = (onlineKinds.contains χ.kind && (φ.online && ψ.online)) := by
  simp only [F.online, hn.kinds, List.all_cons, List.all_append]

end
end Dense.C09Dense

theorem Un.online (op : Un) : onlineKinds.contains op.kind = true := by cases op <;> decide +kernel

theorem Bin.online (op : Bin) : onlineKinds.contains op.kind = true := by cases op <;> rfl

theorem T1.online (op : T1) :
    onlineKinds.contains op.kind = (match op with | .next | .snext | .ev | .alw => false | _ => true) := by
  cases op <;> decide +kernel

theorem T2.online (op : T2) : onlineKinds.contains op.kind = (match op with | .until => false | _ => true) := by
  cases op <;> decide +kernel

theorem TB1.online (op : TB1) : onlineKinds.contains op.kind = (match op with | .ev | .alw => false | _ => true) := by
  cases op <;> decide +kernel

theorem TB2.online (op : TB2) : onlineKinds.contains op.kind = (match op with | .until => false | _ => true) := by
  cases op <;> decide +kernel

namespace Dense.C09Dense

section
variable {χ φ ψ : F α}

theorem Node1.initTree (hn : Node1 χ φ) (h r : Kind → Bool) :
    initTree h r χ = (do
      if r χ.kind then throw .rtamt
      let c ← initTree h r φ
      if h χ.kind then pure (.n1 (initNode χ) c) else throw .key) := by
  cases hn <;> rfl

theorem Node2.initTree (hn : Node2 χ φ ψ) (h r : Kind → Bool) :
    initTree h r χ = (do
      if r χ.kind then throw .rtamt
      let c1 ← initTree h r φ
      let c2 ← initTree h r ψ
      if h χ.kind then pure (.n2 (initNode χ) c1 c2) else throw .key) := by
  cases hn <;> rfl

theorem Node1.initTree_eq_ok (hn : Node1 χ φ) {h r : Kind → Bool} {st : STree α} :
    Rtamt.initTree h r χ = .ok st ↔
      (h χ.kind = true ∧ r χ.kind = false) ∧ ∃ c, Rtamt.initTree h r φ = .ok c ∧ st = .n1 (initNode χ) c := by
  rw [hn.initTree]
  constructor
  · intro hi
    cases hr : r χ.kind <;> rw [hr] at hi
    · obtain ⟨c, hc, hi⟩ := Exc.bind_eq_ok.1 hi
      cases hh : h χ.kind <;> rw [hh] at hi
      · cases hi
      · exact ⟨⟨rfl, rfl⟩, c, hc, (Exc.pure_eq_ok.1 hi).symm⟩
    · cases hi
  · rintro ⟨⟨hh, hr⟩, c, hc, rfl⟩
    rw [hh, hr, hc]
    rfl

theorem Node2.initTree_eq_ok (hn : Node2 χ φ ψ) {h r : Kind → Bool} {st : STree α} :
    Rtamt.initTree h r χ = .ok st ↔
      (h χ.kind = true ∧ r χ.kind = false) ∧
        ∃ c1 c2, Rtamt.initTree h r φ = .ok c1 ∧ Rtamt.initTree h r ψ = .ok c2 ∧ st = .n2 (initNode χ) c1 c2 := by
  rw [hn.initTree]
  constructor
  · intro hi
    cases hr : r χ.kind <;> rw [hr] at hi
    · obtain ⟨c1, hc1, hi⟩ := Exc.bind_eq_ok.1 hi
      obtain ⟨c2, hc2, hi⟩ := Exc.bind_eq_ok.1 hi
      cases hh : h χ.kind <;> rw [hh] at hi
      · cases hi
      · exact ⟨⟨rfl, rfl⟩, c1, c2, hc1, hc2, (Exc.pure_eq_ok.1 hi).symm⟩
    · cases hi
  · rintro ⟨⟨hh, hr⟩, c1, c2, hc1, hc2, rfl⟩
    rw [hh, hr, hc1, hc2]
    rfl

theorem Node1.stepTree (hn : Node1 χ φ) (e : String → α) (s : St α) (c : STree α) :
    stepTree e χ (.n1 s c) = (do
      let (c', v) ← stepTree e φ c
      let (s', o) ← Py.stepNode χ s [v]
      pure (STree.n1 s' c', o)) := by
  cases hn with
  | un op =>
    rw [stepTree]
    cases stepTree e φ c <;> rfl
  | tmp1 op => rfl
  | tb1 op a b => rfl

theorem Node2.stepTree (hn : Node2 χ φ ψ) (e : String → α) (s : St α) (c1 c2 : STree α) :
    stepTree e χ (.n2 s c1 c2) = (do
      let (c1', v1) ← stepTree e φ c1
      let (c2', v2) ← stepTree e ψ c2
      let (s', o) ← Py.stepNode χ s [v1, v2]
      pure (STree.n2 s' c1' c2', o)) := by
  cases hn with
  | bin op =>
    rw [stepTree]
    cases stepTree e φ c1 with
    | error x => rfl
    | ok p => cases stepTree e ψ c2 <;> rfl
  | tmp2 op => rfl
  | tb2 op a b => rfl

theorem Node1.resetTree (hn : Node1 χ φ) (s : St α) (c : STree α) :
    resetTree χ (.n1 s c) = .n1 (resetNode χ s) (resetTree φ c) := by
  cases hn <;> rfl

theorem Node2.resetTree (hn : Node2 χ φ ψ) (s : St α) (c1 c2 : STree α) :
    resetTree χ (.n2 s c1 c2) = .n2 (resetNode χ s) (resetTree φ c1) (resetTree ψ c2) := by
  cases hn <;> rfl

end

end Dense.C09Dense

end Rtamt
