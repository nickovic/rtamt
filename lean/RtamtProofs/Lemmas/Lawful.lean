/-
  `LawfulVal`: the assumptions on values under which the theorems are proved —
  a bounded linear order whose `<` is what `Val.lt` decides, with `pinf = ⊤`,
  `ninf = ⊥` and `neg` an order-reversing involution.  No NaN.

  Basic consequences: `pmax = max`, `pmin = min`, and the characterisation of
  window maxima/minima by their upper/lower bounds, which is how every window
  equality in the proofs is shown (`eq_of_ub`, `eq_of_lb`); then the algebra of windows
  (empty window, one sample, one more sample at either end, shift, congruence, nested windows), stated for
  maxima and read in the order dual for minima.
-/
import Rtamt.Discrete.Rho
import Mathlib.Order.BoundedOrder.Basic
import Mathlib.Order.Lattice
import Mathlib.Order.MinMax
import Mathlib.Data.List.Basic

namespace Rtamt
open Val

class LawfulVal (α : Type) [Val α] extends LinearOrder α, BoundedOrder α where
  lt_iff : ∀ a b : α, Val.lt a b = true ↔ a < b
  pinf_top : (Val.pinf : α) = ⊤
  ninf_bot : (Val.ninf : α) = ⊥
  neg_neg : ∀ a : α, Val.neg (Val.neg a) = a
  neg_le_neg : ∀ a b : α, a ≤ b → Val.neg b ≤ Val.neg a

variable {α : Type} [Val α] [LawfulVal α]

theorem pmax_eq (a b : α) : pmax a b = max a b := by
  unfold pmax
  by_cases h : a < b
  · rw [if_pos ((LawfulVal.lt_iff a b).2 h), max_eq_right (le_of_lt h)]
  · have : ¬ (Val.lt a b = true) := fun h' => h ((LawfulVal.lt_iff a b).1 h')
    rw [if_neg this, max_eq_left (not_lt.1 h)]

theorem neg_le_neg_iff (a b : α) : Val.neg a ≤ Val.neg b ↔ b ≤ a := by
  constructor
  · intro h
    have := LawfulVal.neg_le_neg _ _ h
    rwa [LawfulVal.neg_neg, LawfulVal.neg_neg] at this
  · exact LawfulVal.neg_le_neg _ _

theorem neg_ninf : Val.neg (Val.ninf : α) = Val.pinf := by
  rw [LawfulVal.ninf_bot, LawfulVal.pinf_top]
  apply le_antisymm le_top
  have := (neg_le_neg_iff (Val.neg (⊤ : α)) (⊥ : α)).2 bot_le
  rwa [LawfulVal.neg_neg] at this

theorem neg_pinf : Val.neg (Val.pinf : α) = Val.ninf := by
  rw [← neg_ninf, LawfulVal.neg_neg]

theorem neg_max (a b : α) : Val.neg (max a b) = min (Val.neg a) (Val.neg b) := by
  rcases le_total a b with h | h
  · rw [max_eq_right h, min_eq_right ((neg_le_neg_iff _ _).2 h)]
  · rw [max_eq_left h, min_eq_left ((neg_le_neg_iff _ _).2 h)]

theorem neg_min (a b : α) : Val.neg (min a b) = max (Val.neg a) (Val.neg b) := by
  rcases le_total a b with h | h
  · rw [min_eq_left h, max_eq_left ((neg_le_neg_iff _ _).2 h)]
  · rw [min_eq_right h, max_eq_right ((neg_le_neg_iff _ _).2 h)]

/-! ### order duality

`αᵒᵈ` carries the operations of `α` with `<` reversed and the two infinities exchanged.  There `pmax`,
`lmax`, `maxOver` *are* (definitionally) `pmin`, `lmin`, `minOver` of `α`, so every fact about minima
is the fact about maxima read in `αᵒᵈ`. -/

instance Val.instOrderDual : Val αᵒᵈ :=
  { (inferInstance : Val α) with
    lt := fun a b => Val.lt (α := α) b a, pinf := (Val.ninf : α), ninf := (Val.pinf : α) }

instance LawfulVal.instOrderDual : LawfulVal αᵒᵈ :=
  { OrderDual.instLinearOrder α, OrderDual.instBoundedOrder α with
    lt_iff := fun a b => LawfulVal.lt_iff (α := α) b a
    pinf_top := LawfulVal.ninf_bot (α := α)
    ninf_bot := LawfulVal.pinf_top (α := α)
    neg_neg := LawfulVal.neg_neg (α := α)
    neg_le_neg := fun a b h => LawfulVal.neg_le_neg (α := α) b a h }

theorem pmin_eq (a b : α) : pmin a b = min a b :=
  pmax_eq (α := αᵒᵈ) a b

theorem lmaxFrom_le_iff (init : α) (l : List α) (c : α) :
    lmaxFrom init l ≤ c ↔ init ≤ c ∧ ∀ x ∈ l, x ≤ c := by
  unfold lmaxFrom
  induction l generalizing init with
  | nil => simp
  | cons x xs ih =>
    simp only [List.foldl_cons, ih, pmax_eq, max_le_iff, List.mem_cons, forall_eq_or_imp]
    tauto

theorem le_lminFrom_iff (init : α) (l : List α) (c : α) :
    c ≤ lminFrom init l ↔ c ≤ init ∧ ∀ x ∈ l, c ≤ x :=
  lmaxFrom_le_iff (α := αᵒᵈ) init l c

theorem lmax_le_iff (l : List α) (c : α) : lmax l ≤ c ↔ ∀ x ∈ l, x ≤ c := by
  unfold lmax
  rw [lmaxFrom_le_iff, LawfulVal.ninf_bot]
  simp

theorem le_lmin_iff (l : List α) (c : α) : c ≤ lmin l ↔ ∀ x ∈ l, c ≤ x :=
  lmax_le_iff (α := αᵒᵈ) l c

omit [Val α] [LawfulVal α] in
theorem mem_window {lo hi t : Nat} : t ∈ List.range' lo (hi - lo) ↔ lo ≤ t ∧ t < hi := by
  rw [List.mem_range'_1]
  omega

theorem maxOver_le_iff (lo hi : Nat) (f : Nat → α) (c : α) :
    maxOver lo hi f ≤ c ↔ ∀ t, lo ≤ t → t < hi → f t ≤ c := by
  unfold maxOver
  rw [lmax_le_iff]
  simp only [List.forall_mem_map, mem_window, and_imp]

theorem le_minOver_iff (lo hi : Nat) (f : Nat → α) (c : α) :
    c ≤ minOver lo hi f ↔ ∀ t, lo ≤ t → t < hi → c ≤ f t :=
  maxOver_le_iff (α := αᵒᵈ) lo hi f c

theorem lmaxFrom_lt_iff (init : α) (l : List α) (c : α) :
    lmaxFrom init l < c ↔ init < c ∧ ∀ x ∈ l, x < c := by
  unfold lmaxFrom
  induction l generalizing init with
  | nil => simp
  | cons x xs ih =>
    simp only [List.foldl_cons, ih, pmax_eq, max_lt_iff, List.mem_cons, forall_eq_or_imp]
    tauto

theorem maxOver_lt_iff (lo hi : Nat) (f : Nat → α) (c : α) :
    maxOver lo hi f < c ↔ ⊥ < c ∧ ∀ t, lo ≤ t → t < hi → f t < c := by
  unfold maxOver lmax
  rw [lmaxFrom_lt_iff, LawfulVal.ninf_bot]
  simp only [List.forall_mem_map, mem_window, and_imp]

theorem lt_minOver_iff (lo hi : Nat) (f : Nat → α) (c : α) :
    c < minOver lo hi f ↔ c < ⊤ ∧ ∀ t, lo ≤ t → t < hi → c < f t :=
  maxOver_lt_iff (α := αᵒᵈ) lo hi f c

theorem le_maxOver_exists (lo hi : Nat) (f : Nat → α) (c : α) (hc : ⊥ < c)
    (h : c ≤ maxOver lo hi f) : ∃ t, lo ≤ t ∧ t < hi ∧ c ≤ f t := by
  by_contra hne
  push Not at hne
  exact absurd ((maxOver_lt_iff lo hi f c).2 ⟨hc, hne⟩) (not_lt.2 h)

theorem minOver_le_exists (lo hi : Nat) (f : Nat → α) (c : α) (hc : c < ⊤)
    (h : minOver lo hi f ≤ c) : ∃ t, lo ≤ t ∧ t < hi ∧ f t ≤ c :=
  le_maxOver_exists (α := αᵒᵈ) lo hi f c hc h

theorem eq_of_ub {a b : α} (h : ∀ c, a ≤ c ↔ b ≤ c) : a = b :=
  le_antisymm ((h b).2 le_rfl) ((h a).1 le_rfl)

theorem eq_of_lb {a b : α} (h : ∀ c, c ≤ a ↔ c ≤ b) : a = b :=
  le_antisymm ((h a).1 le_rfl) ((h b).2 le_rfl)

omit [LawfulVal α] in
theorem maxOver_congr {lo hi : Nat} {f g : Nat → α} (e : ∀ t, lo ≤ t → t < hi → f t = g t) :
    maxOver lo hi f = maxOver lo hi g := by
  unfold maxOver
  congr 1
  apply List.map_congr_left
  intro t ht
  rw [List.mem_range'_1] at ht
  exact e t ht.1 (by omega)

omit [LawfulVal α] in
theorem minOver_congr {lo hi : Nat} {f g : Nat → α} (e : ∀ t, lo ≤ t → t < hi → f t = g t) :
    minOver lo hi f = minOver lo hi g :=
  maxOver_congr (α := αᵒᵈ) e

omit [LawfulVal α] in
theorem maxOver_eq_ninf {lo hi : Nat} (f : Nat → α) (h : hi ≤ lo) : maxOver lo hi f = ninf := by
  unfold maxOver
  rw [Nat.sub_eq_zero_of_le h]
  rfl

omit [LawfulVal α] in
theorem minOver_eq_pinf {lo hi : Nat} (f : Nat → α) (h : hi ≤ lo) : minOver lo hi f = pinf :=
  maxOver_eq_ninf (α := αᵒᵈ) f h

theorem maxOver_succ_right {lo hi : Nat} (f : Nat → α) (h : lo ≤ hi) :
    maxOver lo (hi + 1) f = max (maxOver lo hi f) (f hi) := by
  apply eq_of_ub
  intro c
  rw [max_le_iff, maxOver_le_iff, maxOver_le_iff]
  constructor
  · intro H
    exact ⟨fun t h1 h2 => H t h1 (Nat.lt_succ_of_lt h2), H hi h (Nat.lt_succ_self hi)⟩
  · rintro ⟨H1, H2⟩ t h1 h2
    rcases Nat.lt_succ_iff_lt_or_eq.1 h2 with h2 | rfl
    · exact H1 t h1 h2
    · exact H2

theorem minOver_succ_right {lo hi : Nat} (f : Nat → α) (h : lo ≤ hi) :
    minOver lo (hi + 1) f = min (minOver lo hi f) (f hi) :=
  maxOver_succ_right (α := αᵒᵈ) f h

theorem maxOver_succ_left {lo hi : Nat} (f : Nat → α) (h : lo < hi) :
    maxOver lo hi f = max (f lo) (maxOver (lo + 1) hi f) := by
  apply eq_of_ub
  intro c
  rw [max_le_iff, maxOver_le_iff, maxOver_le_iff]
  constructor
  · intro H
    exact ⟨H lo le_rfl h, fun t h1 h2 => H t (Nat.le_of_succ_le h1) h2⟩
  · rintro ⟨H1, H2⟩ t h1 h2
    rcases Nat.eq_or_lt_of_le h1 with rfl | h1
    · exact H1
    · exact H2 t h1 h2

theorem minOver_succ_left {lo hi : Nat} (f : Nat → α) (h : lo < hi) :
    minOver lo hi f = min (f lo) (minOver (lo + 1) hi f) :=
  maxOver_succ_left (α := αᵒᵈ) f h

theorem maxOver_single (k : Nat) (f : Nat → α) : maxOver k (k + 1) f = f k := by
  rw [maxOver_succ_right f le_rfl, maxOver_eq_ninf f le_rfl, LawfulVal.ninf_bot]
  exact max_eq_right bot_le

theorem maxOver_shift {lo hi : Nat} (d : Nat) {g f : Nat → α}
    (e : ∀ t, lo ≤ t → t < hi → g (t + d) = f t) : maxOver (lo + d) (hi + d) g = maxOver lo hi f := by
  apply eq_of_ub
  intro c
  rw [maxOver_le_iff, maxOver_le_iff]
  constructor
  · intro h t h1 h2
    rw [← e t h1 h2]
    exact h (t + d) (Nat.add_le_add_right h1 d) (Nat.add_lt_add_right h2 d)
  · intro h t h1 h2
    obtain ⟨u, rfl⟩ : ∃ u, t = u + d := ⟨t - d, by omega⟩
    rw [e u (Nat.le_of_add_le_add_right h1) (Nat.lt_of_add_lt_add_right h2)]
    exact h u (Nat.le_of_add_le_add_right h1) (Nat.lt_of_add_lt_add_right h2)

theorem minOver_single (k : Nat) (f : Nat → α) : minOver k (k + 1) f = f k :=
  maxOver_single (α := αᵒᵈ) k f

theorem minOver_shift {lo hi : Nat} (d : Nat) {g f : Nat → α}
    (e : ∀ t, lo ≤ t → t < hi → g (t + d) = f t) : minOver (lo + d) (hi + d) g = minOver lo hi f :=
  maxOver_shift (α := αᵒᵈ) d e

/-- Also over the empty window: both sides are `⊥`. -/
theorem min_maxOver (x : α) (lo hi : Nat) (f : Nat → α) :
    min x (maxOver lo hi f) = maxOver lo hi (fun t => min x (f t)) := by
  apply eq_of_ub
  intro c
  rw [min_le_iff, maxOver_le_iff, maxOver_le_iff]
  simp only [min_le_iff]
  by_cases hx : x ≤ c
  · simp [hx]
  · simp [hx]

theorem neg_maxOver (lo hi : Nat) (f : Nat → α) :
    Val.neg (maxOver lo hi f) = minOver lo hi (fun t => Val.neg (f t)) := by
  apply eq_of_lb
  intro c
  have swap : ∀ x : α, c ≤ Val.neg x ↔ x ≤ Val.neg c := fun x => by
    have := neg_le_neg_iff (Val.neg c) x
    rwa [LawfulVal.neg_neg] at this
  rw [le_minOver_iff, swap, maxOver_le_iff]
  simp only [swap]

/-- A maximum over windows is the maximum over their union. -/
theorem maxOver_maxOver {lo hi L H : Nat} {l h : Nat → Nat} (f : Nat → α)
    (sub : ∀ t, lo ≤ t → t < hi → ∀ u, l t ≤ u → u < h t → L ≤ u ∧ u < H)
    (cov : ∀ u, L ≤ u → u < H → ∃ t, lo ≤ t ∧ t < hi ∧ l t ≤ u ∧ u < h t) :
    maxOver lo hi (fun t => maxOver (l t) (h t) f) = maxOver L H f := by
  apply eq_of_ub
  intro c
  simp only [maxOver_le_iff]
  constructor
  · intro K u h1 h2
    obtain ⟨t, a1, a2, a3, a4⟩ := cov u h1 h2
    exact K t a1 a2 u a3 a4
  · intro K t h1 h2 u h3 h4
    exact K u (sub t h1 h2 u h3 h4).1 (sub t h1 h2 u h3 h4).2

end Rtamt
