/-
  The horizon visitor of `Pastify.lean` in closed form.
-/
import Rtamt.Discrete.Pastify

namespace Rtamt

variable {α : Type}

theorem hor?_eq (φ : F α) : hor? φ = bif φ.bounded then some (hor φ) else none := by
  induction φ with
  | var x => rfl
  | const c => rfl
  | un op φ ih => simpa only [hor?, hor, F.bounded] using ih
  | bin op φ ψ ih1 ih2 =>
      simp only [hor?, hor, F.bounded, ih1, ih2]
      cases φ.bounded <;> cases ψ.bounded <;> rfl
  | tmp1 op φ ih | tb1 op a b φ ih =>
      cases op <;> simp only [hor?, hor, F.bounded, ih] <;> cases φ.bounded <;> rfl
  | tmp2 op φ ψ ih1 ih2 | tb2 op a b φ ψ ih1 ih2 =>
      cases op <;> simp only [hor?, hor, F.bounded, ih1, ih2] <;> cases φ.bounded <;> cases ψ.bounded <;> rfl

end Rtamt
