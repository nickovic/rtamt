/-
  The `deque(maxlen = …)` of the bounded operations as `Offline.lean` and `Online.lean` model it (`dqPush`, and `pushN`
  for the `reset()` that refills it): pushing keeps the length, and `k` pushes of `x` shift `k` copies of `x` in.
-/
import Rtamt.Discrete.Online

namespace Rtamt

variable {α : Type}

theorem dqPush_length (l : List α) (x : α) : (dqPush l x).length = l.length := by
  simp [dqPush]

theorem pushN_succ (l : List α) (x : α) (k : Nat) : pushN l x (k + 1) = dqPush (pushN l x k) x := by
  induction k generalizing l with
  | zero => rfl
  | succ k ih => rw [pushN, ih]; rfl

theorem pushN_eq (x : α) (k : Nat) : ∀ l : List α, pushN l x k = (l ++ List.replicate k x).drop k := by
  induction k with
  | zero => intro l; simp [pushN]
  | succ k ih =>
    intro l
    rw [pushN, ih]
    cases l with
    | nil => simp [dqPush]
    | cons a l => simp [dqPush, List.replicate_succ]

theorem pushN_length (l : List α) (x : α) (k : Nat) : (pushN l x k).length = l.length := by
  rw [pushN_eq]; simp

end Rtamt
