/-
  The six operator classes of `F` by arity: a node with one operand (`Node1`) or with two (`Node2`), and the induction over
  formulas that goes by these two cases.  What the interpreters do at an operator node - the discrete and the dense online
  monitor, their name-keyed organisation, the translated visitors, the dense offline visitor - is stated once per arity.
  Of a node itself only its class (`F.kind`) and whether its interval is in order (`F.ivOk`) matter to the syntactic
  predicates: `kinds`, `vars` and `wf` are these plus what the operands contribute.
-/
import Rtamt.Syntax

namespace Rtamt

variable {α : Type}

def F.kind : F α → Kind
  | .var _ => .Variable
  | .const _ => .Constant
  | .un op _ => op.kind
  | .bin op _ _ => op.kind
  | .tmp1 op _ => op.kind
  | .tmp2 op _ _ => op.kind
  | .tb1 op _ _ _ => op.kind
  | .tb2 op _ _ _ _ => op.kind

def F.ivOk : F α → Prop
  | .tb1 _ a b _ => a ≤ b
  | .tb2 _ a b _ _ => a ≤ b
  | _ => True

namespace Dense.C09Dense

/-- `χ` is an operator node with the one operand `φ`. -/
inductive Node1 : F α → F α → Prop
  | un (op : Un) (φ : F α) : Node1 (.un op φ) φ
  | tmp1 (op : T1) (φ : F α) : Node1 (.tmp1 op φ) φ
  | tb1 (op : TB1) (a b : Nat) (φ : F α) : Node1 (.tb1 op a b φ) φ

/-- `χ` is an operator node with the two operands `φ`, `ψ`. -/
inductive Node2 : F α → F α → F α → Prop
  | bin (op : Bin) (φ ψ : F α) : Node2 (.bin op φ ψ) φ ψ
  | tmp2 (op : T2) (φ ψ : F α) : Node2 (.tmp2 op φ ψ) φ ψ
  | tb2 (op : TB2) (a b : Nat) (φ ψ : F α) : Node2 (.tb2 op a b φ ψ) φ ψ

theorem Node1.size {χ φ : F α} (hn : Node1 χ φ) : φ.size < χ.size := by cases hn <;> simp [F.size]

theorem Node2.size {χ φ ψ : F α} (hn : Node2 χ φ ψ) : φ.size + ψ.size < χ.size := by
  cases hn <;> simp [F.size]

theorem Node1.vars {χ φ : F α} (hn : Node1 χ φ) : χ.vars = φ.vars := by cases hn <;> rfl

theorem Node2.vars {χ φ ψ : F α} (hn : Node2 χ φ ψ) : χ.vars = φ.vars ++ ψ.vars := by cases hn <;> rfl

theorem nodeInduction {motive : F α → Prop} (var : ∀ x, motive (.var x)) (const : ∀ c, motive (.const c))
    (n1 : ∀ {χ φ}, Node1 χ φ → motive φ → motive χ)
    (n2 : ∀ {χ φ ψ}, Node2 χ φ ψ → motive φ → motive ψ → motive χ) (φ : F α) : motive φ := by
  induction φ with
  | var x => exact var x
  | const c => exact const c
  | un op φ ih => exact n1 (.un op φ) ih
  | tmp1 op φ ih => exact n1 (.tmp1 op φ) ih
  | tb1 op a b φ ih => exact n1 (.tb1 op a b φ) ih
  | bin op φ ψ ih1 ih2 => exact n2 (.bin op φ ψ) ih1 ih2
  | tmp2 op φ ψ ih1 ih2 => exact n2 (.tmp2 op φ ψ) ih1 ih2
  | tb2 op a b φ ψ ih1 ih2 => exact n2 (.tb2 op a b φ ψ) ih1 ih2

section
variable {χ φ ψ : F α}

theorem Node1.kind_ne_const (hn : Node1 χ φ) : χ.kind ≠ .Constant := by
  cases hn with
  | un op | tmp1 op | tb1 op => cases op <;> nofun

theorem Node2.kind_ne_const (hn : Node2 χ φ ψ) : χ.kind ≠ .Constant := by
  cases hn with
  | bin op | tmp2 op | tb2 op => cases op <;> nofun

theorem Node1.kinds (hn : Node1 χ φ) : χ.kinds = χ.kind :: φ.kinds := by cases hn <;> rfl

theorem Node2.kinds (hn : Node2 χ φ ψ) : χ.kinds = χ.kind :: (φ.kinds ++ ψ.kinds) := by cases hn <;> rfl

theorem Node1.wf (hn : Node1 χ φ) : χ.wf = true ↔ χ.ivOk ∧ φ.wf = true := by
  cases hn <;> simp [F.wf, F.ivOk]

theorem Node2.wf (hn : Node2 χ φ ψ) : χ.wf = true ↔ χ.ivOk ∧ φ.wf = true ∧ ψ.wf = true := by
  cases hn <;> simp [F.wf, F.ivOk, and_assoc]

end

end Dense.C09Dense

end Rtamt
