/-
  Offline list algorithms = README clauses: bounded once/historically
  (padded slices) and bounded eventually/always (three-piece construction).
-/
import RtamtProofs.Lemmas.Tab
import RtamtProofs.Lemmas.Lawful
import Rtamt.Discrete.Offline

namespace Rtamt
open Val

variable {α : Type} [Val α] [LawfulVal α]

omit [Val α] [LawfulVal α] in
theorem mem_slice {l : List α} {i j : Nat} {x : α} :
    x ∈ slice l i j ↔ ∃ k, i ≤ k ∧ k < j ∧ l[k]? = some x := by
  unfold slice
  rw [List.mem_iff_getElem?]
  constructor
  · rintro ⟨m, hm⟩
    rw [List.getElem?_take] at hm
    split at hm
    · rw [List.getElem?_drop] at hm
      exact ⟨i + m, Nat.le_add_right i m, Nat.add_lt_of_lt_sub' ‹_›, hm⟩
    · cases hm
  · rintro ⟨k, h1, h2, h3⟩
    obtain ⟨m, rfl⟩ := Nat.exists_eq_add_of_le h1
    refine ⟨m, ?_⟩
    rw [List.getElem?_take, if_pos (Nat.lt_sub_of_add_lt (Nat.add_comm i m ▸ h2)), List.getElem?_drop]
    exact h3

omit [Val α] [LawfulVal α] in
theorem slice_ne_nil {l : List α} {i j : Nat} (hi : i < l.length) (hij : i < j) :
    slice l i j ≠ [] := by
  have : l[i] ∈ slice l i j := mem_slice.2 ⟨i, le_rfl, hij, List.getElem?_eq_getElem hi⟩
  exact List.ne_nil_of_mem this

omit [Val α] [LawfulVal α] in
theorem mapM_range' {f : Nat → Except PyErr α} : ∀ (n s : Nat) (G : Nat → α),
    (∀ t, t < n → f (s + t) = .ok (G t)) → (List.range' s n).mapM f = .ok (tab n G)
  | 0, s, G, _ => by simp [tab, pure, Except.pure]
  | n + 1, s, G, h => by
    have h0 := h 0 (Nat.succ_pos n)
    rw [Nat.add_zero] at h0
    have ih := mapM_range' n (s + 1) (fun t => G (t + 1)) (fun t ht => by
      rw [Nat.add_assoc, Nat.add_comm 1 t]
      exact h (t + 1) (Nat.succ_lt_succ ht))
    rw [List.range'_succ, List.mapM_cons, tab_succ, h0, ih]
    rfl

/-- What the proofs need of an aggregator (`max`/`min` of a non-empty list) with its neutral
    padding element and the window operator of the specification. -/
def AggSpec (agg : List α → Except PyErr α) (pad : α) (over : Nat → Nat → (Nat → α) → α) : Prop :=
  (∀ (l : List α) (lo hi : Nat) (g : Nat → α), l ≠ [] →
    (∀ x ∈ l, x = pad ∨ ∃ k, lo ≤ k ∧ k < hi ∧ x = g k) →
    (∀ k, lo ≤ k → k < hi → g k ∈ l) → agg l = .ok (over lo hi g)) ∧
  (∀ (lo hi : Nat) (g : Nat → α), hi ≤ lo → over lo hi g = pad)

theorem aggSpec_max : AggSpec (α := α) pymax ninf maxOver := by
  refine ⟨?_, ?_⟩
  · intro l lo hi g hne h1 h2
    cases l with
    | nil => exact absurd rfl hne
    | cons x xs =>
      show Except.ok (lmaxFrom x xs) = _
      congr 1
      apply eq_of_ub
      intro c
      rw [lmaxFrom_le_iff, maxOver_le_iff]
      constructor
      · rintro ⟨hx, hxs⟩ k hk1 hk2
        rcases List.mem_cons.1 (h2 k hk1 hk2) with e | e
        · rw [e]; exact hx
        · exact hxs _ e
      · intro h
        have key : ∀ y ∈ x :: xs, y ≤ c := by
          intro y hy
          rcases h1 y hy with e | ⟨k, hk1, hk2, e⟩
          · rw [e, LawfulVal.ninf_bot]; exact bot_le
          · rw [e]; exact h k hk1 hk2
        exact ⟨key x List.mem_cons_self, fun y hy => key y (List.mem_cons_of_mem _ hy)⟩
  · intro lo hi g h
    exact maxOver_eq_ninf g h

theorem aggSpec_min : AggSpec (α := α) pymin pinf minOver :=
  aggSpec_max (α := αᵒᵈ)

omit [Val α] [LawfulVal α] in
/-- Windows of a padded table: the aggregate of a slice sees exactly the samples of `g` the slice
    covers, whatever padding lies before or behind them. -/
theorem agg_slice_padded {agg : List α → Except PyErr α} {pad : α}
    {over : Nat → Nat → (Nat → α) → α} (H : AggSpec agg pad over) (p n q : Nat) (g : Nat → α)
    (i j : Nat) (hi : i < p + n + q) (hij : i < j) :
    agg (slice (List.replicate p pad ++ tab n g ++ List.replicate q pad) i j) =
      .ok (over (i - p) (min j (p + n) - p) g) := by
  -- the doubled test `k < p` is what `getElem?_append` followed by `getElem?_replicate` leaves
  have hs : ∀ k, (List.replicate p pad ++ tab n g ++ List.replicate q pad)[k]? =
      if k < p + n then (if k < p then (if k < p then some pad else none)
        else if k - p < n then some (g (k - p)) else none)
      else if k - (p + n) < q then some pad else none := by
    intro k
    rw [List.getElem?_append, List.getElem?_append, List.getElem?_replicate, tab_getElem?,
      List.getElem?_replicate, List.length_append, List.length_replicate, tab_length]
  apply H.1
  · exact slice_ne_nil
      (by simpa only [List.length_append, List.length_replicate, tab_length] using hi) hij
  · intro x hx
    obtain ⟨k, hk1, hk2, hk3⟩ := mem_slice.1 hx
    rw [hs] at hk3
    split_ifs at hk3 with h1 h2 h3
    · exact .inl (Option.some.inj hk3).symm
    · exact .inr ⟨k - p, Nat.sub_le_sub_right hk1 p,
        Nat.sub_lt_sub_right (Nat.le_of_not_lt h2) (Nat.lt_min.2 ⟨hk2, h1⟩), (Option.some.inj hk3).symm⟩
    · exact .inl (Option.some.inj hk3).symm
  · intro k hk1 hk2
    obtain ⟨h1, h2⟩ := Nat.lt_min.1 (Nat.add_lt_of_lt_sub hk2)
    refine mem_slice.2 ⟨k + p, Nat.sub_le_iff_le_add.1 hk1, h1, ?_⟩
    rw [hs, if_pos h2, if_neg (Nat.not_lt.2 (Nat.le_add_left p k)), Nat.add_sub_cancel,
      if_pos (Nat.lt_of_add_lt_add_right (Nat.add_comm p n ▸ h2))]

omit [Val α] [LawfulVal α] in
theorem timedPast_gen {agg : List α → Except PyErr α} {pad : α}
    {over : Nat → Nat → (Nat → α) → α} (H : AggSpec agg pad over)
    (a b : Nat) (hab : a ≤ b) (n : Nat) (g : Nat → α) :
    timedPast agg pad a b (tab n g) = .ok (tab n (fun t => over (t - b) (t + 1 - a) g)) := by
  obtain ⟨d, rfl⟩ := Nat.exists_eq_add_of_le hab
  unfold timedPast
  simp only [List.length_append, List.length_replicate, tab_length]
  rw [Nat.add_sub_cancel_left]
  have h := agg_slice_padded H (a + d) n 0 g
  rw [List.replicate_zero, List.append_nil] at h
  apply mapM_range'
  intro t ht
  rw [Nat.add_sub_cancel_left, Nat.add_assoc a d t, Nat.add_sub_cancel_left,
    h _ _ (Nat.lt_add_left (a + d) ht) (Nat.lt_add_one_of_le (Nat.le_add_left t d)), Nat.min_eq_left (by omega),
    Nat.add_assoc d t 1, Nat.add_comm a d, Nat.add_sub_add_left]

theorem timedPast_once (a b : Nat) (hab : a ≤ b) (n : Nat) (g : Nat → α) :
    timedPast pymax ninf a b (tab n g) = .ok (tab n (fun t => maxOver (t - b) (t + 1 - a) g)) :=
  timedPast_gen aggSpec_max a b hab n g

theorem timedPast_hist (a b : Nat) (hab : a ≤ b) (n : Nat) (g : Nat → α) :
    timedPast pymin pinf a b (tab n g) = .ok (tab n (fun t => minOver (t - b) (t + 1 - a) g)) :=
  timedPast_gen aggSpec_min a b hab n g

omit [Val α] [LawfulVal α] in
theorem timedFuture_gen {agg : List α → Except PyErr α} {pad : α}
    {over : Nat → Nat → (Nat → α) → α} (H : AggSpec agg pad over)
    (a b : Nat) (hab : a ≤ b) (n : Nat) (g : Nat → α) :
    timedFuture agg pad a b (tab n g) =
      .ok (tab n (fun t => over (t + a) (min (t + b + 1) n) g)) := by
  obtain ⟨d, rfl⟩ := Nat.exists_eq_add_of_le hab
  unfold timedFuture
  simp only [tab_length, Nat.add_assoc, Nat.add_sub_cancel_left]
  -- both branches of the padding are `b + 1 - n` copies behind the table
  have hs : (if n ≤ a + d then tab n g ++ List.replicate (a + d - n + 1) pad else tab n g) =
      List.replicate 0 pad ++ tab n g ++ List.replicate (a + d + 1 - n) pad := by
    split
    · rw [Nat.sub_add_comm (m := 1) (by assumption)]; rfl
    · rw [Nat.sub_eq_zero_of_le (by omega)]; exact (List.append_nil _).symm
  rw [hs]
  -- all that matters of the padding: the padded table has the `b + 1` entries of the first piece
  obtain ⟨k, hk⟩ := Nat.exists_eq_add_of_le (show a + (d + 1) ≤ n + (a + d + 1 - n) by omega)
  generalize a + d + 1 - n = q at hk ⊢
  have hf := agg_slice_padded H 0 n q g
  simp only [Nat.zero_add, Nat.sub_zero] at hf
  simp only [List.length_append, List.length_replicate, tab_length, Nat.zero_add]
  rw [hk] at hf
  rw [hk, Nat.add_sub_cancel_left]
  rw [mapM_range' (d + 1) a (fun t => over (a + t) (min (a + t + (d + 1)) n) g)
      (fun t ht => hf _ _ (by omega) (Nat.lt_add_of_pos_right (Nat.succ_pos d))),
    mapM_range' k (a + (d + 1)) (fun t => over (a + (d + 1 + t)) (min (a + (d + 1 + t) + (d + 1)) n) g)
      (fun t ht => by rw [Nat.add_assoc a]; exact hf _ _ (by omega) (Nat.lt_add_of_pos_right (Nat.succ_pos d)))]
  show Except.ok (List.take n (tab _ _ ++ tab _ _ ++ _)) = _
  rw [tab_append, tab_length, tab_length, Nat.add_assoc a, Nat.add_sub_cancel]
  congr 1
  apply eq_tab_of_getElem?
  · simp only [List.length_take, List.length_append, List.length_replicate, tab_length]
    omega
  · intro t ht
    rw [List.getElem?_take, if_pos ht, List.getElem?_append, tab_length, tab_getElem?]
    split
    · rw [Nat.add_comm a t, Nat.add_assoc]
    · rw [List.getElem?_replicate, if_pos (by omega), H.2 _ _ _ (by omega)]

theorem timedFuture_ev (a b : Nat) (hab : a ≤ b) (n : Nat) (g : Nat → α) :
    timedFuture pymax ninf a b (tab n g) =
      .ok (tab n (fun t => maxOver (t + a) (min (t + b + 1) n) g)) :=
  timedFuture_gen aggSpec_max a b hab n g

theorem timedFuture_alw (a b : Nat) (hab : a ≤ b) (n : Nat) (g : Nat → α) :
    timedFuture pymin pinf a b (tab n g) =
      .ok (tab n (fun t => minOver (t + a) (min (t + b + 1) n) g)) :=
  timedFuture_gen aggSpec_min a b hab n g

end Rtamt
