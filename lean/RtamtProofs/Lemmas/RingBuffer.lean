/-
  Ring buffers of length `b + 1` over an operand on padded positions: the buffer of a bounded past operator starts as
  `b + 1` copies of the neutral element, so after `i` pushes it is the table of the padded operand at positions
  `i … i + b`, and a window of buffer indices is a window of positions of the operand.
-/
import RtamtProofs.Lemmas.Tab
import RtamtProofs.Lemmas.Lawful
import Rtamt.Discrete.Offline

namespace Rtamt
open Val

variable {α : Type} [Val α] [LawfulVal α]

theorem foldlM_ok {β γ : Type} (step : β → γ → Except PyErr β) (pstep : β → γ → β)
    (l : List γ) (init : β) (h : ∀ acc x, x ∈ l → step acc x = .ok (pstep acc x)) :
    l.foldlM step init = .ok (l.foldl pstep init) := by
  induction l generalizing init with
  | nil => rfl
  | cons x xs ih =>
    rw [List.foldlM_cons, h init x List.mem_cons_self]
    exact ih _ (fun acc y hy => h acc y (List.mem_cons_of_mem _ hy))

theorem idx_tab {β : Type} (n : Nat) (g : Nat → β) (i : Nat) (h : i < n) :
    idx (tab n g) i = .ok (g i) := by
  unfold idx
  rw [tab_getElem?, if_pos h]

theorem dqPush_tab {β : Type} (b : Nat) (F : Nat → β) (i : Nat) :
    dqPush (tab (b + 1) (fun k => F (i + k))) (F (i + b + 1)) =
      tab (b + 1) (fun k => F (i + 1 + k)) := by
  unfold dqPush
  apply eq_tab_of_getElem?
  · simp
  · intro t ht
    rw [List.getElem?_drop]
    by_cases h : t < b
    · rw [List.getElem?_append_left (by simp; omega), tab_getElem?, if_pos (by omega)]
      congr 2; omega
    · have : t = b := by omega
      subst this
      rw [List.getElem?_append_right (by simp; omega), tab_length]
      have e : 1 + t - (t + 1) = 0 := by omega
      rw [e]
      show some _ = some _
      congr 2; omega

/-- An operand on padded positions: `b + 1` copies of the neutral element, then `f`. -/
def padded (pad : α) (b : Nat) (f : Nat → α) (p : Nat) : α :=
  if p < b + 1 then pad else f (p - (b + 1))

omit [Val α] [LawfulVal α] in
theorem padded_lt (pad : α) (b : Nat) (f : Nat → α) (p : Nat) (h : p < b + 1) :
    padded pad b f p = pad := if_pos h

omit [Val α] [LawfulVal α] in
theorem padded_ge (pad : α) (b : Nat) (f : Nat → α) (p q : Nat) (h : p = q + b + 1) :
    padded pad b f p = f q := by
  subst h
  unfold padded
  rw [if_neg (by omega)]
  congr 1; omega

-- `0 + k`: literally the `i = 0` instance of the invariant "the buffer is the window at `i`".
omit [Val α] [LawfulVal α] in
theorem replicate_eq_tab_padded (pad : α) (b : Nat) (f : Nat → α) :
    List.replicate (b + 1) pad = tab (b + 1) (fun k => padded pad b f (0 + k)) := by
  apply eq_tab_of_getElem? (by simp)
  intro t ht
  rw [List.getElem?_replicate, if_pos ht, padded_lt _ _ _ _ (by omega)]

omit [Val α] [LawfulVal α] in
theorem dqPush_padded (pad : α) (b : Nat) (f : Nat → α) (i : Nat) :
    dqPush (tab (b + 1) fun k => padded pad b f (i + k)) (f i) = tab (b + 1) fun k => padded pad b f (i + 1 + k) := by
  rw [← dqPush_tab, padded_ge pad b f (i + b + 1) i rfl]

/-- Window re-indexing shared by `since` and `precedes`: buffer index `j` is position `t' = t + j - b`,
    the padding of the right operand is neutral, and `A`/`B` are the inner minimum in the two indexings. -/
theorem maxOver_pmin_padded (b : Nat) (g A B : Nat → α) (t lo hi : Nat)
    (hAB : ∀ j t', t + j = t' + b → A j = B t') :
    maxOver lo hi (fun j => pmin (A j) (padded ninf b g (t + 1 + j))) =
      maxOver (t + lo - b) (t + hi - b) (fun t' => pmin (g t') (B t')) := by
  apply eq_of_ub
  intro c
  rw [maxOver_le_iff, maxOver_le_iff]
  constructor
  · intro h t' h1 h2
    have := h (t' + b - t) (by omega) (by omega)
    rw [hAB _ t' (by omega), padded_ge _ _ _ _ t' (by omega), pmin_eq, min_comm] at this
    rwa [pmin_eq]
  · intro h j hj1 hj2
    by_cases hp : t + j < b
    · rw [padded_lt _ _ _ _ (by omega), pmin_eq, LawfulVal.ninf_bot]
      exact le_trans (min_le_right _ _) bot_le
    · have := h (t + j - b) (by omega) (by omega)
      rw [hAB j (t + j - b) (by omega), padded_ge _ _ _ _ (t + j - b) (by omega), pmin_eq, min_comm]
      rwa [pmin_eq] at this

theorem maxOver_padded (b : Nat) (g : Nat → α) (t lo hi : Nat) :
    maxOver lo hi (fun j => padded ninf b g (t + 1 + j)) = maxOver (t + lo - b) (t + hi - b) g := by
  have h := maxOver_pmin_padded b g (fun _ => pinf) (fun _ => pinf) t lo hi (fun _ _ _ => rfl)
  simpa only [pmin_eq, LawfulVal.pinf_top, min_eq_right le_top, min_eq_left le_top] using h

theorem minOver_padded (b : Nat) (g : Nat → α) (t lo hi : Nat) :
    minOver lo hi (fun j => padded pinf b g (t + 1 + j)) = minOver (t + lo - b) (t + hi - b) g :=
  maxOver_padded (α := αᵒᵈ) b g t lo hi

end Rtamt
