/-
  "The run does what the mirror does": `Sim x m Q` holds exactly when `Exc.Rel (fun r b => Q b r) x m` does, and is defined
  by cases on the mirror's outcome `m` alone.  The statements that relate translated code to a hand-written mirror all say
  that the run raises what the mirror raises, or returns a value related to the mirror's; the mirror, `exec` of a sequence,
  a method call and the runners are all `do` blocks, so the relation is established step by step along `>>=` (`Sim.bind`;
  `Sim.bind_right` / `Sim.bind_left` for a step that only the run or only the mirror makes), under a function mapped over
  the mirror's value (`Sim.map_left`; `Sim.eq_map` reads the judgment as an equation when the relation is an
  encoding), and along a loop with fuel over any state type (`Sim.loop`).
-/

namespace Rtamt.Exc

variable {ε ρ ρ' β β' σ τ : Type}

def Sim (x : Except ε ρ) (m : Except ε β) (Q : β → ρ → Prop) : Prop :=
  match m with
  | .ok b => ∃ r, x = .ok r ∧ Q b r
  | .error e => x = .error e

theorem Sim.ok {x : Except ε ρ} {b : β} {r : ρ} {Q : β → ρ → Prop} (hx : x = .ok r) (h : Q b r) : Sim x (.ok b) Q :=
  ⟨r, hx, h⟩

theorem Sim.of_ok {x : Except ε ρ} {m : Except ε β} {Q : β → ρ → Prop} {b : β} (h : Sim x m Q) (hm : m = .ok b) :
    ∃ r, x = .ok r ∧ Q b r := by
  subst hm; exact h

theorem Sim.of_error {x : Except ε ρ} {m : Except ε β} {Q : β → ρ → Prop} {e : ε} (h : Sim x m Q) (hm : m = .error e) :
    x = .error e := by
  subst hm; exact h

theorem Sim.mono {x : Except ε ρ} {m : Except ε β} {Q Q' : β → ρ → Prop} (h : Sim x m Q)
    (hq : ∀ b r, Q b r → Q' b r) : Sim x m Q' := by
  cases m with
  | error e => exact h
  | ok b => obtain ⟨r, hx, hr⟩ := h; exact ⟨r, hx, hq b r hr⟩

theorem Sim.bind {x : Except ε ρ} {m : Except ε β} {Q : β → ρ → Prop} {f : ρ → Except ε ρ'} {k : β → Except ε β'}
    {Q' : β' → ρ' → Prop} (h : Sim x m Q) (hk : ∀ b r, m = .ok b → Q b r → Sim (f r) (k b) Q') :
    Sim (x >>= f) (m >>= k) Q' := by
  cases m with
  | error e => rw [show x = .error e from h]; exact rfl
  | ok b => obtain ⟨r, rfl, hq⟩ := h; exact hk b r rfl hq

theorem Sim.bind_right {x : Except ε ρ} {m : Except ε β} {Q : β → ρ → Prop} {f : ρ → Except ε ρ'} {Q' : β → ρ' → Prop}
    (h : Sim x m Q) (hk : ∀ b r, Q b r → ∃ c, f r = .ok c ∧ Q' b c) : Sim (x >>= f) m Q' := by
  cases m with
  | error e => rw [show x = .error e from h]; exact rfl
  | ok b => obtain ⟨r, rfl, hq⟩ := h; exact hk b r hq

theorem Sim.bind_left {x : Except ε ρ} {m : Except ε β} {Q : β → ρ → Prop} {k : β → Except ε β'} {Q' : β' → ρ → Prop}
    (h : Sim x m Q) (hk : ∀ b r, m = .ok b → Q b r → Sim (.ok r) (k b) Q') : Sim x (m >>= k) Q' := by
  cases m with
  | error e => exact h
  | ok b => obtain ⟨r, rfl, hq⟩ := h; exact hk b r rfl hq

theorem Sim.map_left {x : Except ε ρ} {m : Except ε β} {Q : β' → ρ → Prop} (g : β → β')
    (h : Sim x m fun b r => Q (g b) r) : Sim x (g <$> m) Q := by
  cases m with
  | error e => exact h
  | ok b => exact h

theorem Sim.eq_map {x : Except ε ρ} {m : Except ε β} {enc : β → ρ} (h : Sim x m fun b r => r = enc b) :
    x = m.map enc := by
  cases m with
  | error e => exact h
  | ok b => obtain ⟨r, rfl, rfl⟩ := h; rfl

/-- `L n t` is the loop of the code run with fuel `n` from `t`, `M s` what the mirror's loop computes from `s`, `I s t` says
    that `t` holds `s`; `μ` bounds the iterations left. -/
theorem Sim.loop (L : Nat → τ → Except ε ρ) (M : σ → Except ε β) (I : σ → τ → Prop) (Q : β → ρ → Prop) (μ : σ → Nat)
    (hstep : ∀ n s t, I s t →
      Sim (L (n + 1) t) (M s) Q ∨ ∃ s' t', I s' t' ∧ μ s' < μ s ∧ M s = M s' ∧ L (n + 1) t = L n t') :
    ∀ n s t, I s t → μ s < n → Sim (L n t) (M s) Q := by
  intro n
  induction n with
  | zero => intro s t _ h; omega
  | succ n ih =>
      intro s t hI hμ
      rcases hstep n s t hI with h | ⟨s', t', hI', hlt, hM, hL⟩
      · exact h
      · rw [hM, hL]; exact ih s' t' hI' (by omega)

end Rtamt.Exc
