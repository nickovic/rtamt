/-
  C16 / C18 / C19 corollaries stated on the run of the TRANSLATED code.

  `RtamtProofs/DenseAlgCor.lean` (`C16_alg_settled`, `C18_alg_not_once_bounded`, `C18_alg_not_ev_bounded`) and
  `RtamtProofs/C19Alg.lean` (`C19_alg_sampled`, `C19_alg_dense_eq_discrete`) are proved on the hand-written mirrors
  `Dense.Alg.evalAlg` (dense-time offline) and `evalOff` (discrete-time offline).  Here they are composed with
    * `genD_eval_all` (RtamtProofs/GenDense.lean): with enough fuel for its `while` loops the dense-time offline visitor as
      translated from the Python source on this run, `Rtamt.Py.Dn.evalAlgG`, returns what `evalAlg` returns;
    * `genOff_eval` (RtamtProofs/GenOff.lean): the translated discrete-time offline visitor `Rtamt.Py.evalOffG` returns what
      `evalOff Generated.offlineDiscrete.handles` returns,
  so that the statements are about the lists the translated visitors return.  Every hypothesis of the mirror theorems is kept;
  only `∃ N, ∀ fuel, N ≤ fuel → …` is added (as in `C04_translated_eq_rhoD_partial`, RtamtProofs/GenDenseC04.lean).
-/
import RtamtProofs.GenDenseC04
import RtamtProofs.DenseAlgCor
import RtamtProofs.C19Alg
import RtamtProofs.GenOff

namespace Rtamt.Py.Dn
open Rtamt Val Rtamt.Dense Rtamt.Dense.Alg

variable {α : Type} [Val α] [LawfulVal α]

omit [Val α] [LawfulVal α] in
/-- `noIA` (RtamtProofs/Dense/AlgMain.lean) and `plain` (RtamtProofs/GenOff.lean) are the same predicate. -/
theorem noIA_plain (φ : F α) (h : noIA φ = true) : Rtamt.Py.plain φ = true := by
  induction φ with
  | var _ => rfl
  | const _ => rfl
  | un _ φ ih => simpa [Rtamt.Py.plain, noIA] using ih (by simpa [noIA] using h)
  | bin op φ ψ ih1 ih2 =>
      simp only [noIA, Bool.and_eq_true] at h
      obtain ⟨⟨h0, h1⟩, h2⟩ := h
      simp only [Rtamt.Py.plain, Bool.and_eq_true]
      exact ⟨⟨h0, ih1 h1⟩, ih2 h2⟩
  | tmp1 _ φ ih => simpa [Rtamt.Py.plain, noIA] using ih (by simpa [noIA] using h)
  | tmp2 _ φ ψ ih1 ih2 =>
      simp only [noIA, Bool.and_eq_true] at h
      simp only [Rtamt.Py.plain, Bool.and_eq_true]
      exact ⟨ih1 h.1, ih2 h.2⟩
  | tb1 _ _ _ φ ih => simpa [Rtamt.Py.plain, noIA] using ih (by simpa [noIA] using h)
  | tb2 _ _ _ φ ψ ih1 ih2 =>
      simp only [noIA, Bool.and_eq_true] at h
      simp only [Rtamt.Py.plain, Bool.and_eq_true]
      exact ⟨ih1 h.1, ih2 h.2⟩

omit [Val α] [LawfulVal α] in
/-- The grid fragment of C19 has no binary bounded temporal operator, hence no `precedes` node. -/
theorem gridFrag_noPrec (φ : F α) (h : φ.gridFrag = true) : Rtamt.Py.noPrec φ = true := by
  induction φ with
  | var _ => rfl
  | const _ => rfl
  | un _ φ ih => simpa [Rtamt.Py.noPrec] using ih (by simpa [F.gridFrag] using h)
  | bin op φ ψ ih1 ih2 =>
      simp only [F.gridFrag, Bool.and_eq_true] at h
      simp only [Rtamt.Py.noPrec, Bool.and_eq_true]
      exact ⟨ih1 h.1, ih2 h.2⟩
  | tmp1 _ φ ih =>
      simp only [F.gridFrag, Bool.and_eq_true] at h
      simpa [Rtamt.Py.noPrec] using ih h.2
  | tmp2 _ φ ψ _ _ => simp [F.gridFrag] at h
  | tb1 _ _ _ φ ih =>
      simp only [F.gridFrag, Bool.and_eq_true] at h
      simpa [Rtamt.Py.noPrec] using ih h.2
  | tb2 _ _ _ φ ψ _ _ => simp [F.gridFrag] at h

omit [Val α] [LawfulVal α] in
/-- Every node class of a formula of the grid fragment is overridden by the discrete-time offline visitor
    (regenerated table `Generated.offlineDiscrete.handles`). -/
theorem gridFrag_handles (φ : F α) (h : φ.gridFrag = true) :
    ∀ k ∈ φ.kinds, Generated.offlineDiscrete.handles k = true := by
  induction φ with
  | var _ => intro k hk; simp only [F.kinds, List.mem_singleton] at hk; subst hk; rfl
  | const _ => intro k hk; simp only [F.kinds, List.mem_singleton] at hk; subst hk; rfl
  | un op φ ih =>
      intro k hk
      simp only [F.kinds, List.mem_cons] at hk
      rcases hk with rfl | hk
      · exact Rtamt.Py.handles_un op
      · exact ih (by simpa [F.gridFrag] using h) k hk
  | bin op φ ψ ih1 ih2 =>
      simp only [F.gridFrag, Bool.and_eq_true] at h
      intro k hk
      simp only [F.kinds, List.mem_cons, List.mem_append] at hk
      rcases hk with rfl | hk | hk
      · exact Rtamt.Py.handles_bin op
      · exact ih1 h.1 k hk
      · exact ih2 h.2 k hk
  | tmp1 op φ ih =>
      simp only [F.gridFrag, Bool.and_eq_true] at h
      intro k hk
      simp only [F.kinds, List.mem_cons] at hk
      rcases hk with rfl | hk
      · exact Rtamt.Py.handles_t1 op
      · exact ih h.2 k hk
  | tmp2 _ φ ψ _ _ => simp [F.gridFrag] at h
  | tb1 op _ _ φ ih =>
      simp only [F.gridFrag, Bool.and_eq_true] at h
      intro k hk
      simp only [F.kinds, List.mem_cons] at hk
      rcases hk with rfl | hk
      · exact Rtamt.Py.handles_tb1 op
      · exact ih h.2 k hk
  | tb2 _ _ _ φ ψ _ _ => simp [F.gridFrag] at h

/-- **C16 on the translated source** (dense-time offline; hypotheses as in `C16_alg_settled`): with enough fuel, the lists
    the translated visitor returns for two sets of signals that agree up to `t + hor φ · scale` have the same value at `t` —
    a settled value does not depend on what the signals do later. -/
theorem C16_translated_dense_settled (cfg : DCfg) (hs : 0 ≤ cfg.scale) (w w' : DEnv α) (φ : F α)
    (hsup : supported φ = true) (hia : noIA φ = true) (hb : φ.bounded = true)
    (hw : w.WF φ.vars) (hw' : w'.WF φ.vars) (h0 : StartsAt0 w φ.vars) (h0' : StartsAt0 w' φ.vars)
    (hsub : ∀ a b : α, Val.neg (Val.sub a b) = Val.sub b a)
    (t : Rat) (ht : 0 ≤ t) (h : AgreeUpTo w w' φ.vars (t + (hor φ : Rat) * cfg.scale)) :
    ∃ N, ∀ fuel, N ≤ fuel → ∀ s s' : ASig α,
      evalAlgG fuel cfg w φ = .ok s → evalAlgG fuel cfg w' φ = .ok s' → valAtA s t = valAtA s' t := by
  obtain ⟨N1, hN1⟩ := genD_eval_all cfg w φ
  obtain ⟨N2, hN2⟩ := genD_eval_all cfg w' φ
  refine ⟨N1 + N2, fun fuel hf s s' he he' => ?_⟩
  rw [hN1 fuel (by omega)] at he
  rw [hN2 fuel (by omega)] at he'
  exact C16_alg_settled cfg hs w w' φ hsup hia hb hw hw' h0 h0' hsub t ht h he he'

/-- `equivD_alg` on the translated source: two formulas that denote the same dense robustness signal are evaluated by the
    translated visitor to lists that denote the same step function. -/
theorem equivD_translated (φ ψ : F α) (heq : EquivD φ ψ) (cfg : DCfg) (hs : 0 ≤ cfg.scale) (w : DEnv α)
    (hsφ : supported φ = true) (hsψ : supported ψ = true) (hiφ : noIA φ = true) (hiψ : noIA ψ = true)
    (hw : w.WF (φ.vars ++ ψ.vars)) (h0 : StartsAt0 w (φ.vars ++ ψ.vars))
    (hsub : ∀ a b : α, Val.neg (Val.sub a b) = Val.sub b a) :
    ∃ N, ∀ fuel, N ≤ fuel → ∀ s s' : ASig α,
      evalAlgG fuel cfg w φ = .ok s → evalAlgG fuel cfg w ψ = .ok s' → ∀ t : Rat, 0 ≤ t → valAtA s t = valAtA s' t := by
  obtain ⟨N1, hN1⟩ := genD_eval_all cfg w φ
  obtain ⟨N2, hN2⟩ := genD_eval_all cfg w ψ
  refine ⟨N1 + N2, fun fuel hf s s' he he' t ht => ?_⟩
  rw [hN1 fuel (by omega)] at he
  rw [hN2 fuel (by omega)] at he'
  exact equivD_alg φ ψ heq cfg hs w hsφ hsψ hiφ hiψ hw h0 hsub he he' t ht

/-- **C18 on the translated source**, bounded duality (dense-time offline; hypotheses as in `C18_alg_not_once_bounded`):
    with enough fuel, the list the translated visitor returns for `not once[a,b] p` and the one it returns for
    `historically[a,b] not p` are the same step function. -/
theorem C18_translated_not_once_bounded (a b : Nat) (hab : a ≤ b) (p : F α) (cfg : DCfg) (hs : 0 ≤ cfg.scale)
    (w : DEnv α) (hsp : supported p = true) (hip : noIA p = true) (hw : w.WF p.vars) (h0 : StartsAt0 w p.vars)
    (hsub : ∀ a b : α, Val.neg (Val.sub a b) = Val.sub b a) :
    ∃ N, ∀ fuel, N ≤ fuel → ∀ s s' : ASig α,
      evalAlgG fuel cfg w (.un .not (.tb1 .once a b p)) = .ok s →
      evalAlgG fuel cfg w (.tb1 .hist a b (.un .not p)) = .ok s' →
      ∀ t : Rat, 0 ≤ t → valAtA s t = valAtA s' t := by
  obtain ⟨N1, hN1⟩ := genD_eval_all cfg w (.un .not (.tb1 .once a b p))
  obtain ⟨N2, hN2⟩ := genD_eval_all cfg w (.tb1 .hist a b (.un .not p))
  refine ⟨N1 + N2, fun fuel hf s s' he he' t ht => ?_⟩
  rw [hN1 fuel (by omega)] at he
  rw [hN2 fuel (by omega)] at he'
  exact C18_alg_not_once_bounded a b hab p cfg hs w hsp hip hw h0 hsub he he' t ht

/-- … and for `not eventually[a,b] p` / `always[a,b] not p` (hypotheses as in `C18_alg_not_ev_bounded`). -/
theorem C18_translated_not_ev_bounded (a b : Nat) (hab : a ≤ b) (p : F α) (cfg : DCfg) (hs : 0 ≤ cfg.scale)
    (w : DEnv α) (hsp : supported p = true) (hip : noIA p = true) (hw : w.WF p.vars) (h0 : StartsAt0 w p.vars)
    (hsub : ∀ a b : α, Val.neg (Val.sub a b) = Val.sub b a) :
    ∃ N, ∀ fuel, N ≤ fuel → ∀ s s' : ASig α,
      evalAlgG fuel cfg w (.un .not (.tb1 .ev a b p)) = .ok s →
      evalAlgG fuel cfg w (.tb1 .alw a b (.un .not p)) = .ok s' →
      ∀ t : Rat, 0 ≤ t → valAtA s t = valAtA s' t := by
  obtain ⟨N1, hN1⟩ := genD_eval_all cfg w (.un .not (.tb1 .ev a b p))
  obtain ⟨N2, hN2⟩ := genD_eval_all cfg w (.tb1 .alw a b (.un .not p))
  refine ⟨N1 + N2, fun fuel hf s s' he he' t ht => ?_⟩
  rw [hN1 fuel (by omega)] at he
  rw [hN2 fuel (by omega)] at he'
  exact C18_alg_not_ev_bounded a b hab p cfg hs w hsp hip hw h0 hsub he he' t ht

/-- **C19 on the translated source**, dense side (hypotheses as in `C19_alg_sampled`): with enough fuel, the list the
    translated dense-time offline visitor returns for the sampled step signals, read at the sampling instant `k·P`, is the
    discrete-time semantics at `k`. -/
theorem C19_translated_sampled (P : Rat) (hP : 0 < P) (σ : String → Nat → α) (n : Nat) (φ : F α)
    (hfrag : φ.gridFrag = true) (hia : noIA φ = true) (xs : List String) (hxs : ∀ x ∈ φ.vars, x ∈ xs) (hnd : xs.Nodup)
    (hsub : ∀ a b : α, Val.neg (Val.sub a b) = Val.sub b a)
    (k : Nat) (hk : k + hor φ < n) :
    ∃ N, ∀ fuel, N ≤ fuel → ∀ s : ASig α,
      evalAlgG fuel { scale := P } (gridEnv P σ n xs) φ = .ok s →
      valAtA s ((k : Rat) * P) = some (rho σ n φ k) := by
  obtain ⟨N, hN⟩ := genD_eval_all { scale := P } (gridEnv P σ n xs) φ
  refine ⟨N, fun fuel hf s he => ?_⟩
  rw [hN fuel hf] at he
  exact C19_alg_sampled P hP σ n φ hfrag hia xs hxs hnd hsub k hk he

/-- **C19 on the two translated offline visitors** (hypotheses as in `C19_alg_dense_eq_discrete`, the table `h` of
    overridden node classes being the regenerated `Generated.offlineDiscrete.handles` that `genOff_eval` is about): with
    enough fuel, entry `k` of the list the translated discrete-time offline visitor `evalOffG` returns for the samples is the
    value at `k·P` of the list the translated dense-time offline visitor `evalAlgG` returns for the sampled step signals. -/
theorem C19_translated_dense_eq_discrete (w : Rtamt.Env α) (P : Rat) (hP : 0 < P) (σ : String → Nat → α) (n : Nat)
    (φ : F α) (hfrag : φ.gridFrag = true) (hia : noIA φ = true) (hwf : φ.wf = true)
    (hh : ∀ k ∈ φ.kinds, Generated.offlineDiscrete.handles k = true) (hp : φ.noPrecedes) (hw : w.Agrees σ n φ.vars)
    (xs : List String) (hxs : ∀ x ∈ φ.vars, x ∈ xs) (hnd : xs.Nodup)
    (hsub : ∀ a b : α, Val.neg (Val.sub a b) = Val.sub b a)
    (k : Nat) (hk : k + hor φ < n) :
    ∃ N, ∀ fuel, N ≤ fuel → ∀ s : ASig α,
      evalAlgG fuel { scale := P } (gridEnv P σ n xs) φ = .ok s →
      ∃ l, Rtamt.Py.evalOffG w n φ = .ok l ∧ (l[k]?) = valAtA s ((k : Rat) * P) := by
  obtain ⟨N, hN⟩ := genD_eval_all { scale := P } (gridEnv P σ n xs) φ
  refine ⟨N, fun fuel hf s he => ?_⟩
  rw [hN fuel hf] at he
  rw [Rtamt.Py.genOff_eval w n φ hwf (noIA_plain φ hia) (gridFrag_noPrec φ hfrag)]
  exact C19_alg_dense_eq_discrete Generated.offlineDiscrete.handles w P hP σ n φ hfrag hia hwf hh hp hw xs hxs hnd
    hsub k hk he

/-- The same with the two hypotheses that follow from `φ.gridFrag` (`hh`: every node class is overridden; `hp`: no
    `precedes` node) discharged. -/
theorem C19_translated_dense_eq_discrete' (w : Rtamt.Env α) (P : Rat) (hP : 0 < P) (σ : String → Nat → α) (n : Nat)
    (φ : F α) (hfrag : φ.gridFrag = true) (hia : noIA φ = true) (hwf : φ.wf = true) (hw : w.Agrees σ n φ.vars)
    (xs : List String) (hxs : ∀ x ∈ φ.vars, x ∈ xs) (hnd : xs.Nodup)
    (hsub : ∀ a b : α, Val.neg (Val.sub a b) = Val.sub b a)
    (k : Nat) (hk : k + hor φ < n) :
    ∃ N, ∀ fuel, N ≤ fuel → ∀ s : ASig α,
      evalAlgG fuel { scale := P } (gridEnv P σ n xs) φ = .ok s →
      ∃ l, Rtamt.Py.evalOffG w n φ = .ok l ∧ (l[k]?) = valAtA s ((k : Rat) * P) := by
  have hh := gridFrag_handles φ hfrag
  exact C19_translated_dense_eq_discrete w P hP σ n φ hfrag hia hwf hh (fun hmem => absurd (hh _ hmem) (by decide)) hw
    xs hxs hnd hsub k hk

end Rtamt.Py.Dn
