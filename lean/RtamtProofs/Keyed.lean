/-
  The name-keyed interpreter and the stand-alone monitors it refines, once for both time domains.

  `AbstractOnlineUpdateVisitor` is the same code for discrete and dense time: one operation object per node NAME in a
  dictionary, a per-update memo, the operands visited before the memo is looked at.  What differs is what an operation
  object is (`S`), what a visit returns (`V`), what `operator.update(args…)` does (`step`) and what a leaf yields in this
  round (`leaf`).  `visitK` / `roundK` / `runK` are that interpreter over these four.  `stepD` / `runD` are the stand-alone
  monitors of ALL formulas at once, as one function of an assignment `R` of states to formulas: every occurrence of a
  sub-formula in every stand-alone tree carries the state `R` gives it (the state trees of `Online.lean` and `AlgOn.lean`
  read off `R` step as `stepD` does: `C09.stepTree_treeOf`, `C09Dense.stepOn_treeOf`).

  `visitK_rel`: on a dictionary and memo that satisfy `Inv`, a visit returns what the stand-alone step returns - the
  value, or the exception.  `roundK_rel`: one `update()`.  `run_refines` / `run_conv`: whole runs, both directions.
  `roundK_frame`: an update re-binds operator sub-formulas of the assertions only.  `binds_of_postorder` / `binds_specs`:
  construction and reset are one memo-less post-order traversal of the dictionary.
-/
import Rtamt.Discrete.Program
import RtamtProofs.Lemmas.Assoc
import RtamtProofs.Lemmas.Node
import RtamtProofs.Lemmas.Exc

namespace Rtamt

open Rtamt.Exc (bind_eq_ok pure_eq_ok ok_bind Rel)

variable {α : Type}

namespace Dense.C09Dense

theorem Node1.subs {χ φ : F α} (hn : Node1 χ φ) : χ.opSubs = χ :: φ.opSubs := by cases hn <;> rfl

theorem Node2.subs {χ φ ψ : F α} (hn : Node2 χ φ ψ) : χ.opSubs = χ :: (φ.opSubs ++ ψ.opSubs) := by
  cases hn <;> rfl

end Dense.C09Dense

namespace Keyed
open Dense.C09Dense (Node1 Node2 nodeInduction)

theorem opSubs_induct {R : F α → F α → Prop} (hrefl : ∀ φ, R φ φ)
    (h1 : ∀ {ψ χ φ}, Node1 χ φ → R ψ φ → R ψ χ)
    (h2 : ∀ {ψ χ φ₁ φ₂}, Node2 χ φ₁ φ₂ → R ψ φ₁ ∨ R ψ φ₂ → R ψ χ) :
    ∀ {φ ψ : F α}, ψ ∈ φ.opSubs → R ψ φ := by
  intro φ
  induction φ using nodeInduction with
  | var x => exact nofun
  | const c => exact nofun
  | n1 hn ih =>
    intro ψ h
    rcases List.mem_cons.1 (hn.subs ▸ h) with rfl | h
    · exact hrefl _
    · exact h1 hn (ih h)
  | n2 hn ih1 ih2 =>
    intro ψ h
    rcases List.mem_cons.1 (hn.subs ▸ h) with rfl | h
    · exact hrefl _
    · exact h2 hn ((List.mem_append.1 h).imp ih1 ih2)

theorem opSubs_size {φ ψ : F α} (h : ψ ∈ φ.opSubs) : ψ.size ≤ φ.size :=
  opSubs_induct (R := fun ψ φ => ψ.size ≤ φ.size) (fun _ => Nat.le_refl _)
    (fun hn h => Nat.le_trans h (Nat.le_of_lt hn.size)) (fun hn h => by have := hn.size; omega) h

theorem opSubs_trans {φ ψ ψ' : F α} (h : ψ ∈ φ.opSubs) (h' : ψ' ∈ ψ.opSubs) : ψ' ∈ φ.opSubs :=
  opSubs_induct (R := fun ψ φ => ψ' ∈ ψ.opSubs → ψ' ∈ φ.opSubs) (fun _ h => h)
    (fun hn ih h => by simp [hn.subs, ih h]) (fun hn ih h => by rcases ih with ih | ih <;> simp [hn.subs, ih h]) h h'

theorem var_not_opSub (x : String) (φ : F α) : .var x ∉ φ.opSubs := by
  induction φ using nodeInduction with
  | var y => exact nofun
  | const c => exact nofun
  | n1 hn ih =>
    rw [hn.subs]
    exact fun h => (List.mem_cons.1 h).elim (fun e => by cases e; cases hn) ih
  | n2 hn ih1 ih2 =>
    rw [hn.subs]
    exact fun h => (List.mem_cons.1 h).elim (fun e => by cases e; cases hn) fun h => (List.mem_append.1 h).elim ih1 ih2

/-- Operator sub-formulas of the assertions: the keys of the dictionary. -/
def InSpecs (specs : List (F α)) (ψ : F α) : Prop := ∃ φ ∈ specs, ψ ∈ φ.opSubs

theorem inSpecs_sub {specs : List (F α)} {φ ψ : F α} (hφ : φ ∈ specs ∨ InSpecs specs φ) (hψ : ψ ∈ φ.opSubs) :
    InSpecs specs ψ := by
  rcases hφ with h | ⟨φ', h1, h2⟩
  · exact ⟨φ, h, hψ⟩
  · exact ⟨φ', h1, opSubs_trans h2 hψ⟩

theorem not_inSpecs_var (specs : List (F α)) (x : String) : ¬ InSpecs specs (.var x) :=
  fun ⟨φ, _, h⟩ => var_not_opSub x φ h

section Alone
variable {S V : Type} (step : F α → S → List V → Except PyErr (S × V))

/-- One step of the stand-alone monitor of a formula whose node `ψ` is in the state `R ψ` wherever it occurs: the new
    state of the root and the value. -/
def stepD (leaf : F α → V) (R : F α → S) : F α → Except PyErr (S × V)
  | .var x => .ok (R (.var x), leaf (.var x))
  | .const c => .ok (R (.const c), leaf (.const c))
  | .un op φ => do
      let p ← stepD leaf R φ
      step (.un op φ) (R (.un op φ)) [p.2]
  | .bin op φ ψ => do
      let p ← stepD leaf R φ
      let q ← stepD leaf R ψ
      step (.bin op φ ψ) (R (.bin op φ ψ)) [p.2, q.2]
  | .tmp1 op φ => do
      let p ← stepD leaf R φ
      step (.tmp1 op φ) (R (.tmp1 op φ)) [p.2]
  | .tmp2 op φ ψ => do
      let p ← stepD leaf R φ
      let q ← stepD leaf R ψ
      step (.tmp2 op φ ψ) (R (.tmp2 op φ ψ)) [p.2, q.2]
  | .tb1 op a b φ => do
      let p ← stepD leaf R φ
      step (.tb1 op a b φ) (R (.tb1 op a b φ)) [p.2]
  | .tb2 op a b φ ψ => do
      let p ← stepD leaf R φ
      let q ← stepD leaf R ψ
      step (.tb2 op a b φ ψ) (R (.tb2 op a b φ ψ)) [p.2, q.2]

/-- The states after the step (a node whose step raises keeps its state). -/
def nextD (leaf : F α → V) (R : F α → S) (ψ : F α) : S :=
  match stepD step leaf R ψ with
  | .ok p => p.1
  | .error _ => R ψ

/-- The run of the stand-alone monitor of `φ`; the list gives what the leaves yield in each round. -/
def runD (φ : F α) : (F α → S) → List (F α → V) → Except PyErr (List V)
  | _, [] => .ok []
  | R, l :: ls => do
      let p ← stepD step l R φ
      let os ← runD φ (nextD step l R) ls
      pure (p.2 :: os)

/-- The values of the assertions in their stand-alone monitors, in order. -/
def valsD (leaf : F α → V) (R : F α → S) : List (F α) → Except PyErr (List V)
  | [] => .ok []
  | φ :: rest => do
      let p ← stepD step leaf R φ
      let vs ← valsD leaf R rest
      pure (p.2 :: vs)

variable {step}

theorem _root_.Rtamt.Dense.C09Dense.Node1.stepD {χ φ : F α} (hn : Node1 χ φ) (leaf : F α → V) (R : F α → S) :
    stepD step leaf R χ = stepD step leaf R φ >>= fun p => step χ (R χ) [p.2] := by cases hn <;> rfl

theorem _root_.Rtamt.Dense.C09Dense.Node2.stepD {χ φ ψ : F α} (hn : Node2 χ φ ψ) (leaf : F α → V) (R : F α → S) :
    stepD step leaf R χ =
      stepD step leaf R φ >>= fun p => stepD step leaf R ψ >>= fun q => step χ (R χ) [p.2, q.2] := by
  cases hn <;> rfl

theorem _root_.Rtamt.Dense.C09Dense.Node1.stepD_ok {χ φ : F α} (hn : Node1 χ φ) {leaf : F α → V} {R : F α → S}
    {p : S × V} (hp : stepD step leaf R φ = .ok p) : stepD step leaf R χ = step χ (R χ) [p.2] := by
  rw [hn.stepD, hp, ok_bind]

theorem _root_.Rtamt.Dense.C09Dense.Node2.stepD_ok {χ φ ψ : F α} (hn : Node2 χ φ ψ) {leaf : F α → V} {R : F α → S}
    {p q : S × V} (hp : stepD step leaf R φ = .ok p) (hq : stepD step leaf R ψ = .ok q) :
    stepD step leaf R χ = step χ (R χ) [p.2, q.2] := by
  rw [hn.stepD, hp, ok_bind, hq, ok_bind]

theorem nextD_of_ok {leaf : F α → V} {R : F α → S} {ψ : F α} {p : S × V} (h : stepD step leaf R ψ = .ok p) :
    nextD step leaf R ψ = p.1 := by
  simp only [nextD, h]

theorem stepD_sub {leaf : F α → V} {R : F α → S} {φ ψ : F α} (h : ψ ∈ φ.opSubs) :
    (∃ p, stepD step leaf R φ = .ok p) → ∃ q, stepD step leaf R ψ = .ok q :=
  opSubs_induct (R := fun ψ φ => (∃ p, stepD step leaf R φ = .ok p) → ∃ q, stepD step leaf R ψ = .ok q)
    (fun _ h => h)
    (fun hn ih ⟨p, hp⟩ => by
      rw [hn.stepD] at hp
      obtain ⟨p1, h1, -⟩ := bind_eq_ok.1 hp
      exact ih ⟨p1, h1⟩)
    (fun hn ih ⟨p, hp⟩ => by
      rw [hn.stepD] at hp
      obtain ⟨p1, h1, hp⟩ := bind_eq_ok.1 hp
      obtain ⟨p2, h2, -⟩ := bind_eq_ok.1 hp
      exact ih.elim (fun ih => ih ⟨p1, h1⟩) (fun ih => ih ⟨p2, h2⟩)) h

/-- An operator node is the head of its own `opSubs`; a leaf always steps. -/
theorem stepD_of_subs {leaf : F α → V} {R : F α → S} {φ : F α}
    (h : ∀ ψ ∈ φ.opSubs, ∃ p, stepD step leaf R ψ = .ok p) : ∃ p, stepD step leaf R φ = .ok p := by
  cases φ with
  | var x => exact ⟨_, rfl⟩
  | const c => exact ⟨_, rfl⟩
  | _ => exact h _ (by simp [F.opSubs])

theorem runD_cons_iff {φ : F α} {R : F α → S} {l : F α → V} {ls : List (F α → V)} {os : List V} :
    runD step φ R (l :: ls) = .ok os ↔
      ∃ p os', stepD step l R φ = .ok p ∧ runD step φ (nextD step l R) ls = .ok os' ∧ os = p.2 :: os' := by
  simp only [runD, bind_eq_ok, pure_eq_ok]
  exact ⟨fun ⟨p, h1, os', h2, e⟩ => ⟨p, os', h1, h2, e.symm⟩, fun ⟨p, os', h1, h2, e⟩ => ⟨p, h1, os', h2, e.symm⟩⟩

theorem runD_sub {φ ψ : F α} (hψ : ψ ∈ φ.opSubs) : ∀ {ls : List (F α → V)} {R : F α → S},
    (∃ os, runD step φ R ls = .ok os) → ∃ os', runD step ψ R ls = .ok os'
  | [], _, _ => ⟨[], rfl⟩
  | l :: ls, R, ⟨os, h⟩ => by
    obtain ⟨p, os', h1, h2, -⟩ := runD_cons_iff.1 h
    obtain ⟨q, hq⟩ := stepD_sub hψ ⟨p, h1⟩
    obtain ⟨os2, h3⟩ := runD_sub hψ ⟨os', h2⟩
    exact ⟨_, runD_cons_iff.2 ⟨q, os2, hq, h3, rfl⟩⟩

end Alone

variable [DecidableEq α] {S V : Type}

/-- Operator dictionary and memo. -/
abbrev SM (α S V : Type) := List (F α × S) × List (F α × V)

def get (st : List (F α × S)) (k : F α) : Except PyErr S :=
  match st.lookup k with
  | some s => .ok s
  | none => .error .key

def set (st : List (F α × S)) (k : F α) (s : S) : List (F α × S) :=
  (k, s) :: st.filter (fun p => p.1 ≠ k)

theorem lookup_set_eq (k : F α) (s : S) (st : List (F α × S)) : List.lookup k (set st k s) = some s :=
  List.lookup_cons_self

theorem lookup_set_ne {k k' : F α} (h : k ≠ k') (s : S) (st : List (F α × S)) :
    List.lookup k (set st k' s) = st.lookup k := by
  unfold set
  rw [Assoc.lookup_cons_ne _ _ h, Assoc.lookup_filter k _ (fun _ => by simpa using h)]

theorem lookup_cons_ne_none {ψ χ : F α} {o : V} {m : List (F α × V)} :
    List.lookup ψ ((χ, o) :: m) ≠ none ↔ ψ = χ ∨ m.lookup ψ ≠ none := by
  by_cases h : ψ = χ
  · subst h; rw [List.lookup_cons_self]; exact ⟨fun _ => .inl rfl, fun _ => nofun⟩
  · rw [Assoc.lookup_cons_ne _ _ h]; exact ⟨.inr, fun h' => h'.resolve_left h⟩

/-- From the memo `m` to `m'` entries were only added, only for keys in `sub`, and all of `sub` is there afterwards. -/
def Grows (sub : List (F α)) (m m' : List (F α × V)) : Prop :=
  (∀ ψ, m.lookup ψ ≠ none → m'.lookup ψ ≠ none) ∧
  (∀ ψ, m'.lookup ψ ≠ none → m.lookup ψ ≠ none ∨ ψ ∈ sub) ∧
  ∀ ψ ∈ sub, m'.lookup ψ ≠ none

theorem Grows.refl {sub : List (F α)} {m : List (F α × V)} (h : ∀ ψ ∈ sub, m.lookup ψ ≠ none) : Grows sub m m :=
  ⟨fun _ h => h, fun _ h => .inl h, h⟩

theorem Grows.append {l1 l2 : List (F α)} {m m1 m2 : List (F α × V)} (h1 : Grows l1 m m1) (h2 : Grows l2 m1 m2) :
    Grows (l1 ++ l2) m m2 :=
  ⟨fun ψ h => h2.1 ψ (h1.1 ψ h),
   fun ψ h => (h2.2.1 ψ h).elim (fun h' => (h1.2.1 ψ h').imp_right (List.mem_append_left _))
     fun h' => .inr (List.mem_append_right _ h'),
   fun ψ h => (List.mem_append.1 h).elim (fun h' => h2.1 ψ (h1.2.2 ψ h')) (h2.2.2 ψ)⟩

theorem Grows.cons {sub : List (F α)} {m m' : List (F α × V)} (h : Grows sub m m') (χ : F α) (o : V) :
    Grows (χ :: sub) m ((χ, o) :: m') :=
  ⟨fun ψ hψ => lookup_cons_ne_none.2 (.inr (h.1 ψ hψ)),
   fun ψ hψ => (lookup_cons_ne_none.1 hψ).elim (fun e => .inr (e ▸ List.mem_cons_self))
     fun h' => (h.2.1 ψ h').imp_right (List.mem_cons_of_mem _),
   fun ψ hψ => lookup_cons_ne_none.2 ((List.mem_cons.1 hψ).imp_right (h.2.2 ψ))⟩

theorem Grows.fresh {sub : List (F α)} {m m' : List (F α × V)} (h : Grows sub m m') {χ : F α}
    (hl : m.lookup χ = none) (hχ : χ ∉ sub) : m'.lookup χ = none :=
  Classical.byContradiction fun hc => (h.2.1 χ hc).elim (fun h' => h' hl) hχ

def Touches (sub : List (F α)) (st st' : List (F α × S)) : Prop := ∀ ψ, ψ ∉ sub → st'.lookup ψ = st.lookup ψ

theorem Touches.refl (sub : List (F α)) (st : List (F α × S)) : Touches sub st st := fun _ _ => rfl

theorem Touches.append {l1 l2 : List (F α)} {st st1 st2 : List (F α × S)} (h1 : Touches l1 st st1)
    (h2 : Touches l2 st1 st2) : Touches (l1 ++ l2) st st2 :=
  fun ψ hψ => (h2 ψ fun h => hψ (List.mem_append_right _ h)).trans (h1 ψ fun h => hψ (List.mem_append_left _ h))

theorem Touches.set {sub : List (F α)} {st st1 : List (F α × S)} (h : Touches sub st st1) (χ : F α) (s : S) :
    Touches (χ :: sub) st (set st1 χ s) :=
  fun ψ hψ => (lookup_set_ne (fun e => hψ (by rw [e]; exact List.mem_cons_self)) s st1).trans
    (h ψ fun h' => hψ (List.mem_cons_of_mem _ h'))

/-- From the dictionary `st` to `st'` exactly the keys in `sub` were bound, each to its initial state. -/
def Binds (init : F α → S) (sub : List (F α)) (st st' : List (F α × S)) : Prop :=
  (∀ ψ ∈ sub, st'.lookup ψ = some (init ψ)) ∧ Touches sub st st'

theorem Binds.refl (init : F α → S) (st : List (F α × S)) : Binds init [] st st := ⟨nofun, fun _ _ => rfl⟩

theorem Binds.append {init : F α → S} {l1 l2 : List (F α)} {st st1 st2 : List (F α × S)}
    (h1 : Binds init l1 st st1) (h2 : Binds init l2 st1 st2) : Binds init (l1 ++ l2) st st2 := by
  refine ⟨fun ψ hψ => ?_, fun ψ hψ => ?_⟩
  · by_cases hin : ψ ∈ l2
    · exact h2.1 ψ hin
    · exact (h2.2 ψ hin).trans (h1.1 ψ ((List.mem_append.1 hψ).resolve_right hin))
  · exact h1.2.append h2.2 ψ hψ

theorem Binds.cons {init : F α → S} {sub : List (F α)} {st st1 st2 : List (F α × S)} {χ : F α}
    (h : Binds init sub st st1) (hχ : st2.lookup χ = some (init χ)) (hne : ∀ ψ, ψ ≠ χ → st2.lookup ψ = st1.lookup ψ) :
    Binds init (χ :: sub) st st2 := by
  refine ⟨fun ψ hψ => ?_, fun ψ hψ => ?_⟩
  · by_cases hk : ψ = χ
    · exact hk ▸ hχ
    · exact (hne ψ hk).trans (h.1 ψ ((List.mem_cons.1 hψ).resolve_left hk))
  · exact (hne ψ fun hk => hψ (hk ▸ List.mem_cons_self)).trans (h.2 ψ fun h' => hψ (List.mem_cons_of_mem _ h'))

section Interp
variable (step : F α → S → List V → Except PyErr (S × V))

/-- The part of `visitUnary` / `visitBinary` after the operands: the memo, or the object's `update`. -/
def finishK (k : F α) (args : List V) (sm : SM α S V) : Except PyErr (V × SM α S V) :=
  match sm.2.lookup k with
  | some v => .ok (v, sm)
  | none => do
      let s ← get sm.1 k
      let (s', o) ← step k s args
      pure (o, (set sm.1 k s', (k, o) :: sm.2))

def visitK (leaf : F α → V) : F α → SM α S V → Except PyErr (V × SM α S V)
  | .var x, sm => .ok (leaf (.var x), sm)
  | .const c, sm => .ok (leaf (.const c), sm)
  | .un op φ, sm => do
      let (s, sm1) ← visitK leaf φ sm
      finishK step (.un op φ) [s] sm1
  | .bin op φ ψ, sm => do
      let (s1, sm1) ← visitK leaf φ sm
      let (s2, sm2) ← visitK leaf ψ sm1
      finishK step (.bin op φ ψ) [s1, s2] sm2
  | .tmp1 op φ, sm => do
      let (s, sm1) ← visitK leaf φ sm
      finishK step (.tmp1 op φ) [s] sm1
  | .tmp2 op φ ψ, sm => do
      let (s1, sm1) ← visitK leaf φ sm
      let (s2, sm2) ← visitK leaf ψ sm1
      finishK step (.tmp2 op φ ψ) [s1, s2] sm2
  | .tb1 op a b φ, sm => do
      let (s, sm1) ← visitK leaf φ sm
      finishK step (.tb1 op a b φ) [s] sm1
  | .tb2 op a b φ ψ, sm => do
      let (s1, sm1) ← visitK leaf φ sm
      let (s2, sm2) ← visitK leaf ψ sm1
      finishK step (.tb2 op a b φ ψ) [s1, s2] sm2

/-- `visitAst`: the assertions in order. -/
def visitSpecsK (leaf : F α → V) : List (F α) → SM α S V → Except PyErr (List V × SM α S V)
  | [], sm => .ok ([], sm)
  | φ :: rest, sm => do
      let (v, sm1) ← visitK step leaf φ sm
      let (vs, sm2) ← visitSpecsK leaf rest sm1
      pure (v :: vs, sm2)

/-- One `update()`: fresh memo, all assertions. -/
def roundK (leaf : F α → V) (specs : List (F α)) (st : List (F α × S)) :
    Except PyErr (List V × List (F α × V) × List (F α × S)) := do
  let (vs, (st', mm)) ← visitSpecsK step leaf specs (st, [])
  pure (vs, mm, st')

/-- A sequence of `update()` calls: per call the values of the assertions and the memo. -/
def runK (specs : List (F α)) : List (F α × S) → List (F α → V) → Except PyErr (List (List V × List (F α × V)))
  | _, [] => .ok []
  | st, l :: ls => do
      let (vs, mm, st') ← roundK step l specs st
      let outs ← runK specs st' ls
      pure ((vs, mm) :: outs)

variable {step}

theorem _root_.Rtamt.Dense.C09Dense.Node1.visitK {χ φ : F α} (hn : Node1 χ φ) (leaf : F α → V) (sm : SM α S V) :
    visitK step leaf χ sm = visitK step leaf φ sm >>= fun p => finishK step χ [p.1] p.2 := by cases hn <;> rfl

theorem _root_.Rtamt.Dense.C09Dense.Node2.visitK {χ φ ψ : F α} (hn : Node2 χ φ ψ) (leaf : F α → V) (sm : SM α S V) :
    visitK step leaf χ sm =
      visitK step leaf φ sm >>= fun p => visitK step leaf ψ p.2 >>= fun q => finishK step χ [p.1, q.1] q.2 := by
  cases hn <;> rfl

theorem visitSpecsK_cons (leaf : F α → V) (φ : F α) (rest : List (F α)) (sm : SM α S V) :
    visitSpecsK step leaf (φ :: rest) sm =
      visitK step leaf φ sm >>= fun p => visitSpecsK step leaf rest p.2 >>= fun q => pure (p.1 :: q.1, q.2) := rfl

theorem roundK_eq (leaf : F α → V) (specs : List (F α)) (st : List (F α × S)) :
    roundK step leaf specs st = visitSpecsK step leaf specs (st, []) >>= fun q => pure (q.1, q.2.2, q.2.1) := rfl

theorem runK_cons (specs : List (F α)) (st : List (F α × S)) (l : F α → V) (ls : List (F α → V)) :
    runK step specs st (l :: ls) =
      roundK step l specs st >>= fun r => runK step specs r.2.2 ls >>= fun outs => pure ((r.1, r.2.1) :: outs) := rfl

theorem finishK_hit {k : F α} {args : List V} {sm : SM α S V} {v : V} (h : sm.2.lookup k = some v) :
    finishK step k args sm = .ok (v, sm) := by
  simp only [finishK, h]

theorem finishK_miss {k : F α} {args : List V} {sm : SM α S V} {s : S} (h : sm.2.lookup k = none)
    (hs : sm.1.lookup k = some s) :
    finishK step k args sm = step k s args >>= fun r => pure (r.2, (set sm.1 k r.1, (k, r.2) :: sm.2)) := by
  simp only [finishK, h, get, hs]
  rfl

/-- This is what makes "operands first, memo second" harmless. -/
theorem visitK_noop (leaf : F α → V) (φ : F α) (sm : SM α S V) :
    (∀ ψ ∈ φ.opSubs, sm.2.lookup ψ ≠ none) → ∃ v, visitK step leaf φ sm = .ok (v, sm) := by
  induction φ using nodeInduction with
  | var x => exact fun _ => ⟨_, rfl⟩
  | const c => exact fun _ => ⟨_, rfl⟩
  | n1 hn ih =>
    intro h
    rw [hn.subs] at h
    obtain ⟨v, hv⟩ := ih fun ψ hψ => h ψ (List.mem_cons_of_mem _ hψ)
    obtain ⟨w, hw⟩ := Option.ne_none_iff_exists'.1 (h _ List.mem_cons_self)
    exact ⟨w, by rw [hn.visitK, hv, ok_bind, finishK_hit hw]⟩
  | n2 hn ih1 ih2 =>
    intro h
    rw [hn.subs] at h
    obtain ⟨v1, hv1⟩ := ih1 fun ψ hψ => h ψ (List.mem_cons_of_mem _ (List.mem_append_left _ hψ))
    obtain ⟨v2, hv2⟩ := ih2 fun ψ hψ => h ψ (List.mem_cons_of_mem _ (List.mem_append_right _ hψ))
    obtain ⟨w, hw⟩ := Option.ne_none_iff_exists'.1 (h _ List.mem_cons_self)
    exact ⟨w, by rw [hn.visitK, hv1, ok_bind, hv2, ok_bind, finishK_hit hw]⟩

theorem visitK_touches (leaf : F α → V) (φ : F α) : ∀ (sm : SM α S V) (r : V × SM α S V),
    visitK step leaf φ sm = .ok r → Touches φ.opSubs sm.1 r.2.1 := by
  have fin : ∀ {k : F α} {args : List V} {sm : SM α S V} {r : V × SM α S V} {sub : List (F α)} {st : List (F α × S)},
      finishK step k args sm = .ok r → Touches sub st sm.1 → Touches (k :: sub) st r.2.1 := by
    intro k args sm r sub st h ht
    unfold finishK at h
    split at h
    · cases h; exact fun ψ hψ => ht ψ fun h' => hψ (List.mem_cons_of_mem _ h')
    · obtain ⟨s, -, h⟩ := bind_eq_ok.1 h
      obtain ⟨q, -, h⟩ := bind_eq_ok.1 h
      cases h
      exact ht.set k q.1
  induction φ using nodeInduction with
  | var x => intro sm r h; cases h; exact .refl _ _
  | const c => intro sm r h; cases h; exact .refl _ _
  | n1 hn ih =>
    intro sm r h
    rw [hn.visitK] at h
    obtain ⟨p, h1, h⟩ := bind_eq_ok.1 h
    exact hn.subs ▸ fin h (ih sm p h1)
  | n2 hn ih1 ih2 =>
    intro sm r h
    rw [hn.visitK] at h
    obtain ⟨p, h1, h⟩ := bind_eq_ok.1 h
    obtain ⟨q, h2, h⟩ := bind_eq_ok.1 h
    exact hn.subs ▸ fin h ((ih1 sm p h1).append (ih2 p.2 q h2))

/-- In particular nothing appears in the dictionary under the name of a variable (`not_inSpecs_var`). -/
theorem roundK_frame (leaf : F α → V) (specs : List (F α)) (st : List (F α × S))
    (r : List V × List (F α × V) × List (F α × S)) (h : roundK step leaf specs st = .ok r) :
    r.1.length = specs.length ∧ ∀ ψ, ¬ InSpecs specs ψ → r.2.2.lookup ψ = st.lookup ψ := by
  have loop : ∀ (specs : List (F α)) (sm : SM α S V) (q : List V × SM α S V),
      visitSpecsK step leaf specs sm = .ok q →
      q.1.length = specs.length ∧ ∀ ψ, ¬ InSpecs specs ψ → q.2.1.lookup ψ = sm.1.lookup ψ := by
    intro specs
    induction specs with
    | nil => intro sm q h; cases h; exact ⟨rfl, fun _ _ => rfl⟩
    | cons φ rest ih =>
      intro sm q h
      rw [visitSpecsK_cons] at h
      obtain ⟨p, h1, h⟩ := bind_eq_ok.1 h
      obtain ⟨q', h2, h⟩ := bind_eq_ok.1 h
      cases h
      obtain ⟨k1, k2⟩ := ih p.2 q' h2
      exact ⟨congrArg (· + 1) k1, fun ψ hψ =>
        (k2 ψ fun ⟨φ', h', h''⟩ => hψ ⟨φ', List.mem_cons_of_mem _ h', h''⟩).trans
          (visitK_touches leaf φ sm p h1 ψ fun h' => hψ ⟨φ, List.mem_cons_self, h'⟩)⟩
  rw [roundK_eq] at h
  obtain ⟨q, h1, h⟩ := bind_eq_ok.1 h
  cases h
  exact loop specs _ q h1

section Round
variable (leaf : F α → V) (U : F α → Prop) (R : F α → S)

/-- Every key is *pending* (not in the memo, its operator object in the state `R ψ`) or *done* (the memo holds the value of
    the stand-alone step, the dictionary its state, and all operator sub-formulas are done). -/
def Inv (sm : SM α S V) : Prop :=
  ∀ ψ, U ψ →
    (sm.2.lookup ψ = none → sm.1.lookup ψ = some (R ψ)) ∧
    (∀ w, sm.2.lookup ψ = some w →
      (∃ s', stepD step leaf R ψ = .ok (s', w) ∧ sm.1.lookup ψ = some s') ∧
      ∀ ψ' ∈ ψ.opSubs, sm.2.lookup ψ' ≠ none)

theorem Inv.init {st0 : List (F α × S)} (h0 : ∀ ψ, U ψ → st0.lookup ψ = some (R ψ)) :
    Inv (step := step) leaf U R (st0, []) :=
  fun ψ hψ => ⟨fun _ => h0 ψ hψ, fun _ hw => nomatch hw⟩

theorem Inv.cons {st1 st2 : List (F α × S)} {mm1 : List (F α × V)} {χ : F α} {r : S × V}
    (hinv : Inv (step := step) leaf U R (st1, mm1)) (hr : stepD step leaf R χ = .ok r)
    (hχ : st2.lookup χ = some r.1) (hne : ∀ ψ, ψ ≠ χ → st2.lookup ψ = st1.lookup ψ)
    (hdone : ∀ ψ ∈ χ.opSubs, List.lookup ψ ((χ, r.2) :: mm1) ≠ none) :
    Inv (step := step) leaf U R (st2, (χ, r.2) :: mm1) := by
  intro ψ hψ
  by_cases hψχ : ψ = χ
  · subst hψχ
    refine ⟨fun h => ?_, fun w hw => ?_⟩
    · rw [List.lookup_cons_self] at h; cases h
    · obtain rfl : r.2 = w := Option.some.inj ((List.lookup_cons_self).symm.trans hw)
      exact ⟨⟨r.1, hr, hχ⟩, hdone⟩
  · have hm : List.lookup ψ ((χ, r.2) :: mm1) = mm1.lookup ψ := Assoc.lookup_cons_ne _ _ hψχ
    refine ⟨fun h => ?_, fun w hw => ?_⟩
    · exact (hne ψ hψχ).trans ((hinv ψ hψ).1 (hm ▸ h))
    · obtain ⟨⟨s', hs', hl'⟩, hd'⟩ := (hinv ψ hψ).2 w (hm ▸ hw)
      exact ⟨⟨s', hs', (hne ψ hψχ).trans hl'⟩, fun ψ' hψ' => lookup_cons_ne_none.2 (.inr (hd' ψ' hψ'))⟩

/-- A visit against the stand-alone step: the same value, `Inv` kept, the memo grown by the operator sub-formulas - or the
    same exception. -/
def VisitRel (φ : F α) : Prop :=
  ∀ sm, Inv (step := step) leaf U R sm → (∀ ψ ∈ φ.opSubs, U ψ) →
    Rel (fun (p : S × V) (q : V × SM α S V) =>
        q.1 = p.2 ∧ Inv (step := step) leaf U R q.2 ∧ Grows φ.opSubs sm.2 q.2.2)
      (stepD step leaf R φ) (visitK step leaf φ sm)

/-- The end of a visit of the operator node `χ`, the operands (operator sub-formulas `subs`) visited from `sm` to `sm1`
    with the values `args`.  If `χ` was memoised at the start so was everything below it, the operands changed nothing
    and the memo answers; otherwise `χ` is still pending in `sm1` and its object is stepped from `R χ`, as in `stepD`. -/
theorem finish_rel {χ : F α} {subs : List (F α)} (hsubs : χ.opSubs = χ :: subs) (hχ : U χ) (hfresh : χ ∉ subs)
    {args : List V} (hstep : stepD step leaf R χ = step χ (R χ) args)
    {sm sm1 : SM α S V} (hinv : Inv (step := step) leaf U R sm) (hinv1 : Inv (step := step) leaf U R sm1)
    (hg1 : Grows subs sm.2 sm1.2)
    (hsame1 : (∀ ψ ∈ subs, sm.2.lookup ψ ≠ none) → sm1 = sm) :
    Rel (fun (p : S × V) (q : V × SM α S V) =>
        q.1 = p.2 ∧ Inv (step := step) leaf U R q.2 ∧ Grows χ.opSubs sm.2 q.2.2)
      (step χ (R χ) args) (finishK step χ args sm1) := by
  cases hl : sm.2.lookup χ with
  | some w0 =>
    obtain ⟨⟨s', hs', -⟩, hdone⟩ := (hinv χ hχ).2 w0 hl
    obtain rfl : sm1 = sm := hsame1 fun ψ hψ => hdone ψ (hsubs ▸ List.mem_cons_of_mem _ hψ)
    rw [← hstep, hs', finishK_hit hl]
    exact ⟨rfl, hinv, .refl hdone⟩
  | none =>
    have hl1 : sm1.2.lookup χ = none := hg1.fresh hl hfresh
    have hst1 : sm1.1.lookup χ = some (R χ) := (hinv1 χ hχ).1 hl1
    rw [finishK_miss hl1 hst1]
    cases hst : step χ (R χ) args with
    | error e => exact rfl
    | ok r =>
      have hg : Grows χ.opSubs sm.2 ((χ, r.2) :: sm1.2) := hsubs ▸ hg1.cons χ r.2
      exact ⟨rfl, hinv1.cons _ _ _ (hstep.trans hst) (lookup_set_eq _ _ _) (fun ψ h => lookup_set_ne h _ _) hg.2.2, hg⟩

theorem visitRel_node1 {χ φ : F α} (hn : Node1 χ φ) (ih : VisitRel (step := step) leaf U R φ) :
    VisitRel (step := step) leaf U R χ := by
  intro sm hinv hU
  have hsubs := hn.subs
  have hsz := hn.size
  rw [hn.visitK, hn.stepD]
  refine (ih sm hinv fun ψ hψ => hU ψ (hsubs ▸ List.mem_cons_of_mem _ hψ)).bind
    fun p q hd hv ⟨hq, hinv1, hg1⟩ => ?_
  rw [hq]
  refine finish_rel leaf U R hsubs (hU χ (hsubs ▸ List.mem_cons_self)) (fun h => by have := opSubs_size h; omega)
    (hn.stepD_ok hd) hinv hinv1 hg1 fun hall => ?_
  obtain ⟨v', h'⟩ := visitK_noop (step := step) leaf φ sm hall
  cases hv.symm.trans h'
  rfl

theorem visitRel_node2 {χ φ1 φ2 : F α} (hn : Node2 χ φ1 φ2) (ih1 : VisitRel (step := step) leaf U R φ1)
    (ih2 : VisitRel (step := step) leaf U R φ2) : VisitRel (step := step) leaf U R χ := by
  intro sm hinv hU
  have hsubs := hn.subs
  have hsz := hn.size
  rw [hn.visitK, hn.stepD]
  refine (ih1 sm hinv fun ψ hψ => hU ψ (hsubs ▸ List.mem_cons_of_mem _ (List.mem_append_left _ hψ))).bind
    fun p1 q1 hd1 hv1 ⟨hq1, hinv1, hg1⟩ => ?_
  refine (ih2 q1.2 hinv1 fun ψ hψ => hU ψ (hsubs ▸ List.mem_cons_of_mem _ (List.mem_append_right _ hψ))).bind
    fun p2 q2 hd2 hv2 ⟨hq2, hinv2, hg2⟩ => ?_
  rw [hq1, hq2]
  refine finish_rel leaf U R hsubs (hU χ (hsubs ▸ List.mem_cons_self))
    (fun h => by rcases List.mem_append.1 h with h | h <;> have := opSubs_size h <;> omega)
    (hn.stepD_ok hd1 hd2) hinv hinv2 (hg1.append hg2) fun hall => ?_
  obtain ⟨v1', h1⟩ := visitK_noop (step := step) leaf φ1 sm fun ψ hψ => hall ψ (List.mem_append_left _ hψ)
  cases hv1.symm.trans h1
  obtain ⟨v2', h2⟩ := visitK_noop (step := step) leaf φ2 sm fun ψ hψ => hall ψ (List.mem_append_right _ hψ)
  cases hv2.symm.trans h2
  rfl

theorem visitK_rel (φ : F α) : VisitRel (step := step) leaf U R φ := by
  induction φ using nodeInduction with
  | var x => intro sm hinv _; exact ⟨rfl, hinv, .refl nofun⟩
  | const c => intro sm hinv _; exact ⟨rfl, hinv, .refl nofun⟩
  | n1 hn ih => exact visitRel_node1 leaf U R hn ih
  | n2 hn ih1 ih2 => exact visitRel_node2 leaf U R hn ih1 ih2

theorem visitSpecsK_rel (specs : List (F α)) : ∀ sm, Inv (step := step) leaf U R sm →
    (∀ φ ∈ specs, ∀ ψ ∈ φ.opSubs, U ψ) →
    Rel (fun (vs : List V) (q : List V × SM α S V) =>
        q.1 = vs ∧ Inv (step := step) leaf U R q.2 ∧ (∀ ψ, sm.2.lookup ψ ≠ none → q.2.2.lookup ψ ≠ none) ∧
          (∀ φ ∈ specs, ∀ ψ ∈ φ.opSubs, q.2.2.lookup ψ ≠ none))
      (valsD step leaf R specs) (visitSpecsK step leaf specs sm) := by
  induction specs with
  | nil => intro sm hinv _; exact ⟨rfl, hinv, fun _ h => h, nofun⟩
  | cons φ rest ih =>
    intro sm hinv hU
    rw [valsD, visitSpecsK_cons]
    refine (visitK_rel leaf U R φ sm hinv (hU φ List.mem_cons_self)).bind fun p q _ _ ⟨hq, hinv1, hg1⟩ => ?_
    refine (ih q.2 hinv1 fun φ' hφ' => hU φ' (List.mem_cons_of_mem _ hφ')).bind
      fun vs q' _ _ ⟨hq', hinv2, hmono2, hdone2⟩ => ?_
    refine ⟨by rw [hq, hq'], hinv2, fun ψ h => hmono2 ψ (hg1.1 ψ h), fun φ' hφ' ψ hψ => ?_⟩
    rcases List.mem_cons.1 hφ' with rfl | h
    · exact hmono2 ψ (hg1.2.2 ψ hψ)
    · exact hdone2 φ' h ψ hψ

end Round

/-- One `update()` from a dictionary that binds the states `R`: the values of the stand-alone monitors, the memo holds the
    value and the dictionary the next state of every operator sub-formula of the assertions.  Or the exception of the first
    stand-alone monitor that raises. -/
theorem roundK_rel (leaf : F α → V) (R : F α → S) (specs : List (F α)) (st0 : List (F α × S))
    (h0 : ∀ ψ, InSpecs specs ψ → st0.lookup ψ = some (R ψ)) :
    Rel (fun (vs : List V) (r : List V × List (F α × V) × List (F α × S)) =>
        r.1 = vs ∧
        ∀ ψ, InSpecs specs ψ → ∃ p, stepD step leaf R ψ = .ok p ∧ r.2.1.lookup ψ = some p.2 ∧
          r.2.2.lookup ψ = some p.1)
      (valsD step leaf R specs) (roundK step leaf specs st0) := by
  rw [roundK_eq]
  rcases (visitSpecsK_rel leaf (InSpecs specs) R specs (st0, []) (.init _ _ _ h0)
      fun φ hφ ψ hψ => ⟨φ, hφ, hψ⟩).inv with ⟨e, hd, hv⟩ | ⟨vs, ⟨_, st', mm'⟩, hd, hv, rfl, hinv, -, hdone⟩ <;>
    rw [hd, hv]
  · exact rfl
  refine ⟨rfl, fun ψ ⟨φ, hφ, hψ⟩ => ?_⟩
  cases hl : mm'.lookup ψ with
  | none => exact absurd hl (hdone φ hφ ψ hψ)
  | some w =>
    obtain ⟨⟨s', hs', hst⟩, -⟩ := (hinv ψ ⟨φ, hφ, hψ⟩).2 w hl
    exact ⟨_, hs', rfl, hst⟩

/-- **The keyed interpreter refines the stand-alone monitors.**  From a dictionary that binds the states `R`: if the
    stand-alone monitor of every assertion runs through `ls` with the values `O φ`, the interpreter makes one round per
    element of `ls`, returns in round `j` the `j`-th value of every assertion, and its memo of round `j` holds the `j`-th value
    of the stand-alone run of every operator sub-formula of every assertion. -/
theorem run_refines (d : V) (specs : List (F α)) : ∀ (ls : List (F α → V)) (st0 : List (F α × S)) (R : F α → S)
    (O : F α → List V), (∀ ψ, InSpecs specs ψ → st0.lookup ψ = some (R ψ)) →
    (∀ φ, (φ ∈ specs ∨ InSpecs specs φ) → runD step φ R ls = .ok (O φ)) →
    ∃ rounds, runK step specs st0 ls = .ok rounds ∧ rounds.length = ls.length ∧
      ∀ j (hj : j < rounds.length),
        (rounds[j]).1 = specs.map (fun φ => (O φ).getD j d) ∧
        ∀ ψ, InSpecs specs ψ → (rounds[j]).2.lookup ψ = some ((O ψ).getD j d)
  | [], _, _, _, _, _ => ⟨[], rfl, rfl, fun j hj => absurd hj (by simp)⟩
  | l :: ls, st0, R, O, h0, hrun => by
    have hstep := fun φ hφ => runD_cons_iff.1 (hrun φ hφ)
    have hvals : ∀ specs' : List (F α), (∀ φ ∈ specs', φ ∈ specs) →
        valsD step l R specs' = .ok (specs'.map fun φ => (O φ).getD 0 d) := by
      intro specs'
      induction specs' with
      | nil => intro _; rfl
      | cons φ rest ih =>
        intro hsub
        obtain ⟨p, os', h1, -, h3⟩ := hstep φ (.inl (hsub φ List.mem_cons_self))
        rw [valsD, h1, ih fun φ' h => hsub φ' (List.mem_cons_of_mem _ h), List.map_cons, h3]
        rfl
    rcases (roundK_rel l R specs st0 h0).inv with ⟨e, hd, -⟩ | ⟨_, ⟨vs, mm, st'⟩, hd, hv, rfl, hpost⟩
    · rw [hvals specs fun _ h => h] at hd; cases hd
    rw [hvals specs fun _ h => h] at hd
    cases hd
    -- the dictionary after the round binds the next states of the stand-alone monitors: the argument iterates
    obtain ⟨rounds, hr, hlen, hrounds⟩ := run_refines d specs ls st' (nextD step l R) (fun φ => (O φ).tail)
      (fun ψ hψ => by
        obtain ⟨p, hp, -, hst⟩ := hpost ψ hψ
        rw [hst, nextD_of_ok hp])
      (fun φ hφ => by
        obtain ⟨p, os', -, h2, h3⟩ := hstep φ hφ
        rw [h2, h3]; rfl)
    refine ⟨(_, mm) :: rounds, by rw [runK_cons, hv, ok_bind, hr]; rfl, by simp [hlen], fun j hj => ?_⟩
    cases j with
    | zero =>
      refine ⟨rfl, fun ψ hψ => ?_⟩
      obtain ⟨p, hp, hm, -⟩ := hpost ψ hψ
      obtain ⟨p', os', h1, -, h3⟩ := hstep ψ (.inr hψ)
      rw [hp] at h1
      cases h1
      exact hm.trans (by rw [h3]; rfl)
    | succ j =>
      obtain ⟨h1, h2⟩ := hrounds j (by simpa using hj)
      refine ⟨h1.trans (List.map_congr_left fun φ _ => ?_), fun ψ hψ => (h2 ψ hψ).trans ?_⟩
      · cases O φ <;> simp
      · cases O ψ <;> simp

/-- **Conversely**: if the interpreter raises nothing, neither does the stand-alone monitor of any assertion or operator
    sub-formula. -/
theorem run_conv (specs : List (F α)) : ∀ (ls : List (F α → V)) (st0 : List (F α × S)) (R : F α → S)
    (rounds : List (List V × List (F α × V))), (∀ ψ, InSpecs specs ψ → st0.lookup ψ = some (R ψ)) →
    runK step specs st0 ls = .ok rounds →
    ∀ φ, (φ ∈ specs ∨ InSpecs specs φ) → ∃ os, runD step φ R ls = .ok os
  | [], _, _, _, _, _, _, _ => ⟨[], rfl⟩
  | l :: ls, st0, R, rounds, h0, hrun, φ, hφ => by
    rw [runK_cons] at hrun
    obtain ⟨⟨vs, mm, st'⟩, hround, hrun⟩ := bind_eq_ok.1 hrun
    obtain ⟨rounds', hrest, -⟩ := bind_eq_ok.1 hrun
    obtain ⟨_, -, -, hpost⟩ := Rel.ok_right.1 (hround ▸ roundK_rel l R specs st0 h0)
    obtain ⟨p, hp⟩ : ∃ p, stepD step l R φ = .ok p :=
      stepD_of_subs fun ψ hψ => (hpost ψ (inSpecs_sub hφ hψ)).imp fun _ h => h.1
    obtain ⟨os', hos'⟩ := run_conv specs ls st' (nextD step l R) rounds'
      (fun ψ hψ => by
        obtain ⟨p, hp, -, hst⟩ := hpost ψ hψ
        rw [hst, nextD_of_ok hp]) hrest φ hφ
    exact ⟨_, runD_cons_iff.2 ⟨p, os', hp, hos', rfl⟩⟩

end Interp

/-! ### construction and reset

  `set_ast` and `reset()` walk the assertions in post-order without a memo and end each operator node with one statement on
  the dictionary (`f χ`): what they leave is `Binds`. -/

theorem binds_of_postorder (g f : F α → List (F α × S) → Except PyErr (List (F α × S))) (init : F α → S)
    (hvar : ∀ x st, g (.var x) st = .ok st) (hconst : ∀ c st, g (.const c) st = .ok st)
    (h1 : ∀ {χ φ}, Node1 χ φ → ∀ st, g χ st = g φ st >>= f χ)
    (h2 : ∀ {χ φ ψ}, Node2 χ φ ψ → ∀ st, g χ st = g φ st >>= fun s => g ψ s >>= f χ)
    (hf : ∀ χ st st', f χ st = .ok st' → st'.lookup χ = some (init χ) ∧ ∀ ψ, ψ ≠ χ → st'.lookup ψ = st.lookup ψ)
    (φ : F α) : ∀ st st', g φ st = .ok st' → Binds init φ.opSubs st st' := by
  induction φ using nodeInduction with
  | var x => intro st st' h; cases (hvar x st).symm.trans h; exact .refl _ _
  | const c => intro st st' h; cases (hconst c st).symm.trans h; exact .refl _ _
  | n1 hn ih =>
    intro st st' h
    rw [h1 hn] at h
    obtain ⟨s1, k1, h⟩ := bind_eq_ok.1 h
    exact hn.subs ▸ (ih st s1 k1).cons (hf _ _ _ h).1 (hf _ _ _ h).2
  | n2 hn ih1 ih2 =>
    intro st st' h
    rw [h2 hn] at h
    obtain ⟨s1, k1, h⟩ := bind_eq_ok.1 h
    obtain ⟨s2, k2, h⟩ := bind_eq_ok.1 h
    exact hn.subs ▸ ((ih1 st s1 k1).append (ih2 s1 s2 k2)).cons (hf _ _ _ h).1 (hf _ _ _ h).2

theorem binds_specs (G : List (F α) → List (F α × S) → Except PyErr (List (F α × S)))
    (g : F α → List (F α × S) → Except PyErr (List (F α × S))) (init : F α → S)
    (hnil : ∀ st, G [] st = .ok st) (hcons : ∀ φ rest st, G (φ :: rest) st = g φ st >>= G rest)
    (hg : ∀ φ st st', g φ st = .ok st' → Binds init φ.opSubs st st') (specs : List (F α)) :
    ∀ st st', G specs st = .ok st' →
      (∀ ψ, InSpecs specs ψ → st'.lookup ψ = some (init ψ)) ∧ ∀ ψ, ¬ InSpecs specs ψ → st'.lookup ψ = st.lookup ψ := by
  induction specs with
  | nil => intro st st' h; cases (hnil st).symm.trans h; exact ⟨fun ψ ⟨_, h, _⟩ => (nomatch h), fun _ _ => rfl⟩
  | cons φ rest ih =>
    intro st st' h
    rw [hcons] at h
    obtain ⟨s1, k1, h⟩ := bind_eq_ok.1 h
    obtain ⟨b1, b2⟩ := hg φ st s1 k1
    obtain ⟨i1, i2⟩ := ih s1 st' h
    refine ⟨fun ψ ⟨φ', hφ', hψ⟩ => ?_, fun ψ hψ => ?_⟩
    · by_cases hin : InSpecs rest ψ
      · exact i1 ψ hin
      · rcases List.mem_cons.1 hφ' with rfl | h'
        · exact (i2 ψ hin).trans (b1 ψ hψ)
        · exact absurd ⟨φ', h', hψ⟩ hin
    · exact (i2 ψ fun ⟨φ', h', h''⟩ => hψ ⟨φ', List.mem_cons_of_mem _ h', h''⟩).trans
        (b2 ψ fun h' => hψ ⟨φ, List.mem_cons_self, h'⟩)

end Keyed

end Rtamt
