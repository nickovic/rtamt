/-
  The explainer as translated from the Python source denotes the exact mirror `explainU unionIvs`.

  `Rtamt/Py/GeneratedExpl.lean` is produced on every run by `harness/py2lean.py` from
  `rtamt/explanation/{ltl,stl}/discrete_time/explanations.py` (the functions, as methods of the deep embedding
  `Rtamt/Py/Sem.lean`) and `rtamt/explanation/{ltl,stl}/discrete_time/explainer.py` (the table of visit methods:
  which function for which polarity, with which polarity the operands are visited).  `Rtamt/Py/RunExpl.lean`
  (`explainG`) runs them with the dispatch of `StlAstVisitor.visit`.  A change of one of these files changes the
  generated terms and the equalities below have to be re-proved by the build.

  The translated code is the table of rules (`ExplRules.lean`): every one-operand function computes the list of its rule
  (`Rule.fn_spec`, whose cases are the `fn_*`), the two-operand ones their pair (`Rule.fn2_spec`), and the visit methods
  call the functions the table names (`resolveVisit_eq`, one evaluation over the node classes); `genExpl_explain` then
  has one case per shape of a visit method.

  With `RtamtProofs/C20Union.lean` the C20 theorem is carried over to the translated code
  (`C20_sufficient_translated_partial`).
-/
import RtamtProofs.GenExplLtlA
import RtamtProofs.GenExplLtlB
import RtamtProofs.GenExplStl
import RtamtProofs.C20Union
import RtamtProofs.Lemmas.Tab
import RtamtProofs.GenDispatch
import RtamtProofs.Lemmas.VisitName

namespace Rtamt

/-- Number of operands of a node class, as far as the explainer goes (`none`: it only raises). -/
def Kind.arity : Kind → Option Nat
  | .Variable | .Constant => some 0
  | .Since | .Until | .TimedSince | .TimedUntil | .TimedPrecedes => none
  | .Predicate | .Addition | .Subtraction | .Multiplication | .Division | .Pow | .Log | .Conjunction | .Disjunction
  | .Implies | .Iff | .Xor => some 2
  | _ => some 1

/-- The node classes whose visit method the explainer does not define (`visitChildren` of the base class). -/
def Kind.inherited : Kind → Bool
  | .Ln | .Negate | .Log => true
  | _ => false

/-- The windows whose function has a variant that scans the operand. -/
def Win.scans : Win → Bool
  | .toEnd | .fromZero | .fwd | .bwd => true
  | _ => false

end Rtamt

namespace Rtamt.Py
open Rtamt Val

variable {α : Type} [Val α]

/-- The result of the mirror in the types of the run of the translated code (`RTAMTException` for the operators the
    explainer does not implement). -/
def liftEx : Except Unit (List (String × Ivs)) → Except PyErr (List (String × IvsZ))
  | .ok ex => .ok (ex.map (fun p => (p.1, castI p.2)))
  | .error _ => .error .rtamt

/-- The tables of visit methods found in the source. -/
theorem genExpl_tables :
    Gen.Expl.ltlActions.map (·.1) =
      ["visitConstant", "visitPredicate", "visitVariable", "visitAddition", "visitMultiplication", "visitSubtraction",
       "visitDivision", "visitAbs", "visitSqrt", "visitExp", "visitPow", "visitRise", "visitFall", "visitNot", "visitAnd",
       "visitOr", "visitImplies", "visitIff", "visitXor", "visitEventually", "visitAlways", "visitUntil", "visitOnce",
       "visitPrevious", "visitStrongPrevious", "visitNext", "visitStrongNext", "visitHistorically", "visitSince"] ∧
    Gen.Expl.stlActions.map (·.1) =
      ["visitTimedEventually", "visitTimedAlways", "visitTimedUntil", "visitTimedOnce", "visitTimedHistorically",
       "visitTimedSince", "visitTimedPrecedes"] :=
  ⟨rfl, rfl⟩

omit [Val α] in
theorem ivsOf_encI (J : Ivs) : ivsOf (encI J : V α) = .ok (castI J) := by
  cases J <;> rfl

theorem liftEx_both (x y : Except Unit (List (String × Ivs))) :
    (do let a ← liftEx x; let b ← liftEx y; pure (a ++ b)) =
      liftEx (do let a ← x; let b ← y; pure (a ++ b)) := by
  cases x <;> cases y <;> simp [liftEx, bind, Except.bind, pure, Except.pure]

theorem inRange_nil (n : Nat) : InRange n [] := fun _ h => by cases h

theorem inRange_single {n b e : Nat} (h : e < n) : InRange n [(b, e)] := by
  intro p hp; simp only [List.mem_singleton] at hp; subst hp; exact h

theorem inRange_runsAll (p : Nat → Bool) {n : Nat} {I : Ivs} (h : InRange n I) : InRange n (runsAll p I) := by
  intro r hr
  rw [runsAll_eq, List.mem_flatMap] at hr
  obtain ⟨q, hq, hr⟩ := hr
  have := (runs_struct p q.1 q.2).1 r hr
  have := h q hq
  omega

theorem inRange_explNext {n : Nat} {I : Ivs} (h : InRange n I) : InRange n (explNext n I) := by
  intro r hr
  unfold explNext at hr
  rw [List.mem_filterMap] at hr
  obtain ⟨⟨b, e⟩, hq, hr⟩ := hr
  have := h _ hq
  dsimp only at hr this
  split at hr
  · cases hr; dsimp only; omega
  · split at hr
    · cases hr; exact this
    · cases hr

theorem inRange_explPrev {n : Nat} {I : Ivs} (h : InRange n I) : InRange n (explPrev I) := by
  intro r hr
  unfold explPrev at hr
  rw [List.mem_filterMap] at hr
  obtain ⟨⟨b, e⟩, hq, hr⟩ := hr
  have := h _ hq
  dsimp only at hr this
  split at hr
  · cases hr; dsimp only; omega
  · split at hr
    · cases hr; dsimp only; omega
    · cases hr

theorem inRange_fwdI {n : Nat} (hn : 0 < n) (a b : Nat) (I : Ivs) : InRange n (fwdI n a b I) := by
  intro r hr
  unfold fwdI at hr
  rw [List.mem_map] at hr
  obtain ⟨⟨x, y⟩, _, hr⟩ := hr
  cases hr; dsimp only; omega

theorem inRange_bwdI {n : Nat} (a b : Nat) {I : Ivs} (h : InRange n I) : InRange n (bwdI a b I) := by
  intro r hr
  unfold bwdI at hr
  rw [List.mem_map] at hr
  obtain ⟨⟨x, y⟩, hq, hr⟩ := hr
  have := h _ hq
  cases hr; dsimp only at this ⊢; omega

theorem inRange_unionStep {n : Nat} {out : Ivs} {p : Nat × Nat} (ho : InRange n out) (hp : p.2 < n) :
    InRange n (unionStep out p) := by
  unfold unionStep
  cases hq : out.getLast? with
  | none => exact inRange_single hp
  | some q =>
    have hq2 : q.2 < n := ho q (List.mem_of_getLast? hq)
    dsimp only
    split
    · intro r hr
      rw [List.mem_append] at hr
      rcases hr with hr | hr
      · exact ho r (List.dropLast_subset _ hr)
      · simp only [List.mem_singleton] at hr; subst hr; dsimp only; omega
    · intro r hr
      rw [List.mem_append] at hr
      rcases hr with hr | hr
      · exact ho r hr
      · simp only [List.mem_singleton] at hr; subst hr; exact hp

theorem inRange_foldl_unionStep {n : Nat} (L : Ivs) : ∀ (out : Ivs), InRange n out → InRange n L →
    InRange n (L.foldl unionStep out) := by
  induction L with
  | nil => intro out ho _; exact ho
  | cons p L ih =>
    intro out ho hL
    rw [List.foldl_cons]
    exact ih _ (inRange_unionStep ho (hL p (List.mem_cons_self ..))) (fun r hr => hL r (List.mem_cons_of_mem _ hr))

theorem inRange_unionIvs {n : Nat} {I : Ivs} (h : InRange n I) : InRange n (unionIvs I) := by
  unfold unionIvs
  apply inRange_foldl_unionStep _ _ (inRange_nil n)
  intro r hr
  unfold sortIvsN at hr
  exact h r ((List.mergeSort_perm _ _).mem_iff.1 hr)

/-! ### the runs only look at the signal inside the intervals -/

theorem runsLoop_congr (p q : Nat → Bool) (e : Nat) : ∀ (k i : Nat) (cur : Option Nat),
    (∀ j, i ≤ j → j < i + k → p j = q j) → runsLoop p e k i cur = runsLoop q e k i cur := by
  intro k
  induction k with
  | zero => intro i cur _; rfl
  | succ k ih =>
    intro i cur h
    have hi : p i = q i := h i (Nat.le_refl _) (by omega)
    have ih' : ∀ c, runsLoop p e k (i + 1) c = runsLoop q e k (i + 1) c :=
      fun c => ih (i + 1) c (fun j h1 h2 => h j (by omega) (by omega))
    unfold runsLoop
    rw [hi]
    simp only [ih']

theorem runs_congr {p q : Nat → Bool} {b e : Nat} (h : ∀ i, b ≤ i → i ≤ e → p i = q i) :
    runs p b e = runs q b e := by
  unfold runs
  exact runsLoop_congr p q e _ _ _ (fun j h1 h2 => h j h1 (by omega))

theorem runsAll_congr {p q : Nat → Bool} {I : Ivs} (h : ∀ r ∈ I, ∀ i, i ≤ r.2 → p i = q i) :
    runsAll p I = runsAll q I := by
  rw [runsAll_eq, runsAll_eq]
  exact List.flatMap_congr (fun r hr => runs_congr (fun i _ h2 => h r hr i h2))

theorem callFn_of {fs : List (String × Method)} {name : String} {m : Method} {args : List (V α)} {v : V α}
    (hm : fs.lookup name = some m) (hc : call m [] args = .ok ([], v)) : callFn fs name args = .ok v := by
  unfold callFn
  rw [hm]
  simp only [hc]
  rfl

theorem childIvs_raises1 {k : Kind} (sig : V α) (ab : Option (Nat × Nat)) (I : IvsZ) (flag : Bool)
    {fs : List (String × Method)} (hk : explAction k = some (.raises, fs)) :
    childIvs1 k sig ab I flag = .error .rtamt := by
  unfold childIvs1
  rw [hk]

theorem childIvs2_raises {k : Kind} (sig1 sig2 : V α) (I : IvsZ) (flag : Bool)
    {fs : List (String × Method)} (hk : explAction k = some (.raises, fs)) :
    childIvs2 k sig1 sig2 I flag = .error .rtamt := by
  unfold childIvs2
  rw [hk]

/-! ### `self.spec.results[ψ]` -/

def sg (σ : String → Nat → α) (n : Nat) (ψ : F α) : List α := tab n (rho σ n ψ)

theorem sg_length (σ : String → Nat → α) (n : Nat) (ψ : F α) : (sg σ n ψ).length = n := tab_length _ _

theorem atL_sg (σ : String → Nat → α) {n i : Nat} (ψ : F α) (h : i < n) : atL (sg σ n ψ) i = rho σ n ψ i := by
  simp [atL, sg, h, tab_getElem]

theorem lastEnd_lt {n : Nat} {I : Ivs} (hI : InRange n I) {e : Nat} (h : lastEnd I = some e) : e < n := by
  unfold lastEnd at h
  cases hl : I.getLast? with
  | none => rw [hl] at h; cases h
  | some q =>
    rw [hl] at h
    cases h
    exact hI q (List.mem_of_getLast? hl)

theorem inRange_first {n : Nat} (I : Ivs) {L : Nat → Ivs} (h : ∀ b, InRange n (L b)) :
    InRange n (match firstBegin I with | some b => L b | none => []) := by
  cases firstBegin I with
  | none => exact inRange_nil n
  | some b => exact h b

theorem inRange_last {n : Nat} {I : Ivs} (hI : InRange n I) {L : Nat → Ivs} (h : ∀ e, e < n → InRange n (L e)) :
    InRange n (match lastEnd I with | some e => L e | none => []) := by
  cases hb : lastEnd I with
  | none => exact inRange_nil n
  | some e =>
    exact h e (lastEnd_lt hI hb)

/-- A node with one operand: `r` is what the visit method hands to the operand (`hc`: the interval list `J` and the
    polarity `f`), `R` what the mirror makes of the same (`hR`).  Both are hypotheses, not arguments, so that a caller
    proves them by the lemma of the function called and by `rfl`. -/
theorem step1 {σ : String → Nat → α} {n : Nat} {φ : F α}
    (ih : ∀ (I : Ivs) (flag : Bool), InRange n I → explainG σ n φ (castI I) flag = liftEx (explainU unionIvs σ n φ I flag))
    {r : Except PyErr (Option (IvsZ × Bool))} {J : Ivs} {f : Bool}
    (hc : r = .ok (some (castI J, f))) (hJ : InRange n J)
    {R : Except Unit (List (String × Ivs))} (hR : explainU unionIvs σ n φ J f = R) :
    (do match (← r) with
        | some (J, f) => explainG σ n φ J f
        | none => pure []) = liftEx R := by
  subst hc hR
  exact ih J f hJ

/-- `step1` for a node with two operands. -/
theorem step2 {σ : String → Nat → α} {n : Nat} {φ ψ : F α}
    (ih1 : ∀ (I : Ivs) (flag : Bool), InRange n I → explainG σ n φ (castI I) flag = liftEx (explainU unionIvs σ n φ I flag))
    (ih2 : ∀ (I : Ivs) (flag : Bool), InRange n I → explainG σ n ψ (castI I) flag = liftEx (explainU unionIvs σ n ψ I flag))
    {r : Except PyErr (Option ((IvsZ × Bool) × (IvsZ × Bool)))} {J1 J2 : Ivs} {f1 f2 : Bool}
    (hc : r = .ok (some ((castI J1, f1), (castI J2, f2)))) (hJ1 : InRange n J1) (hJ2 : InRange n J2)
    {R : Except Unit (List (String × Ivs))}
    (hR : (do let a ← explainU unionIvs σ n φ J1 f1
              let b ← explainU unionIvs σ n ψ J2 f2
              pure (a ++ b)) = R) :
    (do match (← r) with
        | some ((J1, f1), (J2, f2)) => do
            let a ← explainG σ n φ J1 f1
            let b ← explainG σ n ψ J2 f2
            pure (a ++ b)
        | none => pure []) = liftEx R := by
  subst hc hR
  rw [← liftEx_both, ← ih1 J1 f1 hJ1, ← ih2 J2 f2 hJ2]
  rfl

/-- The function of `explanations.py` that computes the list of a window, with or without selection of the runs of
    polarity `pol`. -/
def winFn : Win → (sel pol : Bool) → Method
  | .same, _, _ => Gen.Expl.ltl_explain_unary
  | .next, _, _ => Gen.Expl.ltl_explain_next
  | .prev, _, _ => Gen.Expl.ltl_explain_prev
  | .toEnd, false, _ => Gen.Expl.ltl_explain_sat_always
  | .toEnd, true, true => Gen.Expl.ltl_explain_sat_eventually
  | .toEnd, true, false => Gen.Expl.ltl_explain_unsat_always
  | .fromZero, false, _ => Gen.Expl.ltl_explain_sat_historically
  | .fromZero, true, true => Gen.Expl.ltl_explain_sat_once
  | .fromZero, true, false => Gen.Expl.ltl_explain_unsat_historically
  | .fwd, false, _ => Gen.Expl.stl_explain_sat_timed_always
  | .fwd, true, true => Gen.Expl.stl_explain_sat_timed_eventually
  | .fwd, true, false => Gen.Expl.stl_explain_unsat_timed_always
  | .bwd, false, _ => Gen.Expl.stl_explain_sat_timed_historically
  | .bwd, true, true => Gen.Expl.stl_explain_sat_timed_once
  | .bwd, true, false => Gen.Expl.stl_explain_unsat_timed_historically

def _root_.Rtamt.Rule.fn (r : Rule) (flag : Bool) : Method := winFn r.win (r.selects flag) (r.flag flag)

/-- The function for the two operands of a point-wise operator. -/
def _root_.Rtamt.Rule.fn2 (r : Rule × Rule) (flag : Bool) : Method :=
  bif r.1.selects flag then LtlA.scanM (r.1.flag flag) (r.2.flag flag) else Gen.Expl.ltl_explain_binary

/-- The bounds a bounded window is called with. -/
def _root_.Rtamt.Win.extra (W : Win) (a b : Nat) : List (V α) := bif W.timed then [.int a, .int b] else []

theorem _root_.Rtamt.Rule.fn_spec (r : Rule) (hr : r.sel.isSome = true → r.win.scans = true) (flag : Bool) (s : List α)
    (hs : 0 < s.length) (a b : Nat) (I : Ivs) (hI : InRange s.length I) :
    call (r.fn flag) [] ([.list s, encI I] ++ r.win.extra a b) = .ok ([], encI (r.ivs unionIvs s.length a b (atL s) flag I)) := by
  have hr' : r.selects flag = true → r.win.scans = true := fun h => hr (by
    unfold Rule.selects at h; cases he : r.sel <;> simp [he] at h ⊢)
  unfold Rule.fn Rule.ivs
  generalize r.flag flag = pol at *
  generalize r.selects flag = sel at *
  generalize r.win = w at *
  cases sel
  · cases w
    · exact fn_unary s I
    · exact fn_next s I
    · exact fn_prev s I
    · exact fn_sat_always s hs I
    · exact fn_sat_historically s I
    · exact fn_sat_timed_always s hs a b I
    · exact fn_sat_timed_historically s a b I
  · cases pol <;> cases w <;> try (cases hr' rfl; done)
    · show call _ [] _ = .ok ([], encI (runsAll _ (Win.ivs _ a b .toEnd I)))
      rw [runsAll_toEnd]; exact fn_unsat_always s hs I
    · show call _ [] _ = .ok ([], encI (runsAll _ (Win.ivs _ a b .fromZero I)))
      rw [runsAll_fromZero]; exact fn_unsat_historically s I hI
    · exact fn_unsat_timed_always s hs a b I
    · exact fn_unsat_timed_historically s a b I hI
    · show call _ [] _ = .ok ([], encI (runsAll _ (Win.ivs _ a b .toEnd I)))
      rw [runsAll_toEnd]; exact fn_sat_eventually s hs I
    · show call _ [] _ = .ok ([], encI (runsAll _ (Win.ivs _ a b .fromZero I)))
      rw [runsAll_fromZero]; exact fn_sat_once s I hI
    · exact fn_sat_timed_eventually s hs a b I
    · exact fn_sat_timed_once s a b I hI

theorem _root_.Rtamt.Rule.fn2_spec (r : Rule × Rule) (hw : r.1.win = .same ∧ r.2.win = .same) (hsel : r.1.sel = r.2.sel)
    (flag : Bool) (s1 s2 : List α) (I : Ivs) (h1 : InRange s1.length I) (h2 : InRange s2.length I) :
    call (Rule.fn2 r flag) [] [.list s1, .list s2, encI I] =
      .ok ([], .pair (encI (r.1.ivs unionIvs s1.length 0 0 (atL s1) flag I))
        (encI (r.2.ivs unionIvs s2.length 0 0 (atL s2) flag I))) := by
  obtain ⟨⟨w1, sel1, neg1⟩, ⟨w2, sel2, neg2⟩⟩ := r
  obtain ⟨rfl, rfl⟩ := hw
  cases hsel
  unfold Rule.fn2 Rule.ivs
  show call (bif Rule.selects ⟨.same, sel1, neg1⟩ flag then _ else _) [] _ = .ok ([], .pair
    (encI (bif Rule.selects ⟨.same, sel1, neg1⟩ flag then _ else _)) (encI (bif Rule.selects ⟨.same, sel1, neg1⟩ flag then _ else _)))
  cases Rule.selects ⟨.same, sel1, neg1⟩ flag
  · exact fn_binary s1 s2 I
  · exact LtlA.scan_main _ _ s1 s2 I h1 h2

/-- What the visit method of a node class does, the names of the functions it calls looked up in the module that defines it. -/
inductive ExplVisit
  | children | leaf | raises | bad
  | un (sat unsat : Option Method) (timed neg : Bool)
  | bin (sat unsat : Option Method) (neg1 neg2 : Bool)
  deriving DecidableEq

def resolveVisit (k : Kind) : ExplVisit :=
  match explAction k with
  | none => .children
  | some (.leaf, _) => .leaf
  | some (.raises, _) => .raises
  | some (.un s u t ng, fs) => .un (fs.lookup s) (fs.lookup u) t ng
  | some (.bin s u n1 n2, fs) => .bin (fs.lookup s) (fs.lookup u) n1 n2
  | some (.unsupported _, _) => .bad

/-- The explainer the table of rules describes. -/
def ruleVisit (k : Kind) : ExplVisit :=
  bif k.inherited then .children else
  match k.arity with
  | none => .raises
  | some 0 => .leaf
  | some 1 => .un (some (k.rule.fn true)) (some (k.rule.fn false)) k.rule.win.timed k.rule.neg
  | some _ => .bin (some (Rule.fn2 k.rules true)) (some (Rule.fn2 k.rules false)) k.rules.1.neg k.rules.2.neg

/-- The node classes in the order of the visit methods of `STLExplainer` and of the `LTLExplainer` it inherits from. -/
def stlOrder : List Kind :=
  [.TimedEventually, .TimedAlways, .TimedUntil, .TimedOnce, .TimedHistorically, .TimedSince, .TimedPrecedes]

def ltlOrder : List Kind :=
  [.Constant, .Predicate, .Variable, .Addition, .Multiplication, .Subtraction, .Division, .Abs, .Sqrt, .Exp, .Pow, .Rise, .Fall,
   .Neg, .Conjunction, .Disjunction, .Implies, .Iff, .Xor, .Eventually, .Always, .Until, .Once, .Previous, .StrongPrevious, .Next,
   .StrongNext, .Historically, .Since]

/-- The two tables of visit methods searched by node class. -/
theorem explAction_eq (k : Kind) : explAction k =
    match (stlOrder.zip (Gen.Expl.stlActions.map Prod.snd)).lookup k with
    | some a => some (a, Gen.Expl.stlFuncs)
    | none => ((ltlOrder.zip (Gen.Expl.ltlActions.map Prod.snd)).lookup k).map (fun a => (a, Gen.Expl.ltlFuncs)) := by
  rw [explAction, lookup_of_keys (ks := stlOrder) rfl, lookup_of_keys (ks := ltlOrder) rfl]
  rfl

/-- The visit method of the class found, with the two function names looked up in the module of that class: one evaluation
    over the node classes, and the function names are compared nowhere else. -/
theorem resolveVisit_eq (k : Kind) : resolveVisit k = ruleVisit k := by
  rw [resolveVisit, explAction_eq]
  revert k
  exact Kind.forall_of_all (by decide +kernel)

/-- What the proofs use of the table of rules, node class by node class. -/
theorem rule_table : ∀ k : Kind, (k.rule.sel.isSome = true → k.rule.win.scans = true) ∧
    (k.inherited = true → k.rule = { win := .same } ∧ k.rules = ({ win := .same }, { win := .same })) ∧
    (k.rules.1.win = .same ∧ k.rules.2.win = .same) ∧ k.rules.1.sel = k.rules.2.sel :=
  Kind.forall_of_all (by decide +kernel)

theorem winInRange {n : Nat} (hn : 0 < n) (a b : Nat) {I : Ivs} (hI : InRange n I) : ∀ W : Win, InRange n (W.ivs n a b I)
  | .same => hI
  | .next => inRange_explNext hI
  | .prev => inRange_explPrev hI
  | .toEnd => inRange_first I fun _ => inRange_single (by omega)
  | .fromZero => inRange_last hI fun _ he => inRange_single he
  | .fwd => inRange_fwdI hn a b I
  | .bwd => inRange_bwdI a b hI

theorem _root_.Rtamt.Rule.inRange (r : Rule) {n : Nat} (hn : 0 < n) (a b : Nat) (s : Nat → α) (flag : Bool) {I : Ivs}
    (hI : InRange n I) : InRange n (r.ivs unionIvs n a b s flag I) := by
  have h : InRange n (bif r.selects flag then runsAll (fun i => polTest (r.flag flag) (s i)) (r.win.ivs n a b I)
      else r.win.ivs n a b I) := by
    cases r.selects flag
    · exact winInRange hn a b hI _
    · exact inRange_runsAll _ (winInRange hn a b hI _)
  unfold Rule.ivs
  cases r.win.timed
  · exact h
  · exact inRange_unionIvs h

/-- A rule looks at the operand inside the trace only. -/
theorem _root_.Rtamt.Rule.ivs_congr (r : Rule) (u : Ivs → Ivs) {n : Nat} (hn : 0 < n) (a b : Nat) {s s' : Nat → α}
    (h : ∀ i, i < n → s i = s' i) (flag : Bool) {I : Ivs} (hI : InRange n I) :
    r.ivs u n a b s flag I = r.ivs u n a b s' flag I := by
  unfold Rule.ivs
  cases r.selects flag
  · rfl
  · rw [show runsAll (fun i => polTest (r.flag flag) (s i)) (r.win.ivs n a b I) =
        runsAll (fun i => polTest (r.flag flag) (s' i)) (r.win.ivs n a b I)
      from runsAll_congr fun q hq i hi => by rw [h i (lt_of_le_of_lt hi (winInRange hn a b hI _ q hq))]]

theorem sigOf_eq (σ : String → Nat → α) (n : Nat) (φ : F α) : sigOf σ n φ = .list (sg σ n φ) := rfl

/-- `explAction` read through the table of rules. -/
theorem explAction_rule (k : Kind) : match ruleVisit k with
    | .children => explAction k = none
    | .leaf => ∃ fs, explAction k = some (.leaf, fs)
    | .raises => ∃ fs, explAction k = some (.raises, fs)
    | .bad => ∃ w fs, explAction k = some (.unsupported w, fs)
    | .un m m' t ng => ∃ s u fs, explAction k = some (.un s u t ng, fs) ∧ fs.lookup s = m ∧ fs.lookup u = m'
    | .bin m m' n1 n2 => ∃ s u fs, explAction k = some (.bin s u n1 n2, fs) ∧ fs.lookup s = m ∧ fs.lookup u = m' := by
  rw [← resolveVisit_eq, resolveVisit]
  rcases explAction k with _ | ⟨_ | _ | _ | _ | _, fs⟩
  · rfl
  · exact ⟨_, rfl⟩
  · exact ⟨_, _, _, rfl, rfl, rfl⟩
  · exact ⟨_, _, _, rfl, rfl, rfl⟩
  · exact ⟨_, rfl⟩
  · exact ⟨_, _, rfl⟩

/-- The visit method of a one-operand node class hands its operand the list of the class's rule. -/
theorem childIvs1_rule (σ : String → Nat → α) {n : Nat} (hn : 0 < n) (φ : F α) {k : Kind} (hk : k.arity = some 1) (a b : Nat)
    {ab : Option (Nat × Nat)} (flag : Bool) (hab : k.rule.win.timed = true → ab = some (a, b))
    {I : Ivs} (hI : InRange n I) :
    childIvs1 k (sigOf σ n φ) ab (castI I) flag =
      .ok (some (castI (k.rule.ivs unionIvs n a b (rho σ n φ) flag I), k.rule.flag flag)) := by
  obtain ⟨hscan, hinh, -⟩ := rule_table k
  have h := explAction_rule k
  unfold childIvs1
  cases hin : k.inherited
  · simp only [ruleVisit, hin, hk, cond_false] at h
    obtain ⟨s, u, fs, hact, h1, h2⟩ := h
    have hm : fs.lookup (if flag then s else u) = some (k.rule.fn flag) := by cases flag <;> assumption
    have hcall := k.rule.fn_spec hscan flag (sg σ n φ) (by rw [sg_length]; exact hn) a b I (by rw [sg_length]; exact hI)
    rw [sg_length, Rule.ivs_congr _ _ hn a b (fun i hi => atL_sg σ φ hi) flag hI] at hcall
    rw [hact]
    unfold Win.extra at hcall
    cases ht : k.rule.win.timed <;> simp only [ht, cond_false, cond_true] at hcall
    · simp only [Bool.false_eq_true, if_false, ok_bind, sigOf_eq]
      rw [show encZ (castI I) = (encI I : V α) from rfl, callFn_of hm hcall, ok_bind, ivsOf_encI, ok_bind, Rule.flag]
      cases k.rule.neg <;> rfl
    · rw [hab ht]
      simp only [if_true, ok_bind, sigOf_eq]
      rw [show encZ (castI I) = (encI I : V α) from rfl, callFn_of hm hcall, ok_bind, ivsOf_encI, ok_bind, Rule.flag]
      cases k.rule.neg <;> rfl
  · simp only [ruleVisit, hin, cond_true] at h
    rw [h, (hinh hin).1]
    rfl

/-- The visit method of a two-operand node class hands its operands the lists of the class's rules. -/
theorem childIvs2_rule (σ : String → Nat → α) {n : Nat} (hn : 0 < n) (φ ψ : F α) {k : Kind} (hk : k.arity = some 2)
    (flag : Bool) {I : Ivs} (hI : InRange n I) :
    childIvs2 k (sigOf σ n φ) (sigOf σ n ψ) (castI I) flag =
      .ok (some ((castI (k.rules.1.ivs unionIvs n 0 0 (rho σ n φ) flag I), k.rules.1.flag flag),
        (castI (k.rules.2.ivs unionIvs n 0 0 (rho σ n ψ) flag I), k.rules.2.flag flag))) := by
  obtain ⟨-, hinh, hw, hsel⟩ := rule_table k
  have h := explAction_rule k
  unfold childIvs2
  cases hin : k.inherited
  · simp only [ruleVisit, hin, hk, cond_false] at h
    obtain ⟨s, u, fs, hact, h1, h2⟩ := h
    have hm : fs.lookup (if flag then s else u) = some (Rule.fn2 k.rules flag) := by cases flag <;> assumption
    have hcall := Rule.fn2_spec k.rules hw hsel flag (sg σ n φ) (sg σ n ψ) I (by rw [sg_length]; exact hI)
      (by rw [sg_length]; exact hI)
    rw [sg_length, sg_length, Rule.ivs_congr _ _ hn 0 0 (fun i hi => atL_sg σ φ hi) flag hI,
      Rule.ivs_congr _ _ hn 0 0 (fun i hi => atL_sg σ ψ hi) flag hI] at hcall
    rw [hact]
    simp only [sigOf_eq]
    rw [show encZ (castI I) = (encI I : V α) from rfl, callFn_of hm hcall]
    simp only [ok_bind, ivsOf_encI, Rule.flag]
    cases k.rules.1.neg <;> cases k.rules.2.neg <;> rfl
  · simp only [ruleVisit, hin, cond_true] at h
    rw [h, (hinh hin).2]
    rfl

/-- The translated explainer computes the interval lists of the exact mirror - lists and exceptions - from every
    interval list inside the trace. -/
theorem genExpl_explain (σ : String → Nat → α) (n : Nat) (hn : 0 < n) (φ : F α) (I : Ivs) (flag : Bool)
    (hI : InRange n I) :
    explainG σ n φ (castI I) flag = liftEx (explainU unionIvs σ n φ I flag) := by
  induction φ generalizing I flag with
  | var x => obtain ⟨fs, h⟩ := explAction_rule .Variable; rw [explainG, h]; rfl
  | const c => obtain ⟨fs, h⟩ := explAction_rule .Constant; rw [explainG, h]; rfl
  | un op φ ih =>
    rw [explainG, explainU_un]
    exact step1 ih (childIvs1_rule σ hn φ (by cases op <;> rfl) 0 0 flag (by cases op <;> exact fun h => absurd h (by decide)) hI)
      (Rule.inRange _ hn 0 0 _ flag hI) rfl
  | tmp1 op φ ih =>
    rw [explainG, explainU_tmp1]
    exact step1 ih (childIvs1_rule σ hn φ (by cases op <;> rfl) 0 0 flag (by cases op <;> exact fun h => absurd h (by decide)) hI)
      (Rule.inRange _ hn 0 0 _ flag hI) rfl
  | tb1 op a b φ ih =>
    rw [explainG, explainU_tb1]
    exact step1 ih (childIvs1_rule σ hn φ (by cases op <;> rfl) a b flag (fun _ => rfl) hI) (Rule.inRange _ hn a b _ flag hI) rfl
  | bin op φ ψ ih1 ih2 =>
    rw [explainG, explainU_bin]
    exact step2 ih1 ih2 (childIvs2_rule σ hn φ ψ (by cases op <;> rfl) flag hI) (Rule.inRange _ hn 0 0 _ flag hI)
      (Rule.inRange _ hn 0 0 _ flag hI) rfl
  | tmp2 op φ ψ ih1 ih2 =>
    have h := explAction_rule op.kind
    obtain ⟨fs, h⟩ : ∃ fs, explAction op.kind = some (.raises, fs) := by cases op <;> exact h
    rw [explainG, childIvs2_raises _ _ _ _ h]; rfl
  | tb2 op a b φ ψ ih1 ih2 =>
    have h := explAction_rule op.kind
    obtain ⟨fs, h⟩ : ∃ fs, explAction op.kind = some (.raises, fs) := by cases op <;> exact h
    rw [explainG, childIvs2_raises _ _ _ _ h]; rfl

/-- `explain()` of one assertion. -/
theorem genExpl_spec (σ : String → Nat → α) (n : Nat) (hn : 0 < n) (φ : F α) :
    explainSpecG σ n φ = liftEx (explainSpecU σ n φ) := by
  unfold explainSpecG explainSpecU
  split
  · exact genExpl_explain σ n hn φ [(0, 0)] false (inRange_single hn)
  · rfl

/-- Position `(x, t)` is reported by a run of the translated explainer. -/
def reportedZ (ex : List (String × IvsZ)) (x : String) (t : Nat) : Bool :=
  ex.any (fun (y, I) => y == x && I.any (fun (b, e) => decide (b ≤ (t : Int)) && decide ((t : Int) ≤ e)))

theorem reportedZ_cast (ex : List (String × Ivs)) (x : String) (t : Nat) :
    reportedZ (ex.map (fun p => (p.1, castI p.2))) x t = reported ex x t := by
  unfold reportedZ reported
  rw [List.any_map]
  congr 1
  funext p
  obtain ⟨y, I⟩ := p
  simp only [Function.comp_def, castI, List.any_map, Int.ofNat_le]

-- (`hwf` is not needed: `explFrag` has `a ≤ b` at every bounded operator)
set_option linter.unusedVariables false in
/-- C20 (partial, fragment `explFrag`) for the translated code: what the explainer - the functions and the visit methods
    translated from the source - reports for a violated assertion is a sufficient cause of the violation. -/
theorem C20_sufficient_translated_partial [LawfulVal α] (hz : Val.neg (Val.zero : α) = Val.zero)
    (σ σ' : String → Nat → α) (n : Nat) (hn : 0 < n) (φ : F α) (hwf : φ.wf = true)
    (hfrag : φ.explFrag = true) (ex : List (String × IvsZ))
    (hex : explainSpecG σ n φ = .ok ex) (hviol : isUnsat (rho σ n φ 0) = true)
    (hagree : ∀ x t, reportedZ ex x t = true → t < n → σ' x t = σ x t) :
    isUnsat (rho σ' n φ 0) = true := by
  have hspec := genExpl_spec σ n hn φ
  rw [hex] at hspec
  cases hU : explainSpecU σ n φ with
  | error e => rw [hU] at hspec; cases hspec
  | ok ex' =>
    rw [hU] at hspec
    have hmap : ex = ex'.map (fun p => (p.1, castI p.2)) := by
      simp only [liftEx] at hspec
      exact Except.ok.inj hspec
    subst hmap
    refine C20_sufficient_exact_partial hz σ σ' n hn φ hfrag ex' hU hviol (fun x t hr ht => ?_)
    exact hagree x t (by rw [reportedZ_cast]; exact hr) ht

/-- `interval_union` of the LTL module (the copy `Explanations.__setitem__` uses to merge the intervals recorded for a name that is
    explained more than once) is `unionIvs` too: the two modules carry the same function. -/
theorem fn_interval_union_ltl (I : Ivs) :
    call (α := α) Gen.Expl.ltl_interval_union [] [encI I] = .ok ([], encI (unionIvs I)) :=
  fn_interval_union I

/-- Every function of the two `explanations.py` modules lies inside the translated subset. -/
theorem genExpl_supported :
    (Gen.Expl.ltlFuncs ++ Gen.Expl.stlFuncs).all (fun p => p.2.supported) = true := by
  decide +kernel

end Rtamt.Py
