/-
  C12 — Named sub-formula values are the robustness of that sub-formula.

  "After evaluate() or update(), get_value(v) of an input variable returns the data
   supplied for it, and get_value(n) of every assertion or sub-specification name n
   returns exactly the result that evaluating the formula bound to n as a stand-alone
   specification … on the same data yields: the whole signal offline, with one value per
   sample in discrete time, and the current value online."

  `get_value(n)` reads `ast.results[node bound to n]`.  Offline the table is filled by
  `visit()` with the value list of every node (= `evalOff` of that node's formula); online it
  is the memo of the update visitor (`runProgram`, C09).
-/
import RtamtProofs.C09
import RtamtProofs.C01Table

set_option linter.unusedSectionVars false

namespace Rtamt
open Val

variable {α : Type} [Val α] [DecidableEq α] [LawfulVal α]

/-- Online: at every update `j`, the results table holds, for every assertion of the
    specification and every operator sub-formula `ψ` of it, the value that a stand-alone monitor
    of `ψ` returns at its `j`-th update, namely `rho ψ` at sample `j`. -/
theorem C12_online_get_value (h r : Kind → Bool) (specs : List (F α)) (σ : String → Nat → α) (n : Nat)
    (hon : ∀ φ ∈ specs, φ.online = true ∧ φ.wf = true)
    (hh : ∀ φ ∈ specs, ∀ k ∈ φ.kinds, k ≠ .Constant → (h k = true ∧ r k = false))
    (φ : F α) (hφ : φ ∈ specs) (ψ : F α) (hψ : ψ ∈ φ.opSubs) :
    ∃ rounds, runProgram h r specs (envs σ n) = .ok rounds ∧ rounds.length = n ∧
      ∀ j (hj : j < rounds.length),
        (rounds[j]).2.lookup ψ = some (rho σ n ψ j) ∧
        runOnline h r ψ (envs σ n) = .ok (tab n (rho σ n ψ)) := by
  obtain ⟨rounds, hrun, hlen, hall⟩ := C09_program_eq_rho h r specs σ n hon hh
  refine ⟨rounds, hrun, hlen, fun j hj => ⟨(hall j hj).2 φ hφ ψ hψ, ?_⟩⟩
  have hsub := C09.opSubs_online hψ (hon φ hφ).1
  have hwf := C09.opSubs_wf hψ (hon φ hφ).2
  exact C02_run_eq_rho h r σ n ψ hsub hwf
    (fun k hk hc => hh φ hφ k (C09.opSubs_kinds hψ k hk) hc)

/-- Offline: what `visit()` enters in the results table for a node `ψ` of the specification, `evalOff` of `ψ`, is the
    whole robustness signal of `ψ`, one value per sample. -/
theorem C12_offline_get_value (w : Env α) (σ : String → Nat → α) (n : Nat) (hn : 0 < n) (ψ : F α)
    (hwf : ψ.wf = true) (hp : ψ.noPrecedes) (hw : w.Agrees σ n ψ.vars) :
    evalOff Generated.offlineDiscrete.handles w n ψ = .ok (tab n (rho σ n ψ)) ∧
      (tab n (rho σ n ψ)).length = n :=
  ⟨C01_current_tree w σ n hn ψ hwf hp hw, by simp⟩

/-- Input variables: the value list supplied for `x` is what the visitor returns for the node `x`. -/
theorem C12_input_variable (w : Env α) (n : Nat) (x : String) (l : List α) (hl : w.lookup x = some l) :
    evalOff Generated.offlineDiscrete.handles w n (.var x) = .ok l := by
  simp [evalOff, Env.get, hl, Generated.offlineDiscrete.handles]

end Rtamt
