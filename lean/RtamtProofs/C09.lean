/-
  C09 — Modular specifications are equivalent to their inlined form.  (The memo half of the conclusion is what C12,
  `C12.lean`, reads online.)

  The parser substitutes, for every reference to an earlier assertion, the referenced
  node itself; the list of assertions `specs` therefore consists of the *inlined*
  formulas, sharing structure.  What remains to be shown is that the interpreter as the
  code organises it — one operator object per node *name*, all assertions evaluated at
  every update, every name stepped once per update (memo) — computes, for every
  assertion and every sub-formula, what a stand-alone monitor of that (inlined) formula
  computes.  `runProgram` is the mirror of that organisation (`Rtamt/Discrete/Program.lean`),
  `runOnline` the stand-alone tree-structured monitor of C02.

  The refinement itself is `Keyed.run_refines` (`Keyed.lean`), proved once for both time domains.  Here are its two ends
  for discrete time:
  * `runSpecs_eq`: a run of `Program.lean` is a run of the keyed interpreter `Keyed.runK` over `Py.stepNode`.  The two differ
    in what cannot be observed: `visitM` looks at the memo BEFORE it visits the operands (the code, and `visitK`, after), and
    it leaves the dictionary alone where a state-less operator is stepped (`visitK` re-binds the state it found).
    `visitM_rel`: on a memo closed under operator sub-formulas (`Py.Closed`: it is, being filled bottom-up from the empty
    one) the two return the same value and memo, and dictionaries that agree key by key (`Py.StoreEq`).
  * `stepTree_treeOf`, `runOnline_iffD`: the tree of `Online.lean` read off an assignment `R` of operator states to formulas
    (`treeOf R φ`) steps as `Keyed.stepD` does; `initTree` yields `treeOf initNode φ` and `initStore` binds `initNode`
    (`initOK_all`, `initStore_ok`).
-/
import RtamtProofs.C02
import RtamtProofs.Keyed
import RtamtProofs.Lemmas.NodeOnline

namespace Rtamt
open Val

variable {α : Type} [Val α] [DecidableEq α]

namespace C09

omit [Val α] in
theorem lookup_set_eq (k : F α) (s : St α) (st : Store α) : List.lookup k (st.set k s) = some s :=
  Keyed.lookup_set_eq k s st

omit [Val α] in
theorem lookup_set_ne {k k' : F α} (h : k ≠ k') (s : St α) (st : Store α) :
    List.lookup k (st.set k' s) = st.lookup k :=
  Keyed.lookup_set_ne h s st

omit [Val α] in
theorem get_ok_of_lookup {st : Store α} {k : F α} {s : St α} (h : st.lookup k = some s) :
    st.get k = .ok s := by
  simp [Store.get, h]

open Dense.C09Dense (Node1 Node2) in
theorem node1_hit {χ φ : F α} (hn : Node1 χ φ) (e : String → α) (sm : Store α × Memo α) (v : α)
    (h : sm.2.lookup χ = some v) : visitM e χ sm = .ok (v, sm) := by
  cases hn <;> (rw [visitM]; simp only [h])

open Dense.C09Dense (Node1 Node2) in
theorem node2_hit {χ φ ψ : F α} (hn : Node2 χ φ ψ) (e : String → α) (sm : Store α × Memo α) (v : α)
    (h : sm.2.lookup χ = some v) : visitM e χ sm = .ok (v, sm) := by
  cases hn <;> (rw [visitM]; simp only [h])

end C09

namespace Dense.C09Dense

theorem Node1.initStoreF {χ φ : F α} (hn : Node1 χ φ) (h r : Kind → Bool) (st : Store α) :
    initStoreF h r χ st = (do
      if r χ.kind then throw .rtamt
      let st1 ← initStoreF h r φ st
      if h χ.kind then pure (st1.set χ (initNode χ)) else pure st1) := by
  cases hn <;> rfl

theorem Node2.initStoreF {χ φ ψ : F α} (hn : Node2 χ φ ψ) (h r : Kind → Bool) (st : Store α) :
    initStoreF h r χ st = (do
      if r χ.kind then throw .rtamt
      let st1 ← initStoreF h r φ st
      let st2 ← initStoreF h r ψ st1
      if h χ.kind then pure (st2.set χ (initNode χ)) else pure st2) := by
  cases hn <;> rfl

end Dense.C09Dense

namespace Py
open Rtamt.Dense.C09Dense (Node1 Node2 nodeInduction)

def StoreEq (a b : Store α) : Prop := ∀ k, a.lookup k = b.lookup k

def Closed (m : Memo α) : Prop := ∀ ψ, m.lookup ψ ≠ none → ∀ χ ∈ ψ.opSubs, m.lookup χ ≠ none

omit [Val α] in
theorem StoreEq.set {a b : Store α} (h : StoreEq a b) (k : F α) (s : St α) : StoreEq (a.set k s) (b.set k s) := by
  intro k'
  by_cases hk : k' = k
  · subst hk; rw [C09.lookup_set_eq, C09.lookup_set_eq]
  · rw [C09.lookup_set_ne hk _ _, C09.lookup_set_ne hk _ _, h k']

omit [Val α] in
theorem StoreEq.set_self {a : Store α} {k : F α} {s : St α} (h : a.lookup k = some s) : StoreEq (a.set k s) a := by
  intro k'
  by_cases hk : k' = k
  · subst hk; rw [C09.lookup_set_eq, h]
  · rw [C09.lookup_set_ne hk _ _]

omit [Val α] in
theorem StoreEq.trans {a b c : Store α} (h : StoreEq a b) (h' : StoreEq b c) : StoreEq a c :=
  fun k => (h k).trans (h' k)

omit [Val α] in
theorem StoreEq.refl (a : Store α) : StoreEq a a := fun _ => rfl

omit [Val α] in
theorem closed_cons {χ : F α} {o : α} {m : Memo α} (hc : Closed m) (h : ∀ ψ ∈ χ.opSubs, ψ ≠ χ → m.lookup ψ ≠ none) :
    Closed ((χ, o) :: m) := by
  intro ψ hψ ψ' hψ'
  by_cases hk : ψ' = χ
  · subst hk; rw [List.lookup_cons_self]; simp
  · rw [Assoc.lookup_cons_ne _ _ hk]
    by_cases hk2 : ψ = χ
    · subst hk2; exact h ψ' hψ' hk
    · rw [Assoc.lookup_cons_ne _ _ hk2] at hψ
      exact hc ψ hψ ψ' hψ'

theorem visitM_noop (env : String → α) (φ : F α) (ops : Store α) (m : Memo α)
    (h : ∀ ψ ∈ φ.opSubs, m.lookup ψ ≠ none) : ∃ v, visitM env φ (ops, m) = .ok (v, (ops, m)) := by
  -- an operator node is among its own operator sub-formulas, hence memoised
  cases φ using nodeInduction with
  | var x => exact ⟨_, rfl⟩
  | const c => exact ⟨_, rfl⟩
  | n1 hn =>
    obtain ⟨w, hw⟩ := Option.ne_none_iff_exists'.1 (h _ (hn.subs ▸ List.mem_cons_self))
    exact ⟨w, C09.node1_hit hn env _ w hw⟩
  | n2 hn =>
    obtain ⟨w, hw⟩ := Option.ne_none_iff_exists'.1 (h _ (hn.subs ▸ List.mem_cons_self))
    exact ⟨w, C09.node2_hit hn env _ w hw⟩

/-- The end of a visit of an operator node that is not memoised. -/
def finishM (χ : F α) (vs : List α) (sm : Store α × Memo α) : Except PyErr (α × (Store α × Memo α)) := do
  let s ← sm.1.get χ
  let (s', o) ← stepNode χ s vs
  pure (o, (sm.1.set χ s', (χ, o) :: sm.2))

/-- `visitM` on a one-operand node, every operator class stepped by `stepNode` and re-bound. -/
def mirror1 (env : String → α) (χ φ : F α) (sm : Store α × Memo α) : Except PyErr (α × (Store α × Memo α)) :=
  match sm.2.lookup χ with
  | some v => .ok (v, sm)
  | none => do
    let (v, sm1) ← visitM env φ sm
    finishM χ [v] sm1

def mirror2 (env : String → α) (χ φ ψ : F α) (sm : Store α × Memo α) : Except PyErr (α × (Store α × Memo α)) :=
  match sm.2.lookup χ with
  | some v => .ok (v, sm)
  | none => do
    let (v1, sm1) ← visitM env φ sm
    let (v2, sm2) ← visitM env ψ sm1
    finishM χ [v1, v2] sm2

def MirrorRel : Except PyErr (α × (Store α × Memo α)) → Except PyErr (α × (Store α × Memo α)) → Prop :=
  Exc.Rel fun p q => p.1 = q.1 ∧ StoreEq p.2.1 q.2.1 ∧ p.2.2 = q.2.2

omit [Val α] in
theorem MirrorRel.refl (a : Except PyErr (α × (Store α × Memo α))) : MirrorRel a a :=
  Exc.Rel.refl (fun _ => ⟨rfl, StoreEq.refl _, rfl⟩) a

/-- For the state-less operators `visitM` leaves the dictionary alone where `finishM` re-binds the state it found. -/
theorem finishM_stateless {χ : F α} {vs : List α} {o : α} (hstep : ∀ s, stepNode χ s vs = .ok (s, o))
    (sm : Store α × Memo α) :
    MirrorRel (finishM χ vs sm) (do let _ ← sm.1.get χ; pure (o, (sm.1, (χ, o) :: sm.2))) := by
  unfold finishM Store.get
  cases hs : List.lookup χ sm.1 with
  | none => exact rfl
  | some s => rw [Exc.ok_bind, Exc.ok_bind, hstep]; exact ⟨rfl, StoreEq.set_self hs, rfl⟩

theorem mirror1_visitM {χ φ : F α} (hn : Node1 χ φ) (env : String → α) (sm : Store α × Memo α) :
    MirrorRel (mirror1 env χ φ sm) (visitM env χ sm) := by
  cases hn with
  | un op φ =>
    unfold mirror1; rw [visitM]
    cases sm.2.lookup (F.un op φ) with
    | some v => exact MirrorRel.refl _
    | none =>
      cases visitM env φ sm with
      | error e => exact rfl
      | ok p => exact finishM_stateless (fun _ => rfl) p.2
  | tmp1 op φ => rw [visitM]; exact MirrorRel.refl _
  | tb1 op a b φ => rw [visitM]; exact MirrorRel.refl _

theorem mirror2_visitM {χ φ ψ : F α} (hn : Node2 χ φ ψ) (env : String → α) (sm : Store α × Memo α) :
    MirrorRel (mirror2 env χ φ ψ sm) (visitM env χ sm) := by
  cases hn with
  | bin op φ ψ =>
    unfold mirror2; rw [visitM]
    cases sm.2.lookup (F.bin op φ ψ) with
    | some v => exact MirrorRel.refl _
    | none =>
      cases visitM env φ sm with
      | error e => exact rfl
      | ok p =>
        obtain ⟨v1, sm1⟩ := p
        simp only [Exc.ok_bind]
        cases visitM env ψ sm1 with
        | error e => exact rfl
        | ok p2 => exact finishM_stateless (fun _ => rfl) p2.2
  | tmp2 op φ ψ => rw [visitM]; exact MirrorRel.refl _
  | tb2 op a b φ ψ => rw [visitM]; exact MirrorRel.refl _

end Py

namespace C09
open Dense.C09Dense (Node1 Node2 nodeInduction)
open Keyed (Grows Binds InSpecs visitK finishK visitSpecsK runK stepD nextD runD opSubs_size)
open Exc (bind_eq_ok pure_eq_ok ok_bind Rel)
open Py (StoreEq Closed MirrorRel finishM mirror1 mirror2 mirror1_visitM mirror2_visitM closed_cons stepNode)

/-- What the leaves yield in one `update()`. -/
def leafD (e : String → α) : F α → α
  | .var x => e x
  | .const c => c
  | _ => Val.zero

theorem finishK_none {χ : F α} {vs : List α} {sm : Store α × Memo α} (h : sm.2.lookup χ = none) :
    finishK stepNode χ vs sm = finishM χ vs sm := by
  unfold finishK finishM Store.get Keyed.get
  rw [h]
  cases List.lookup χ sm.1 with
  | none => rfl
  | some s => exact bind_congr (x := stepNode χ s vs) fun ⟨s', o⟩ => rfl

/-- The outcome of `visitK` against that of `visitM` started from the memo `m`. -/
def OutRel (φ : F α) (m : Memo α) :
    Except PyErr (α × (Store α × Memo α)) → Except PyErr (α × (Store α × Memo α)) → Prop :=
  Rel fun p q => p.1 = q.1 ∧ StoreEq p.2.1 q.2.1 ∧ p.2.2 = q.2.2 ∧ Closed q.2.2 ∧ Grows φ.opSubs m q.2.2

def VisitMRel (e : String → α) (φ : F α) : Prop :=
  ∀ (sm : Store α × Memo α) (ops : Store α), StoreEq sm.1 ops → Closed sm.2 →
    OutRel φ sm.2 (visitK stepNode (leafD e) φ sm) (visitM e φ (ops, sm.2))

omit [Val α] in
theorem OutRel.trans {φ : F α} {m : Memo α} {a b c : Except PyErr (α × (Store α × Memo α))}
    (h : OutRel φ m a b) (h' : MirrorRel b c) : OutRel φ m a c := by
  rcases Exc.Rel.inv h' with ⟨e, rfl, rfl⟩ | ⟨q, r, rfl, rfl, h1, h2, h3⟩
  · exact h
  · obtain ⟨p, rfl, k1, k2, k3, k4, k5⟩ := Exc.Rel.ok_right.1 h
    exact ⟨k1.trans h1, k2.trans h2, k3.trans h3, h3 ▸ k4, h3 ▸ k5⟩

/-- The end of the visit of a node `χ` that is not memoised, the operands (operator sub-formulas `subs`) visited. -/
theorem finishM_rel {χ : F α} {subs : List (F α)} (hsubs : χ.opSubs = χ :: subs) {m : Memo α} {sm1 : Store α × Memo α}
    {o1 : Store α} (vs : List α) (heq : StoreEq sm1.1 o1) (hc : Closed sm1.2) (hl : sm1.2.lookup χ = none)
    (hg : Grows subs m sm1.2) :
    OutRel χ m (finishK stepNode χ vs sm1) (finishM χ vs (o1, sm1.2)) := by
  rw [finishK_none hl]
  simp only [finishM, Store.get, heq χ]
  cases List.lookup χ o1 with
  | none => exact rfl
  | some s =>
    simp only [ok_bind]
    cases stepNode χ s vs with
    | error e => exact rfl
    | ok r =>
      exact ⟨rfl, heq.set _ _, rfl,
        closed_cons hc fun ψ hψ hne => hg.2.2 ψ ((List.mem_cons.1 (hsubs ▸ hψ)).resolve_left hne), hsubs ▸ hg.cons χ r.2⟩

theorem visitMRel_node1 (e : String → α) {χ φ : F α} (hn : Node1 χ φ) (ih : VisitMRel e φ) : VisitMRel e χ := by
  intro sm ops heq hc
  have hsubs := hn.subs
  refine OutRel.trans ?_ (mirror1_visitM hn e (ops, sm.2))
  rw [hn.visitK]
  unfold mirror1
  cases hl : sm.2.lookup χ with
  | some w =>
    -- memoised, hence everything below it: the visit of the operand changes nothing
    have hall := hc χ (by simp [hl])
    obtain ⟨v, hv⟩ := Keyed.visitK_noop (step := stepNode) (leafD e) φ sm fun ψ hψ =>
      hall ψ (hsubs ▸ List.mem_cons_of_mem _ hψ)
    rw [hv, ok_bind, Keyed.finishK_hit hl]
    exact ⟨rfl, heq, rfl, hc, .refl hall⟩
  | none =>
    refine Rel.bind (ih sm ops heq hc) fun ⟨v, sm1⟩ ⟨v', o1, m1⟩ _ _ ⟨h1, h2, h3, h4, h5⟩ => ?_
    cases h1
    cases h3
    exact finishM_rel hsubs [v] h2 h4 (h5.fresh hl fun h => by have := opSubs_size h; have := hn.size; omega) h5

theorem visitMRel_node2 (e : String → α) {χ φ1 φ2 : F α} (hn : Node2 χ φ1 φ2) (ih1 : VisitMRel e φ1)
    (ih2 : VisitMRel e φ2) : VisitMRel e χ := by
  intro sm ops heq hc
  have hsubs := hn.subs
  have hsz := hn.size
  refine OutRel.trans ?_ (mirror2_visitM hn e (ops, sm.2))
  rw [hn.visitK]
  unfold mirror2
  cases hl : sm.2.lookup χ with
  | some w =>
    have hall := hc χ (by simp [hl])
    obtain ⟨v1, hv1⟩ := Keyed.visitK_noop (step := stepNode) (leafD e) φ1 sm fun ψ hψ =>
      hall ψ (hsubs ▸ List.mem_cons_of_mem _ (List.mem_append_left _ hψ))
    obtain ⟨v2, hv2⟩ := Keyed.visitK_noop (step := stepNode) (leafD e) φ2 sm fun ψ hψ =>
      hall ψ (hsubs ▸ List.mem_cons_of_mem _ (List.mem_append_right _ hψ))
    rw [hv1, ok_bind, hv2, ok_bind, Keyed.finishK_hit hl]
    exact ⟨rfl, heq, rfl, hc, .refl hall⟩
  | none =>
    refine Rel.bind (ih1 sm ops heq hc) fun ⟨v1, sm1⟩ ⟨v1', o1, m1⟩ _ _ ⟨h1, h2, h3, h4, h5⟩ => ?_
    cases h1
    cases h3
    refine Rel.bind (ih2 sm1 o1 h2 h4) fun ⟨v2, sm2⟩ ⟨v2', o2, m2⟩ _ _ ⟨k1, k2, k3, k4, k5⟩ => ?_
    cases k1
    cases k3
    exact finishM_rel hsubs [v1, v2] k2 k4
      ((h5.append k5).fresh hl fun h => by
        rcases List.mem_append.1 h with h | h <;> have := opSubs_size h <;> omega) (h5.append k5)

theorem visitM_rel (e : String → α) (φ : F α) : VisitMRel e φ := by
  induction φ using nodeInduction with
  | var x => intro sm ops heq hc; exact ⟨rfl, heq, rfl, hc, .refl nofun⟩
  | const c => intro sm ops heq hc; exact ⟨rfl, heq, rfl, hc, .refl nofun⟩
  | n1 hn ih => exact visitMRel_node1 e hn ih
  | n2 hn ih1 ih2 => exact visitMRel_node2 e hn ih1 ih2

theorem visitSpecs_rel (e : String → α) (specs : List (F α)) : ∀ (sm : Store α × Memo α) (ops : Store α),
    StoreEq sm.1 ops → Closed sm.2 →
    Rel (fun p q => p.1 = q.1 ∧ StoreEq p.2.1 q.2.1 ∧ p.2.2 = q.2.2)
      (visitSpecsK stepNode (leafD e) specs sm) (visitSpecs e specs (ops, sm.2)) := by
  induction specs with
  | nil => intro sm ops heq _; exact ⟨rfl, heq, rfl⟩
  | cons φ rest ih =>
    intro sm ops heq hc
    rw [Keyed.visitSpecsK_cons, visitSpecs]
    refine Rel.bind (visitM_rel e φ sm ops heq hc) fun ⟨v, sm1⟩ ⟨v', o1, m1⟩ _ _ ⟨h1, h2, h3, h4, _⟩ => ?_
    cases h1
    cases h3
    refine Rel.bind (ih sm1 o1 h2 h4) fun ⟨vs, sm2⟩ ⟨vs', o2, m2⟩ _ _ ⟨k1, k2, k3⟩ => ?_
    cases k1
    cases k3
    exact ⟨rfl, k2, rfl⟩

theorem runSpecs_eq (specs : List (F α)) : ∀ (es : List (String → α)) (st ops : Store α), StoreEq st ops →
    runSpecs specs ops es = runK stepNode specs st (es.map leafD)
  | [], _, _, _ => rfl
  | e :: es, st, ops, heq => by
    rw [runSpecs, List.map_cons, Keyed.runK_cons, updateSpecs, Keyed.roundK_eq]
    rcases Exc.Rel.inv (visitSpecs_rel e specs (st, []) ops heq fun ψ hψ => absurd rfl hψ) with
      ⟨e, hg, hm⟩ | ⟨⟨vs, st', mm⟩, ⟨vs', o2, m2⟩, hg, hm, rfl, k2, rfl⟩ <;> rw [hg, hm]
    · rfl
    · simp only [ok_bind, pure, Except.pure, runSpecs_eq specs es st' o2 k2]

def treeOf (R : F α → St α) : F α → STree α
  | .var _ => .leaf
  | .const _ => .leaf
  | .un op φ => .n1 (R (.un op φ)) (treeOf R φ)
  | .bin op φ ψ => .n2 (R (.bin op φ ψ)) (treeOf R φ) (treeOf R ψ)
  | .tmp1 op φ => .n1 (R (.tmp1 op φ)) (treeOf R φ)
  | .tmp2 op φ ψ => .n2 (R (.tmp2 op φ ψ)) (treeOf R φ) (treeOf R ψ)
  | .tb1 op a b φ => .n1 (R (.tb1 op a b φ)) (treeOf R φ)
  | .tb2 op a b φ ψ => .n2 (R (.tb2 op a b φ ψ)) (treeOf R φ) (treeOf R ψ)

omit [Val α] [DecidableEq α] in
theorem node1_tree {χ φ : F α} (hn : Node1 χ φ) (R : F α → St α) : treeOf R χ = .n1 (R χ) (treeOf R φ) := by
  cases hn <;> rfl

omit [Val α] [DecidableEq α] in
theorem node2_tree {χ φ ψ : F α} (hn : Node2 χ φ ψ) (R : F α → St α) :
    treeOf R χ = .n2 (R χ) (treeOf R φ) (treeOf R ψ) := by
  cases hn <;> rfl

omit [DecidableEq α] in
theorem stepTree_treeOf (e : String → α) (R : F α → St α) (φ : F α) :
    stepTree e φ (treeOf R φ) =
      (stepD stepNode (leafD e) R φ).map fun p => (treeOf (nextD stepNode (leafD e) R) φ, p.2) := by
  induction φ using nodeInduction with
  | var x => rfl
  | const c => rfl
  | n1 hn ih =>
    rw [node1_tree hn, hn.stepTree, ih, node1_tree hn]
    cases hp : stepD stepNode (leafD e) R _ with
    | error x => rw [hn.stepD, hp]; rfl
    | ok p =>
      have hχ := hn.stepD_ok hp
      rw [hχ]
      show (stepNode _ (R _) [p.2] >>= fun q => pure (STree.n1 q.1 (treeOf _ _), q.2)) = _
      cases hq : stepNode _ (R _) [p.2] with
      | error x => rfl
      | ok q => rw [Keyed.nextD_of_ok (hχ.trans hq)]; rfl
  | n2 hn ih1 ih2 =>
    rw [node2_tree hn, hn.stepTree, ih1, ih2, node2_tree hn]
    cases hp1 : stepD stepNode (leafD e) R _ with
    | error x => rw [hn.stepD, hp1]; rfl
    | ok p1 =>
      cases hp2 : stepD stepNode (leafD e) R _ with
      | error x => rw [hn.stepD, hp1, ok_bind, hp2]; rfl
      | ok p2 =>
        have hχ := hn.stepD_ok hp1 hp2
        rw [hχ]
        show (stepNode _ (R _) [p1.2, p2.2] >>= fun q => pure (STree.n2 q.1 (treeOf _ _) (treeOf _ _), q.2)) = _
        cases hq : stepNode _ (R _) [p1.2, p2.2] with
        | error x => rfl
        | ok q => rw [Keyed.nextD_of_ok (hχ.trans hq)]; rfl

omit [DecidableEq α] in
theorem runTree_length {φ : F α} : ∀ {es : List (String → α)} {t t' : STree α} {os : List α},
    runTree φ t es = .ok (t', os) → os.length = es.length := by
  intro es
  induction es with
  | nil =>
    intro t t' os h
    simp only [runTree, Except.ok.injEq, Prod.mk.injEq] at h
    obtain ⟨_, rfl⟩ := h
    rfl
  | cons e es ih =>
    intro t t' os h
    obtain ⟨t1, w, os', _, hr, rfl⟩ := runTree_cons h
    simp [ih hr]

omit [DecidableEq α] in
theorem runTree_iff (φ : F α) : ∀ (es : List (String → α)) (R : F α → St α) (os : List α),
    (∃ t, runTree φ (treeOf R φ) es = .ok (t, os)) ↔ runD stepNode φ R (es.map leafD) = .ok os
  | [], _, _ => ⟨fun ⟨_, h⟩ => by cases h; rfl, fun h => ⟨_, by cases h; rfl⟩⟩
  | e :: es, R, os => by
    rw [List.map_cons, Keyed.runD_cons_iff]
    constructor
    · rintro ⟨t, h⟩
      obtain ⟨t1, w, os', h1, h2, rfl⟩ := runTree_cons h
      rw [stepTree_treeOf] at h1
      cases hp : stepD stepNode (leafD e) R φ with
      | error x => rw [hp] at h1; cases h1
      | ok p =>
        rw [hp] at h1
        cases h1
        exact ⟨p, os', rfl, (runTree_iff φ es _ os').1 ⟨_, h2⟩, rfl⟩
    · rintro ⟨p, os', hp, h2, rfl⟩
      obtain ⟨t, ht⟩ := (runTree_iff φ es _ os').2 h2
      refine ⟨t, ?_⟩
      rw [runTree, stepTree_treeOf, hp]
      show (runTree φ (treeOf (nextD stepNode (leafD e) R) φ) es >>= fun q => pure (q.1, p.2 :: q.2)) = _
      rw [ht]
      rfl

def InitOK (h r : Kind → Bool) (φ : F α) : Prop :=
  ∀ t, initTree h r φ = .ok t →
    t = treeOf initNode φ ∧ ∀ st : Store α, ∃ st', initStoreF h r φ st = .ok st' ∧
      Binds initNode φ.opSubs st st'

theorem initOK_node1 (h r : Kind → Bool) {χ φ : F α} (hn : Node1 χ φ) (ih : InitOK h r φ) : InitOK h r χ := by
  intro t ht
  rw [hn.initTree] at ht
  cases hr : r χ.kind with
  | true => simp [hr, bind, Except.bind, throw, throwThe, MonadExceptOf.throw] at ht
  | false =>
    cases hh : h χ.kind with
    | false => simp [hr, hh, Exc.bind_eq_ok, throw, throwThe, MonadExceptOf.throw] at ht
    | true =>
      simp only [hr, hh, Bool.false_eq_true, if_false, if_true, Exc.bind_eq_ok, Exc.pure_eq_ok] at ht
      obtain ⟨c, hc, rfl⟩ := ht
      obtain ⟨hc', hst⟩ := ih c hc
      refine ⟨by rw [node1_tree hn, hc'], fun st => ?_⟩
      obtain ⟨st1, h1, hb⟩ := hst st
      refine ⟨st1.set χ (initNode χ), ?_,
        hn.subs ▸ hb.cons (lookup_set_eq _ _ _) fun ψ hk => lookup_set_ne hk _ _⟩
      rw [hn.initStoreF]
      simp only [hr, h1, hh, bind, Except.bind, pure, Except.pure, Bool.false_eq_true, if_false, if_true]

theorem initOK_node2 (h r : Kind → Bool) {χ φ1 φ2 : F α} (hn : Node2 χ φ1 φ2) (ih1 : InitOK h r φ1)
    (ih2 : InitOK h r φ2) : InitOK h r χ := by
  intro t ht
  rw [hn.initTree] at ht
  cases hr : r χ.kind with
  | true => simp [hr, bind, Except.bind, throw, throwThe, MonadExceptOf.throw] at ht
  | false =>
    cases hh : h χ.kind with
    | false => simp [hr, hh, Exc.bind_eq_ok, throw, throwThe, MonadExceptOf.throw] at ht
    | true =>
      simp only [hr, hh, Bool.false_eq_true, if_false, if_true, Exc.bind_eq_ok, Exc.pure_eq_ok] at ht
      obtain ⟨c1, hc1, c2, hc2, rfl⟩ := ht
      obtain ⟨hc1', hst1⟩ := ih1 c1 hc1
      obtain ⟨hc2', hst2⟩ := ih2 c2 hc2
      refine ⟨by rw [node2_tree hn, hc1', hc2'], fun st => ?_⟩
      obtain ⟨st1, h1, hb1⟩ := hst1 st
      obtain ⟨st2, h1', hb2⟩ := hst2 st1
      refine ⟨st2.set χ (initNode χ), ?_,
        hn.subs ▸ (hb1.append hb2).cons (lookup_set_eq _ _ _) fun ψ hk => lookup_set_ne hk _ _⟩
      rw [hn.initStoreF]
      simp only [hr, h1, h1', hh, bind, Except.bind, pure, Except.pure, Bool.false_eq_true, if_false, if_true]

theorem initOK_all (h r : Kind → Bool) (φ : F α) : InitOK h r φ := by
  induction φ using nodeInduction with
  | var x =>
    intro t ht
    cases hr : r .Variable with
    | true => simp [initTree, hr] at ht
    | false =>
      cases hh : h .Variable with
      | false => simp [initTree, hr, hh] at ht
      | true =>
        simp only [initTree, hr, hh, Bool.false_eq_true, if_false, if_true, Except.ok.injEq] at ht
        exact ⟨ht.symm, fun st => ⟨st, by simp [initStoreF, hr], .refl _ _⟩⟩
  | const c =>
    intro t ht
    simp only [initTree, Except.ok.injEq] at ht
    exact ⟨ht.symm, fun st => ⟨st, rfl, .refl _ _⟩⟩
  | n1 hn ih => exact initOK_node1 h r hn ih
  | n2 hn ih1 ih2 => exact initOK_node2 h r hn ih1 ih2

theorem initStore_ok (h r : Kind → Bool) (specs : List (F α)) :
    ∀ st : Store α, (∀ φ ∈ specs, ∃ t, initTree h r φ = .ok t) →
      ∃ st', initStore h r specs st = .ok st' ∧
        (∀ ψ, InSpecs specs ψ → st'.lookup ψ = some (initNode ψ)) ∧
        (∀ ψ, ¬ InSpecs specs ψ → st'.lookup ψ = st.lookup ψ) := by
  induction specs with
  | nil =>
    intro st _
    refine ⟨st, rfl, ?_, fun _ _ => rfl⟩
    rintro ψ ⟨φ, hφ, _⟩
    simp at hφ
  | cons φ rest ih =>
    intro st hinit
    obtain ⟨t, ht⟩ := hinit φ List.mem_cons_self
    obtain ⟨_, hst⟩ := initOK_all h r φ t ht
    obtain ⟨st1, h1, h2, h3⟩ := hst st
    obtain ⟨st', h1', h2', h3'⟩ := ih st1 (fun φ' hφ' => hinit φ' (List.mem_cons_of_mem _ hφ'))
    refine ⟨st', ?_, ?_, ?_⟩
    · simp only [initStore, h1, h1', bind, Except.bind]
    · rintro ψ ⟨φ', hφ', hψ⟩
      by_cases hin : InSpecs rest ψ
      · exact h2' ψ hin
      · rw [h3' ψ hin]
        rcases List.mem_cons.1 hφ' with rfl | h'
        · exact h2 ψ hψ
        · exact absurd ⟨φ', h', hψ⟩ hin
    · intro ψ hψ
      rw [h3' ψ (fun ⟨φ', h', h''⟩ => hψ ⟨φ', List.mem_cons_of_mem _ h', h''⟩)]
      exact h3 ψ (fun h' => hψ ⟨φ, List.mem_cons_self, h'⟩)

omit [DecidableEq α] in
theorem runOnline_inv {h r : Kind → Bool} {φ : F α} {es : List (String → α)} {os : List α}
    (hrun : runOnline h r φ es = .ok os) :
    ∃ t0 t, initTree h r φ = .ok t0 ∧ runTree φ t0 es = .ok (t, os) := by
  simp only [runOnline, Exc.bind_eq_ok, Exc.pure_eq_ok, Prod.exists] at hrun
  obtain ⟨t0, hi, t, os', hr, rfl⟩ := hrun
  exact ⟨t0, t, hi, hr⟩

theorem runOnline_iffD (h r : Kind → Bool) (φ : F α) (es : List (String → α)) (os : List α) :
    runOnline h r φ es = .ok os ↔
      (∃ t, initTree h r φ = .ok t) ∧ Keyed.runD Py.stepNode φ initNode (es.map leafD) = .ok os := by
  rw [← runTree_iff]
  constructor
  · intro hrun
    obtain ⟨t0, t, hi, hr⟩ := runOnline_inv hrun
    exact ⟨⟨t0, hi⟩, t, (initOK_all h r φ t0 hi).1 ▸ hr⟩
  · rintro ⟨⟨t0, hi⟩, t, hr⟩
    rw [runOnline, hi, Exc.ok_bind, (initOK_all h r φ t0 hi).1, hr]
    rfl

end C09

open C09

/-- Refinement: if the stand-alone monitor of every operator sub-formula `ψ` of the
    assertions returns `O ψ` on the inputs `es`, then the dictionary-and-memo interpreter
    returns, at update `j`, the `j`-th stand-alone value of every assertion — whatever the
    sharing between and inside the assertions — and its memo (`ast.results`) holds the
    `j`-th stand-alone value of every operator sub-formula.  (`hleaf` adds to `hO` only the assertions that are a bare
    variable or constant: every other formula is the head of its own `opSubs`.) -/
theorem C09_program_refines_trees (h r : Kind → Bool) (specs : List (F α)) (es : List (String → α))
    (O : F α → List α)
    (hO : ∀ φ ∈ specs, ∀ ψ ∈ φ.opSubs, runOnline h r ψ es = .ok (O ψ))
    (hleaf : ∀ φ ∈ specs, runOnline h r φ es = .ok (O φ)) :
    ∃ rounds, runProgram h r specs es = .ok rounds ∧ rounds.length = es.length ∧
      ∀ j (hj : j < rounds.length),
        (rounds[j]).1 = specs.map (fun φ => (O φ).getD j Val.zero) ∧
        ∀ φ ∈ specs, ∀ ψ ∈ φ.opSubs, (rounds[j]).2.lookup ψ = some ((O ψ).getD j Val.zero) := by
  obtain ⟨st0, hst0, hlook, -⟩ := initStore_ok h r specs [] fun φ hφ => ((runOnline_iffD h r φ es _).1 (hleaf φ hφ)).1
  obtain ⟨rounds, hr, hlen, hrounds⟩ :=
    Keyed.run_refines (step := Py.stepNode) Val.zero specs (es.map leafD) st0 initNode O hlook (by
      rintro φ (hφ | ⟨φ', h1, h2⟩)
      · exact ((runOnline_iffD h r φ es _).1 (hleaf φ hφ)).2
      · exact ((runOnline_iffD h r φ es _).1 (hO φ' h1 φ h2)).2)
  refine ⟨rounds, ?_, by rw [hlen, List.length_map], fun j hj => ?_⟩
  · rw [runProgram, hst0, Exc.ok_bind, runSpecs_eq specs es st0 st0 (.refl _), hr]
  · exact ⟨(hrounds j hj).1, fun φ hφ ψ hψ => (hrounds j hj).2 ψ ⟨φ, hφ, hψ⟩⟩

variable [LawfulVal α]

namespace C09

omit [Val α] [DecidableEq α] [LawfulVal α] in
theorem opSubs_kinds {φ ψ : F α} (h : ψ ∈ φ.opSubs) : ∀ k ∈ ψ.kinds, k ∈ φ.kinds :=
  Keyed.opSubs_induct (R := fun ψ φ => ∀ k ∈ ψ.kinds, k ∈ φ.kinds) (fun _ _ hk => hk)
    (fun hn ih k h => hn.kinds ▸ List.mem_cons_of_mem _ (ih k h))
    (fun hn ih k h => hn.kinds ▸ List.mem_cons_of_mem _ (List.mem_append.2 (ih.imp (· k h) (· k h)))) h

omit [Val α] [DecidableEq α] [LawfulVal α] in
theorem opSubs_online {φ ψ : F α} (h : ψ ∈ φ.opSubs) (hon : φ.online = true) : ψ.online = true := by
  simp only [F.online, List.all_eq_true] at hon ⊢
  exact fun k hk => hon k (opSubs_kinds h k hk)

omit [Val α] [DecidableEq α] [LawfulVal α] in
theorem opSubs_wf {φ ψ : F α} (h : ψ ∈ φ.opSubs) (hwf : φ.wf = true) : ψ.wf = true :=
  Keyed.opSubs_induct (R := fun ψ φ => φ.wf = true → ψ.wf = true) (fun _ h => h)
    (fun hn ih hwf => ih (hn.wf.1 hwf).2) (fun hn ih hwf => ih.elim (· (hn.wf.1 hwf).2.1) (· (hn.wf.1 hwf).2.2)) h hwf

end C09

/-- C09/C02 for multi-assertion specifications with shared stateful sub-specifications and
    duplicated text: the value `update()` returns (the last assertion) at update `j` is
    `rho` of the inlined last assertion at sample `j`; and (C12) `get_value` of any assertion
    or operator sub-formula is `rho` of that formula. -/
theorem C09_program_eq_rho (h r : Kind → Bool) (specs : List (F α)) (σ : String → Nat → α) (n : Nat)
    (hon : ∀ φ ∈ specs, φ.online = true ∧ φ.wf = true)
    (hh : ∀ φ ∈ specs, ∀ k ∈ φ.kinds, k ≠ .Constant → (h k = true ∧ r k = false)) :
    ∃ rounds, runProgram h r specs (envs σ n) = .ok rounds ∧ rounds.length = n ∧
      ∀ j (hj : j < rounds.length),
        (rounds[j]).1 = specs.map (fun φ => rho σ n φ j) ∧
        ∀ φ ∈ specs, ∀ ψ ∈ φ.opSubs, (rounds[j]).2.lookup ψ = some (rho σ n ψ j) := by
  obtain ⟨rounds, hr, hlen, hrounds⟩ := C09_program_refines_trees h r specs (envs σ n)
    (fun ψ => tab n (rho σ n ψ))
    (fun φ hφ ψ hψ => C02_run_eq_rho h r σ n ψ (opSubs_online hψ (hon φ hφ).1)
      (opSubs_wf hψ (hon φ hφ).2) (fun k hk hne => hh φ hφ k (opSubs_kinds hψ k hk) hne))
    (fun φ hφ => C02_run_eq_rho h r σ n φ (hon φ hφ).1 (hon φ hφ).2 (hh φ hφ))
  have hn : rounds.length = n := by rw [hlen, envs, tab_length]
  refine ⟨rounds, hr, hn, ?_⟩
  intro j hj
  obtain ⟨h1, h2⟩ := hrounds j hj
  have hg : ∀ ψ : F α, (tab n (rho σ n ψ)).getD j Val.zero = rho σ n ψ j := by
    intro ψ
    rw [List.getD_eq_getElem?_getD, tab_getElem?, if_pos (hn ▸ hj)]
    rfl
  refine ⟨?_, ?_⟩
  · rw [h1]
    exact List.map_congr_left (fun φ _ => hg φ)
  · intro φ hφ ψ hψ
    rw [h2 φ hφ ψ hψ, hg ψ]

end Rtamt
