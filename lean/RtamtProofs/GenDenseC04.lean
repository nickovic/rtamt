/-
  C04 stated on the run of the TRANSLATED code: source of `intersection.py` / `ast_visitor.py` (dense-time offline)
  -> (harness/py2lean.py) `Gen.Dense.*` -> `evalAlgG` (Rtamt/Py/RunDn.lean, semantics Rtamt/Py/Dn.lean)
  = `evalAlg` (`genD_eval`, RtamtProofs/GenDense.lean) = `rhoD` (`C04_alg_eq_rhoD_partial`, RtamtProofs/Dense/AlgMain.lean).

  C06 (interface-aware robustness semantics) the same way: `visitPredicate` of the interface-aware visitors
  -> `Gen.Dense.visitPredicate_outRob` (`gen_visitPredicate_outRob_insensitive`, RtamtProofs/GenDenseIA.lean) inside `genD_eval`,
  composed with `C06_alg_dense_offline_partial` (RtamtProofs/Dense/AlgIA.lean).
-/
import RtamtProofs.GenDense
import RtamtProofs.Dense.AlgMain
import RtamtProofs.Dense.AlgIA

namespace Rtamt.Py.Dn
open Rtamt Val Rtamt.Dense Rtamt.Dense.Alg

variable {α : Type} [Val α] [LawfulVal α]

/-- **C04 on the translated source** (fragment as in `C04_alg_eq_rhoD_partial`: supported operators, no interface-aware
    forms, no `sqrt` / `ln`, well-formed signals that start at time 0): with enough fuel for its `while` loops the dense-time
    offline visitor, as translated from the Python source on this run and run under the semantics of `Dn.lean`, returns a
    sample list with strictly increasing time stamps that starts at the beginning of the common input domain and equals the
    dense-time robustness at every time of the domain. -/
theorem C04_translated_eq_rhoD_partial (cfg : DCfg) (hs : 0 ≤ cfg.scale) (w : DEnv α) (φ : F α)
    (hsup : supported φ = true) (hia : noIA φ = true) (hnp : noPartialOps φ = true)
    (hw : w.WF φ.vars) (h0 : StartsAt0 w φ.vars)
    (hsub : ∀ a b : α, Val.neg (Val.sub a b) = Val.sub b a) :
    ∃ N s, (∀ fuel, N ≤ fuel → evalAlgG fuel cfg w φ = .ok s) ∧ Sorted s ∧
      (times s).head? = some (Tm.fin (dom w φ)) ∧ ∀ t, dom w φ ≤ t → valAtA s t = rhoD cfg w φ t := by
  obtain ⟨s, he, h1, h2, h3⟩ := C04_alg_eq_rhoD_partial cfg hs w φ hsup hia hnp hw h0 hsub
  obtain ⟨N, hN⟩ := genD_eval cfg w φ φ.denseSupported_all
  exact ⟨N, s, fun fuel hf => by rw [hN fuel hf, he], h1, h2, h3⟩

/-- **C06 on the translated source**, dense offline, robustness semantics (hypotheses as in `C06_alg_dense_offline_partial`):
    with enough fuel the translated visitor - the insensitive predicates (`iaT`: `.predSat`) run through the translated
    `visitPredicate` of the interface-aware robustness visitor - returns on the transformed formula exactly what the mirror
    returns, lists and exceptions, and every list it returns is the dense semantics of that formula. -/
theorem C06_translated_dense_offline_partial (cfg : DCfg) (hs : 0 ≤ cfg.scale) (w : DEnv α) (sem : Sem)
    (inputs : List String) (φ : F α) (hsem : sem = .outRob ∨ sem = .inRob ∨ sem = .standard)
    (hsup : supported (iaT sem inputs φ) = true) (hv : noVac φ = true)
    (hw : w.WF (iaT sem inputs φ).vars) (h0 : StartsAt0 w (iaT sem inputs φ).vars)
    (hsub : ∀ a b : α, Val.neg (Val.sub a b) = Val.sub b a)
    (hcmp : ∀ (c : Cmp) (a b : α), satOfDiff c (Val.sub a b) = c.holds a b) :
    ∃ N, ∀ fuel, N ≤ fuel →
      evalAlgG fuel cfg w (iaT sem inputs φ) = evalAlg cfg w (iaT sem inputs φ) ∧
      ∀ s : ASig α, evalAlgG fuel cfg w (iaT sem inputs φ) = .ok s → Denotes s 0 (rhoD cfg w (iaT sem inputs φ)) := by
  obtain ⟨N, hN⟩ := genD_eval cfg w (iaT sem inputs φ) (F.denseSupported_all _)
  refine ⟨N, fun fuel hf => ⟨hN fuel hf, fun s he => ?_⟩⟩
  rw [hN fuel hf] at he
  exact C06_alg_dense_offline_partial cfg hs w sem inputs φ hsem hsup hv hw h0 hsub hcmp he

end Rtamt.Py.Dn
