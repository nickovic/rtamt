/-
  Python's `l[len(l) - 1]`, which the translated `evaluate(dataset)` of discrete time (syntax `OS`) and of dense time
  (syntax `ES`) both contain.  Everything else the two proofs share in spirit is a fact about `execOS` or about
  `execES`, two interpreters over two syntaxes with two types of values.
-/
import Rtamt.Py.OffEval
import RtamtProofs.SemBase

namespace Rtamt.Py

/-- `l[len(l) - 1]`.  The dense-time model has its own `DnEval.pyIdx` with the same body: `DnEval.pyIdx l i` is
    `OffEval.pyIdx l i` by `rfl`. -/
theorem pyIdx_last {β : Type} (l : List β) :
    OffEval.pyIdx l ((l.length : Int) - 1) = match l.getLast? with | none => .error .index | some x => .ok x := by
  cases l with
  | nil => rfl
  | cons x xs =>
    have h1 : ¬ ((((x :: xs).length : Nat) : Int) - 1 < 0) := by simp only [List.length_cons]; omega
    have h2 : ((((x :: xs).length : Nat) : Int) - 1).toNat = (x :: xs).length - 1 := by omega
    simp only [OffEval.pyIdx, h1, if_false, h2, List.getLast?_eq_getElem?]
    cases (x :: xs)[(x :: xs).length - 1]? <;> rfl

end Rtamt.Py
