/-
  C08 — Temporal bounds denote physical durations whatever the unit notation.

  "Two discrete-time specifications whose bounds denote the same durations - written
   with explicit units (s, ms, us, ns), through the default unit set with spec.unit, or
   with the sampling period given in another unit - produce identical results offline
   and online, before and after pastify(); a bound that is not an integer multiple of the
   sampling period is rejected with an RTAMTException rather than rounded. Dense-time
   results are likewise invariant under a consistent change of unit notation."

  The monitors are functions of the elaborated (core) formula; the theorems show that
  elaboration depends on the durations only.
-/
import Rtamt.Units
import Rtamt.Discrete.Pastify
import Mathlib.Tactic.Ring
import Mathlib.Tactic.NormNum

namespace Rtamt

theorem ratToNat?_eq_some (x : Rat) (k : Nat) : ratToNat? x = some k ↔ x = (k : Rat) := by
  unfold ratToNat?
  constructor
  · intro h
    split at h
    · rename_i hc
      obtain ⟨hd, hn⟩ := hc
      have hk : x.num.toNat = k := by simpa using h
      have hx : x = (x.num : Rat) := by
        conv_lhs => rw [← Rat.num_div_den x]
        simp [hd]
      have h3 : ((x.num.toNat : Int)) = x.num := Int.toNat_of_nonneg hn
      calc x = (x.num : Rat) := hx
        _ = ((x.num.toNat : Int) : Rat) := by rw [h3]
        _ = (k : Rat) := by rw [hk]; simp
    · simp at h
  · intro h
    subst h
    simp

theorem SIv.toSamples_eq (c : UnitCfg) (i : SIv) :
    i.toSamples c =
      match ratToNat? ((i.durNs c.unit).1 / c.periodNs), ratToNat? ((i.durNs c.unit).2 / c.periodNs) with
      | some b, some e => .ok (b, e)
      | _, _ => .error .rtamt := by
  rfl

/-- The elaborated bound is the duration divided by the sampling period (both in ns):
    `lo` samples last exactly the written duration. -/
theorem C08_normalize_factor (c : UnitCfg) (i : SIv) (lo hi : Nat) (hp : c.periodNs ≠ 0)
    (h : i.toSamples c = .ok (lo, hi)) :
    (lo : Rat) * c.periodNs = (i.durNs c.unit).1 ∧ (hi : Rat) * c.periodNs = (i.durNs c.unit).2 := by
  rw [SIv.toSamples_eq] at h
  split at h
  · rename_i b e hb he
    simp only [Except.ok.injEq, Prod.mk.injEq] at h
    obtain ⟨rfl, rfl⟩ := h
    rw [ratToNat?_eq_some] at hb he
    exact ⟨by rw [← hb]; exact div_mul_cancel₀ _ hp, by rw [← he]; exact div_mul_cancel₀ _ hp⟩
  · cases h

/-- A bound that is not a non-negative integer multiple of the sampling period is rejected
    with RTAMTException (never rounded). -/
theorem C08_non_multiple_rejected (c : UnitCfg) (i : SIv)
    (h : (∀ k : Nat, (k : Rat) * c.periodNs ≠ (i.durNs c.unit).1) ∨
         (∀ k : Nat, (k : Rat) * c.periodNs ≠ (i.durNs c.unit).2)) (hp : c.periodNs ≠ 0) :
    i.toSamples c = .error .rtamt := by
  rw [SIv.toSamples_eq]
  split
  · rename_i b e hb he
    rw [ratToNat?_eq_some] at hb he
    exfalso
    rcases h with h | h
    · exact h b (by rw [← hb]; exact div_mul_cancel₀ _ hp)
    · exact h e (by rw [← he]; exact div_mul_cancel₀ _ hp)
  · rfl

/-- Same durations (relative to the sampling period) ⇒ same interval in samples. -/
theorem C08_interval_eq (c c' : UnitCfg) (i i' : SIv)
    (h1 : (i.durNs c.unit).1 / c.periodNs = (i'.durNs c'.unit).1 / c'.periodNs)
    (h2 : (i.durNs c.unit).2 / c.periodNs = (i'.durNs c'.unit).2 / c'.periodNs) :
    i.toSamples c = i'.toSamples c' := by
  rw [SIv.toSamples_eq, SIv.toSamples_eq, h1, h2]

variable {α : Type}

/-- Main theorem: specifications whose bounds denote the same durations elaborate to the same
    core formula (or are both rejected). -/
theorem C08_equal_durations (c c' : UnitCfg) (sf sf' : SF α) (h : SameDur c c' sf sf') :
    sf.elab c = sf'.elab c' := by
  induction h with
  | var x => rfl
  | const k => rfl
  | un op _ ih => simp [SF.elab, ih]
  | bin op _ _ ih1 ih2 => simp [SF.elab, ih1, ih2]
  | tmp1 op _ ih => simp [SF.elab, ih]
  | tmp2 op _ _ ih1 ih2 => simp [SF.elab, ih1, ih2]
  | tb1 op h1 h2 _ ih => simp [SF.elab, ih, C08_interval_eq _ _ _ _ h1 h2]
  | tb2 op h1 h2 _ _ ih1 ih2 => simp [SF.elab, ih1, ih2, C08_interval_eq _ _ _ _ h1 h2]

/-- Consequently every monitor, and the pastifier, gives identical results. -/
theorem C08_results_identical {β : Type} (run : F α → β) (c c' : UnitCfg) (sf sf' : SF α)
    (h : SameDur c c' sf sf') :
    (sf.elab c).map run = (sf'.elab c').map run ∧
    (sf.elab c).map (fun φ => run (pastify φ)) = (sf'.elab c').map (fun φ => run (pastify φ)) := by
  rw [C08_equal_durations c c' sf sf' h]
  exact ⟨rfl, rfl⟩

set_option linter.unusedVariables false in
/-- Spelling variants of one interval: explicit units, unit on one end only, default unit. -/
theorem C08_spellings (x y : Rat) :
    let c : UnitCfg := { unit := .s, period := 1, periodUnit := .s }
    let c' : UnitCfg := { unit := .ms, period := 1000, periodUnit := .ms }
    let c'' : UnitCfg := { unit := .us, period := 1, periodUnit := .s }
    let i0 : SIv := { b := x, e := y, bu := none, eu := none }               -- [x, y]   default s
    let i1 : SIv := { b := x, e := y, bu := some .s, eu := some .s }         -- [x s, y s]
    let i2 : SIv := { b := x * 1000, e := y, bu := some .ms, eu := some .s } -- [1000x ms, y s]
    let i3 : SIv := { b := x, e := y, bu := none, eu := some .s }            -- [x, y s]
    let i4 : SIv := { b := x, e := y, bu := some .s, eu := none }            -- [x s, y]
    let i5 : SIv := { b := x * 1000, e := y * 1000, bu := none, eu := none } -- [1000x, 1000y] default ms
    let i6 : SIv := { b := x * 1000000, e := y * 1000000000, bu := none, eu := some .ns } -- default us
    i0.toSamples c = i1.toSamples c ∧ i0.toSamples c = i2.toSamples c ∧ i0.toSamples c = i3.toSamples c ∧
    i0.toSamples c = i4.toSamples c ∧ i0.toSamples c = i5.toSamples c' ∧ i0.toSamples c = i1.toSamples c' := by
  -- once `SIv.units` has filled in the missing units, `i0`, `i1`, `i3` and `i4` are one interval
  refine ⟨rfl, ?_, rfl, rfl, ?_, ?_⟩ <;> apply C08_interval_eq <;>
    simp only [SIv.durNs, SIv.units, UnitCfg.periodNs, TUnit.nanos] <;> push_cast <;> ring

/-- Dense time: the bound in the default unit depends on the duration only, and a consistent
    change of the default unit rescales it. -/
theorem C08_dense (d d' : TUnit) (i i' : SIv) (h : i.durNs d = i'.durNs d') :
    (i.toDefault d).1 * (d.nanos : Rat) = (i'.toDefault d').1 * (d'.nanos : Rat) ∧
    (i.toDefault d).2 * (d.nanos : Rat) = (i'.toDefault d').2 * (d'.nanos : Rat) ∧
    (d = d' → i.toDefault d = i'.toDefault d') := by
  have hd : (d.nanos : Rat) ≠ 0 := by cases d <;> norm_num [TUnit.nanos]
  have hd' : (d'.nanos : Rat) ≠ 0 := by cases d' <;> norm_num [TUnit.nanos]
  have e1 : i.toDefault d = ((i.durNs d).1 / (d.nanos : Rat), (i.durNs d).2 / (d.nanos : Rat)) := rfl
  have e2 : i'.toDefault d' = ((i'.durNs d').1 / (d'.nanos : Rat), (i'.durNs d').2 / (d'.nanos : Rat)) := rfl
  rw [e1, e2, h]
  refine ⟨?_, ?_, ?_⟩
  · simp only
    rw [div_mul_cancel₀ _ hd, div_mul_cancel₀ _ hd']
  · simp only
    rw [div_mul_cancel₀ _ hd, div_mul_cancel₀ _ hd']
  · intro hdd
    subst hdd
    rfl

end Rtamt
