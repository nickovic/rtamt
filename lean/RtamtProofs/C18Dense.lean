/-
  C18 (dense part) — the duality / expansion laws on the dense-time semantics `rhoD`.

  The dualities are `foldWin` under negation (`foldWin_neg`).  The two laws for a bounded operator under itself are one
  fact about suprema, `isLUB_nested`: the supremum over `t'` of the suprema over windows `[l t', h t']` is the supremum
  over the union of the windows; what is left per law is which windows make up which.
-/
import RtamtProofs.C04

set_option linter.unusedSectionVars false

namespace Rtamt.Dense
open Rtamt Val

variable {α : Type} [Val α] [LawfulVal α]

/-- Two formulas denote the same dense-time robustness signal on every input. -/
def EquivD (φ ψ : F α) : Prop :=
  ∀ (cfg : DCfg) (w : DEnv α) (t : Rat), 0 ≤ cfg.scale → w.WF (φ.vars ++ ψ.vars) →
    rhoD cfg w φ t = rhoD cfg w ψ t

theorem foldlM_neg (g : Rat → Option α) (pts : List Rat) (acc : α) :
    (pts.foldlM (fun acc τ => (g τ).map (fun v => pmax acc v)) acc).map Val.neg
      = pts.foldlM (fun acc τ => ((g τ).map Val.neg).map (fun v => pmin acc v)) (Val.neg acc) := by
  induction pts generalizing acc with
  | nil => rfl
  | cons τ pts ih =>
    simp only [List.foldlM_cons]
    cases h : g τ with
    | none => rfl
    | some v =>
      simp only [Option.map_some, Option.bind_eq_bind, Option.bind_some]
      rw [ih, pmax_eq, pmin_eq, neg_max]

theorem foldWin_neg (g : Rat → Option α) (B : List Rat) (lo : Rat) (hi : Option Rat) :
    (foldWin pmax ninf g B lo hi).map Val.neg
      = foldWin pmin pinf (fun t => (g t).map Val.neg) B lo hi := by
  rw [foldWin_eq, foldWin_eq, foldlM_neg, neg_ninf]

theorem C18D_not_ev_bounded (a b : Nat) (p : F α) :
    EquivD (.un .not (.tb1 .ev a b p)) (.tb1 .alw a b (.un .not p)) := by
  intro cfg w t _ _
  rw [rhoD_un, rhoD_tb1_ev, rhoD_tb1_alw, dom_un, bps_un, rhoD_not]
  split
  · rfl
  · exact foldWin_neg _ _ _ _

theorem C18D_not_once_bounded (a b : Nat) (p : F α) :
    EquivD (.un .not (.tb1 .once a b p)) (.tb1 .hist a b (.un .not p)) := by
  intro cfg w t _ _
  rw [rhoD_un, rhoD_tb1_once, rhoD_tb1_hist, dom_un, bps_un, rhoD_not]
  split
  · rfl
  · split
    · exact congrArg some neg_ninf
    · exact foldWin_neg _ _ _ _

theorem C18D_not_once (p : F α) :
    EquivD (.un .not (.tmp1 .once p)) (.tmp1 .hist (.un .not p)) := by
  intro cfg w t _ _
  rw [rhoD_un, rhoD_tmp1_once, rhoD_tmp1_hist, dom_un, bps_un, rhoD_not]
  split
  · rfl
  · exact foldWin_neg _ _ _ _

theorem C18D_not_ev (p : F α) :
    EquivD (.un .not (.tmp1 .ev p)) (.tmp1 .alw (.un .not p)) := by
  intro cfg w t _ _
  rw [rhoD_un, rhoD_tmp1_ev, rhoD_tmp1_alw, dom_un, bps_un, rhoD_not]
  split
  · rfl
  · exact foldWin_neg _ _ _ _

theorem C18D_implies (p q : F α) :
    EquivD (.bin .implies p q) (.bin .or (.un .not p) q) := by
  intro cfg w t _ _
  show (do
      let l ← rhoD cfg w p t
      let r ← rhoD cfg w q t
      pure (Bin.app .implies l r)) = (do
      let l ← (rhoD cfg w p t).map (Un.app .not)
      let r ← rhoD cfg w q t
      pure (Bin.app .or l r))
  cases rhoD cfg w p t <;> cases rhoD cfg w q t <;> rfl

/-- A supremum over windows is the supremum over their union (`maxOver_maxOver` of Lemmas/Lawful.lean for windows of
    rationals): if `ψ t'` is the supremum of `g` over `[l t', h t']` for every `t'` of `[lo, hi]`, and these windows make
    up `[L, H]`, the supremum of `ψ` over `[lo, hi]` is the supremum of `g` over `[L, H]`.  An inner window may be empty. -/
theorem isLUB_nested {g ψ : Rat → Option α} {lo hi L H : Rat} {l h : Rat → Rat} {v : α}
    (inner : ∀ t', lo ≤ t' → t' ≤ hi → ∃ v', ψ t' = some v' ∧ IsLUB (valuesOn g (l t') (h t')) v')
    (sub : ∀ t', lo ≤ t' → t' ≤ hi → ∀ u, l t' ≤ u → u ≤ h t' → L ≤ u ∧ u ≤ H)
    (cov : ∀ u, L ≤ u → u ≤ H → ∃ t', lo ≤ t' ∧ t' ≤ hi ∧ l t' ≤ u ∧ u ≤ h t')
    (hv : IsLUB (valuesOn ψ lo hi) v) : IsLUB (valuesOn g L H) v := by
  constructor
  · rintro y ⟨u, h1, h2, h3⟩
    obtain ⟨t', k1, k2, k3, k4⟩ := cov u h1 h2
    obtain ⟨v', e, hl⟩ := inner t' k1 k2
    exact le_trans (hl.1 ⟨u, k3, k4, h3⟩) (hv.1 ⟨t', k1, k2, e⟩)
  · intro z hz
    refine hv.2 ?_
    rintro y ⟨t', k1, k2, k3⟩
    obtain ⟨v', e, hl⟩ := inner t' k1 k2
    cases e.symm.trans k3
    exact hl.2 fun y' ⟨u, j1, j2, j3⟩ => hz ⟨u, (sub t' k1 k2 u j1 j2).1, (sub t' k1 k2 u j1 j2).2, j3⟩

/-- `eventually[a,b] eventually[c,d] p = eventually[a+c,b+d] p` for supported `p`. -/
theorem C18D_ev_ev (a b c d : Nat) (hab : a ≤ b) (hcd : c ≤ d) (p : F α) (hsup : supported p = true) :
    EquivD (.tb1 .ev a b (.tb1 .ev c d p)) (.tb1 .ev (a + c) (b + d) p) := by
  intro cfg w t hs hw
  have hwp : w.WF p.vars := hw.left
  have hsupψ : supported (F.tb1 .ev c d p) = true :=
    Bool.and_eq_true_iff.2 ⟨decide_eq_true hcd, hsup⟩
  by_cases ht : t < dom w p
  · rw [rhoD_tb1_ev, rhoD_tb1_ev, dom_tb1, if_pos ht, if_pos ht]
  have ht' : dom w p ≤ t := not_lt.1 ht
  obtain ⟨ha0, hab'⟩ := scale_bounds cfg hs hab
  obtain ⟨-, hcd'⟩ := scale_bounds cfg hs hcd
  -- both sides are suprema (C04); the windows `[t' + c, t' + d]`, `t' ∈ [t + a, t + b]`, make up `[t + a + c, t + b + d]`
  obtain ⟨v, hv, hvl⟩ := rhoD_evB_sup cfg hs w _ hsupψ hwp a b hab t ht'
  obtain ⟨u, hu, hul⟩ := rhoD_evB_sup cfg hs w p hsup hwp (a + c) (b + d) (add_le_add hab hcd) t ht'
  simp only [Nat.cast_add, add_mul, ← add_assoc] at hul
  rw [hv, hu]
  refine congrArg some (IsLUB.unique (isLUB_nested (l := (· + c * cfg.scale)) (h := (· + d * cfg.scale))
    (fun t' k _ => rhoD_evB_sup cfg hs w p hsup hwp c d hcd t' (ht'.trans ((le_add_of_nonneg_right ha0).trans k)))
    (fun t' k1 k2 u j1 j2 => ⟨(add_le_add_left k1 _).trans j1, j2.trans (add_le_add_left k2 _)⟩)
    (fun u j1 j2 => ?_) hvl) hul)
  -- `u` lies in the window of `t' = max (t + a) (u - d)`
  exact ⟨max (t + a * cfg.scale) (u - d * cfg.scale), le_max_left _ _,
    max_le (add_le_add_right hab' t) (sub_le_iff_le_add.2 j2),
    (max_add_add_right _ _ _).ge.trans (max_le j1 ((add_le_add_right hcd' _).trans (sub_add_cancel _ _).le)),
    sub_le_iff_le_add.1 (le_max_right _ _)⟩

/-- `once[a,b] once[c,d] p = once[a+c,b+d] p` for supported `p`, at every time (before the domain
    both sides are `none`).  This is `EquivD` written out, with `WF` asked of `p.vars` once. -/
theorem C18D_once_once (a b c d : Nat) (hab : a ≤ b) (hcd : c ≤ d) (p : F α) (hsup : supported p = true)
    (cfg : DCfg) (hs : 0 ≤ cfg.scale) (w : DEnv α) (hw : w.WF p.vars) (t : Rat) :
    rhoD cfg w (.tb1 .once a b (.tb1 .once c d p)) t = rhoD cfg w (.tb1 .once (a + c) (b + d) p) t := by
  have hsupψ : supported (F.tb1 .once c d p) = true :=
    Bool.and_eq_true_iff.2 ⟨decide_eq_true hcd, hsup⟩
  by_cases ht : t < dom w p
  · rw [rhoD_tb1_once cfg w a b, rhoD_tb1_once cfg w (a + c) (b + d), dom_tb1, if_pos ht, if_pos ht]
  have ht' : dom w p ≤ t := not_lt.1 ht
  obtain ⟨hc0, hcd'⟩ := scale_bounds cfg hs hcd
  obtain ⟨-, hab'⟩ := scale_bounds cfg hs hab
  -- both sides are suprema over windows clipped to the domain (C04); the windows `[max (t' - d) dom, t' - c]`,
  -- `t' ∈ [max (t - b) dom, t - a]`, make up `[max (t - b - d) dom, t - a - c]`, empty ones included
  obtain ⟨v, hv, hvl⟩ := rhoD_onceB_sup cfg hs w _ hsupψ hw a b hab t ht'
  obtain ⟨u, hu, hul⟩ := rhoD_onceB_sup cfg hs w p hsup hw (a + c) (b + d) (add_le_add hab hcd) t ht'
  simp only [Nat.cast_add, add_mul, sub_add_eq_sub_sub] at hul
  rw [dom_tb1] at hvl
  rw [hv, hu]
  refine congrArg some (IsLUB.unique (isLUB_nested (l := fun t' => max (t' - d * cfg.scale) (dom w p))
    (h := (· - c * cfg.scale))
    (fun t' k _ => rhoD_onceB_sup cfg hs w p hsup hw c d hcd t' ((le_max_right _ _).trans k))
    (fun t' k1 k2 u j1 j2 => ⟨max_le ((sub_le_sub_right ((le_max_left _ _).trans k1) _).trans
        ((le_max_left _ _).trans j1)) ((le_max_right _ _).trans j1), j2.trans (sub_le_sub_right k2 _)⟩)
    (fun u j1 j2 => ?_) hvl) hul)
  -- `u` lies in the window of `t' = min (t - a) (u + d)`
  have ju := (le_max_right _ _).trans j1
  exact ⟨min (t - a * cfg.scale) (u + d * cfg.scale),
    max_le (le_min (sub_le_sub_left hab' t) (sub_le_iff_le_add.1 ((le_max_left _ _).trans j1)))
      (le_min (ju.trans (j2.trans (sub_le_self _ hc0))) (ju.trans (le_add_of_nonneg_right (hc0.trans hcd')))),
    min_le_left _ _, max_le (sub_le_iff_le_add.2 (min_le_right _ _)) ju,
    le_sub_iff_add_le.2 (le_min (le_sub_iff_add_le.1 j2) (add_le_add_right hcd' u))⟩

end Rtamt.Dense
