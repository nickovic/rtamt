/-
  The interface-aware `PredicateOperation` of the discrete-time online monitor
  (`rtamt/semantics/iastl/discrete_time/online/predicate_operation.py`, a subclass of the standard one; calls of the
  parent's and of inherited methods inlined by the translator), as translated from the source, computes at every
  update what `Bin.app (iaOp sem c insensitive)` computes — `±inf` by satisfaction for the robustness semantics,
  the integer `0` for the vacuity semantics, the ordinary predicate otherwise.
-/
import Rtamt.Py.GeneratedIAOn
import RtamtProofs.GenIA
import RtamtProofs.GenOps

namespace Rtamt.Py
open Rtamt Val

variable {α : Type} [Val α]

/-- The value of `Semantics.X`. -/
def semStr : Sem → String
  | .standard => "standard"
  | .outRob => "output-robustness"
  | .inRob => "input-robustness"
  | .inVac => "input-vacuity"
  | .outVac => "output-vacuity"

/-- The attributes of the object: comparison, semantics, whether `in_vars` / `out_vars` are non-empty. -/
def encIA (c : Cmp) (sem : Sem) (o i : Bool) : Store α :=
  [("comparison_op", .cmp c), ("semantics", .str (semStr sem)), ("in_vars", .bool i), ("out_vars", .bool o)]

/-- What `update` returns: note the integer `0` (not a float) of the vacuity semantics. -/
def iaResult (sem : Sem) (c : Cmp) (insens : Bool) (l r : α) : V α :=
  if insens then
    (match sem with
     | .outRob | .inRob => .num (if c.holds l r then Val.pinf else Val.ninf)
     | _ => .int 0)
  else .num (c.app l r)

theorem gen_IAPred_construct (c : Cmp) (sem : Sem) (o i : Bool) :
    construct (α := α) Gen.IAPredicateOperation [.cmp c, .str (semStr sem), .bool i, .bool o] = .ok (encIA c sem o i) := by
  py_simp [Gen.IAPredicateOperation, encIA]

/-- The test on the semantics (taken out of the generated term, not copied). -/
def iaTest : S :=
  match Gen.IAPredicateOperation.update.body with
  | .seq _ (.seq _ f) => f
  | _ => .skip

theorem ia_body (m : Method) (hm : Gen.PredicateOperation.sat = some m) :
    Gen.IAPredicateOperation.update.body
      = .seq (.seq Gen.PredicateOperation.update.body (.setLoc "out_sample" (.loc "sample_return")))
          (.seq (.seq m.body (.setLoc "sat_sample" (.loc "sample_return"))) iaTest) := by
  obtain rfl := Option.some.inj hm
  exact id rfl

theorem ia_test (c : Cmp) (sem : Sem) (o i : Bool) (a : α) (h : Bool) (loc : Store α)
    (ha : getKey "out_sample" loc = .ok (.num a)) (hh : getKey "sat_sample" loc = .ok (.bool h)) :
    okAnd (exec iaTest ⟨encIA c sem o i, loc⟩) (fun env => env.self = encIA c sem o i ∧
      getKey "out_sample" env.loc = .ok
        (if insensOf sem o i then
          (match sem with
           | .outRob | .inRob => .num (if h then Val.pinf else Val.ninf)
           | _ => .int 0)
         else .num a)) := by
  -- the program is run once, with the semantics and the two flags as variables; each semantics then looks at one flag
  simp only [iaTest, Gen.IAPredicateOperation, encIA, exec_ite, exec_setLoc, exec_skip, evalE,
    ok_bind, getKey_cons_same, getKey_cons_ne, evalBin_eq_str, evalBin_eq_int,
    evalBin_eq_bool, evalBin_and_bool, evalBin_or_bool, evalUn_not_bool, evalUn_truthy_bool, hh,
    ne_eq, String.reduceEq, not_false_eq_true]
  cases sem
  case standard => simp [semStr, insensOf, ha]
  case outRob => cases o <;> cases h <;> simp [semStr, insensOf, ok_bind, getKey_setKey_same, ha]
  case inRob => cases i <;> cases h <;> simp [semStr, insensOf, ok_bind, getKey_setKey_same, ha]
  case inVac => cases i <;> simp [semStr, insensOf, getKey_setKey_same, ha]
  case outVac => cases o <;> simp [semStr, insensOf, getKey_setKey_same, ha]

theorem gen_IAPred_update (c : Cmp) (sem : Sem) (o i : Bool) (l r : α) :
    update Gen.IAPredicateOperation (encIA c sem o i) [.num l, .num r]
      = .ok (encIA c sem o i, iaResult sem c (insensOf sem o i) l r) := by
  obtain ⟨m, hm, -⟩ := gen_Pred_sat c l r
  have hc : getKey "comparison_op" (encIA (α := α) c sem o i) = .ok (.cmp c) := getKey_cons_same ..
  obtain ⟨⟨self', loc'⟩, henv, hself, hout⟩ := ia_test c sem o i (c.app l r) (c.holds l r)
    (setKey "sat_sample" (.bool (c.holds l r)) (setKey "sample_return" (.bool (c.holds l r))
      (setKey "out_sample" (.num (c.app l r)) (setKey "sample_return" (.num (c.app l r))
        [("sample_left", .num l), ("sample_right", .num r)]))))
    (by simp [getKey_setKey_ne, getKey_setKey_same]) (getKey_setKey_same ..)
  subst hself
  unfold update
  refine call_ok _ _ _ _ _ _ _ rfl rfl ?_ hout
  change exec _ ⟨_, [("sample_left", .num l), ("sample_right", .num r)]⟩ = _
  rw [ia_body m hm, exec_seq, exec_seq,
    Pred_update_body c l r _ hc (getKey_cons_same ..) (by simp [getKey_cons_ne, getKey_cons_same]),
    ok_bind, exec_setLoc]
  simp only [evalE, getKey_setKey_same, ok_bind]
  rw [exec_seq, exec_seq,
    Pred_sat_body m hm c l r _ hc (by simp [getKey_setKey_ne, getKey_cons_same])
      (by simp [getKey_setKey_ne, getKey_cons_ne, getKey_cons_same]),
    ok_bind, exec_setLoc]
  simp only [evalE, getKey_setKey_same, ok_bind]
  exact henv

theorem gen_IAPred_reset (c : Cmp) (sem : Sem) (o i : Bool) :
    reset (α := α) Gen.IAPredicateOperation (encIA c sem o i) = .ok (encIA c sem o i) :=
  reset_pass _ rfl _

/-- In terms of the formula transformation: the float read off the result is `Bin.app (iaOp …)` (with `0` for the integer 0). -/
theorem gen_IAPred_value (c : Cmp) (sem : Sem) (o i : Bool) (l r : α) :
    (match iaResult sem c (insensOf sem o i) l r with
     | .num x => x
     | _ => Val.zero) = (iaOp sem c (insensOf sem o i)).app l r := by
  generalize insensOf sem o i = b
  cases sem <;> cases b <;> simp [iaResult, iaOp, Bin.app]

end Rtamt.Py
