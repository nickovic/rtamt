/-
  Corollaries of M-alg = M-spec for dense time (`evalAlg_denotes_partial`): statements that were proved about the
  semantics `rhoD` hold for the lists the mirror of the dense offline visitor (`Dense.Alg.evalAlg`) returns.

  * C16 (dense): a value that is settled (`t + hor φ` inside the part on which two sets of signals agree) is the same in the
    result computed from either set — extending the signals does not change it;
  * C18 (dense): the duality / expansion laws hold between the lists computed for the two sides.
-/
import RtamtProofs.C05
import RtamtProofs.C18Dense
import RtamtProofs.Dense.AlgMain

namespace Rtamt.Dense.Alg
open Rtamt Val Dense

variable {α : Type} [Val α] [LawfulVal α]

/-- C16 on the algorithm: settled values do not depend on what the signals do later. -/
theorem C16_alg_settled (cfg : DCfg) (hs : 0 ≤ cfg.scale) (w w' : DEnv α) (φ : F α)
    (hsup : supported φ = true) (hia : noIA φ = true) (hb : φ.bounded = true)
    (hw : w.WF φ.vars) (hw' : w'.WF φ.vars) (h0 : StartsAt0 w φ.vars) (h0' : StartsAt0 w' φ.vars)
    (hsub : ∀ a b : α, Val.neg (Val.sub a b) = Val.sub b a)
    (t : Rat) (ht : 0 ≤ t) (h : AgreeUpTo w w' φ.vars (t + (hor φ : Rat) * cfg.scale))
    {s s' : ASig α} (he : evalAlg cfg w φ = .ok s) (he' : evalAlg cfg w' φ = .ok s') :
    valAtA s t = valAtA s' t := by
  rw [(evalAlg_denotes_partial cfg hs w φ hsup hia hw h0 hsub he).2 t ht,
    (evalAlg_denotes_partial cfg hs w' φ hsup hia hw' h0' hsub he').2 t ht]
  exact C16_dense_settled cfg hs w w' φ hsup hb hw hw' t h

/-- Two formulas that denote the same dense robustness signal are evaluated to lists that denote the same step function. -/
theorem equivD_alg (φ ψ : F α) (heq : EquivD φ ψ) (cfg : DCfg) (hs : 0 ≤ cfg.scale) (w : DEnv α)
    (hsφ : supported φ = true) (hsψ : supported ψ = true) (hiφ : noIA φ = true) (hiψ : noIA ψ = true)
    (hw : w.WF (φ.vars ++ ψ.vars)) (h0 : StartsAt0 w (φ.vars ++ ψ.vars))
    (hsub : ∀ a b : α, Val.neg (Val.sub a b) = Val.sub b a)
    {s s' : ASig α} (he : evalAlg cfg w φ = .ok s) (he' : evalAlg cfg w ψ = .ok s') (t : Rat) (ht : 0 ≤ t) :
    valAtA s t = valAtA s' t := by
  rw [(evalAlg_denotes_partial cfg hs w φ hsφ hiφ hw.left (MainAux.startsAt0_left h0) hsub he).2 t ht,
    (evalAlg_denotes_partial cfg hs w ψ hsψ hiψ hw.right (MainAux.startsAt0_right h0) hsub he').2 t ht]
  exact heq cfg w t hs hw

/-- C18 on the algorithm, bounded duality: the list computed for `not once[a,b] p` and the one computed for
    `historically[a,b] not p` are the same step function. -/
theorem C18_alg_not_once_bounded (a b : Nat) (hab : a ≤ b) (p : F α) (cfg : DCfg) (hs : 0 ≤ cfg.scale) (w : DEnv α)
    (hsp : supported p = true) (hip : noIA p = true) (hw : w.WF p.vars) (h0 : StartsAt0 w p.vars)
    (hsub : ∀ a b : α, Val.neg (Val.sub a b) = Val.sub b a)
    {s s' : ASig α} (he : evalAlg cfg w (.un .not (.tb1 .once a b p)) = .ok s)
    (he' : evalAlg cfg w (.tb1 .hist a b (.un .not p)) = .ok s') (t : Rat) (ht : 0 ≤ t) :
    valAtA s t = valAtA s' t := by
  have hsup : decide (a ≤ b) = true := decide_eq_true hab
  exact equivD_alg _ _ (C18D_not_once_bounded a b p) cfg hs w
    (Bool.and_eq_true_iff.2 ⟨hsup, hsp⟩) (Bool.and_eq_true_iff.2 ⟨hsup, hsp⟩) hip hip
    (List.forall_mem_append.2 ⟨hw, hw⟩) (List.forall_mem_append.2 ⟨h0, h0⟩)
    hsub he he' t ht

/-- … and for `not eventually[a,b] p` / `always[a,b] not p`. -/
theorem C18_alg_not_ev_bounded (a b : Nat) (hab : a ≤ b) (p : F α) (cfg : DCfg) (hs : 0 ≤ cfg.scale) (w : DEnv α)
    (hsp : supported p = true) (hip : noIA p = true) (hw : w.WF p.vars) (h0 : StartsAt0 w p.vars)
    (hsub : ∀ a b : α, Val.neg (Val.sub a b) = Val.sub b a)
    {s s' : ASig α} (he : evalAlg cfg w (.un .not (.tb1 .ev a b p)) = .ok s)
    (he' : evalAlg cfg w (.tb1 .alw a b (.un .not p)) = .ok s') (t : Rat) (ht : 0 ≤ t) :
    valAtA s t = valAtA s' t := by
  have hsup : decide (a ≤ b) = true := decide_eq_true hab
  exact equivD_alg _ _ (C18D_not_ev_bounded a b p) cfg hs w
    (Bool.and_eq_true_iff.2 ⟨hsup, hsp⟩) (Bool.and_eq_true_iff.2 ⟨hsup, hsp⟩) hip hip
    (List.forall_mem_append.2 ⟨hw, hw⟩) (List.forall_mem_append.2 ⟨h0, h0⟩)
    hsub he he' t ht

end Rtamt.Dense.Alg
