/-
  C19 — Dense-time and discrete-time interpretations agree on sampled step signals.

  "For specifications built from arithmetic, comparisons, Boolean operators, once and
   historically (bounded or not) and bounded eventually and always, with bounds that are
   multiples of the sampling period, and for step signals that change only at multiples of
   that period, the dense-time robustness at each sampling instant t equals the
   discrete-time robustness at sample t, for every t whose future windows end inside the
   trace (t + horizon < trace length)."
-/
import RtamtProofs.Dense.Step
import RtamtProofs.C16

namespace Rtamt
open Val Dense

variable {α : Type} [Val α] [LawfulVal α]

/-- The fragment of C19. -/
def F.gridFrag : F α → Bool
  | .var _ => true
  | .const _ => true
  | .un _ φ => φ.gridFrag
  | .bin _ φ ψ => φ.gridFrag && ψ.gridFrag
  | .tmp1 op φ => (match op with | .once | .hist => true | _ => false) && φ.gridFrag
  | .tmp2 _ _ _ => false
  | .tb1 _ a b φ => decide (a ≤ b) && φ.gridFrag
  | .tb2 _ _ _ _ _ => false

/-- The discrete trace `σ` (n samples) as dense step signals with period `P`: variable `x` has the
    sample list `[(0, σ x 0), (P, σ x 1), …, ((n-1)P, σ x (n-1))]`. -/
def gridEnv (P : Rat) (σ : String → Nat → α) (n : Nat) (xs : List String) : DEnv α :=
  xs.map (fun x => (x, (List.range n).map (fun (k : Nat) => ((k : Rat) * P, σ x k))))

def IsGrid (P c : Rat) : Prop := ∃ m : Int, c = (m : Rat) * P

theorem grid_lt {P : Rat} (hP : 0 < P) {a b : Nat} : (a : Rat) * P < (b : Rat) * P ↔ a < b := by
  rw [mul_lt_mul_iff_of_pos_right hP, Nat.cast_lt]

theorem grid_le {P : Rat} (hP : 0 < P) {a b : Nat} : (a : Rat) * P ≤ (b : Rat) * P ↔ a ≤ b := by
  rw [mul_le_mul_iff_of_pos_right hP, Nat.cast_le]

theorem IsGrid.zero (P : Rat) : IsGrid P 0 := ⟨0, by simp⟩

theorem IsGrid.nat (P : Rat) (j : Nat) : IsGrid P ((j : Rat) * P) := ⟨j, by simp⟩

theorem IsGrid.add_nat {P c : Rat} (h : IsGrid P c) (a : Nat) : IsGrid P (c + (a : Rat) * P) := by
  obtain ⟨m, rfl⟩ := h
  exact ⟨m + a, by push_cast; rw [add_mul]⟩

theorem IsGrid.sub_nat {P c : Rat} (h : IsGrid P c) (a : Nat) : IsGrid P (c - (a : Rat) * P) := by
  obtain ⟨m, rfl⟩ := h
  exact ⟨m - a, by push_cast; rw [sub_mul]⟩

theorem grid_sub (P : Rat) {a k : Nat} (h : a ≤ k) :
    (k : Rat) * P - (a : Rat) * P = ((k - a : Nat) : Rat) * P := by
  rw [Nat.cast_sub h, sub_mul]

theorem grid_add (P : Rat) (a k : Nat) :
    (k : Rat) * P + (a : Rat) * P = ((k + a : Nat) : Rat) * P := by
  rw [Nat.cast_add, add_mul]

theorem grid_max_sub {P : Rat} (hP : 0 < P) (b k : Nat) :
    max ((k : Rat) * P - (b : Rat) * P) 0 = ((k - b : Nat) : Rat) * P := by
  by_cases h : b ≤ k
  · rw [grid_sub P h]
    exact max_eq_left (mul_nonneg (Nat.cast_nonneg _) (le_of_lt hP))
  · have hkb : k ≤ b := (not_le.1 h).le
    rw [Nat.sub_eq_zero_of_le hkb, Nat.cast_zero, zero_mul]
    exact max_eq_right (sub_nonpos.2 ((grid_le hP).2 hkb))

/-- The sample list that `gridEnv` gives the variable `x` (`gridEnv_sig`). -/
def gridSig (P : Rat) (σ : String → Nat → α) (n : Nat) (x : String) : DSig α :=
  (List.range n).map (fun (k : Nat) => ((k : Rat) * P, σ x k))

omit [Val α] [LawfulVal α] in
theorem gridEnv_sig (P : Rat) (σ : String → Nat → α) (n : Nat) (xs : List String) (x : String) :
    (gridEnv P σ n xs).sig x = if x ∈ xs then gridSig P σ n x else [] := by
  unfold DEnv.sig gridEnv
  induction xs with
  | nil => rfl
  | cons y ys ih =>
    rw [List.map_cons, List.lookup_cons]
    by_cases h : x = y
    · subst h; simp [gridSig]
    · rw [beq_eq_false_iff_ne.2 h, ih]
      simp only [List.mem_cons, h, false_or]

omit [Val α] [LawfulVal α] in
theorem gridSig_times (P : Rat) (σ : String → Nat → α) (n : Nat) (x : String) :
    (gridSig P σ n x).times = (List.range n).map (fun (k : Nat) => (k : Rat) * P) := by
  simp [gridSig, DSig.times, List.map_map, Function.comp_def]

omit [Val α] [LawfulVal α] in
theorem gridSig_head (P : Rat) (σ : String → Nat → α) {n : Nat} (hn : 0 < n) (x : String) :
    (gridSig P σ n x).times.head? = some 0 := by
  obtain ⟨m, rfl⟩ := Nat.exists_eq_succ_of_ne_zero hn.ne'
  simp [gridSig_times, List.range_succ_eq_map]

omit [Val α] [LawfulVal α] in
theorem gridEnv_head (P : Rat) (σ : String → Nat → α) (n : Nat) (xs : List String) (x : String) :
    (((gridEnv P σ n xs).sig x).times.head?).getD 0 = 0 := by
  rw [gridEnv_sig]
  split
  · cases n with
    | zero => rfl
    | succ m => rw [gridSig_head P σ m.succ_pos]; rfl
  · rfl

omit [Val α] [LawfulVal α] in
theorem dom_grid (P : Rat) (σ : String → Nat → α) (n : Nat) (xs : List String) (φ : F α) :
    dom (gridEnv P σ n xs) φ = 0 := by
  unfold dom
  generalize φ.vars = l
  induction l with
  | nil => rfl
  | cons x l ih =>
    simp only [List.map_cons, List.foldl_cons, gridEnv_head, max_self] at ih ⊢
    exact ih

omit [Val α] [LawfulVal α] in
theorem gridEnv_WF_of_subset (P : Rat) (hP : 0 < P) (σ : String → Nat → α) (n : Nat) (hn : 0 < n)
    (xs : List String) (ys : List String) (hys : ∀ x ∈ ys, x ∈ xs) :
    (gridEnv P σ n xs).WF ys := by
  intro x hx
  rw [gridEnv_sig, if_pos (hys x hx)]
  refine ⟨?_, ?_⟩
  · intro h
    have := congrArg List.length h
    simp [gridSig] at this
    omega
  · rw [gridSig_times, List.pairwise_map]
    exact (List.pairwise_lt_range (n := n)).imp (fun h => (grid_lt hP).2 h)

omit [Val α] [LawfulVal α] in
theorem valAt_range' (P : Rat) (hP : 0 < P) (f : Nat → α) (len m k : Nat) (h1 : m ≤ k)
    (h2 : k < m + len) :
    DSig.valAt ((List.range' m len).map (fun (j : Nat) => ((j : Rat) * P, f j))) ((k : Rat) * P)
      = some (f k) := by
  induction len generalizing m with
  | zero => omega
  | succ len ih =>
    simp only [List.range'_succ, List.map_cons]
    rw [valAt_cons, if_neg (not_lt.2 ((grid_le hP).2 h1))]
    by_cases hmk : m = k
    · subst hmk
      cases len with
      | zero => rfl
      | succ len' =>
        simp only [List.range'_succ, List.map_cons]
        rw [valAt_cons, if_pos ((grid_lt hP).2 (Nat.lt_succ_self m))]
        rfl
    · rw [ih (m + 1) (by omega) (by omega)]
      rfl

omit [LawfulVal α] [Val α] in
theorem valAt_gridSig (P : Rat) (hP : 0 < P) (σ : String → Nat → α) (n : Nat) (x : String) (k : Nat)
    (hk : k < n) : (gridSig P σ n x).valAt ((k : Rat) * P) = some (σ x k) := by
  unfold gridSig
  rw [List.range_eq_range']
  exact valAt_range' P hP (σ x) n 0 k (Nat.zero_le _) (by omega)

omit [Val α] [LawfulVal α] in
theorem bps_grid (P : Rat) (σ : String → Nat → α) (n : Nat) (xs : List String) (φ : F α) :
    ∀ c ∈ bps { scale := P } (gridEnv P σ n xs) φ, IsGrid P c := by
  induction φ with
  | var x =>
    intro c hc
    simp only [bps] at hc
    rw [gridEnv_sig] at hc
    split at hc
    · rw [gridSig_times] at hc
      obtain ⟨j, _, rfl⟩ := List.mem_map.1 hc
      exact IsGrid.nat P j
    · cases hc
  | const c => intro c hc; cases hc
  | un op φ ih => exact ih
  | bin op φ ψ ihφ ihψ => exact List.forall_mem_append.2 ⟨ihφ, ihψ⟩
  | tmp1 op φ ih => exact ih
  | tmp2 op φ ψ ihφ ihψ => exact List.forall_mem_append.2 ⟨ihφ, ihψ⟩
  | tb1 op a b φ ih =>
    -- the candidates are `B ± a·P`, `B ± b·P` and `B` for `B = dom :: bps φ`
    have hB : ∀ c ∈ dom (gridEnv P σ n xs) φ :: bps { scale := P } (gridEnv P σ n xs) φ,
        IsGrid P c := List.forall_mem_cons.2 ⟨by rw [dom_grid]; exact IsGrid.zero P, ih⟩
    have add := fun a : Nat => List.forall_mem_map.2 fun c hc => (hB c hc).add_nat a
    have sub := fun a : Nat => List.forall_mem_map.2 fun c hc => (hB c hc).sub_nat a
    cases op <;> simp only [bps, List.forall_mem_append]
    · exact ⟨⟨add a, add b⟩, hB⟩
    · exact ⟨⟨add a, add b⟩, hB⟩
    · exact ⟨⟨sub a, sub b⟩, hB⟩
    · exact ⟨⟨sub a, sub b⟩, hB⟩
  | tb2 op a b φ ψ ihφ ihψ =>
    have hB : ∀ c ∈ max (dom (gridEnv P σ n xs) φ) (dom (gridEnv P σ n xs) ψ) ::
        (bps { scale := P } (gridEnv P σ n xs) φ ++ bps { scale := P } (gridEnv P σ n xs) ψ),
        IsGrid P c :=
      List.forall_mem_cons.2 ⟨by rw [dom_grid, dom_grid, max_self]; exact IsGrid.zero P,
        List.forall_mem_append.2 ⟨ihφ, ihψ⟩⟩
    have add := fun a : Nat => List.forall_mem_map.2 fun c hc => (hB c hc).add_nat a
    have sub := fun a : Nat => List.forall_mem_map.2 fun c hc => (hB c hc).sub_nat a
    cases op <;> simp only [bps, List.forall_mem_append]
    · exact ⟨⟨hB, add a⟩, add b⟩
    · exact ⟨⟨hB, sub a⟩, sub b⟩
    · exact ⟨⟨hB, add a⟩, add b⟩

omit [Val α] [LawfulVal α] in
theorem winPts_grid {P : Rat} (hP : 0 < P) {B : List Rat} (hB : ∀ c ∈ B, IsGrid P c) {lo hi : Nat}
    {τ : Rat} (hτ : τ ∈ winPts B ((lo : Rat) * P) (some ((hi : Rat) * P))) (hle : lo ≤ hi) :
    ∃ j : Nat, lo ≤ j ∧ j ≤ hi ∧ τ = (j : Rat) * P := by
  rcases mem_winPts.1 hτ with rfl | ⟨hb, h1, h2⟩
  · exact ⟨lo, le_rfl, hle, rfl⟩
  · obtain ⟨m, rfl⟩ := hB τ hb
    have h2' : (m : Rat) * P ≤ (hi : Rat) * P := h2
    rw [← Int.cast_natCast lo, mul_lt_mul_iff_of_pos_right hP, Int.cast_lt] at h1
    rw [← Int.cast_natCast hi, mul_le_mul_iff_of_pos_right hP, Int.cast_le] at h2'
    obtain ⟨j, rfl⟩ := Int.eq_ofNat_of_zero_le (le_trans (Int.natCast_nonneg lo) h1.le)
    exact ⟨j, Int.ofNat_lt.1 h1 |>.le, Int.ofNat_le.1 h2', by rw [Int.cast_natCast]⟩

/-- `foldWin f init` over a grid window is the discrete fold `over` of the samples in it, and the
    discrete fold over an empty range is `init`. -/
def GridOp (f : α → α → α) (init : α) (over : Nat → Nat → (Nat → α) → α) : Prop :=
  (∀ {P : Rat}, 0 < P → ∀ (g : Rat → Option α) (B : List Rat) (v : Nat → α) (lo hi : Nat), lo ≤ hi →
    StepOn g B ((lo : Rat) * P) (some ((hi : Rat) * P)) → (∀ c ∈ B, IsGrid P c) →
    (∀ j, lo ≤ j → j ≤ hi → g ((j : Rat) * P) = some (v j)) →
    foldWin f init g B ((lo : Rat) * P) (some ((hi : Rat) * P)) = some (over lo (hi + 1) v)) ∧
  (∀ (lo hi : Nat) (v : Nat → α), hi ≤ lo → over lo hi v = init)

theorem gridOp_max : GridOp (pmax : α → α → α) ninf maxOver := by
  refine ⟨fun {P} hP g B f lo hi hle hg hB hval => ?_, fun _ _ v h => maxOver_eq_ninf v h⟩
  have hne : leHi ((lo : Rat) * P) (some ((hi : Rat) * P)) := (grid_le hP).2 hle
  obtain ⟨v, hv, hlub⟩ := foldWin_max_spec hg hne
  rw [hv]
  congr 1
  apply le_antisymm
  · apply hlub.2
    intro y hy
    have hr := winSet_subset_read hg hy
    rw [List.mem_filterMap] at hr
    obtain ⟨τ, hτ, hy'⟩ := hr
    obtain ⟨j, hj1, hj2, rfl⟩ := winPts_grid hP hB hτ hle
    rw [hval j hj1 hj2] at hy'
    cases hy'
    exact (maxOver_le_iff lo (hi + 1) f _).1 le_rfl j hj1 (by omega)
  · rw [maxOver_le_iff]
    intro j h1 h2
    apply hlub.1
    exact ⟨(j : Rat) * P, (grid_le hP).2 h1, (grid_le hP).2 (by omega), hval j h1 (by omega)⟩

theorem gridOp_min : GridOp (pmin : α → α → α) pinf minOver :=
  gridOp_max (α := αᵒᵈ)

/-! One lemma per temporal node class, at the sampling instant `k·P`: `g` is the operand (a step
function on `[0, ∞)` with grid break-points) and `v` its samples. -/

omit [LawfulVal α] in
theorem past_grid {f : α → α → α} {init : α} {over : Nat → Nat → (Nat → α) → α}
    (hop : GridOp f init over) {P : Rat} (hP : 0 < P) {g : Rat → Option α} {B : List Rat}
    {v : Nat → α} {k : Nat} (hg : StepOn g B 0 none) (hB : ∀ c ∈ B, IsGrid P c)
    (hval : ∀ j, j ≤ k → g ((j : Rat) * P) = some (v j)) :
    (if (k : Rat) * P < 0 then none else foldWin f init g B 0 (some ((k : Rat) * P)))
      = some (over 0 (k + 1) v) := by
  have h0 : ((0 : Nat) : Rat) * P = 0 := by rw [Nat.cast_zero, zero_mul]
  rw [if_neg (not_lt.2 (mul_nonneg (Nat.cast_nonneg k) hP.le)), ← h0]
  exact hop.1 hP g B v 0 k (Nat.zero_le _) (hg.restrict h0.ge _) hB fun j _ hj => hval j hj

omit [LawfulVal α] in
theorem tb_past_grid {f : α → α → α} {init : α} {over : Nat → Nat → (Nat → α) → α}
    (hop : GridOp f init over) {P : Rat} (hP : 0 < P) {g : Rat → Option α} {B : List Rat}
    {v : Nat → α} {k a b : Nat} (hab : a ≤ b) (hg : StepOn g B 0 none) (hB : ∀ c ∈ B, IsGrid P c)
    (hval : ∀ j, j ≤ k → g ((j : Rat) * P) = some (v j)) :
    (if (k : Rat) * P < 0 then none else
      if (k : Rat) * P - (a : Rat) * P < 0 then some init else
        foldWin f init g B (max ((k : Rat) * P - (b : Rat) * P) 0)
          (some ((k : Rat) * P - (a : Rat) * P)))
      = some (over (k - b) (k + 1 - a) v) := by
  have hnn : ∀ j : Nat, (0 : Rat) ≤ (j : Rat) * P := fun j => mul_nonneg (Nat.cast_nonneg j) hP.le
  rw [if_neg (not_lt.2 (hnn k))]
  by_cases hka : a ≤ k
  · rw [grid_max_sub hP, grid_sub P hka, if_neg (not_lt.2 (hnn _)),
      show k + 1 - a = k - a + 1 by omega]
    exact hop.1 hP g B v (k - b) (k - a) (by omega) (hg.restrict (hnn _) _) hB
      fun j _ hj => hval j (by omega)
  · rw [if_pos (sub_neg.2 ((grid_lt hP).2 (not_le.1 hka))), hop.2 _ _ _ (by omega)]

omit [LawfulVal α] in
theorem tb_future_grid {f : α → α → α} {init : α} {over : Nat → Nat → (Nat → α) → α}
    (hop : GridOp f init over) {P : Rat} (hP : 0 < P) {g : Rat → Option α} {B : List Rat}
    {v : Nat → α} {k a b n : Nat} (hab : a ≤ b) (hkb : k + b < n) (hg : StepOn g B 0 none)
    (hB : ∀ c ∈ B, IsGrid P c) (hval : ∀ j, j ≤ k + b → g ((j : Rat) * P) = some (v j)) :
    (if (k : Rat) * P < 0 then none else
      foldWin f init g B ((k : Rat) * P + (a : Rat) * P) (some ((k : Rat) * P + (b : Rat) * P)))
      = some (over (k + a) (min (k + b + 1) n) v) := by
  have hnn : ∀ j : Nat, (0 : Rat) ≤ (j : Rat) * P := fun j => mul_nonneg (Nat.cast_nonneg j) hP.le
  rw [if_neg (not_lt.2 (hnn k)), grid_add, grid_add, Nat.min_eq_left (by omega : k + b + 1 ≤ n)]
  exact hop.1 hP g B v (k + a) (k + b) (by omega) (hg.restrict (hnn _) _) hB fun j _ hj => hval j hj

omit [Val α] [LawfulVal α] in
theorem supported_of_gridFrag (φ : F α) (h : φ.gridFrag = true) : supported φ = true := by
  induction φ with
  | var x => rfl
  | const c => rfl
  | un op φ ih => exact ih h
  | bin op φ ψ ihφ ihψ =>
    obtain ⟨h1, h2⟩ := Bool.and_eq_true_iff.1 h
    exact Bool.and_eq_true_iff.2 ⟨ihφ h1, ihψ h2⟩
  | tmp1 op φ ih =>
    obtain ⟨h1, h2⟩ := Bool.and_eq_true_iff.1 h
    cases op
    case once | hist => exact Bool.and_eq_true_iff.2 ⟨rfl, ih h2⟩
    all_goals exact absurd h1 Bool.false_ne_true
  | tmp2 op φ ψ _ _ => exact absurd h Bool.false_ne_true
  | tb1 op a b φ ih =>
    obtain ⟨h1, h2⟩ := Bool.and_eq_true_iff.1 h
    exact Bool.and_eq_true_iff.2 ⟨h1, ih h2⟩
  | tb2 op a b φ ψ _ _ => exact absurd h Bool.false_ne_true

theorem grid_stepOn (P : Rat) (hP : 0 < P) (σ : String → Nat → α) (n : Nat) (hn : 0 < n)
    (xs : List String) (φ : F α) (hfrag : φ.gridFrag = true) (hxs : ∀ x ∈ φ.vars, x ∈ xs) :
    StepOn (rhoD { scale := P } (gridEnv P σ n xs) φ) (bps { scale := P } (gridEnv P σ n xs) φ)
      0 none := by
  have h := rhoD_stepOn { scale := P } (le_of_lt hP) (gridEnv P σ n xs) φ
    (supported_of_gridFrag φ hfrag) (gridEnv_WF_of_subset P hP σ n hn xs φ.vars hxs)
  rwa [dom_grid] at h

set_option linter.unusedVariables false in  -- `hnd` (Nodup) is not needed by the proof
/-- C19: at every sampling instant `k·P` whose future windows end inside the trace, the dense-time
    robustness of the sampled step signal equals the discrete-time robustness at sample `k`. -/
theorem C19_sampled (P : Rat) (hP : 0 < P) (σ : String → Nat → α) (n : Nat) (φ : F α)
    (hfrag : φ.gridFrag = true) (xs : List String) (hxs : ∀ x ∈ φ.vars, x ∈ xs) (hnd : xs.Nodup)
    (k : Nat) (hk : k + hor φ < n) :
    rhoD { scale := P } (gridEnv P σ n xs) φ ((k : Rat) * P) = some (rho σ n φ k) := by
  have hn : 0 < n := by omega
  induction φ generalizing k with
  | var x =>
    show ((gridEnv P σ n xs).sig x).valAt ((k : Rat) * P) = some (σ x k)
    rw [gridEnv_sig, if_pos (hxs x (List.mem_singleton_self x))]
    exact valAt_gridSig P hP σ n x k (Nat.lt_of_le_of_lt (Nat.le_add_right _ _) hk)
  | const c => rfl
  | un op φ ih => rw [rhoD_un, ih hfrag hxs k hk]; rfl
  | bin op φ ψ ihφ ihψ =>
    obtain ⟨f1, f2⟩ := Bool.and_eq_true_iff.1 hfrag
    have hk' : k + max (hor φ) (hor ψ) < n := hk
    rw [rhoD_bin, ihφ f1 (fun x hx => hxs x (List.mem_append_left _ hx)) k (by omega),
      ihψ f2 (fun x hx => hxs x (List.mem_append_right _ hx)) k (by omega)]
    rfl
  | tmp1 op φ ih =>
    obtain ⟨f1, f2⟩ := Bool.and_eq_true_iff.1 hfrag
    have hstep := grid_stepOn P hP σ n hn xs φ f2 hxs
    cases op
    case once =>
      have hk' : k + hor φ < n := hk
      rw [rhoD_tmp1_once, dom_grid]
      exact past_grid gridOp_max hP hstep (bps_grid P σ n xs φ) fun j hj => ih f2 hxs j (by omega)
    case hist =>
      have hk' : k + hor φ < n := hk
      rw [rhoD_tmp1_hist, dom_grid]
      exact past_grid gridOp_min hP hstep (bps_grid P σ n xs φ) fun j hj => ih f2 hxs j (by omega)
    all_goals exact absurd f1 Bool.false_ne_true
  | tmp2 op φ ψ _ _ => exact absurd hfrag Bool.false_ne_true
  | tb1 op a b φ ih =>
    obtain ⟨f1, f2⟩ := Bool.and_eq_true_iff.1 hfrag
    have hab : a ≤ b := of_decide_eq_true f1
    have hstep := grid_stepOn P hP σ n hn xs φ f2 hxs
    have hB := bps_grid P σ n xs φ
    cases op
    case once =>
      have hk' : k + hor φ < n := hk
      rw [rhoD_tb1_once, dom_grid]
      exact tb_past_grid gridOp_max hP hab hstep hB fun j hj => ih f2 hxs j (by omega)
    case hist =>
      have hk' : k + hor φ < n := hk
      rw [rhoD_tb1_hist, dom_grid]
      exact tb_past_grid gridOp_min hP hab hstep hB fun j hj => ih f2 hxs j (by omega)
    case ev =>
      have hk' : k + (hor φ + b) < n := hk
      rw [rhoD_tb1_ev, dom_grid]
      exact tb_future_grid gridOp_max hP hab (by omega) hstep hB fun j hj => ih f2 hxs j (by omega)
    case alw =>
      have hk' : k + (hor φ + b) < n := hk
      rw [rhoD_tb1_alw, dom_grid]
      exact tb_future_grid gridOp_min hP hab (by omega) hstep hB fun j hj => ih f2 hxs j (by omega)
  | tb2 op a b φ ψ _ _ => exact absurd hfrag Bool.false_ne_true

set_option linter.unusedVariables false in
set_option linter.unusedSectionVars false in
/-- Non-vacuity / sanity: the grid environment is well formed and its domain starts at 0. -/
theorem gridEnv_wf (P : Rat) (hP : 0 < P) (σ : String → Nat → α) (n : Nat) (hn : 0 < n) (xs : List String)
    (hnd : xs.Nodup) (φ : F α) (hxs : ∀ x ∈ φ.vars, x ∈ xs) :
    (gridEnv P σ n xs).WF φ.vars ∧ dom (gridEnv P σ n xs) φ = 0 :=
  ⟨gridEnv_WF_of_subset P hP σ n hn xs φ.vars hxs, dom_grid P σ n xs φ⟩

end Rtamt
