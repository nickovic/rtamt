/-
  Assembly of the dense-time ONLINE monitor run through the operation classes translated from the source
  (`Rtamt/Py/RunDnOn.lean`: `initOnG`, `stepOnG`, `runOnG`) against the mirror `Rtamt/Dense/AlgOn.lean`
  (`initOn`, `stepOn`, `runOn`).

  (a) `SinceTimedOperation` (four nested objects built with `S.new`, updated with `S.mcall`) against the clause of `stepOn`
      for `.tb2 .since a b` (`GOn.sinceTUpdate`): relation `SinceTRel`, `gen_since_timed_build`; the body of `update` does
      what the clause does, one method call for each step of the clause (`GOn.sinceT_sim`), hence so does `updateObj`
      (`gen_since_timed_sim`, written out by values and exceptions in `gen_since_timed_updateObj`).
  (b) the whole monitor: `StRel`, `F.onSupported`, `HistOK`, `HistOKRun`; `genOn_init`, `genOn_step`, `genOn_run`
      (success direction: whenever the mirror returns lists, the translated classes return the same lists, given enough
      fuel).  What a node's object does is stated once per node class, indexed by the operator: construction
      (`GOn.build_un`, `GOn.build_scan`, `GOn.build_timed`) and `update` as a judgment `Exc.Sim` against the operation of
      the node (`GOn.bin_update` against `MainAux.binStep`, `GOn.timed_update`; `GOn.un_update` in the success direction
      only, because of `LnOperation`); what holds at every operator node alike is stated by arity, over `Node1` / `Node2`
      of `Lemmas/Node.lean` (`GOn.stepOnG_node1/2`, `GOn.histOKRun_node1`).  The interface-aware predicate `.bin (.predSat c)` (robustness
      semantics) is the translated subclass `IAPredicateOperation` (`RtamtProofs/GenDenseOnIA.lean`: `GOnIA.IAPredRel`,
      `gen_iapred_construct`, `gen_iapredop_updateObj_sim`); for the operator `!=` the online `sat()` reads the verdict as
      `not (d == 0)` where the mirror has `abs(d) > 0`, hence the hypothesis
      `hne : φ.usesSatNe = true → GOnIA.SatNeLaw α`.  `.predZero` stays excluded.
  (c) `C05_translated_partial`, `C06_translated_online_partial`: `HistOK` along the run is discharged for both fragments
      (`GOn.histOKRun_frag`, an instance of the induction over the fragment `MainAux.onFragG_induction`: what a bounded
      node needs of its operand, finite time stamps, is the shape part of the mirror theorem `MainAux.claim_all` on
      every prefix of the run, `GOn.finRun_frag`); `SatNeLaw` follows from `hcmp` of C06.

  Helper lemmas live in `Rtamt.Py.DnOn.GOn`.
-/
import RtamtProofs.GenDenseOnInter
import RtamtProofs.GenDenseOnBin
import RtamtProofs.GenDenseOnUn
import RtamtProofs.GenDenseOnTimed
import RtamtProofs.GenDenseOnIA
import RtamtProofs.Dense.OnMain
import Rtamt.Discrete.IA

namespace Rtamt.Py.DnOn
open Rtamt Val Rtamt.Dense Rtamt.Dense.Alg Rtamt.Dense.AlgOn

set_option linter.unusedSectionVars false

variable {α : Type} [Val α]

attribute [local simp] lookup_setLoc

namespace GOn

section stmts
variable (call : Call α) (fuel : Nat)

theorem exec_new0_ok (t cls name : String) (env : Env α) (o' r : DV α) (hn : cls ++ ".__init__" = name)
    (hc : call name [.obj cls []] = .ok (.list [o', r])) :
    exec call fuel (.new t cls []) env = .ok (setLoc t o' env, .none) :=
  exec_new_ok rfl hn hc

theorem exec_new2_ok (t cls name : String) (a1 a2 : E) (env : Env α) (v1 v2 o' r : DV α)
    (h1 : evalE call env a1 = .ok v1) (h2 : evalE call env a2 = .ok v2) (hn : cls ++ ".__init__" = name)
    (hc : call name [.obj cls [], v1, v2] = .ok (.list [o', r])) :
    exec call fuel (.new t cls [a1, a2]) env = .ok (setLoc t o' env, .none) :=
  exec_new_ok (by simp only [List.mapM_cons, List.mapM_nil, h1, h2, ok_bind, pure_eq_ok]) hn hc

end stmts

/-- the clause of `stepOn` for `.tb2 .since a b` on the state `(o, s, h, an)` (bounds already scaled) -/
def sinceTUpdate (a b : Rat) (o : TimedSt α) (s : SinceSt α) (h : TimedSt α) (an : BinSt α) (sl sr : ASig α) :
    Except PyErr ((TimedSt α × SinceSt α × TimedSt α × BinSt α) × ASig α) := do
  let r1 ← timedUpdate ltW Val.ninf a b o sr
  let r2 := sinceUpdate s sl sr
  let r3 ← timedUpdate gtW Val.pinf 0 a h r2.2
  let r4 ← binUpdate (fun x y => pmin x y) an r1.2 r3.2
  pure ((r1.1, r2.1, r3.1, r4.1), r4.2)

/-- the fuel one `update` of a `SinceTimedOperation` needs: the sum of the bounds of the four nested updates (the sizes of
    the intermediate lists `out1`, `out2`, `out3` are those the mirror computes) -/
def sinceTFuel (a b : Rat) (o : TimedSt α) (s : SinceSt α) (h : TimedSt α) (an : BinSt α) (sl sr : ASig α) : Nat :=
  GOnTimed.G o sr + (s.bufA.length + sl.length + s.bufB.length + sr.length + 1) +
    GOnTimed.G h (sinceUpdate s sl sr).2 +
    (match timedUpdate ltW Val.ninf a b o sr, timedUpdate gtW Val.pinf 0 a h (sinceUpdate s sl sr).2 with
     | .ok r1, .ok r3 => GOnBin.binFuel an r1.2 r3.2
     | _, _ => 0)

/-- `buf + batch` on two lists held in locals -/
theorem evalE_add_locs (call : Call α) {env : Env α} {x y : String} {l1 l2 : List (DV α)}
    (hx : getLoc x env = .ok (.list l1)) (hy : getLoc y env = .ok (.list l2)) :
    evalE call env (.bin .add (.loc x) (.loc y)) = .ok (.list (l1 ++ l2)) :=
  (evalE.bin (evalE.loc hx) (evalE.loc hy)).trans rfl

end GOn

open GOn

/-- The object of `SinceTimedOperation(a, b)` against the state `(o, s, h, an)` of the mirror's `.sinceT` node: the four nested
    objects are related to the four records; the two (unused) buffers hold lists. -/
def SinceTRel (a b : Rat) (st : TimedSt α × SinceSt α × TimedSt α × BinSt α) (obj : DV α) : Prop :=
  ∃ (store : Env α) (once since hist andop : DV α) (lb rb : List (DV α)), obj = .obj "SinceTimedOperation" store ∧
    store.lookup "self.once" = some once ∧ TimedRel "OnceTimedOperation" true a b st.1 once ∧
    store.lookup "self.since" = some since ∧ SinceRel st.2.1 since ∧
    store.lookup "self.hist" = some hist ∧ TimedRel "HistoricallyTimedOperation" false 0 a st.2.2.1 hist ∧
    store.lookup "self.andop" = some andop ∧ GOnBin.BinRel "AndOperation" st.2.2.2 andop ∧
    store.lookup "self.sample_left_buf" = some (.list lb) ∧ store.lookup "self.sample_right_buf" = some (.list rb) ∧
    (∀ p ∈ store, isSelfKey p.1 = true)

namespace GOn

theorem isMethod_SinceTimed_init : IsMethod "SinceTimedOperation.__init__" Gen.DenseOn.SinceTimedOperation_init
    ["begin", "end"] :=
  ⟨fns_at 44 rfl, rfl, rfl, by decide +kernel⟩

theorem isMethod_SinceTimed_update : IsMethod "SinceTimedOperation.update" Gen.DenseOn.SinceTimedOperation_update
    ["sample_left", "sample_right"] :=
  ⟨fns_at 45 rfl, rfl, rfl, by decide +kernel⟩

theorem name_SinceTimed_init : "SinceTimedOperation" ++ ".__init__" = "SinceTimedOperation.__init__" := by decide +kernel

theorem name_SinceTimed_update : "SinceTimedOperation" ++ ".update" = "SinceTimedOperation.update" := by decide +kernel

theorem name_since_init : "SinceOperation" ++ ".__init__" = "SinceOperation.__init__" := by decide +kernel

theorem name_Since_update : "SinceOperation" ++ ".update" = "SinceOperation.update" := by decide +kernel

theorem self_once : isSelfKey "self.once" = true := by decide +kernel
theorem self_since : isSelfKey "self.since" = true := by decide +kernel
theorem self_hist : isSelfKey "self.hist" = true := by decide +kernel
theorem self_andop : isSelfKey "self.andop" = true := by decide +kernel

theorem toTm_int0 : toTm (DV.int 0 : DV α) = .ok (.fin 0) := by
  simp [toTm]

/-- The four method calls are the four steps of `sinceTUpdate`.  `hs` is what `gen_hist_timed_sim` asks of the batch handed
    to the nested bounded-historically object. -/
theorem sinceT_sim (fuel : Nat) (a b : Rat) (o : TimedSt α) (s : SinceSt α) (h : TimedSt α) (an : BinSt α)
    (store : Env α) (hrel : SinceTRel a b (o, s, h, an) (.obj "SinceTimedOperation" store)) (sl sr : ASig α)
    (hs : h.rs = none → ∀ t v rest, (sinceUpdate s sl sr).2 = (t, v) :: rest → t ≠ .inf)
    (hfuel : sinceTFuel a b o s h an sl sr ≤ fuel) :
    Exc.Sim (exec (callAt Gen.DenseOn.fns fuel 6) fuel Gen.DenseOn.SinceTimedOperation_update.body
        (store ++ [("sample_left", encSig sl), ("sample_right", encSig sr)]))
      (sinceTUpdate a b o s h an sl sr)
      fun p r => r.2 = .ret (encSig p.2) ∧ SinceTRel a b p.1 (.obj "SinceTimedOperation" (r.1.filter selfP)) := by
  obtain ⟨_, once, since, hist, andop, lb, rb, ⟨⟩, l1, r_once, l2, r_since, l3, r_hist, l4, r_and, l5, l6, hk⟩ := hrel
  obtain ⟨g_sl, g_sr, -⟩ := GOnBin.update_locals store hk (encSig sl) (encSig sr)
  -- `id`: the four relations themselves go to the theorems about the nested classes below
  obtain ⟨st1, -, -, rfl, -⟩ := id r_once
  obtain ⟨st2, rfl, -⟩ := id r_since
  obtain ⟨st3, -, -, rfl, -⟩ := id r_hist
  obtain ⟨st4, rfl, -⟩ := id r_and
  unfold sinceTFuel at hfuel
  unfold sinceTUpdate
  dsimp only [Gen.DenseOn.SinceTimedOperation_update]
  -- `self.sample_left_buf += sample_left`, `self.sample_right_buf += sample_right`
  rw [exec.seq_setLoc (evalE_add_locs _ (getLoc_append_left l5) g_sl),
    exec.seq_setLoc (evalE_add_locs _ (by simpa using getLoc_append_left l6) (by simpa [encSig] using g_sr))]
  -- `out1 = self.once.update(sample_right)`
  refine exec.seq_sim (exec_update_sim (by simp [evalE, g_sr]) (by simpa using getLoc_append_left l1) name_OnceTimed_update
    (gen_once_timed_sim fuel 4 a b o _ r_once sr (by omega))) ?_
  rintro ⟨o', out1⟩ _ h1 ⟨once', rel1, rfl⟩
  rw [h1] at hfuel
  refine ⟨rfl, ?_⟩
  dsimp only
  -- `out2 = self.since.update(sample_left, sample_right)`
  obtain ⟨_, hc2, hr2⟩ := gen_SinceOperation_update fuel 5 s _ r_since sl sr (by omega)
  refine exec.seq_sim_pure (exec_update_sim (by simp [evalE, g_sl, g_sr]) (by simpa using getLoc_append_left l2)
    name_Since_update (Exc.Sim.ok hc2 ⟨_, rfl, hr2⟩)) ?_
  rintro _ ⟨since', rel2, rfl⟩
  refine ⟨rfl, ?_⟩
  dsimp only
  -- `out3 = self.hist.update(out2)`
  refine exec.seq_sim (exec_update_sim (by simp [evalE]) (by simpa using getLoc_append_left l3) name_HistoricallyTimed_update
    (gen_hist_timed_sim fuel 4 0 a h _ r_hist _ hs (by omega))) ?_
  rintro ⟨h', out3⟩ _ h3 ⟨hist', rel3, rfl⟩
  rw [h3] at hfuel
  refine ⟨rfl, ?_⟩
  dsimp only at hfuel ⊢
  -- `sample_result = self.andop.update(out1, out3)`
  refine exec.seq_sim (exec_update_sim (by simp [evalE]) (by simpa using getLoc_append_left l4) rfl
    (gen_bin_update_sim fuel 3 "AndOperation" "conjunction" GOnBin.binClass_And (fun x y : α => pmin x y)
      (gen_on_intersection fuel 3) (fun x y => gen_on_conjunction fuel 3 x y) an _ r_and out1 out3 (by omega))) ?_
  rintro ⟨an', out⟩ _ - ⟨andop', rel4, rfl⟩
  refine ⟨rfl, ?_⟩
  dsimp only
  refine Exc.Sim.ok (exec.ret (evalE.loc (getLoc_setLoc_same _ _ _))) ⟨rfl, ?_⟩
  exact ⟨_, once', since', hist', andop', lb ++ sl.map encSmp, rb ++ sr.map encSmp, rfl,
    lookup_filter_get self_once (by simp), rel1, lookup_filter_get self_since (by simp), rel2,
    lookup_filter_get self_hist (by simp), rel3, lookup_filter_get self_andop (by simp), rel4,
    lookup_filter_get GOnBin.self_sample_left_buf (by simp), lookup_filter_get GOnBin.self_sample_right_buf (by simp), selfKeys_filter _⟩

theorem sinceT_exec {ρ : Type} {x : Except PyErr (ρ × ASig α)} {a b : Rat} {o : TimedSt α} {s : SinceSt α} {h : TimedSt α}
    {an : BinSt α} {sl sr : ASig α} {R : TimedSt α × SinceSt α × TimedSt α × BinSt α → ρ → Prop}
    (hsim : Exc.Sim x (sinceTUpdate a b o s h an sl sr) fun p r => r.2 = p.2 ∧ R p.1 r.1) :
    match sinceTUpdate a b o s h an sl sr with
    | .ok (st', out) => ∃ r', x = .ok (r', out) ∧ R st' r'
    | .error e => x = .error e := by
  cases hb : sinceTUpdate a b o s h an sl sr with
  | error e => exact hsim.of_error hb
  | ok p => obtain ⟨⟨r', _⟩, hr, rfl, hR⟩ := hsim.of_ok hb; exact ⟨r', hr, hR⟩

end GOn

theorem gen_since_timed_init (fuel : Nat) (a b : Rat) :
    ∃ obj : DV α, callAt Gen.DenseOn.fns fuel 7 "SinceTimedOperation.__init__"
        [.obj "SinceTimedOperation" [], .tm (.fin a), .tm (.fin b)] = .ok (.list [obj, .none]) ∧
      SinceTRel a b ({}, { prev := Val.ninf }, {}, {}) obj := by
  obtain ⟨since, hsi, rsi⟩ := gen_SinceOperation_init (α := α) fuel 5
  obtain ⟨hist, hhi, rhi⟩ := gen_hist_timed_init (α := α) fuel 5 (.int 0) (.tm (.fin a)) 0 a toTm_int0 rfl
  obtain ⟨once, hon, ron⟩ := gen_once_timed_init (α := α) fuel 5 (.tm (.fin a)) (.tm (.fin b)) a b rfl rfl
  obtain ⟨andop, han, ran⟩ := gen_bin_init (α := α) fuel 5 "AndOperation" GOnBin.initClass_And
  refine ⟨_, method_none (cls := "SinceTimedOperation") (store := []) (args := [.tm (.fin a), .tm (.fin b)])
    (env' := ?env) isMethod_SinceTimed_init rfl ?hx, ?_⟩
  case hx =>
    show exec _ _ Gen.DenseOn.SinceTimedOperation_init.body [("begin", .tm (.fin a)), ("end", .tm (.fin b))] = _
    dsimp only [Gen.DenseOn.SinceTimedOperation_init]
    -- two empty buffers, `self.begin`, `self.end`, then `self.since = SinceOperation()`,
    -- `self.hist = HistoricallyTimedOperation(0, self.begin)`, `self.once = OnceTimedOperation(self.begin, self.end)`,
    -- `self.andop = AndOperation()`
    rw [exec.seq_setLoc (e := .emptyList) (v := .list []) rfl, exec.seq_setLoc (e := .emptyList) (v := .list []) rfl,
      exec.seq_setLoc (v := .tm (.fin a)) (evalE.loc (by simp)), exec.seq_setLoc (v := .tm (.fin b)) (evalE.loc (by simp)),
      exec.seq_ok (exec_new_ok rfl name_since_init hsi),
      exec.seq_ok (exec_new_ok (by simp [evalE]) name_HistoricallyTimed_init hhi),
      exec.seq_ok (exec_new_ok (by simp [evalE]) name_OnceTimed_init hon)]
    exact exec_new_ok (args := []) rfl rfl han
  exact ⟨_, once, since, hist, andop, [], [], rfl, lookup_filter_get self_once (by simp), ron,
    lookup_filter_get self_since (by simp), rsi, lookup_filter_get self_hist (by simp), rhi,
    lookup_filter_get self_andop (by simp), ran, lookup_filter_get GOnBin.self_sample_left_buf (by simp),
    lookup_filter_get GOnBin.self_sample_right_buf (by simp), selfKeys_filter _⟩

theorem gen_since_timed_build (fuel : Nat) (a b : Rat) :
    ∃ obj : DV α, build fuel TB2.since.kind none (some (a, b)) = .ok obj ∧
      SinceTRel a b ({}, { prev := Val.ninf }, {}, {}) obj := by
  rw [build_interval (ctorOf_class rfl)]
  exact construct_of_init name_SinceTimed_init (gen_since_timed_init fuel a b)

theorem gen_since_timed_sim (fuel : Nat) (a b : Rat) (o : TimedSt α) (s : SinceSt α) (h : TimedSt α) (an : BinSt α)
    (obj : DV α) (hrel : SinceTRel a b (o, s, h, an) obj) (sl sr : ASig α)
    (hs : h.rs = none → ∀ t v rest, (sinceUpdate s sl sr).2 = (t, v) :: rest → t ≠ .inf)
    (hfuel : sinceTFuel a b o s h an sl sr ≤ fuel) :
    Exc.Sim (updateObj fuel obj [sl, sr]) (sinceTUpdate a b o s h an sl sr) fun p r => r.2 = p.2 ∧ SinceTRel a b p.1 r.1 := by
  have ⟨store, _, _, _, _, _, _, e, _⟩ := hrel
  subst e
  -- one `have` for each level: as one term the unifier unfolds `exec` on the body of the method
  have hb := sinceT_sim fuel a b o s h an store hrel sl sr hs hfuel
  have hm := method_sim (cls := "SinceTimedOperation") (store := store) (args := [encSig sl, encSig sr]) (k := 6)
    isMethod_SinceTimed_update rfl
    (Q := fun p env' v => v = encSig p.2 ∧ SinceTRel a b p.1 (.obj "SinceTimedOperation" (env'.filter selfP)))
    (hb.mono fun p r hr => ⟨_, hr.1, rfl, hr.2⟩)
  refine updateObj_sim name_SinceTimed_update (hm.mono ?_)
  rintro p r ⟨env', v, rfl, rfl, hr⟩
  exact ⟨_, rfl, hr⟩

/-- `hs`: the batch handed to the nested bounded-historically object in its initial state does not start at time `inf` (the
    divergence of `gen_hist_timed_sim`). -/
theorem gen_since_timed_updateObj (fuel : Nat) (a b : Rat) (o : TimedSt α) (s : SinceSt α) (h : TimedSt α) (an : BinSt α)
    (obj : DV α) (hrel : SinceTRel a b (o, s, h, an) obj) (sl sr : ASig α)
    (hs : h.rs = none → ∀ t v rest, (sinceUpdate s sl sr).2 = (t, v) :: rest → t ≠ .inf)
    (hfuel : sinceTFuel a b o s h an sl sr ≤ fuel) :
    match sinceTUpdate a b o s h an sl sr with
    | .ok (st', out) => ∃ obj', updateObj fuel obj [sl, sr] = .ok (obj', out) ∧ SinceTRel a b st' obj'
    | .error e => updateObj fuel obj [sl, sr] = .error e :=
  sinceT_exec (R := SinceTRel a b) (gen_since_timed_sim fuel a b o s h an obj hrel sl sr hs hfuel)

namespace GOn

/-- the object of a `.bin op` node against the record `BinSt` -/
def binObjRel (op : Bin) (st : BinSt α) (o : DV α) : Prop :=
  match op with
  | .mul => GOnBin.BinRelNL "MultiplicationOperation" st o
  | .pred c => GOnBin.PredRel c st o
  | .predSat c => GOnIA.IAPredRel c st o
  | .predZero => False
  | op => GOnBin.BinRel (GOnBin.binCls op) st o

/-- the object of a `.tmp1 op` node (`once` / `historically`) against `prev` -/
def scanObjRel (op : T1) (prev : α) (o : DV α) : Prop :=
  match op with
  | .once => ScanRel "OnceOperation" prev o
  | .hist => ScanRel "HistoricallyOperation" prev o
  | _ => False

/-- the object of a `.tb1 op a b` node (`once[a,b]` / `historically[a,b]`, bounds scaled) against `TimedSt` -/
def timedObjRel (op : TB1) (a b : Rat) (st : TimedSt α) (o : DV α) : Prop :=
  match op with
  | .once => TimedRel "OnceTimedOperation" true a b st o
  | .hist => TimedRel "HistoricallyTimedOperation" false a b st o
  | _ => False

end GOn

/-- the formulas for which `initOnG` builds an object at every node the mirror `initOn` has a state for: the vacuity form
    `.predZero` of the interface-aware predicate is excluded (`initOnG` and `initOn` return `.error .other`). -/
def _root_.Rtamt.F.onSupported : F α → Bool
  | .var _ => true
  | .const _ => true
  | .un _ φ => φ.onSupported
  | .bin op φ ψ => (match op with | .predZero => false | _ => true) && φ.onSupported && ψ.onSupported
  | .tmp1 _ φ => φ.onSupported
  | .tmp2 _ φ ψ => φ.onSupported && ψ.onSupported
  | .tb1 _ _ _ φ => φ.onSupported
  | .tb2 _ _ _ φ ψ => φ.onSupported && ψ.onSupported

/-- the formula has an interface-aware predicate with the operator `!=` (`.bin (.predSat .ne)`): the only node at which the
    translated class and the mirror read the verdict differently (`GOnIA.satOn` / `satOfDiff`), so that the law
    `GOnIA.SatNeLaw` of the value type is needed -/
def _root_.Rtamt.F.usesSatNe : F α → Bool
  | .var _ => false
  | .const _ => false
  | .un _ φ => φ.usesSatNe
  | .bin op φ ψ => (match op with | .predSat .ne => true | _ => false) || φ.usesSatNe || ψ.usesSatNe
  | .tmp1 _ φ => φ.usesSatNe
  | .tmp2 _ φ ψ => φ.usesSatNe || ψ.usesSatNe
  | .tb1 _ _ _ φ => φ.usesSatNe
  | .tb2 _ _ _ φ ψ => φ.usesSatNe || ψ.usesSatNe

/-- The mirror's state tree against the runner's tree of operation objects, node by node (following `initOn` / `initOnG`). -/
def StRel : F α → DCfg → OnSt α → GSt α → Prop
  | .var _, _, st, g => st = .leaf ∧ g = .leaf
  | .const _, _, st, g => ∃ sent, st = .cst sent ∧ g = .cst sent
  | .un op φ, cfg, st, g => ∃ c o gc, st = .un c ∧ g = .un o gc ∧ UnRel (unCls op) o ∧ StRel φ cfg c gc
  | .bin op φ ψ, cfg, st, g => ∃ bs l r o gl gr, st = .bin bs l r ∧ g = .bin o gl gr ∧ binObjRel op bs o ∧
      StRel φ cfg l gl ∧ StRel ψ cfg r gr
  | .tmp1 op φ, cfg, st, g => ∃ prev c o gc, st = .scan prev c ∧ g = .un o gc ∧ scanObjRel op prev o ∧ StRel φ cfg c gc
  | .tmp2 op φ ψ, cfg, st, g => ∃ ss l r o gl gr, st = .since ss l r ∧ g = .bin o gl gr ∧ op = .since ∧ SinceRel ss o ∧
      StRel φ cfg l gl ∧ StRel ψ cfg r gr
  | .tb1 op a b φ, cfg, st, g => ∃ ts c o gc, st = .timed ts c ∧ g = .un o gc ∧
      timedObjRel op (a * cfg.scale) (b * cfg.scale) ts o ∧ StRel φ cfg c gc
  | .tb2 op a b φ ψ, cfg, st, g => ∃ o s h an l r obj gl gr, st = .sinceT o s h an l r ∧ g = .bin obj gl gr ∧ op = .since ∧
      SinceTRel (a * cfg.scale) (b * cfg.scale) (o, s, h, an) obj ∧ StRel φ cfg l gl ∧ StRel ψ cfg r gr

/-- Wherever a bounded-historically object is in its initial state (`rs = none`) - the `.tb1 .hist` nodes and the `h` component
    of the `.tb2 .since` nodes - the batch the mirror hands to it in this step does not start at time `inf`. -/
def HistOK (cfg : DCfg) (inp : String → ASig α) : F α → OnSt α → Prop
  | .un _ φ, .un c => HistOK cfg inp φ c
  | .bin _ φ ψ, .bin _ l r => HistOK cfg inp φ l ∧ HistOK cfg inp ψ r
  | .tmp1 _ φ, .scan _ c => HistOK cfg inp φ c
  | .tmp2 _ φ ψ, .since _ l r => HistOK cfg inp φ l ∧ HistOK cfg inp ψ r
  | .tb1 op _ _ φ, .timed ts c => HistOK cfg inp φ c ∧
      (op = .hist → ts.rs = none → ∀ c' s, stepOn cfg inp φ c = .ok (c', s) → ∀ t v rest, s = (t, v) :: rest → t ≠ .inf)
  | .tb2 _ _ _ φ ψ, .sinceT _ s h _ l r => HistOK cfg inp φ l ∧ HistOK cfg inp ψ r ∧
      (h.rs = none → ∀ l' sl r' sr, stepOn cfg inp φ l = .ok (l', sl) → stepOn cfg inp ψ r = .ok (r', sr) →
        ∀ t v rest, (sinceUpdate s sl sr).2 = (t, v) :: rest → t ≠ .inf)
  | _, _ => True

/-- `HistOK` at every step of the run from the state `st` (following `runOn.go`). -/
def HistOKRun (cfg : DCfg) (φ : F α) : OnSt α → List (String → ASig α) → Prop
  | _, [] => True
  | st, b :: rest => HistOK cfg b φ st ∧ ∀ st' out, stepOn cfg b φ st = .ok (st', out) → HistOKRun cfg φ st' rest

namespace GOn

/-! The object `build` makes for a node, class by class; `ctorOf_class`: the entry of the class in `Gen.DenseOn.table`. -/

theorem build_un (fuel : Nat) (op : Un) : ∃ o : DV α, build fuel op.kind none none = .ok o ∧ UnRel (unCls op) o := by
  have hc : ctorOf op.kind = some (.builds (unCls op) []) := by
    cases op
    exacts [ctorOf_class rfl, ctorOf_class rfl, ctorOf_class rfl, ctorOf_class rfl, ctorOf_class rfl, ctorOf_class rfl]
  rw [build_nullary hc]; exact construct_un op fuel

/-- the object of a `.tmp1 op` node for which the mirror registers a state: `OnceOperation()` / `HistoricallyOperation()` -/
theorem build_scan (fuel : Nat) {op : T1} {φ : F α} {s0 : ProgramOn.NSt α} (h : ProgramOn.initNodeOn (.tmp1 op φ) = .ok s0) :
    ∃ prev, s0 = .scan prev ∧ ∃ o : DV α, build fuel op.kind none none = .ok o ∧ scanObjRel op prev o := by
  cases op <;> cases h
  · refine ⟨_, rfl, ?_⟩; rw [build_nullary (ctorOf_class rfl)]; exact construct_OnceOperation fuel
  · refine ⟨_, rfl, ?_⟩; rw [build_nullary (ctorOf_class rfl)]; exact construct_HistoricallyOperation fuel

theorem build_since (fuel : Nat) :
    ∃ o : DV α, build fuel T2.since.kind none none = .ok o ∧ SinceRel { prev := Val.ninf } o := by
  rw [build_nullary (ctorOf_class rfl)]; exact construct_SinceOperation fuel

/-- the object of a `.tb1 op a b` node for which the mirror registers a state: `OnceTimedOperation(a', b')` /
    `HistoricallyTimedOperation(a', b')` -/
theorem build_timed (fuel : Nat) {op : TB1} {a b : Nat} {φ : F α} {s0 : ProgramOn.NSt α}
    (h : ProgramOn.initNodeOn (.tb1 op a b φ) = .ok s0) (a' b' : Rat) :
    s0 = .timed {} ∧ ∃ o : DV α, build fuel op.kind none (some (a', b')) = .ok o ∧ timedObjRel op a' b' {} o := by
  cases op <;> cases h
  · rw [build_interval (ctorOf_class rfl)]
    exact ⟨rfl, construct_of_init name_OnceTimed_init
      (gen_once_timed_init fuel 6 (.tm (.fin a')) (.tm (.fin b')) a' b' rfl rfl)⟩
  · rw [build_interval (ctorOf_class rfl)]
    exact ⟨rfl, construct_of_init name_HistoricallyTimed_init
      (gen_hist_timed_init fuel 6 (.tm (.fin a')) (.tm (.fin b')) a' b' rfl rfl)⟩

theorem bin_cases (op : Bin) :
    GOnBin.plainBin op = true ∨ op = .mul ∨ (∃ c, op = .pred c) ∨ (∃ c, op = .predSat c) ∨ op = .predZero := by
  cases op <;> simp [GOnBin.plainBin]

theorem binObjRel_plain {op : Bin} (hp : GOnBin.plainBin op = true) (st : BinSt α) (o : DV α) :
    binObjRel op st o ↔ GOnBin.BinRel (GOnBin.binCls op) st o := by
  cases op <;> simp [GOnBin.plainBin] at hp <;> exact Iff.rfl

theorem initOnG_bin_plain {op : Bin} (hp : GOnBin.plainBin op = true) (fuel : Nat) (cfg : DCfg) (φ ψ : F α) :
    initOnG fuel cfg (.bin op φ ψ) = (do
      let l ← initOnG fuel cfg φ
      let r ← initOnG fuel cfg ψ
      pure (.bin (← build fuel op.kind none none) l r)) := by
  cases op <;> simp [GOnBin.plainBin] at hp <;> rfl

theorem initOn_bin_ok {op : Bin} (hz : op ≠ .predZero) (φ ψ : F α) :
    initOn (.bin op φ ψ) = (do pure (.bin {} (← initOn φ) (← initOn ψ))) := by
  cases op <;> first | rfl | exact absurd rfl hz

end GOn

/-- (b) construction: whenever the mirror's construction visitor returns a state tree, the translated constructors return a
    tree of objects related to it. -/
theorem genOn_init (cfg : DCfg) (φ : F α) (hφ : φ.onSupported = true) (st : OnSt α) (h : initOn φ = .ok st) :
    ∃ N, ∀ fuel, N ≤ fuel → ∃ g, initOnG fuel cfg φ = .ok g ∧ StRel φ cfg st g := by
  refine ⟨0, fun fuel _ => ?_⟩
  induction φ generalizing st with
  | var x =>
      simp only [initOn] at h; cases h
      exact ⟨.leaf, rfl, rfl, rfl⟩
  | const c =>
      simp only [initOn] at h; cases h
      exact ⟨.cst false, rfl, false, rfl, rfl⟩
  | un op φ ih =>
      obtain ⟨c, s0, hc, hs0, rfl⟩ := (C09Dense.initOn_node1 (.un op φ) st).1 h
      cases hs0
      obtain ⟨gc, hg, hr⟩ := ih hφ c hc
      obtain ⟨o, ho, hro⟩ := build_un (α := α) fuel op
      exact ⟨.un o gc, by simp [initOnG, hg, ho], c, o, gc, rfl, rfl, hro, hr⟩
  | bin op φ ψ ihφ ihψ =>
      simp only [F.onSupported, Bool.and_eq_true] at hφ
      obtain ⟨⟨hop, h1⟩, h2⟩ := hφ
      have hz : op ≠ .predZero := by rintro rfl; simp at hop
      obtain ⟨l, r, s0, hl, hr, hs0, rfl⟩ := (C09Dense.initOn_node2 (.bin op φ ψ) st).1 h
      cases (MainAux.initNodeOn_bin hz φ ψ).symm.trans hs0
      obtain ⟨gl, hgl, hrl⟩ := ihφ h1 l hl
      obtain ⟨gr, hgr, hrr⟩ := ihψ h2 r hr
      rcases bin_cases op with hp | rfl | ⟨c, rfl⟩ | ⟨c, rfl⟩ | rfl
      · obtain ⟨o, ho, hro⟩ := gen_binop_build (α := α) fuel op hp
        refine ⟨.bin o gl gr, ?_, {}, l, r, o, gl, gr, rfl, rfl, (binObjRel_plain hp _ _).mpr hro, hrl, hrr⟩
        rw [initOnG_bin_plain hp]; simp [hgl, hgr, ho]
      · obtain ⟨o, ho, hro⟩ := gen_mul_build (α := α) fuel
        exact ⟨.bin o gl gr, by simp [initOnG, hgl, hgr, ho], {}, l, r, o, gl, gr, rfl, rfl, hro, hrl, hrr⟩
      · obtain ⟨o, ho, hro⟩ := gen_pred_build (α := α) fuel c
        exact ⟨.bin o gl gr, by simp [initOnG, hgl, hgr, ho], {}, l, r, o, gl, gr, rfl, rfl, hro, hrl, hrr⟩
      · obtain ⟨o, ho, hro⟩ := gen_iapred_construct (α := α) fuel c [.int 0]
        exact ⟨.bin o gl gr, by simp [initOnG, hgl, hgr, ho], {}, l, r, o, gl, gr, rfl, rfl, hro, hrl, hrr⟩
      · simp at hop
  | tmp1 op φ ih =>
      obtain ⟨c, s0, hc, hs0, rfl⟩ := (C09Dense.initOn_node1 (.tmp1 op φ) st).1 h
      obtain ⟨prev, rfl, o, ho, hro⟩ := build_scan fuel hs0
      obtain ⟨gc, hg, hr⟩ := ih hφ c hc
      exact ⟨.un o gc, by simp [initOnG, hg, ho], prev, c, o, gc, rfl, rfl, hro, hr⟩
  | tmp2 op φ ψ ihφ ihψ =>
      simp only [F.onSupported, Bool.and_eq_true] at hφ
      obtain ⟨l, r, s0, hl, hr, hs0, rfl⟩ := (C09Dense.initOn_node2 (.tmp2 op φ ψ) st).1 h
      cases op <;> cases hs0
      obtain ⟨gl, hgl, hrl⟩ := ihφ hφ.1 l hl
      obtain ⟨gr, hgr, hrr⟩ := ihψ hφ.2 r hr
      obtain ⟨o, ho, hro⟩ := build_since (α := α) fuel
      exact ⟨.bin o gl gr, by simp [initOnG, hgl, hgr, ho], _, l, r, o, gl, gr, rfl, rfl, rfl, hro, hrl, hrr⟩
  | tb1 op a b φ ih =>
      obtain ⟨c, s0, hc, hs0, rfl⟩ := (C09Dense.initOn_node1 (.tb1 op a b φ) st).1 h
      obtain ⟨rfl, o, ho, hro⟩ := build_timed fuel hs0 (a * cfg.scale) (b * cfg.scale)
      obtain ⟨gc, hg, hr⟩ := ih hφ c hc
      exact ⟨.un o gc, by simp [initOnG, hg, ho], _, c, o, gc, rfl, rfl, hro, hr⟩
  | tb2 op a b φ ψ ihφ ihψ =>
      simp only [F.onSupported, Bool.and_eq_true] at hφ
      obtain ⟨l, r, s0, hl, hr, hs0, rfl⟩ := (C09Dense.initOn_node2 (.tb2 op a b φ ψ) st).1 h
      cases op <;> cases hs0
      obtain ⟨gl, hgl, hrl⟩ := ihφ hφ.1 l hl
      obtain ⟨gr, hgr, hrr⟩ := ihψ hφ.2 r hr
      obtain ⟨o, ho, hro⟩ := gen_since_timed_build (α := α) fuel (a * cfg.scale) (b * cfg.scale)
      exact ⟨.bin o gl gr, by simp [initOnG, hgl, hgr, ho], _, _, _, _, l, r, o, gl, gr, rfl, rfl, rfl, hro, hrl, hrr⟩

namespace GOn
open Rtamt.Exc (Sim)
open Rtamt.Dense.C09Dense (Node1 Node2)

/-- Success direction only: `LnOperation` has no sign test and returns a list where `mapUn .ln` raises
    (`gen_LnOperation_update_differs`). -/
theorem un_update (fuel : Nat) (op : Un) (o : DV α) (h : UnRel (unCls op) o) (s out : ASig α)
    (hm : mapUn op s = .ok out) : updateObj fuel o [s] = .ok (o, out) := by
  have hu : updateObj fuel o [s] = (mapUn op s).map fun out => (o, out) := by
    cases op
    case ln =>
      refine updateObj_LnOperation fuel o h s fun p hp => ?_
      cases hlt : Val.lt p.2 Val.zero with
      | false => rfl
      | true => rw [mapUn_ln_neg s ⟨p, hp, hlt⟩] at hm; cases hm
    all_goals exact updateObj_un _ fuel o h s
  rw [hu, hm]; rfl

/-- `hs`: for `historically`, as in `gen_hist_timed_sim` -/
theorem timed_update (fuel : Nat) (op : TB1) (a b : Rat) (ts : TimedSt α) (o : DV α) (hro : timedObjRel op a b ts o)
    (s : ASig α) (hs : op = .hist → ts.rs = none → ∀ t v rest, s = (t, v) :: rest → t ≠ .inf)
    (hf : GOnTimed.G ts s ≤ fuel) :
    Sim (updateObj fuel o [s])
      (match op with
        | .hist => timedUpdate gtW Val.pinf a b ts s
        | _ => timedUpdate ltW Val.ninf a b ts s)
      fun p r => r.2 = p.2 ∧ timedObjRel op a b p.1 r.1 := by
  cases op <;> first | exact hro.elim | skip
  · have h := gen_once_timed_sim fuel 5 a b ts o hro s hf
    obtain ⟨store, _, _, rfl, -⟩ := hro
    exact updateObj_sim (argsS := [s]) name_OnceTimed_update h
  · have h := gen_hist_timed_sim fuel 5 a b ts o hro s (hs rfl) hf
    obtain ⟨store, _, _, rfl, -⟩ := hro
    exact updateObj_sim (argsS := [s]) name_HistoricallyTimed_update h

theorem bin_update (fuel : Nat) (op : Bin) (hne : op = .predSat .ne → GOnIA.SatNeLaw α) {bs : BinSt α} {sl sr : ASig α}
    {o : DV α} (hro : binObjRel op bs o) (hf : GOnBin.binFuel bs sl sr ≤ fuel) :
    Sim (updateObj fuel o [sl, sr]) (MainAux.binStep op bs sl sr) fun p r => r.2 = p.2 ∧ binObjRel op p.1 r.1 := by
  rcases bin_cases op with hp | rfl | ⟨c, rfl⟩ | ⟨c, rfl⟩ | rfl
  · rw [show MainAux.binStep op bs sl sr = binUpdate op.app bs sl sr by cases op <;> first | rfl | cases hp]
    exact (gen_binop_updateObj_sim fuel op hp (gen_on_intersection fuel 4) bs o ((binObjRel_plain hp _ _).mp hro) sl sr
      hf).mono fun _ _ h => ⟨h.1, (binObjRel_plain hp _ _).mpr h.2⟩
  · exact (gen_mulop_updateObj_sim fuel (gen_on_intersection fuel 4) bs o hro sl sr hf).mono fun _ _ h => ⟨h.1, h.2.toNL⟩
  · refine (gen_predop_updateObj_sim fuel c (gen_on_intersection fuel 3) bs o hro sl sr hf).bind_left ?_
    intro p r _ h
    exact .ok rfl h
  · exact gen_iapredop_updateObj_sim fuel c (fun hc => hne (by rw [hc])) bs o hro sl sr hf (gen_on_intersection fuel 3)
  · exact hro.elim

/-! `stepOnG` at a node whose operands and whose own object have been stepped -/

section stepOnG
variable {fuel : Nat} {inp : String → ASig α} {χ φ ψ : F α} {o o' : DV α} {c c' l l' r r' : GSt α} {s sl sr out : ASig α}

theorem stepOnG_node1 (hn : Node1 χ φ) (hc : stepOnG fuel inp φ c = .ok (c', s))
    (hu : updateObj fuel o [s] = .ok (o', out)) : stepOnG fuel inp χ (.un o c) = .ok (.un o' c', out) := by
  cases hn <;> simp only [stepOnG, hc, hu, ok_bind, pure_eq_ok]

theorem stepOnG_node2 (hn : Node2 χ φ ψ) (hl : stepOnG fuel inp φ l = .ok (l', sl))
    (hr : stepOnG fuel inp ψ r = .ok (r', sr)) (hu : updateObj fuel o [sl, sr] = .ok (o', out)) :
    stepOnG fuel inp χ (.bin o l r) = .ok (.bin o' l' r', out) := by
  cases hn <;> simp only [stepOnG, hl, hr, hu, ok_bind, pure_eq_ok]

end stepOnG

/-- `genOn_step` with a fuel bound that does not depend on the tree of objects (it is computed from the mirror's state and
    the batches the mirror hands from node to node) -/
theorem step_unif (cfg : DCfg) (φ : F α) (hφ : φ.onSupported = true)
    (hne : φ.usesSatNe = true → GOnIA.SatNeLaw α) (st : OnSt α)
    (inp : String → ASig α) (st' : OnSt α) (out : ASig α) (h : stepOn cfg inp φ st = .ok (st', out))
    (hH : HistOK cfg inp φ st) :
    ∃ N, ∀ g, StRel φ cfg st g → ∀ fuel, N ≤ fuel →
      ∃ g', stepOnG fuel inp φ g = .ok (g', out) ∧ StRel φ cfg st' g' := by
  induction φ generalizing st st' out with
  | var x =>
      refine ⟨0, fun g hrel fuel _ => ?_⟩
      obtain ⟨rfl, rfl⟩ := hrel
      simp only [stepOn] at h; cases h
      exact ⟨.leaf, rfl, rfl, rfl⟩
  | const c =>
      refine ⟨0, fun g hrel fuel _ => ?_⟩
      obtain ⟨sent, rfl, rfl⟩ := hrel
      simp only [stepOn] at h; cases h
      exact ⟨.cst true, rfl, true, rfl, rfl⟩
  | un op φ ih =>
      cases st <;> first | cases h | skip
      rename_i c
      simp only [stepOn, Exc.bind_eq_ok] at h
      obtain ⟨⟨c', s⟩, hc, out', hm, h⟩ := h
      cases h
      obtain ⟨N, hN⟩ := ih hφ hne c c' s hc hH
      refine ⟨N, fun g hrel fuel hf => ?_⟩
      obtain ⟨c0, o, gc, hst, rfl, hro, hrc⟩ := hrel
      cases hst
      obtain ⟨gc', hg, hr'⟩ := hN gc hrc fuel hf
      exact ⟨.un o gc', stepOnG_node1 (.un op φ) hg (un_update fuel op o hro s out hm), c', o, gc', rfl, rfl, hro, hr'⟩
  | bin op φ ψ ihφ ihψ =>
      cases st <;> first | cases h | skip
      rename_i bs l r
      simp only [F.onSupported, Bool.and_eq_true] at hφ
      obtain ⟨l', sl, r', sr, bs', hl, hr, hb, rfl⟩ := (MainAux.stepOn_bin cfg op φ ψ inp bs l r st' out).1 h
      obtain ⟨Nl, hNl⟩ := ihφ hφ.1.2 (fun k => hne (by simp [F.usesSatNe, k])) l l' sl hl hH.1
      obtain ⟨Nr, hNr⟩ := ihψ hφ.2 (fun k => hne (by simp [F.usesSatNe, k])) r r' sr hr hH.2
      refine ⟨max (max Nl Nr) (GOnBin.binFuel bs sl sr), fun g hrel fuel hf => ?_⟩
      obtain ⟨bs0, l0, r0, o, gl, gr, hst, rfl, hro, hrl, hrr⟩ := hrel
      cases hst
      obtain ⟨gl', hgl, hrl'⟩ := hNl gl hrl fuel (by omega)
      obtain ⟨gr', hgr, hrr'⟩ := hNr gr hrr fuel (by omega)
      obtain ⟨⟨o2, _⟩, hu, rfl, hro'⟩ :=
        (bin_update fuel op (fun k => hne (by subst k; simp [F.usesSatNe])) hro (by omega)).of_ok hb
      exact ⟨.bin o2 gl' gr', stepOnG_node2 (.bin op φ ψ) hgl hgr hu, bs', l', r', o2, gl', gr', rfl, rfl, hro', hrl', hrr'⟩
  | tmp1 op φ ih =>
      cases st <;> first | cases h | skip
      rename_i prev c
      simp only [stepOn, Exc.bind_eq_ok] at h
      obtain ⟨⟨c', s⟩, hc, h⟩ := h
      obtain ⟨N, hN⟩ := ih hφ hne c c' s hc hH
      refine ⟨N, fun g hrel fuel hf => ?_⟩
      obtain ⟨prev0, c0, o, gc, hst, rfl, hro, hrc⟩ := hrel
      cases hst
      obtain ⟨gc', hg, hr'⟩ := hN gc hrc fuel hf
      cases op <;> first | exact hro.elim | skip
      · cases h
        obtain ⟨o2, hu, hro'⟩ := updateObj_OnceOperation fuel prev o hro s
        exact ⟨.un o2 gc', stepOnG_node1 (.tmp1 _ φ) hg hu, _, c', o2, gc', rfl, rfl, hro', hr'⟩
      · cases h
        obtain ⟨o2, hu, hro'⟩ := updateObj_HistoricallyOperation fuel prev o hro s
        exact ⟨.un o2 gc', stepOnG_node1 (.tmp1 _ φ) hg hu, _, c', o2, gc', rfl, rfl, hro', hr'⟩
  | tmp2 op φ ψ ihφ ihψ =>
      cases st <;> first | cases h | skip
      rename_i ss l r
      simp only [F.onSupported, Bool.and_eq_true] at hφ
      obtain ⟨l', sl, r', sr, ss', hl, hr, hss, rfl⟩ := (MainAux.stepOn_since cfg op φ ψ inp ss l r st' out).1 h
      cases hss
      obtain ⟨Nl, hNl⟩ := ihφ hφ.1 (fun k => hne (by simp [F.usesSatNe, k])) l l' sl hl hH.1
      obtain ⟨Nr, hNr⟩ := ihψ hφ.2 (fun k => hne (by simp [F.usesSatNe, k])) r r' sr hr hH.2
      refine ⟨max (max Nl Nr) (ss.bufA.length + sl.length + ss.bufB.length + sr.length + 1), fun g hrel fuel hf => ?_⟩
      obtain ⟨ss0, l0, r0, o, gl, gr, hst, rfl, rfl, hro, hrl, hrr⟩ := hrel
      cases hst
      obtain ⟨gl', hgl, hrl'⟩ := hNl gl hrl fuel (by omega)
      obtain ⟨gr', hgr, hrr'⟩ := hNr gr hrr fuel (by omega)
      obtain ⟨o2, hu, hro'⟩ := updateObj_SinceOperation fuel ss o hro sl sr (by omega)
      exact ⟨.bin o2 gl' gr', stepOnG_node2 (.tmp2 _ φ ψ) hgl hgr hu, _, l', r', o2, gl', gr', rfl, rfl, rfl, hro', hrl', hrr'⟩
  | tb1 op a b φ ih =>
      cases st <;> first | cases h | skip
      rename_i ts c
      -- in `stepOn` the `match op` stands around the rest of the block: brought to the `match` on the operation alone
      obtain ⟨c', s, ts', hc, rfl, hb⟩ : ∃ c' s ts', stepOn cfg inp φ c = .ok (c', s) ∧ st' = .timed ts' c' ∧
          (match op with
            | .hist => timedUpdate gtW Val.pinf (a * cfg.scale) (b * cfg.scale) ts s
            | _ => timedUpdate ltW Val.ninf (a * cfg.scale) (b * cfg.scale) ts s) = .ok (ts', out) := by
        cases op
        all_goals
          simp only [stepOn, Exc.bind_eq_ok] at h
          obtain ⟨⟨c', s⟩, hc, ⟨ts', out'⟩, hb, h⟩ := h
          cases h
          exact ⟨c', s, ts', hc, rfl, hb⟩
      obtain ⟨N, hN⟩ := ih hφ hne c c' s hc hH.1
      refine ⟨max N (GOnTimed.G ts s), fun g hrel fuel hf => ?_⟩
      obtain ⟨ts0, c0, o, gc, hst, rfl, hro, hrc⟩ := hrel
      cases hst
      obtain ⟨gc', hg, hr'⟩ := hN gc hrc fuel (by omega)
      obtain ⟨⟨o2, _⟩, hu, rfl, hro'⟩ :=
        (timed_update fuel op _ _ ts o hro s (fun e hn => hH.2 e hn c' s hc) (by omega)).of_ok hb
      exact ⟨.un o2 gc', stepOnG_node1 (.tb1 op a b φ) hg hu, _, c', o2, gc', rfl, rfl, hro', hr'⟩
  | tb2 op a b φ ψ ihφ ihψ =>
      cases st <;> first | cases h | skip
      rename_i o s hh an l r
      simp only [F.onSupported, Bool.and_eq_true] at hφ
      obtain ⟨l', sl, r', sr, ⟨o', s', h', an'⟩, hl, hr, hst, rfl⟩ :=
        (MainAux.stepOn_sinceT cfg op a b φ ψ inp (o, s, hh, an) l r st' out).1 h
      replace hst : sinceTUpdate (a * cfg.scale) (b * cfg.scale) o s hh an sl sr = .ok ((o', s', h', an'), out) := hst
      obtain ⟨Nl, hNl⟩ := ihφ hφ.1 (fun k => hne (by simp [F.usesSatNe, k])) l l' sl hl hH.1
      obtain ⟨Nr, hNr⟩ := ihψ hφ.2 (fun k => hne (by simp [F.usesSatNe, k])) r r' sr hr hH.2.1
      refine ⟨max (max Nl Nr) (sinceTFuel (a * cfg.scale) (b * cfg.scale) o s hh an sl sr), fun g hrel fuel hf => ?_⟩
      obtain ⟨o0, s0, h0, an0, l0, r0, obj, gl, gr, hst, rfl, rfl, hro, hrl, hrr⟩ := hrel
      cases hst
      obtain ⟨gl', hgl, hrl'⟩ := hNl gl hrl fuel (by omega)
      obtain ⟨gr', hgr, hrr'⟩ := hNr gr hrr fuel (by omega)
      obtain ⟨⟨o2, _⟩, hu, rfl, hro'⟩ := (gen_since_timed_sim fuel (a * cfg.scale) (b * cfg.scale) o s hh an obj hro sl sr
        (fun hn => hH.2.2 hn l' sl r' sr hl hr) (by omega)).of_ok hst
      exact ⟨.bin o2 gl' gr', stepOnG_node2 (.tb2 _ a b φ ψ) hgl hgr hu, _, _, _, _, l', r', o2, gl', gr', rfl, rfl, rfl, hro', hrl', hrr'⟩

end GOn

/-- (b) one `update()`: whenever the mirror returns a list, the translated classes return the same list and the new trees
    are related again. -/
theorem genOn_step (cfg : DCfg) (φ : F α) (hφ : φ.onSupported = true) (hne : φ.usesSatNe = true → GOnIA.SatNeLaw α)
    (st : OnSt α) (g : GSt α) (hrel : StRel φ cfg st g)
    (inp : String → ASig α) (st' : OnSt α) (out : ASig α) (h : stepOn cfg inp φ st = .ok (st', out))
    (hH : HistOK cfg inp φ st) :
    ∃ N, ∀ fuel, N ≤ fuel → ∃ g', stepOnG fuel inp φ g = .ok (g', out) ∧ StRel φ cfg st' g' := by
  obtain ⟨N, hN⟩ := step_unif cfg φ hφ hne st inp st' out h hH
  exact ⟨N, hN g hrel⟩

namespace GOn

theorem go_run (cfg : DCfg) (φ : F α) (hφ : φ.onSupported = true) (hne : φ.usesSatNe = true → GOnIA.SatNeLaw α) :
    ∀ (batches : List (String → ASig α)) (st : OnSt α) (outs : List (ASig α)),
      runOn.go cfg φ st batches = .ok outs → HistOKRun cfg φ st batches →
      ∃ N, ∀ g, StRel φ cfg st g → ∀ fuel, N ≤ fuel → runOnG.go fuel φ g batches = .ok outs := by
  intro batches
  induction batches with
  | nil =>
      intro st outs h _
      simp only [runOn.go] at h; cases h
      exact ⟨0, fun g _ fuel _ => rfl⟩
  | cons b rest ih =>
      intro st outs h hH
      simp only [runOn.go, Exc.bind_eq_ok] at h
      obtain ⟨⟨st', out⟩, hst, outs', hrest, h⟩ := h
      cases h
      obtain ⟨hH1, hH2⟩ := hH
      obtain ⟨N1, hN1⟩ := step_unif cfg φ hφ hne st b st' out hst hH1
      obtain ⟨N2, hN2⟩ := ih st' outs' hrest (hH2 st' out hst)
      refine ⟨max N1 N2, fun g hrel fuel hf => ?_⟩
      obtain ⟨g', hg, hrel'⟩ := hN1 g hrel fuel (by omega)
      have hr := hN2 g' hrel' fuel (by omega)
      simp [runOnG.go, hg, hr]

end GOn

/-- (b) a sequence of `update()` calls on a fresh monitor: whenever the mirror returns the lists `outs`, the translated
    classes return the same lists, for every `fuel` above a bound (the maximum of the bounds of the steps). -/
theorem genOn_run (cfg : DCfg) (φ : F α) (hφ : φ.onSupported = true) (hne : φ.usesSatNe = true → GOnIA.SatNeLaw α)
    (batches : List (String → ASig α))
    (outs : List (ASig α)) (h : runOn cfg φ batches = .ok outs)
    (hH : ∀ st0, initOn φ = .ok st0 → HistOKRun cfg φ st0 batches) :
    ∃ N, ∀ fuel, N ≤ fuel → runOnG fuel cfg φ batches = .ok outs := by
  simp only [runOn, Exc.bind_eq_ok] at h
  obtain ⟨st0, h0, hgo⟩ := h
  obtain ⟨N0, hN0⟩ := genOn_init cfg φ hφ st0 h0
  obtain ⟨N1, hN1⟩ := go_run cfg φ hφ hne batches st0 outs hgo (hH st0 h0)
  refine ⟨max N0 N1, fun fuel hf => ?_⟩
  obtain ⟨g, hg, hrel⟩ := hN0 fuel (by omega)
  have := hN1 g hrel fuel (by omega)
  simp [runOnG, hg, this]

section c05
open Rtamt.Dense.Alg.MainAux Rtamt.Dense.AlgOn.MainAux
open Rtamt.Exc (bind_ok bind_ok_eq)

namespace GOn

/-- every list the node `φ` returns in a run from `st` over the first batches of `bs`, as far as it gets, has finite time
    stamps only -/
def FinRun (cfg : DCfg) (φ : F α) (st : OnSt α) (bs : List (String → ASig α)) : Prop :=
  ∀ n outs, runOn.go cfg φ st (bs.take n) = .ok outs → ∀ out ∈ outs, ∀ p ∈ out, p.1 ≠ Tm.inf

theorem FinRun.step {cfg : DCfg} {φ : F α} {st st' : OnSt α} {b : String → ASig α} {rest : List (String → ASig α)}
    {out : ASig α} (h : FinRun cfg φ st (b :: rest)) (hst : stepOn cfg b φ st = .ok (st', out)) :
    (∀ p ∈ out, p.1 ≠ Tm.inf) ∧ FinRun cfg φ st' rest := by
  have hgo : ∀ n outs, runOn.go cfg φ st' (rest.take n) = .ok outs →
      runOn.go cfg φ st ((b :: rest).take (n + 1)) = .ok (out :: outs) :=
    fun n outs e => (C09Dense.go_cons_iff cfg φ st b _ _).2 ⟨st', out, outs, hst, e, rfl⟩
  exact ⟨h 1 [out] (hgo 0 [] rfl) out (List.mem_singleton_self out),
    fun n outs e o ho => h (n + 1) (out :: outs) (hgo n outs e) o (List.mem_cons_of_mem out ho)⟩

theorem validChunks_take {w : DEnv α} {xs : List String} {bs : List (String → ASig α)} (h : ValidChunks w xs bs) (n : Nat) :
    ValidChunks w xs (bs.take n) := by
  intro x hx
  obtain ⟨rest, hr⟩ := h x hx
  refine ⟨((bs.drop n).map (fun b => b x)).flatten ++ rest, ?_⟩
  rw [← hr, ← List.append_assoc, ← List.flatten_append, ← List.map_append, List.take_append_drop]

theorem histOKRun_leaf (cfg : DCfg) (φ : F α) (hφ : (∃ x, φ = .var x) ∨ ∃ c, φ = .const c) :
    ∀ (bs : List (String → ASig α)) (st : OnSt α), HistOKRun cfg φ st bs := by
  intro bs
  induction bs with
  | nil => intro _; trivial
  | cons b rest ih =>
      intro st
      refine ⟨?_, fun st' out _ => ih st'⟩
      rcases hφ with ⟨x, rfl⟩ | ⟨c, rfl⟩ <;> cases st <;> simp [HistOK]

section node1
open Rtamt.Dense.ProgramOn Rtamt.Dense.C09Dense
variable (cfg : DCfg) {χ φ : F α} (hn : Node1 χ φ)
include hn

theorem histOK_node1 {inp : String → ASig α} (s : NSt α) {c : OnSt α} (h1 : HistOK cfg inp φ c)
    (hf : ∀ op a b, χ = .tb1 op a b φ → ∀ c' v, stepOn cfg inp φ c = .ok (c', v) → ∀ p ∈ v, p.1 ≠ Tm.inf) :
    HistOK cfg inp χ (build1 s c) := by
  cases hn <;> cases s <;>
    first | exact h1 | exact ⟨h1, fun _ _ c' v hc t x rest e => hf _ _ _ rfl c' v hc (t, x) (by rw [e]; simp)⟩ | trivial

theorem histOKRun_node1 : ∀ (bs : List (String → ASig α)) (s : NSt α) (c : OnSt α), HistOKRun cfg φ c bs →
    (∀ op a b, χ = .tb1 op a b φ → FinRun cfg φ c bs) → HistOKRun cfg χ (build1 s c) bs := by
  intro bs
  induction bs with
  | nil => intro _ _ _ _; trivial
  | cons b rest ih =>
      rintro s c ⟨h1, h2⟩ hf
      refine ⟨histOK_node1 cfg hn s h1 fun op a b e c' v hc => ((hf op a b e).step hc).1, fun st' out hst => ?_⟩
      obtain ⟨c', v, s', hc, -, rfl, -⟩ := (stepOn_node1 cfg b hn s c st' out).1 hst
      exact ih s' c' (h2 c' v hc) fun op a b e => ((hf op a b e).step hc).2

theorem onSupported_node1 : χ.onSupported = φ.onSupported := by
  cases hn <;> rfl

theorem usesSatNe_node1 : χ.usesSatNe = φ.usesSatNe := by
  cases hn <;> rfl

end node1

theorem histOKRun_bin (cfg : DCfg) (op : Bin) (φ ψ : F α) :
    ∀ (bs : List (String → ASig α)) (st : BinSt α) (l r : OnSt α), HistOKRun cfg φ l bs → HistOKRun cfg ψ r bs →
      HistOKRun cfg (.bin op φ ψ) (.bin st l r) bs := by
  intro bs
  induction bs with
  | nil => intro _ _ _ _ _; trivial
  | cons b rest ih =>
      rintro st l r ⟨h1, h2⟩ ⟨k1, k2⟩
      refine ⟨by simp only [HistOK]; exact ⟨h1, k1⟩, fun st' out hst => ?_⟩
      obtain ⟨l', x, r', y, s', e1, e2, _, rfl⟩ := (stepOn_bin cfg op φ ψ b st l r st' out).1 hst
      exact ih s' l' r' (h2 l' x e1) (k2 r' y e2)

theorem histOKRun_since (cfg : DCfg) (op : T2) (φ ψ : F α) :
    ∀ (bs : List (String → ASig α)) (st : SinceSt α) (l r : OnSt α), HistOKRun cfg φ l bs → HistOKRun cfg ψ r bs →
      HistOKRun cfg (.tmp2 op φ ψ) (.since st l r) bs := by
  intro bs
  induction bs with
  | nil => intro _ _ _ _ _; trivial
  | cons b rest ih =>
      rintro st l r ⟨h1, h2⟩ ⟨k1, k2⟩
      refine ⟨by simp only [HistOK]; exact ⟨h1, k1⟩, fun st' out hst => ?_⟩
      obtain ⟨l', x, r', y, s', e1, e2, _, rfl⟩ := (stepOn_since cfg op φ ψ b st l r st' out).1 hst
      exact ih s' l' r' (h2 l' x e1) (k2 r' y e2)

theorem histOKRun_sinceT (cfg : DCfg) (op : TB2) (a b' : Nat) (φ ψ : F α) :
    ∀ (bs : List (String → ASig α)) (o : TimedSt α) (s : SinceSt α) (h : TimedSt α) (an : BinSt α) (l r : OnSt α),
      HistOKRun cfg φ l bs → HistOKRun cfg ψ r bs → FinRun cfg (.tmp2 .since φ ψ) (.since s l r) bs →
      HistOKRun cfg (.tb2 op a b' φ ψ) (.sinceT o s h an l r) bs := by
  intro bs
  induction bs with
  | nil => intro _ _ _ _ _ _ _ _ _; trivial
  | cons b rest ih =>
      rintro o s h an l r ⟨h1, h2⟩ ⟨k1, k2⟩ hf
      have hsin : ∀ l' sl r' sr, stepOn cfg b φ l = .ok (l', sl) → stepOn cfg b ψ r = .ok (r', sr) →
          stepOn cfg b (.tmp2 .since φ ψ) (.since s l r) =
            .ok (.since (sinceUpdate s sl sr).1 l' r', (sinceUpdate s sl sr).2) := by
        intro l' sl r' sr e1 e2
        exact (stepOn_since cfg .since φ ψ b s l r _ _).2 ⟨l', sl, r', sr, _, e1, e2, rfl, rfl⟩
      refine ⟨?_, fun st' out hst => ?_⟩
      · simp only [HistOK]
        refine ⟨h1, k1, fun _ l' sl r' sr e1 e2 t v rest' hs => ?_⟩
        exact (hf.step (hsin l' sl r' sr e1 e2)).1 (t, v) (by rw [hs]; simp)
      · obtain ⟨l', x, r', y, s', e1, e2, e3, rfl⟩ :=
          (stepOn_sinceT cfg op a b' φ ψ b (o, s, h, an) l r st' out).1 hst
        obtain ⟨o', out1, h', out3, an', _, _, _, rfl⟩ := (sinceTStep_ok _ _ o s h an x y s' out).1 e3
        exact ih o' _ h' an' l' r' (h2 l' x e1) (k2 r' y e2) (hf.step (hsin l' x r' y e1 e2)).2

theorem onSupported_of_frag (ia : Bool) : ∀ (φ : F α), onFragG ia φ = true → φ.onSupported = true := by
  apply onFragG_induction
  case var => exact fun _ => rfl
  case un => exact fun _ _ ih => ih
  case bin =>
    intro op φ ψ hz _ hops
    obtain ⟨h1, h2⟩ := opnds_of_const (P := (F.onSupported · = true)) (fun _ => rfl) hops
    -- with `hz` at hand `simp` decides the `match op` of `F.onSupported`
    simp only [F.onSupported, h1, h2, Bool.and_true]
  case tmp1 => exact fun _ _ _ _ ih => ih
  case since => exact fun φ ψ _ _ h1 h2 => by simp only [F.onSupported, h1, h2, Bool.and_self]
  case tb1 => exact fun _ _ _ _ _ _ _ ih => ih
  case sinceT => exact fun a b φ ψ _ _ _ h1 h2 => by simp only [F.onSupported, h1, h2, Bool.and_self]

/-- the fragment of C05 has no interface-aware predicate -/
theorem usesSatNe_of_frag : ∀ (φ : F α), onFragG false φ = true → φ.usesSatNe = false := by
  apply onFragG_induction
  case var => exact fun _ => rfl
  case un => exact fun _ _ ih => ih
  case bin =>
    intro op φ ψ _ hps hops
    obtain ⟨h1, h2⟩ := opnds_of_const (P := (F.usesSatNe · = false)) (fun _ => rfl) hops
    have hne := hps.resolve_right Bool.false_ne_true .ne
    -- `hne` decides the `match op` of `F.usesSatNe`
    simp only [F.usesSatNe, h1, h2, Bool.or_self]
  case tmp1 => exact fun _ _ _ _ ih => ih
  case since => exact fun φ ψ _ _ h1 h2 => by simp only [F.usesSatNe, h1, h2, Bool.or_self]
  case tb1 => exact fun _ _ _ _ _ _ _ ih => ih
  case sinceT => exact fun a b φ ψ _ _ _ h1 h2 => by simp only [F.usesSatNe, h1, h2, Bool.or_self]

end GOn

variable [LawfulVal α]

namespace GOn

/-- on the fragment every list a node returns has finite stamps: a run over the first batches is a run of the mirror, whose
    lists have the shape of a stream (`claim_all`) -/
theorem finRun_frag (cfg : DCfg) (hs : 0 ≤ cfg.scale) (w : DEnv α) (ia : Bool) (φ : F α) (hfrag : onFragG ia φ = true)
    (hw : w.WF φ.vars) (h0 : StartsAt0 w φ.vars) {st0 : OnSt α} (hi : initOn φ = .ok st0)
    {bs : List (String → ASig α)} (hch : ValidChunks w φ.vars bs) : FinRun cfg φ st0 bs := by
  intro n outs hgo
  exact ((claim_all cfg hs w ia _ φ hfrag hw h0 (validChunks_take hch n)).sound outs
    ((C09Dense.runOn_iff cfg φ _ outs).2 ⟨st0, hi, hgo⟩)).1.finite

/-- `HistOK` holds along every run of the fragments of C05 (`ia = false`) and C06 (`ia = true`) -/
theorem histOKRun_frag (cfg : DCfg) (hs : 0 ≤ cfg.scale) (w : DEnv α) (ia : Bool) (batches : List (String → ASig α)) :
    ∀ (φ : F α), onFragG ia φ = true → w.WF φ.vars → StartsAt0 w φ.vars → ValidChunks w φ.vars batches →
      ∀ st0, initOn φ = .ok st0 → HistOKRun cfg φ st0 batches := by
  have n1 : ∀ {χ φ : F α}, C09Dense.Node1 χ φ →
      (∀ op a b, χ = .tb1 op a b φ → ∀ c, initOn φ = .ok c → FinRun cfg φ c batches) →
      (∀ c, initOn φ = .ok c → HistOKRun cfg φ c batches) → ∀ st0, initOn χ = .ok st0 → HistOKRun cfg χ st0 batches := by
    intro χ φ hn hf ih st0 hi
    obtain ⟨c0, s0, e0, -, rfl⟩ := (C09Dense.initOn_node1 hn st0).1 hi
    exact histOKRun_node1 cfg hn batches s0 c0 (ih c0 e0) fun op a b e => hf op a b e c0 e0
  apply onFragG_induction
  case var => exact fun x _ _ _ st0 _ => histOKRun_leaf cfg _ (.inl ⟨x, rfl⟩) batches st0
  case un => exact fun op φ ih hw h0 hch => n1 (.un op φ) nofun (ih hw h0 hch)
  case tmp1 => exact fun op φ _ _ ih hw h0 hch => n1 (.tmp1 op φ) nofun (ih hw h0 hch)
  case tb1 =>
    exact fun op a b φ _ _ hf ih hw h0 hch =>
      n1 (.tb1 op a b φ) (fun _ _ _ _ _ e => finRun_frag cfg hs w ia φ hf hw h0 e hch) (ih hw h0 hch)
  case bin =>
    intro op φ ψ hz _ hops hw h0 hch st0 hi
    obtain ⟨l0, r0, s0, e1, e2, hs0, rfl⟩ := (C09Dense.initOn_node2 (.bin op φ ψ) st0).1 hi
    cases (initNodeOn_bin hz φ ψ).symm.trans hs0
    rcases hops with ⟨ih1, ih2⟩ | ⟨hc, ih2⟩ | ⟨ih1, hc⟩
    · exact histOKRun_bin cfg op φ ψ batches _ l0 r0 (opnd_left ih1 hw h0 hch l0 e1) (opnd_right ih2 hw h0 hch r0 e2)
    · exact histOKRun_bin cfg op φ ψ batches _ l0 r0 (histOKRun_leaf cfg φ (.inr hc) batches l0)
        (opnd_right ih2 hw h0 hch r0 e2)
    · exact histOKRun_bin cfg op φ ψ batches _ l0 r0 (opnd_left ih1 hw h0 hch l0 e1)
        (histOKRun_leaf cfg ψ (.inr hc) batches r0)
  case since =>
    intro φ ψ _ _ ih1 ih2 hw h0 hch st0 hi
    obtain ⟨l0, r0, s0, e1, e2, hs0, rfl⟩ := (C09Dense.initOn_node2 (.tmp2 .since φ ψ) st0).1 hi
    cases hs0
    exact histOKRun_since cfg _ φ ψ batches _ l0 r0 (opnd_left ih1 hw h0 hch l0 e1) (opnd_right ih2 hw h0 hch r0 e2)
  case sinceT =>
    intro a b φ ψ _ hfφ hfψ ih1 ih2 hw h0 hch st0 hi
    obtain ⟨l0, r0, s0, e1, e2, hs0, rfl⟩ := (C09Dense.initOn_node2 (.tb2 .since a b φ ψ) st0).1 hi
    cases hs0
    have hfs : onFragG ia (.tmp2 .since φ ψ) = true := by simp only [onFragG, hfφ, hfψ, Bool.and_self]
    have hi' : initOn (.tmp2 .since φ ψ) = .ok (.since _ l0 r0) :=
      (C09Dense.initOn_node2 (.tmp2 .since φ ψ) _).2 ⟨l0, r0, _, e1, e2, rfl, rfl⟩
    exact histOKRun_sinceT cfg _ a b φ ψ batches _ _ _ _ l0 r0 (opnd_left ih1 hw h0 hch l0 e1)
      (opnd_right ih2 hw h0 hch r0 e2) (finRun_frag cfg hs w ia _ hfs hw h0 hi' hch)

end GOn

/-- (c) C05 for the translated classes: on the fragment `onFrag`, for well-formed signals that start at 0 and every valid
    chunking, whenever the mirror returns `outs`, the monitor run through the classes translated from the Python source returns
    the same lists for every `fuel` above a bound, and they are the dense-time semantics (`StreamOK`). -/
theorem C05_translated_partial (cfg : DCfg) (hs : 0 ≤ cfg.scale) (w : DEnv α) (φ : F α)
    (hfrag : onFrag φ = true) (hw : w.WF φ.vars) (h0 : StartsAt0 w φ.vars)
    (hsub : ∀ a b : α, Val.neg (Val.sub a b) = Val.sub b a)
    (batches : List (String → ASig α)) (hch : ValidChunks w φ.vars batches)
    {outs : List (ASig α)} (he : runOn cfg φ batches = .ok outs) :
    ∃ N, ∀ fuel, N ≤ fuel → runOnG fuel cfg φ batches = .ok outs ∧ StreamOK outs 0 (rhoD cfg w φ) := by
  have hfrag' : onFragG false φ = true := by rw [← onFrag_eq]; exact hfrag
  obtain ⟨N, hN⟩ := genOn_run cfg φ (onSupported_of_frag false φ hfrag')
    (fun k => by rw [usesSatNe_of_frag φ hfrag'] at k; cases k) batches outs he
    (histOKRun_frag cfg hs w false batches φ hfrag' hw h0 hch)
  exact ⟨N, fun fuel hf => ⟨hN fuel hf, C05_online_mirror_partial cfg hs w φ hfrag hw h0 hsub batches hch he⟩⟩

/-- (c) without `sqrt` / `ln` the run raises nothing: there are such lists. -/
theorem C05_translated_total_partial (cfg : DCfg) (hs : 0 ≤ cfg.scale) (w : DEnv α) (φ : F α)
    (hfrag : onFrag φ = true) (hnp : noPartialOps φ = true) (hw : w.WF φ.vars) (h0 : StartsAt0 w φ.vars)
    (hsub : ∀ a b : α, Val.neg (Val.sub a b) = Val.sub b a)
    (batches : List (String → ASig α)) (hch : ValidChunks w φ.vars batches) :
    ∃ N, ∀ fuel, N ≤ fuel → ∃ outs, runOnG fuel cfg φ batches = .ok outs ∧ StreamOK outs 0 (rhoD cfg w φ) := by
  obtain ⟨outs, he⟩ := C05_online_total_partial cfg hs w φ hfrag hnp hw h0 batches hch
  obtain ⟨N, hN⟩ := C05_translated_partial cfg hs w φ hfrag hw h0 hsub batches hch he
  exact ⟨N, fun fuel hf => ⟨outs, hN fuel hf⟩⟩

/-- (c) C06 for the translated classes (interface-aware robustness semantics, dense online): on the fragment `onFragIA` - with
    the interface-aware predicate `.bin (.predSat c) φ ψ`, run through the translated subclass `PredicateOperation` of
    `rtamt/semantics/iastl/dense_time/online` - under the hypotheses of `C06_online_ia_partial`, whenever the mirror returns
    `outs`, the monitor run through the classes translated from the Python source returns the same lists for every `fuel`
    above a bound, and they are the dense-time semantics.  `HistOK` is discharged as for C05 (`histOKRun_frag` with
    `ia = true`); the law `GOnIA.SatNeLaw` the predicate `!=` needs follows from `hcmp`. -/
theorem C06_translated_online_partial (cfg : DCfg) (hs : 0 ≤ cfg.scale) (w : DEnv α) (φ : F α)
    (hfrag : onFragIA φ = true) (hw : w.WF φ.vars) (h0 : StartsAt0 w φ.vars)
    (hsub : ∀ a b : α, Val.neg (Val.sub a b) = Val.sub b a)
    (hkey : ∀ (c : Cmp) (d d' : α), cmpOfDiff c d = cmpOfDiff c d' → satOfDiff c d = satOfDiff c d')
    (hcmp : ∀ (c : Cmp) (a b : α), satOfDiff c (Val.sub a b) = c.holds a b)
    (batches : List (String → ASig α)) (hch : ValidChunks w φ.vars batches)
    {outs : List (ASig α)} (he : runOn cfg φ batches = .ok outs) :
    ∃ N, ∀ fuel, N ≤ fuel → runOnG fuel cfg φ batches = .ok outs ∧ StreamOK outs 0 (rhoD cfg w φ) := by
  have hfrag' : onFragG true φ = true := by rw [← onFragIA_eq]; exact hfrag
  obtain ⟨N, hN⟩ := genOn_run cfg φ (onSupported_of_frag true φ hfrag')
    (fun _ => GOnIA.satNeLaw_of_hcmp hcmp) batches outs he
    (histOKRun_frag cfg hs w true batches φ hfrag' hw h0 hch)
  exact ⟨N, fun fuel hf => ⟨hN fuel hf, C06_online_ia_partial cfg hs w φ hfrag hw h0 hsub hkey hcmp batches hch he⟩⟩

/-- (c) without `sqrt` / `ln` the run raises nothing: there are such lists. -/
theorem C06_translated_online_total_partial (cfg : DCfg) (hs : 0 ≤ cfg.scale) (w : DEnv α) (φ : F α)
    (hfrag : onFragIA φ = true) (hnp : noPartialOps φ = true) (hw : w.WF φ.vars) (h0 : StartsAt0 w φ.vars)
    (hsub : ∀ a b : α, Val.neg (Val.sub a b) = Val.sub b a)
    (hkey : ∀ (c : Cmp) (d d' : α), cmpOfDiff c d = cmpOfDiff c d' → satOfDiff c d = satOfDiff c d')
    (hcmp : ∀ (c : Cmp) (a b : α), satOfDiff c (Val.sub a b) = c.holds a b)
    (batches : List (String → ASig α)) (hch : ValidChunks w φ.vars batches) :
    ∃ N, ∀ fuel, N ≤ fuel → ∃ outs, runOnG fuel cfg φ batches = .ok outs ∧ StreamOK outs 0 (rhoD cfg w φ) := by
  obtain ⟨outs, he⟩ := C06_online_ia_total_partial cfg hs w φ hfrag hnp hw h0 batches hch
  obtain ⟨N, hN⟩ := C06_translated_online_partial cfg hs w φ hfrag hw h0 hsub hkey hcmp batches hch he
  exact ⟨N, fun fuel hf => ⟨outs, hN fuel hf⟩⟩

/-- (c) the instance for the formula the interface-aware robustness semantics monitors: `iaT sem inputs φ` (the insensitive
    predicates of `φ` replaced by `.predSat`; `sem` one of the two robustness semantics or the standard one - under a vacuity
    semantics `iaT` produces `.predZero`, which `onFragIA` excludes) -/
theorem C06_translated_online_iaT_partial (cfg : DCfg) (hs : 0 ≤ cfg.scale) (w : DEnv α) (sem : Sem)
    (inputs : List String) (φ : F α)
    (hfrag : onFragIA (iaT sem inputs φ) = true) (hw : w.WF (iaT sem inputs φ).vars)
    (h0 : StartsAt0 w (iaT sem inputs φ).vars)
    (hsub : ∀ a b : α, Val.neg (Val.sub a b) = Val.sub b a)
    (hkey : ∀ (c : Cmp) (d d' : α), cmpOfDiff c d = cmpOfDiff c d' → satOfDiff c d = satOfDiff c d')
    (hcmp : ∀ (c : Cmp) (a b : α), satOfDiff c (Val.sub a b) = c.holds a b)
    (batches : List (String → ASig α)) (hch : ValidChunks w (iaT sem inputs φ).vars batches)
    {outs : List (ASig α)} (he : runOn cfg (iaT sem inputs φ) batches = .ok outs) :
    ∃ N, ∀ fuel, N ≤ fuel →
      runOnG fuel cfg (iaT sem inputs φ) batches = .ok outs ∧ StreamOK outs 0 (rhoD cfg w (iaT sem inputs φ)) :=
  C06_translated_online_partial cfg hs w (iaT sem inputs φ) hfrag hw h0 hsub hkey hcmp batches hch he

end c05

end Rtamt.Py.DnOn
