/-
  The sub-language `Rtamt/Py/DnOn.lean` run symbolically, for `RtamtProofs/GenDenseOn*.lean`.  What is here are equations:
  of the layered function table (`callAt_fn` for a function of the table, `callAt_lib` for one of the library `libNames`),
  of the locals (`setLoc` / `getLoc` / `resolve`; the attribute keys `isSelfKey` and the filter `runFn` applies to the final
  locals of a method), of `exec`, `evalE`, `evalIdx` in hypothesis form (`exec.seq_ok`, `evalE.loc`, `evalIdx.smp0`, …: a
  step is rewritten with the facts at hand and the interpreter stays folded), of the loops with fuel (`whileLoop_succ`,
  `forLoop_cons`), and the encodings of the mirror's values with the contract `InterOnSpec` of the translated
  `intersection`.  The judgments built on these equations stand in `GenDenseOnLogic.lean`.
-/
import Rtamt.Py.RunDnOn
import RtamtProofs.Lemmas.Assoc
import RtamtProofs.Dense.KeepSel

namespace Rtamt.Py.DnOn
open Rtamt Val Rtamt.Dense Rtamt.Dense.Alg

set_option linter.unusedSectionVars false

variable {α : Type} [Val α]

@[simp] theorem ok_bind {ε σ ρ : Type} (a : σ) (f : σ → Except ε ρ) : (Except.ok a >>= f) = f a := rfl
@[simp] theorem error_bind {ε σ ρ : Type} (e : ε) (f : σ → Except ε ρ) : (Except.error e >>= f) = .error e := rfl
@[simp] theorem pure_eq_ok {ε σ : Type} (a : σ) : (pure a : Except ε σ) = .ok a := rfl
@[simp] theorem ok_map {ε σ ρ : Type} (a : σ) (f : σ → ρ) : f <$> (Except.ok a : Except ε σ) = .ok (f a) := rfl
@[simp] theorem error_map {ε σ ρ : Type} (e : ε) (f : σ → ρ) : f <$> (Except.error e : Except ε σ) = .error e := rfl
@[simp] theorem throw_eq_error {ε σ : Type} (e : ε) : (throw e : Except ε σ) = .error e := rfl

theorem callAt_succ (fns : List (String × Fn)) (fuel k : Nat) (f : String) (args : List (DV α)) :
    callAt fns fuel (k + 1) f args =
      (match fns.lookup f with
       | some fn => runFn (callAt fns fuel k) fuel fn args
       | none => builtin f args) := rfl

theorem callAt_builtin (fns : List (String × Fn)) (fuel k : Nat) (f : String) (args : List (DV α))
    (h : fns.lookup f = none) : callAt fns fuel k f args = builtin f args := by
  cases k with
  | zero => rfl
  | succ k => rw [callAt_succ, h]

theorem callAt_fn (fns : List (String × Fn)) (fuel k : Nat) (f : String) (fn : Fn) (args : List (DV α))
    (h : fns.lookup f = some fn) : callAt fns fuel (k + 1) f args = runFn (callAt fns fuel k) fuel fn args := by
  rw [callAt_succ, h]

/-- the standard-library functions the translated code calls -/
def libNames : List String :=
  ["len", "max", "min", "abs", "math.exp", "math.sqrt", "math.log", "float", "math.pow", "list"]

theorem lib_at (i : Nat) {f : String} (h : libNames[i]? = some f) : f ∈ libNames := List.mem_of_getElem? h

theorem lookup_lib : ∀ f ∈ libNames, Gen.DenseOn.fns.lookup f = none := by
  decide +kernel

theorem callAt_lib (fuel k : Nat) {f : String} (hf : f ∈ libNames) (args : List (DV α)) :
    callAt Gen.DenseOn.fns fuel k f args = builtin f args :=
  callAt_builtin _ _ _ _ _ (lookup_lib f hf)

theorem setLoc_eq {β : Type} (k : String) (v : β) (env : List (String × β)) : setLoc k v env = Assoc.set k v env := by
  induction env with
  | nil => rfl
  | cons p env ih => simp only [setLoc, Assoc.set, ih]

theorem lookup_setLoc {β : Type} (k k' : String) (v : β) (env : List (String × β)) :
    (setLoc k' v env).lookup k = if k = k' then some v else env.lookup k := by
  rw [setLoc_eq]; exact Assoc.lookup_set k k' v env

theorem lookup_setLoc_same {β : Type} (k : String) (v : β) (env : List (String × β)) :
    (setLoc k v env).lookup k = some v := by
  rw [lookup_setLoc, if_pos rfl]

theorem lookup_setLoc_ne {β : Type} (k k' : String) (v : β) (env : List (String × β)) (hne : k ≠ k') :
    (setLoc k' v env).lookup k = env.lookup k := by
  rw [lookup_setLoc, if_neg hne]

@[simp] theorem getLoc_setLoc_same (k : String) (v : DV α) (env : Env α) : getLoc k (setLoc k v env) = .ok v := by
  unfold getLoc; rw [lookup_setLoc_same]

theorem getLoc_setLoc_ne (k k' : String) (v : DV α) (env : Env α) (hne : k ≠ k') :
    getLoc k (setLoc k' v env) = getLoc k env := by
  unfold getLoc; rw [lookup_setLoc_ne _ _ _ _ hne]

/-- the form `simp` uses: the comparison of two string literals is decided by the simproc `String.reduceEq` -/
@[simp] theorem getLoc_setLoc (k k' : String) (v : DV α) (env : Env α) :
    getLoc k (setLoc k' v env) = if k = k' then .ok v else getLoc k env := by
  by_cases h : k = k'
  · subst h; simp
  · simp [h, getLoc_setLoc_ne _ _ _ _ h]

@[simp] theorem getLoc_cons (k k' : String) (v : DV α) (env : Env α) :
    getLoc k ((k', v) :: env) = if k = k' then .ok v else getLoc k env := by
  unfold getLoc
  by_cases h : k = k'
  · subst h; simp
  · have : (k == k') = false := by rw [beq_eq_false_iff_ne]; exact h
    simp [List.lookup_cons, this, h]

@[simp] theorem getLoc_nil (k : String) : getLoc k ([] : Env α) = .error .key := rfl

@[simp] theorem resolve_setLoc (f k' : String) (v : DV α) (env : Env α) :
    resolve (setLoc k' v env) f = if f = k' then (match v with | .fn g => g | _ => f) else resolve env f := by
  unfold resolve
  by_cases h : f = k'
  · subst h; rw [lookup_setLoc_same]; cases v <;> simp
  · rw [lookup_setLoc_ne _ _ _ _ h]; simp [h]

theorem resolve_setLoc_ne (f k' : String) (v : DV α) (env : Env α) (hne : f ≠ k') :
    resolve (setLoc k' v env) f = resolve env f := by
  unfold resolve; rw [lookup_setLoc_ne _ _ _ _ hne]

theorem getLoc_ok_iff {k : String} {env : Env α} {v : DV α} : getLoc k env = .ok v ↔ env.lookup k = some v := by
  unfold getLoc
  cases env.lookup k <;> simp

theorem setLoc_of_getLoc {k : String} {v : DV α} {env : Env α} (h : getLoc k env = .ok v) : setLoc k v env = env := by
  rw [getLoc_ok_iff] at h
  induction env with
  | nil => cases h
  | cons p env ih =>
      obtain ⟨k', v'⟩ := p
      unfold setLoc
      by_cases hk : k = k'
      · subst hk; rw [List.lookup_cons_self] at h; cases h; simp
      · rw [Assoc.lookup_cons_ne _ _ hk] at h; rw [if_neg (by simpa using Ne.symm hk), ih h]

theorem resolve_of_lookup {k : String} {env : Env α} (h : env.lookup k = none) : resolve env k = k := by
  unfold resolve; rw [h]

theorem resolve_of_key {env : Env α} {f : String} (h : getLoc f env = .error .key) : resolve env f = f := by
  unfold getLoc at h
  apply resolve_of_lookup
  cases hl : env.lookup f with
  | none => rfl
  | some v => rw [hl] at h; cases h

theorem resolve_of_getLoc {env : Env α} {f g : String} (h : getLoc f env = .ok (.fn g)) : resolve env f = g := by
  unfold getLoc at h
  unfold resolve
  cases hl : env.lookup f with
  | none => rw [hl] at h; cases h
  | some v => rw [hl] at h; cases h; rfl

/-! A method runs on `store ++ arguments` and `runFn` keeps the locals named `self.…` (`isSelfKey`) as the new store. -/

theorem selfKeys_filter (env : Env α) : ∀ p ∈ env.filter (fun p => isSelfKey p.1), isSelfKey p.1 = true :=
  fun _ hp => (List.mem_filter.mp hp).2

theorem lookup_filter_self (env : Env α) (k : String) (hk : isSelfKey k = true) :
    (env.filter (fun p => isSelfKey p.1)).lookup k = env.lookup k := by
  induction env with
  | nil => rfl
  | cons p env ih =>
      obtain ⟨k', v⟩ := p
      by_cases hs : isSelfKey k' = true
      · rw [List.filter_cons_of_pos (by simpa using hs), List.lookup_cons, List.lookup_cons, ih]
      · rw [List.filter_cons_of_neg (by simpa using hs), List.lookup_cons, ih]
        have : (k == k') = false := by
          rw [beq_eq_false_iff_ne]; intro e; subst e; exact hs hk
        simp [this]

/-- a store of attribute names does not shadow a parameter or a local of the method -/
theorem lookup_none_of_selfKeys (store : Env α) (hs : ∀ p ∈ store, isSelfKey p.1 = true) (k : String)
    (hk : isSelfKey k = false) : store.lookup k = none := by
  induction store with
  | nil => rfl
  | cons p store ih =>
      obtain ⟨k', v⟩ := p
      have h1 : isSelfKey k' = true := hs (k', v) (by simp)
      have hne : (k == k') = false := by
        rw [beq_eq_false_iff_ne]; intro e; subst e; rw [hk] at h1; cases h1
      simp only [List.lookup_cons, hne]
      exact ih (fun p hp => hs p (by simp [hp]))

theorem getLoc_append_left {store rest : Env α} {k : String} {v : DV α} (h : store.lookup k = some v) :
    getLoc k (store ++ rest) = .ok v := by
  rw [getLoc_ok_iff, List.lookup_append, h]; rfl

theorem getLoc_append_right {store rest : Env α} {k : String} (h : store.lookup k = none) :
    getLoc k (store ++ rest) = getLoc k rest := by
  unfold getLoc; rw [List.lookup_append, h]; rfl

/-- the local `prev` of the output loops: `float("nan")` before the first sample -/
def encPrev : Option α → DV α
  | none => .nan
  | some x => .val x

/-! What one statement or expression does, given what its parts do; named after the function they are about, as in
`RtamtProofs/GenDenseBase.lean`. -/

section stmts
variable {call : Call α} {fuel : Nat} {env env' : Env α}

theorem exec.seq_ok {a b : S} (h : exec call fuel a env = .ok (env', .none)) :
    exec call fuel (.seq a b) env = exec call fuel b env' := by
  simp only [exec, h, ok_bind]

theorem exec.seq_err {a b : S} {e : PyErr} (h : exec call fuel a env = .error e) :
    exec call fuel (.seq a b) env = .error e := by
  simp only [exec, h, error_bind]

theorem exec.seq_ret {a b : S} {v : DV α} (h : exec call fuel a env = .ok (env', .ret v)) :
    exec call fuel (.seq a b) env = .ok (env', .ret v) := by
  simp only [exec, h, ok_bind, pure_eq_ok]

/-- `a; b; c` where `a; b` runs through -/
theorem exec.seq_seq_ok {a b c : S} (h : exec call fuel (.seq a b) env = .ok (env', .none)) :
    exec call fuel (.seq a (.seq b c)) env = exec call fuel c env' := by
  rw [exec] at h ⊢
  cases ha : exec call fuel a env with
  | error e => rw [ha] at h; cases h
  | ok x =>
      obtain ⟨e1, r⟩ := x
      rw [ha] at h
      cases r with
      | none => exact exec.seq_ok h
      | ret v => cases h
      | brk => cases h

theorem exec.seq_brk {a b : S} (h : exec call fuel a env = .ok (env', .brk)) :
    exec call fuel (.seq a b) env = .ok (env', .brk) := by
  simp only [exec, h, ok_bind, pure_eq_ok]

theorem exec.setLoc {x : String} {e : E} {v : DV α} (h : evalE call env e = .ok v) :
    exec call fuel (.setLoc x e) env = .ok (DnOn.setLoc x v env, .none) := by
  simp only [exec, h, ok_bind, pure_eq_ok]

theorem exec.seq_setLoc {x : String} {e : E} {v : DV α} {rest : S} (h : evalE call env e = .ok v) :
    exec call fuel (.seq (.setLoc x e) rest) env = exec call fuel rest (DnOn.setLoc x v env) :=
  exec.seq_ok (exec.setLoc h)

theorem exec.appendLoc {x : String} {e : E} {v : DV α} {l : List (DV α)} (h : evalE call env e = .ok v)
    (hx : getLoc x env = .ok (.list l)) :
    exec call fuel (.appendLoc x e) env = .ok (DnOn.setLoc x (.list (l ++ [v])) env, .none) := by
  simp only [exec, h, hx, ok_bind, pure_eq_ok]

theorem exec.ite {c : E} {t e : S} {d : DV α} {b : Bool} (h : evalE call env c = .ok d) (hb : truthy d = .ok b) :
    exec call fuel (.ite c t e) env = if b then exec call fuel t env else exec call fuel e env := by
  simp only [exec, h, hb, ok_bind]

theorem exec.ite_true {c : E} {t e : S} {d : DV α} (h : evalE call env c = .ok d) (hb : truthy d = .ok true) :
    exec call fuel (.ite c t e) env = exec call fuel t env := by
  rw [exec.ite h hb, if_pos rfl]

theorem exec.ite_false {c : E} {t e : S} {d : DV α} (h : evalE call env c = .ok d) (hb : truthy d = .ok false) :
    exec call fuel (.ite c t e) env = exec call fuel e env := by
  rw [exec.ite h hb, if_neg Bool.false_ne_true]

theorem exec.skip : exec call fuel .skip env = .ok (env, .none) := by rw [exec]

/-- a branch that leaves `x` as it is, written as the assignment of its value -/
theorem exec.skip_set {x : String} {v : DV α} (h : getLoc x env = .ok v) :
    exec call fuel .skip env = .ok (DnOn.setLoc x v env, .none) := by
  rw [setLoc_of_getLoc h, exec]

theorem exec.brk : exec call fuel .brk env = .ok (env, .brk) := by rw [exec]

theorem exec.while_ (c : E) (body : S) :
    exec call fuel (.while_ c body) env
      = whileLoop (fun env => do truthy (← evalE call env c)) (exec call fuel body) fuel env := by
  rw [exec]

theorem exec.forIn {x : String} {it : E} {body : S} {l : List (DV α)} (h : evalE call env it = .ok (.list l)) :
    exec call fuel (.forIn x it body) env =
      forLoop (fun p env => DnOn.setLoc x p.1 env) (exec call fuel body) (l.map (fun v => (v, 0))) env := by
  simp only [exec, h, ok_bind]

theorem exec.ret {e : E} {v : DV α} (h : evalE call env e = .ok v) :
    exec call fuel (.ret e) env = .ok (env, .ret v) := by
  simp only [exec, h, ok_bind, pure_eq_ok]

theorem evalE.loc {x : String} {v : DV α} (h : getLoc x env = .ok v) : evalE call env (.loc x) = .ok v := by
  rw [evalE]; exact h

theorem evalE.idx {e i : E} {x k : DV α} (h1 : evalE call env e = .ok x) (h2 : evalE call env i = .ok k) :
    evalE call env (.idx e i) = evalIdx x k := by
  simp only [evalE, h1, h2, ok_bind]

theorem evalE.idxInt {e : E} {n : Int} {x : DV α} (h : evalE call env e = .ok x) :
    evalE call env (.idx e (.int n)) = evalIdx x (.int n) :=
  evalE.idx h (by rw [evalE])

theorem evalE.neg {e : E} {x : DV α} (h : evalE call env e = .ok x) : evalE call env (.neg e) = evalNeg x := by
  simp only [evalE, h, ok_bind]

theorem evalE.not {e : E} {x : DV α} {b : Bool} (h : evalE call env e = .ok x) (hb : truthy x = .ok b) :
    evalE call env (.not e) = .ok (.bool (!b)) := by
  simp only [evalE, h, hb, ok_bind, pure_eq_ok]

theorem evalE.bin {op : BinOp} {a b : E} {x y : DV α} (h1 : evalE call env a = .ok x) (h2 : evalE call env b = .ok y) :
    evalE call env (.bin op a b) = evalBin op x y := by
  simp only [evalE, h1, h2, ok_bind]

theorem evalE.or_ {a b : E} {x : DV α} {t : Bool} (h1 : evalE call env a = .ok x) (h2 : truthy x = .ok t) :
    evalE call env (.or_ a b) = if t then .ok x else evalE call env b := by
  simp only [evalE, h1, h2, ok_bind, pure_eq_ok]

theorem evalE.and_ {a b : E} {x : DV α} {t : Bool} (h1 : evalE call env a = .ok x) (h2 : truthy x = .ok t) :
    evalE call env (.and_ a b) = if t then evalE call env b else .ok x := by
  simp only [evalE, h1, h2, ok_bind, pure_eq_ok]

theorem evalE.or_bool {a b : E} {A B : Bool} (ha : evalE call env a = .ok (.bool A))
    (hb : evalE call env b = .ok (.bool B)) : evalE call env (.or_ a b) = .ok (.bool (A || B)) := by
  rw [evalE.or_ ha rfl]
  cases A
  · exact hb
  · rfl

theorem evalE.and_bool {a b : E} {A B : Bool} (ha : evalE call env a = .ok (.bool A))
    (hb : evalE call env b = .ok (.bool B)) : evalE call env (.and_ a b) = .ok (.bool (A && B)) := by
  rw [evalE.and_ ha rfl]
  cases A
  · rfl
  · exact hb

theorem evalE.call1 {f : String} {a : E} {x : DV α} (h : evalE call env a = .ok x) :
    evalE call env (.call1 f a) = call (resolve env f) [x] := by
  simp only [evalE, h, ok_bind]

theorem evalE.call2 {f : String} {a b : E} {x y : DV α} (h1 : evalE call env a = .ok x)
    (h2 : evalE call env b = .ok y) : evalE call env (.call2 f a b) = call (resolve env f) [x, y] := by
  simp only [evalE, h1, h2, ok_bind]

theorem evalE.call3 {f : String} {a b c : E} {x y z : DV α} (h1 : evalE call env a = .ok x)
    (h2 : evalE call env b = .ok y) (h3 : evalE call env c = .ok z) :
    evalE call env (.call3 f a b c) = call (resolve env f) [x, y, z] := by
  simp only [evalE, h1, h2, h3, ok_bind]

theorem evalE.list2 {a b : E} {x y : DV α} (h1 : evalE call env a = .ok x) (h2 : evalE call env b = .ok y) :
    evalE call env (.list2 a b) = mkList2 x y := by
  simp only [evalE, h1, h2, ok_bind]

theorem evalE.tup3 {a b c : E} {x y z : DV α} (h1 : evalE call env a = .ok x) (h2 : evalE call env b = .ok y)
    (h3 : evalE call env c = .ok z) : evalE call env (.tup3 a b c) = mkSeg x y z := by
  simp only [evalE, h1, h2, h3, ok_bind]

theorem evalIdx.smp0 (t : Tm) (p : DV α) : evalIdx (.smp t p) (.int 0) = .ok (.tm t) := rfl
theorem evalIdx.smp1 (t : Tm) (p : DV α) : evalIdx (.smp t p) (.int 1) = .ok p := rfl
theorem evalIdx.seg0 (lo hi : Tm) (v : α) : evalIdx (.seg lo hi v) (.int 0) = .ok (.tm lo) := rfl
theorem evalIdx.seg1 (lo hi : Tm) (v : α) : evalIdx (.seg lo hi v) (.int 1) = .ok (.tm hi) := rfl
theorem evalIdx.seg2 (lo hi : Tm) (v : α) : evalIdx (.seg lo hi v) (.int 2) = .ok (.val v) := rfl
theorem evalIdx.nat (l : List (DV α)) (n : Nat) (x : DV α) (h : l[n]? = some x) :
    evalIdx (.list l) (.int (n : Int)) = .ok x := by
  obtain ⟨hn, rfl⟩ := List.getElem?_eq_some_iff.mp h
  simp [evalIdx, pyIndex, hn]
theorem evalIdx.cons0 (x : DV α) (l : List (DV α)) : evalIdx (.list (x :: l)) (.int 0) = .ok x :=
  evalIdx.nat _ 0 x rfl
theorem evalIdx.cons1 (x y : DV α) (l : List (DV α)) : evalIdx (.list (x :: y :: l)) (.int 1) = .ok y :=
  evalIdx.nat _ 1 y rfl
/-- `l[-1]` -/
theorem evalIdx.last (l : List (DV α)) (x : DV α) : evalIdx (.list (l ++ [x])) (.int (-1)) = .ok x := by
  simp [evalIdx, pyIndex]

theorem evalE.time {e : E} {t : Tm} {p : DV α} (h : evalE call env e = .ok (.smp t p)) :
    evalE call env (.idx e (.int 0)) = .ok (.tm t) :=
  evalE.idxInt h

theorem evalE.payload {e : E} {t : Tm} {p : DV α} (h : evalE call env e = .ok (.smp t p)) :
    evalE call env (.idx e (.int 1)) = .ok p :=
  evalE.idxInt h

/-- `x[-1]` of a non-empty list -/
theorem evalE.last {x : String} {l : List (DV α)} {v : DV α} (h : getLoc x env = .ok (.list (l ++ [v]))) :
    evalE call env (.idx (.loc x) (.neg (.int 1))) = .ok v := by
  simp only [evalE, h, ok_bind, evalNeg]
  exact evalIdx.last _ _

theorem evalBin.lt_tm (s t : Tm) : evalBin (α := α) .lt (.tm s) (.tm t) = .ok (.bool (Tm.lt s t)) := by
  simp [evalBin, isCmp, cmpDV, isTimeLike, toXT, toTm, cmpXT, XT.lt, Except.map]

theorem evalBin.gt_tm (s t : Tm) : evalBin (α := α) .gt (.tm s) (.tm t) = .ok (.bool (Tm.lt t s)) := by
  simp [evalBin, isCmp, cmpDV, isTimeLike, toXT, toTm, cmpXT, XT.lt, Except.map]

theorem evalBin.le_tm (s t : Tm) : evalBin (α := α) .le (.tm s) (.tm t) = .ok (.bool (Tm.le s t)) := by
  simp [evalBin, isCmp, cmpDV, isTimeLike, toXT, toTm, cmpXT, XT.lt, Tm.le, Except.map]

theorem evalBin.ge_tm (s t : Tm) : evalBin (α := α) .ge (.tm s) (.tm t) = .ok (.bool (Tm.le t s)) := by
  simp [evalBin, isCmp, cmpDV, isTimeLike, toXT, toTm, cmpXT, XT.lt, Tm.le, Except.map]

theorem xt_beq (s t : Tm) : (XT.t s == XT.t t) = (s == t) := by
  by_cases h : s = t
  · subst h; simp
  · rw [beq_eq_false_iff_ne.mpr h, beq_eq_false_iff_ne.mpr (fun e => h (XT.t.inj e))]

theorem evalBin.eq_tm (s t : Tm) : evalBin (α := α) .eq (.tm s) (.tm t) = .ok (.bool (s == t)) := by
  simp [evalBin, isCmp, cmpDV, isTimeLike, toXT, toTm, cmpXT, Except.map, xt_beq]

/-- `del x[0]` / `x.pop(0)` on a non-empty sample list -/
theorem exec.delHead {x : String} {p : Tm × α} {s : ASig α} (hx : getLoc x env = .ok (encSig (p :: s))) :
    exec call fuel (.delIdx x (.int 0)) env = .ok (DnOn.setLoc x (encSig s) env, .none) := by
  simp [exec, evalE, hx, encSig, delAt, pyIndex]

theorem truthy_encSig (s : ASig α) : truthy (encSig s) = .ok (!s.isEmpty) := by
  cases s <;> rfl

theorem cmpDV_ne_val (a b : α) : cmpDV .ne (.val a) (.val b) = .ok (vne a b) := by
  simp [cmpDV, isTimeLike, isValLike, toVal, cmpVal]

end stmts

theorem runFn_method (call : Call α) (fuel : Nat) (f : Fn) (cls : String) (store : Env α) (rest : List (DV α))
    (hm : f.isMethod = true) (hlen : rest.length + 1 = f.params.length) :
    runFn call fuel f (.obj cls store :: rest) =
      (do let x ← exec call fuel f.body (store ++ (f.params.drop 1).zip rest)
          pure (.list [.obj cls (x.1.filter (fun p => isSelfKey p.1)), match x.2 with | .ret v => v | _ => .none])) := by
  unfold runFn
  simp only [hm, if_true, hlen, ne_eq, not_true_eq_false, if_false]
  rfl

theorem whileLoop_succ (cond : Env α → Except PyErr Bool) (body : Env α → Except PyErr (Res α)) (fuel : Nat)
    (env : Env α) :
    whileLoop cond body (fuel + 1) env = (do
      if (← cond env) then
        let (env', r) ← body env
        match r with
        | .ret v => pure (env', .ret v)
        | .brk => pure (env', .none)
        | .none => whileLoop cond body fuel env'
      else pure (env, .none)) := rfl

theorem whileLoop_step (cond : Env α → Except PyErr Bool) (body : Env α → Except PyErr (Res α)) (fuel : Nat)
    (env env' : Env α) (hc : cond env = .ok true) (hb : body env = .ok (env', .none)) :
    whileLoop cond body (fuel + 1) env = whileLoop cond body fuel env' := by
  rw [whileLoop_succ, hc]; simp [hb]

theorem whileLoop_break (cond : Env α → Except PyErr Bool) (body : Env α → Except PyErr (Res α)) (fuel : Nat)
    (env env' : Env α) (hc : cond env = .ok true) (hb : body env = .ok (env', .brk)) :
    whileLoop cond body (fuel + 1) env = .ok (env', .none) := by
  rw [whileLoop_succ, hc]; simp [hb]

theorem whileLoop_done (cond : Env α → Except PyErr Bool) (body : Env α → Except PyErr (Res α)) (fuel : Nat)
    (env : Env α) (hc : cond env = .ok false) :
    whileLoop cond body (fuel + 1) env = .ok (env, .none) := by
  rw [whileLoop_succ, hc]; simp

theorem whileLoop_raise (cond : Env α → Except PyErr Bool) (body : Env α → Except PyErr (Res α)) (fuel : Nat)
    (env : Env α) (e : PyErr) (hc : cond env = .ok true) (hb : body env = .error e) :
    whileLoop cond body (fuel + 1) env = .error e := by
  rw [whileLoop_succ, hc]; simp [hb]

@[simp] theorem forLoop_nil (bind : DV α × Nat → Env α → Env α) (body : Env α → Except PyErr (Res α)) (env : Env α) :
    forLoop bind body [] env = .ok (env, .none) := rfl

theorem forLoop_cons (bind : DV α × Nat → Env α → Env α) (body : Env α → Except PyErr (Res α))
    (it : DV α × Nat) (rest : List (DV α × Nat)) (env : Env α) :
    forLoop bind body (it :: rest) env = (do
      let (env', r) ← body (bind it env)
      match r with
      | .ret v => pure (env', .ret v)
      | .brk => pure (env', .none)
      | .none => forLoop bind body rest env') := rfl

@[simp] theorem decSig_encSig (s : ASig α) : decSig (encSig s) = some s := by
  unfold decSig encSig
  simp only
  induction s with
  | nil => rfl
  | cons p s ih =>
      simp only [List.map_cons, List.mapM_cons, encSmp] at ih ⊢
      simp [ih]

/-- a sample list with payloads of any type (`intersection` is used with values, with the pairs of `split`, …) -/
def encSigP {β : Type} (encP : β → DV α) (o : List (Tm × β)) : DV α := .list (o.map (fun p => .smp p.1 (encP p.2)))

theorem encSigP_val (s : ASig α) : encSigP (fun x : α => DV.val x) s = encSig s := rfl

/-- the pairs `intersect.split` builds -/
def encPair (p : α × α) : DV α := .pair (.val p.1) (.val p.2)

open Rtamt.Dense.AlgOn in
/-- the pending sample `last` of the online intersection: `[]` or `[t, v]` -/
def encLast {β : Type} (encP : β → DV α) : Rtamt.Dense.AlgOn.Last β → DV α
  | .nil => .list []
  | .item t v => .smp t (encP v)

/-- `self.last_output` / `self.last` of the operation classes: `[]` or a sample -/
def encOptSmp : Option (Tm × α) → DV α
  | none => .list []
  | some p => encSmp p

/-- What `RtamtProofs/GenDenseOnInter.lean` proves about the translated online `intersection` (stated here so that the files
    about the operation classes do not depend on that proof): the call returns the 4-tuple `(out_samples, last, remainder_1,
    remainder_2)` the mirror `interOn f ne` computes - or raises what the mirror raises. -/
def InterOnSpec (α : Type) [Val α] (fuel k : Nat) : Prop :=
  ∀ (β : Type) (encP : β → DV α) (f : α → α → β) (ne : β → β → Bool) (m : String),
    (∀ a b, callAt Gen.DenseOn.fns fuel (k + 1) m [.val a, .val b] = .ok (encP (f a b))) →
    (∀ x, toPayload (encP x) = .ok (encP x)) →
    (∀ x y, cmpDV .ne (encP x) (encP y) = .ok (ne x y)) →
    ∀ (s1 s2 : ASig α), 2 * (s1.length + s2.length) + 4 ≤ fuel →
      match Rtamt.Dense.AlgOn.interOn f ne s1 s2 with
      | .ok (out, last, r1, r2) =>
          callAt Gen.DenseOn.fns fuel (k + 2) "intersection" [encSig s1, encSig s2, .fn m]
            = .ok (.list [encSigP encP out, encLast encP last, encSig r1, encSig r2])
      | .error e => callAt Gen.DenseOn.fns fuel (k + 2) "intersection" [encSig s1, encSig s2, .fn m] = .error e

end Rtamt.Py.DnOn
