/-
  The sampling bookkeeping of the discrete-time interpreters — the tail of online
  `update(timestamp, dataset)` (`update_counter`, `previous_time`, the call of
  `update_sampling_violation_counter` with `self.normalize` inlined), online `reset()` and the gap loop of
  offline `evaluate(dataset)` — as translated from the Python source (`Rtamt/Py/GeneratedClock.lean`,
  regenerated on every run), denotes the hand-written mirrors `Clock.tick`, `Clock.reset` and
  `offlineCounter` (`Rtamt/Discrete/Sampling.lean`) that the C13 theorems are stated on.

  The inlined call is, literally, the body of the translated method (`gapStmt_eq`), so both fragments that contain it
  rest on `exec_counter` of `GenUnits`, which runs that body on any object; `exec_gapFor` is the offline loop on any
  locals, for `gen_clock_offline` here and for the `evaluate` of `GenOffEval`.

  Numbers are exact (`Rat`): time stamps, period and tolerance.
-/
import Rtamt.Py.GeneratedClock
import Rtamt.Discrete.Sampling
import RtamtProofs.GenUnits

namespace Rtamt.Py
open Rtamt Val

variable {α : Type} [Val α]

/-- The attributes of the interpreter that the bookkeeping reads and writes. -/
def clockStore (c : SamplingCfg) (k : Clock) : Store α :=
  [("sampling_period", .rat c.period), ("sampling_period_unit", .str (unitStr c.periodUnit)),
   ("sampling_tolerance", .rat c.tol), ("update_counter", .int k.count), ("previous_time", .rat k.prev),
   ("sampling_violation_counter", .int k.viol)]

theorem gen_clock_supported :
    Gen.Clock.online_tick.supported = true ∧ Gen.Clock.online_reset.supported = true ∧
    Gen.Clock.offline_count.supported = true := by
  decide

omit [Val α] in
theorem setKey_viol (c : SamplingCfg) (k : Clock) (n : Nat) :
    setKey "sampling_violation_counter" (.int n) (clockStore (α := α) c k) = clockStore c { k with viol := n } := by
  simp [clockStore, setKey]

omit [Val α] in
theorem setKey_prev (c : SamplingCfg) (k : Clock) (q : Rat) :
    setKey "previous_time" (.rat q) (clockStore (α := α) c k) = clockStore c { k with prev := q } := by
  simp [clockStore, setKey]

omit [Val α] in
theorem setKey_count (c : SamplingCfg) (k : Clock) (n : Nat) :
    setKey "update_counter" (.int n) (clockStore (α := α) c k) = clockStore c { k with count := n } := by
  simp [clockStore, setKey]

/-- `self.normalize`, inlined by the translator. -/
theorem evalE_normalize (c : SamplingCfg) (env : Env α)
    (hu : getKey "$unit" env.loc = .ok (.str (unitStr c.unit)))
    (hp : getKey "sampling_period_unit" env.self = .ok (.str (unitStr c.periodUnit))) :
    evalE env (.bin .div (.un .frac (.un .unitNs (.loc "$unit"))) (.un .unitNs (.attr "sampling_period_unit")))
      = .ok (.rat c.normalize) := by
  simp only [evalE, hu, hp, ok_bind, unitNs_eq]
  have h1 : evalUn (α := α) .frac (.int (c.unit.nanos : Int)) = .ok (.rat ((c.unit.nanos : Int) : Rat)) := rfl
  rw [h1, ok_bind, evalBin_div_rat_int _ _ (nanos_ne_zero _)]
  simp only [SamplingCfg.normalize, Rat.intCast_natCast]

/-- `duration = X * self.normalize(); self.update_sampling_violation_counter(duration)`, the call inlined by the translator. -/
abbrev gapStmt (X : E) : S :=
  .seq (.setLoc "duration" (.bin .mul X (.bin .div (.un .frac (.un .unitNs (.loc "$unit"))) (.un .unitNs (.attr "sampling_period_unit")))))
    (.seq (.setLoc "tolerance" (.bin .mul (.attr "sampling_period") (.attr "sampling_tolerance"))) (.ite (.bin .or (.bin .lt (.loc "duration") (.bin .sub (.attr "sampling_period") (.loc "tolerance"))) (.bin .gt (.loc "duration") (.bin .add (.attr "sampling_period") (.loc "tolerance")))) (.setAttr "sampling_violation_counter" (.bin .add (.attr "sampling_violation_counter") (.int 1))) .skip))

/-- `ts[i + 1] - ts[i]` -/
abbrev tsGap : E := .bin .sub (.idx (.loc "ts") (.bin .add (.loc "i") (.int 1))) (.idx (.loc "ts") (.loc "i"))

theorem gapStmt_eq (X : E) : gapStmt X = .seq (.setLoc "duration" (.bin .mul X (.bin .div (.un .frac (.un .unitNs (.loc "$unit"))) (.un .unitNs (.attr "sampling_period_unit"))))) Gen.Units.update_sampling_violation_counter.body := rfl

theorem exec_gap (c : SamplingCfg) (k : Clock) (loc : Store α) (X : E) (d : Rat)
    (hX : evalE ⟨clockStore c k, loc⟩ X = .ok (.rat d))
    (hu : getKey "$unit" loc = .ok (.str (unitStr c.unit))) :
    exec (gapStmt X)
      ⟨clockStore c k, loc⟩
    = .ok ⟨clockStore c { k with viol := if c.violates (d * c.normalize) then k.viol + 1 else k.viol },
           setKey "tolerance" (.rat (c.period * c.tol)) (setKey "duration" (.rat (d * c.normalize)) loc)⟩ := by
  have hN := evalE_normalize c ⟨clockStore c k, loc⟩ hu rfl
  rw [gapStmt_eq, exec_seq, exec_setLoc, evalE_bin, hX, ok_bind, hN, ok_bind, evalBin_mul_rat_rat, ok_bind, ok_bind,
    exec_counter c (clockStore c k) _ k.viol _ rfl rfl rfl (getKey_setKey_same ..)]
  cases c.violates (d * c.normalize)
  · rfl
  · exact congrArg (fun s => Except.ok (Env.mk s _)) (setKey_viol c k _)

/-- `self.previous_time = timestamp; self.update_counter = self.update_counter + 1`. -/
theorem exec_tick_tail (c : SamplingCfg) (k : Clock) (loc : Store α) (ts : Rat)
    (ht : getKey "timestamp" loc = .ok (.rat ts)) :
    exec (.seq (.setAttr "previous_time" (.loc "timestamp")) (.setAttr "update_counter" (.bin .add (.attr "update_counter") (.int 1))))
      ⟨clockStore c k, loc⟩ = .ok ⟨clockStore c { k with count := k.count + 1, prev := ts }, loc⟩ := by
  simp only [exec_seq, exec_setAttr, evalE, ht, ok_bind, setKey_prev]
  have hA : getKey "update_counter" (clockStore (α := α) c { k with prev := ts }) = .ok (.int k.count) := by
    simp only [clockStore, getKey_cons_same, getKey_cons_ne, ne_eq, String.reduceEq, not_false_eq_true]
  rw [hA, ok_bind, evalBin_add_int, ok_bind]
  exact congrArg (fun s => Except.ok (Env.mk s loc)) (setKey_count c _ (k.count + 1))

theorem gen_clock_tick (c : SamplingCfg) (k : Clock) (ts : Rat) :
    call (α := α) Gen.Clock.online_tick (clockStore c k) [.rat ts, .str (unitStr c.unit)]
      = .ok (clockStore c (k.tick c ts), .none) := by
  simp only [call, Gen.Clock.online_tick, List.length_cons, List.length_nil, ne_eq, not_true_eq_false, if_false,
    List.zip_cons_cons, List.zip_nil_right]
  have hC : evalE (α := α) ⟨clockStore c k, [("timestamp", V.rat ts), ("$unit", V.str (unitStr c.unit))]⟩
      (.bin .gt (.attr "update_counter") (.int 0)) = .ok (.bool (decide (0 < (k.count : Int)))) := by
    simp only [evalE, clockStore, getKey_cons_same, getKey_cons_ne, ne_eq, String.reduceEq, not_false_eq_true,
      ok_bind, evalBin_gt_int]
  have ht : getKey (β := V α) "timestamp" [("timestamp", V.rat ts), ("$unit", V.str (unitStr c.unit))] = .ok (.rat ts) :=
    getKey_cons_same _ _ _
  have hu : getKey (β := V α) "$unit" [("timestamp", V.rat ts), ("$unit", V.str (unitStr c.unit))]
      = .ok (.str (unitStr c.unit)) := by
    rw [getKey_cons_ne _ _ _ _ (by decide), getKey_cons_same]
  rw [exec_seq, exec_ite, hC, ok_bind]
  by_cases hk : 0 < k.count
  · have hk' : decide (0 < (k.count : Int)) = true := by simpa using hk
    have hX : evalE (α := α) ⟨clockStore c k, [("timestamp", V.rat ts), ("$unit", V.str (unitStr c.unit))]⟩
        (.bin .sub (.loc "timestamp") (.attr "previous_time")) = .ok (.rat (ts - k.prev)) := by
      simp only [evalE, ht, clockStore, getKey_cons_same, getKey_cons_ne, ne_eq, String.reduceEq, not_false_eq_true,
        ok_bind, evalBin_sub_rat_rat]
    simp only [hk', exec_gap c k _ _ _ hX hu, ok_bind]
    rw [exec_tick_tail _ _ _ ts]
    · simp only [ok_bind, pure, Except.pure, Clock.tick, gt_iff_lt, hk, true_and]
    · rw [getKey_setKey_ne _ _ _ _ (by decide), getKey_setKey_ne _ _ _ _ (by decide)]; exact ht
  · have hk' : decide (0 < (k.count : Int)) = false := by simpa using hk
    simp only [hk', exec_skip, ok_bind]
    rw [exec_tick_tail _ _ _ ts ht]
    simp only [ok_bind, pure, Except.pure, Clock.tick, gt_iff_lt, hk, false_and, if_false]

theorem gen_clock_reset (c : SamplingCfg) (k : Clock) :
    call (α := α) Gen.Clock.online_reset (clockStore c k) [] = .ok (clockStore c k.reset, .none) := by
  py_simp [Gen.Clock.online_reset, clockStore, Clock.reset]

def ticksG (c : SamplingCfg) : Store α → List Rat → Except PyErr (Store α)
  | st, [] => .ok st
  | st, t :: rest => do
      let (st', _) ← call (α := α) Gen.Clock.online_tick st [.rat t, .str (unitStr c.unit)]
      ticksG c st' rest

/-- A run of online updates leaves the counter of the mirror (`onlineCounter` for a fresh monitor). -/
theorem gen_clock_run (c : SamplingCfg) (k : Clock) (ts : List Rat) :
    ticksG (α := α) c (clockStore c k) ts = .ok (clockStore c (ts.foldl (Clock.tick c) k)) := by
  induction ts generalizing k with
  | nil => rfl
  | cons t rest ih =>
    rw [ticksG, gen_clock_tick, ok_bind]
    exact ih _

omit [Val α] in
theorem evalIdx_rlist (l : List Rat) (n : Nat) (h : n < l.length) :
    evalIdx (α := α) (.rlist l) (.int n) = .ok (.rat (l.getD n 0)) := by
  have hneg : ¬ ((n : Int) < 0) := by omega
  simp [evalIdx, hneg, List.getElem?_eq_getElem h, List.getD_eq_getElem?_getD]

/-- The gap loop of offline `evaluate`, over any list of valid indices. -/
theorem offline_loop (c : SamplingCfg) (k : Clock) (ts : List Rat) (is : List Nat)
    (his : ∀ i ∈ is, i + 1 < ts.length) (loc : Store α) (acc : Nat)
    (hts : getKey "ts" loc = .ok (.rlist ts)) (hu : getKey "$unit" loc = .ok (.str (unitStr c.unit))) :
    ∃ loc', is.foldlM (fun (env : Env α) (i : Nat) => exec (gapStmt tsGap)
          { env with loc := setKey "i" (.int (i : Nat)) env.loc })
        ⟨clockStore c { k with viol := acc }, loc⟩
      = .ok ⟨clockStore c { k with viol := is.foldl (fun acc i => if c.violates ((ts.getD (i + 1) 0 - ts.getD i 0) * c.normalize) then acc + 1 else acc) acc }, loc'⟩ := by
  induction is generalizing loc acc with
  | nil => exact ⟨loc, rfl⟩
  | cons i rest ih =>
    have hi : i + 1 < ts.length := his i (List.mem_cons_self ..)
    have hts' : getKey "ts" (setKey "i" (V.int (i : Nat)) loc) = .ok (.rlist ts) := by
      rw [getKey_setKey_ne _ _ _ _ (by decide)]; exact hts
    have hu' : getKey "$unit" (setKey "i" (V.int (i : Nat)) loc) = .ok (.str (unitStr c.unit)) := by
      rw [getKey_setKey_ne _ _ _ _ (by decide)]; exact hu
    have hX : evalE ⟨clockStore c { k with viol := acc }, setKey "i" (V.int (i : Nat)) loc⟩
        (.bin .sub (.idx (.loc "ts") (.bin .add (.loc "i") (.int 1))) (.idx (.loc "ts") (.loc "i")))
        = .ok (.rat (ts.getD (i + 1) 0 - ts.getD i 0)) := by
      have h1 : ((i : Int) + 1) = ((i + 1 : Nat) : Int) := by omega
      simp only [evalE, hts', getKey_setKey_same, ok_bind, evalBin_add_int, h1,
        evalIdx_rlist ts (i + 1) hi, evalIdx_rlist ts i (by omega), evalBin_sub_rat_rat]
    rw [List.foldlM_cons]
    have hstep := exec_gap c { k with viol := acc } _ _ _ hX hu'
    simp only at hstep ⊢
    rw [hstep, ok_bind]
    refine ih (fun j hj => his j (List.mem_cons_of_mem _ hj)) _ _ ?_ ?_
    · rw [getKey_setKey_ne _ _ _ _ (by decide), getKey_setKey_ne _ _ _ _ (by decide)]; exact hts'
    · rw [getKey_setKey_ne _ _ _ _ (by decide), getKey_setKey_ne _ _ _ _ (by decide)]; exact hu'

theorem exec_gapFor (c : SamplingCfg) (k : Clock) (ts : List Rat) (loc : Store α)
    (hts : getKey "ts" loc = .ok (.rlist ts)) (hu : getKey "$unit" loc = .ok (.str (unitStr c.unit))) :
    ∃ loc', exec (.for_ "i" (.int 0) (.bin .sub (.len (.loc "ts")) (.int 1)) (gapStmt tsGap)) ⟨clockStore c k, loc⟩
      = .ok ⟨clockStore c { k with viol := offlineCounter c k.viol ts }, loc'⟩ := by
  have hhi : evalE (α := α) ⟨clockStore c k, loc⟩ (.bin .sub (.len (.loc "ts")) (.int 1)) = .ok (.int ((ts.length : Int) - 1)) := by
    simp only [evalE, hts, ok_bind, evalBin_sub_int]
  obtain ⟨loc', hl⟩ := offline_loop c k ts (List.range' 0 (ts.length - 1))
    (fun i hi => by have := (List.mem_range'_1.1 hi).2; omega) loc k.viol hts hu
  refine ⟨loc', ?_⟩
  rw [exec_for 0 _ (id rfl) hhi, show ((ts.length : Int) - 1 - ((0 : Nat) : Int)).toNat = ts.length - 1 by omega]
  exact hl.trans (by rw [offlineCounter, List.range_eq_range'])

theorem gen_clock_offline (c : SamplingCfg) (k : Clock) (ts : List Rat) :
    call (α := α) Gen.Clock.offline_count (clockStore c k) [.rlist ts, .str (unitStr c.unit)]
      = .ok (clockStore c { k with viol := offlineCounter c k.viol ts }, .none) := by
  obtain ⟨loc', hl⟩ := exec_gapFor (α := α) c k ts [("$time", .rlist ts), ("$unit", .str (unitStr c.unit)), ("ts", .rlist ts)] rfl rfl
  simp only [call, Gen.Clock.offline_count, List.length_cons, List.length_nil, ne_eq, not_true_eq_false, if_false,
    List.zip_cons_cons, List.zip_nil_right, exec_seq, exec_setLoc, evalE, getKey_cons_same, ok_bind, setKey, String.reduceBEq,
    Bool.false_eq_true, if_false]
  rw [hl]
  rfl

end Rtamt.Py
