/-
  C13 — Sampling-violation counter counts exactly the out-of-tolerance gaps.

  "After time-stamps t0..tn have been supplied (one per online update, or as the time
   column of an offline data set), sampling_violation_counter equals the number of
   consecutive gaps t(i+1)-t(i) lying outside [P(1-tol), P(1+tol)], where P is the
   configured sampling period expressed in the unit of the time-stamps. The robustness
   values are not affected by the jitter."
-/
import Rtamt.Discrete.Sampling
import Mathlib.Tactic.Ring
import Mathlib.Tactic.Linarith

namespace Rtamt

private theorem nanos_pos (u : TUnit) : (0 : Rat) < (u.nanos : Rat) := by
  cases u <;> simp [TUnit.nanos]

/-- Multiplying by `U / V` is dividing by `V / U`, which is positive for units: both band tests move it across. -/
private theorem mul_unit_ratio (gap U V : Rat) : gap * (U / V) = gap / (V / U) := by
  rw [div_div_eq_mul_div, mul_div_assoc]

private theorem band_lo (gap U V P tol : Rat) (hU : 0 < U) (hV : 0 < V) :
    gap * (U / V) < P - P * tol ↔ gap < P * V / U * (1 - tol) := by
  rw [mul_unit_ratio, div_lt_iff₀ (div_pos hV hU),
    show (P - P * tol) * (V / U) = P * V / U * (1 - tol) by ring]

private theorem band_hi (gap U V P tol : Rat) (hU : 0 < U) (hV : 0 < V) :
    P + P * tol < gap * (U / V) ↔ P * V / U * (1 + tol) < gap := by
  rw [mul_unit_ratio, lt_div_iff₀ (div_pos hV hU),
    show (P + P * tol) * (V / U) = P * V / U * (1 + tol) by ring]

/-- The test the code performs (gap converted to the period's unit, compared with
    `period ± period*tol`) is the specification's test (gap outside `[P(1-tol), P(1+tol)]`
    with `P` in the unit of the time stamps). -/
theorem C13_violates_iff_outside (c : SamplingCfg) (gap : Rat) :
    c.violates (gap * c.normalize) = c.outside gap := by
  have hU := nanos_pos c.unit
  have hV := nanos_pos c.periodUnit
  rw [Bool.eq_iff_iff]
  simp only [SamplingCfg.violates, SamplingCfg.outside, gt_iff_lt,
    Bool.or_eq_true, decide_eq_true_eq]
  simp only [SamplingCfg.normalize]
  rw [band_lo gap _ _ c.period c.tol hU hV, band_hi gap _ _ c.period c.tol hU hV]

private theorem tick_fold (c : SamplingCfg) (ts : List Rat) (k : Clock) (hk : k.count > 0) :
    (ts.foldl (Clock.tick c) k).viol = k.viol + (gaps (k.prev :: ts)).countP c.outside := by
  induction ts generalizing k with
  | nil => simp [gaps]
  | cons t ts ih =>
    have hv : (k.tick c t).viol = k.viol + if c.outside (t - k.prev) then 1 else 0 := by
      simp only [Clock.tick, hk, true_and, C13_violates_iff_outside]
      split <;> rfl
    rw [List.foldl_cons, ih _ (Nat.succ_pos _), hv]
    simp only [Clock.tick, gaps, List.countP_cons]
    omega

/-- Online: after feeding `ts` (one per update) the counter is the number of gaps outside the band. -/
theorem C13_online_counter (c : SamplingCfg) (ts : List Rat) :
    onlineCounter c ts = (gaps ts).countP c.outside := by
  cases ts with
  | nil => simp [onlineCounter, gaps]
  | cons t ts =>
    unfold onlineCounter
    rw [List.foldl_cons, tick_fold c ts _ (by simp [Clock.tick])]
    simp [Clock.tick]

private theorem foldl_count {β : Type} (p : β → Bool) (l : List β) (s : Nat) :
    l.foldl (fun acc x => if p x then acc + 1 else acc) s = s + l.countP p := by
  induction l generalizing s with
  | nil => simp
  | cons x l ih =>
    rw [List.foldl_cons, ih, List.countP_cons]
    split <;> omega

private theorem gaps_eq_map (ts : List Rat) :
    gaps ts = (List.range (ts.length - 1)).map (fun i => ts.getD (i + 1) 0 - ts.getD i 0) := by
  induction ts with
  | nil => rfl
  | cons a ts ih =>
    cases ts with
    | nil => rfl
    | cons b rest =>
      show (b - a) :: gaps (b :: rest) = (List.range (rest.length + 1)).map _
      rw [ih, List.range_succ_eq_map, List.map_cons, List.map_map]
      rfl

/-- Offline: one `evaluate` adds the number of out-of-tolerance gaps of its time column. -/
theorem C13_offline_counter (c : SamplingCfg) (start : Nat) (ts : List Rat) :
    offlineCounter c start ts = start + (gaps ts).countP c.outside := by
  unfold offlineCounter
  rw [foldl_count (fun i => c.violates ((ts.getD (i + 1) 0 - ts.getD i 0) * c.normalize)),
    gaps_eq_map, List.countP_map]
  congr 2
  funext i
  simp [C13_violates_iff_outside]

variable {α : Type} [Val α]

private theorem run_proj (c : SamplingCfg) (φ : F α) (es : List (String → α)) :
    ∀ (ts : List Rat) (m : Mon α), ts.length = es.length →
      (Mon.run c φ m (ts.zip es)).map (fun p => (p.1.tree, p.2)) = runTree φ m.tree es := by
  induction es with
  | nil =>
    intro ts m _
    simp [Mon.run, runTree, Except.map]
  | cons e es ih =>
    intro ts m hl
    cases ts with
    | nil => simp at hl
    | cons t ts =>
      simp only [List.length_cons, Nat.add_right_cancel_iff] at hl
      rw [List.zip_cons_cons]
      cases hs : stepTree e φ m.tree with
      | error x => simp [Mon.run, Mon.update, runTree, hs, bind, Except.bind, Except.map]
      | ok p =>
        obtain ⟨t', o⟩ := p
        have := ih ts { tree := t', clock := m.clock.tick c t } hl
        simp only [Mon.run, Mon.update, runTree, hs, bind, Except.bind, pure, Except.pure]
        rw [← this]
        cases Mon.run c φ { tree := t', clock := m.clock.tick c t } (ts.zip es) with
        | error x => rfl
        | ok q => rfl

/-- The robustness values returned by the online monitor do not depend on the time stamps. -/
theorem C13_values_unaffected (c : SamplingCfg) (φ : F α) (m : Mon α)
    (es : List (String → α)) (ts ts' : List Rat) (hl : ts.length = es.length) (hl' : ts'.length = es.length) :
    (Mon.run c φ m (ts.zip es)).map (fun p => (p.1.tree, p.2)) =
      (Mon.run c φ m (ts'.zip es)).map (fun p => (p.1.tree, p.2)) := by
  rw [run_proj c φ es ts m hl, run_proj c φ es ts' m hl']

end Rtamt
