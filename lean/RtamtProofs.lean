import RtamtProofs.Lemmas.Assoc
import RtamtProofs.Lemmas.Exc
import RtamtProofs.Lemmas.Sim
import RtamtProofs.Lemmas.Kind
import RtamtProofs.Lemmas.Lawful
import RtamtProofs.Lemmas.Tab
import RtamtProofs.Lemmas.Instance
import RtamtProofs.Lemmas.OffScan
import RtamtProofs.Lemmas.OffTimed1
import RtamtProofs.Lemmas.OffTimed2
import RtamtProofs.C01
import RtamtProofs.C01Table
import RtamtProofs.Lemmas.OnlineOps
import RtamtProofs.C02
import RtamtProofs.C02Table
import RtamtProofs.C16
import RtamtProofs.C03
import RtamtProofs.C03Table
import RtamtProofs.C07
import RtamtProofs.C18
import RtamtProofs.C08
import RtamtProofs.C10
import RtamtProofs.C13
import RtamtProofs.C09
import RtamtProofs.C12
import RtamtProofs.C17
import RtamtProofs.C06
import RtamtProofs.C11
import RtamtProofs.Dense.Step
import RtamtProofs.C04
import RtamtProofs.Dense.AlgStack
import RtamtProofs.Dense.AlgMain
import RtamtProofs.Dense.AlgF37
import RtamtProofs.DenseAlgCor
import RtamtProofs.Dense.AlgIA
import RtamtProofs.C05
import RtamtProofs.Dense.OnMain
import RtamtProofs.C19
import RtamtProofs.C19Alg
import RtamtProofs.C18Dense
import RtamtProofs.C15
import RtamtProofs.C14
import RtamtProofs.C20
import RtamtProofs.SemAttr
import RtamtProofs.SemSteps
import RtamtProofs.GenOps
import RtamtProofs.GenDispatch
import RtamtProofs.GenOn
import RtamtProofs.GenOffLemmas
import RtamtProofs.GenOffMethods
import RtamtProofs.GenOff
import RtamtProofs.GenUnits
import RtamtProofs.GenHor
import RtamtProofs.GenPastLemmas
import RtamtProofs.GenPast
import RtamtProofs.C15Grammar
import RtamtProofs.GenIA
import RtamtProofs.GenIAOn
import RtamtProofs.GenClock
import RtamtProofs.GenExplSteps
import RtamtProofs.GenExpl
import RtamtProofs.GenGlue
import RtamtProofs.GenNames
import RtamtProofs.GenDenseBase
import RtamtProofs.GenDenseStep
import RtamtProofs.GenDenseInter
import RtamtProofs.GenDenseFwd
import RtamtProofs.GenDenseBack
import RtamtProofs.GenDenseScan
import RtamtProofs.GenDenseUn
import RtamtProofs.GenDense
import RtamtProofs.GenDenseC04
import RtamtProofs.GenDenseOnBase
import RtamtProofs.GenDenseOnMeth
import RtamtProofs.GenDenseOnInter
import RtamtProofs.GenDenseOnBin
import RtamtProofs.GenDenseOnUn
import RtamtProofs.GenDenseOnTimed
import RtamtProofs.GenDenseOn
import RtamtProofs.GenDenseIA
import RtamtProofs.C15Min
import RtamtProofs.GenUnitsDense
import RtamtProofs.GenDenseOnIA
import RtamtProofs.GenDenseCor
import RtamtProofs.GenDenseC17
import RtamtProofs.GenFwd
import RtamtProofs.C09Dense
import RtamtProofs.GenGlueDn
import RtamtProofs.GenGlueUpd
import RtamtProofs.GenOffEval
import RtamtProofs.GenExplDrv
import RtamtProofs.GenPastDrv
import RtamtProofs.GenDnEval
